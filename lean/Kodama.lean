import Kodama.Basic
import Kodama.Driver
import Kodama.DriverAlloc
import Kodama.DriverC19
import Kodama.DriverCApi
import Kodama.DriverHeap
import Kodama.DriverLoc
import Kodama.DriverSpec
import Kodama.DriverUF
import Kodama.Generated.Bodies
import Kodama.Generated.Abi
import Kodama.Generated.CApi
import Kodama.Generated.Condensed
import Kodama.Generated.FloatImpl
import Kodama.Generated.Loops
import Kodama.Generated.Method
import Kodama.Generated.Purity
import Kodama.Generated.Reset
import Kodama.Generated.Shape
import Kodama.Generated.Tables
import Kodama.Laws
import Kodama.LawsSample
import Kodama.Lemmas.ActiveRefine
import Kodama.Lemmas.Alloc
import Kodama.Lemmas.AverageClamp
import Kodama.Lemmas.AverageExact
import Kodama.Lemmas.ChainExact
import Kodama.Lemmas.ChainInv
import Kodama.Lemmas.ChainIter
import Kodama.Lemmas.ChainMat
import Kodama.Lemmas.ChainOn
import Kodama.Lemmas.ChainRun
import Kodama.Lemmas.ChainScan
import Kodama.Lemmas.Comp
import Kodama.Lemmas.ComposeExact
import Kodama.Lemmas.ComposeExample
import Kodama.Lemmas.ComposePerm
import Kodama.Lemmas.Container
import Kodama.Lemmas.Criteria
import Kodama.Lemmas.CriteriaSpec
import Kodama.Lemmas.Entry
import Kodama.Lemmas.EntryGreedy
import Kodama.Lemmas.Except
import Kodama.Lemmas.FieldInstances
import Kodama.Lemmas.FieldNum
import Kodama.Lemmas.Fingerprint.Active
import Kodama.Lemmas.Fingerprint.ChainMethods
import Kodama.Lemmas.Fingerprint.Dendrogram
import Kodama.Lemmas.Fingerprint.Generic
import Kodama.Lemmas.Fingerprint.GenericMethods
import Kodama.Lemmas.Fingerprint.Linkage
import Kodama.Lemmas.Fingerprint.Nnchain
import Kodama.Lemmas.Fingerprint.Primitive
import Kodama.Lemmas.Fingerprint.Queue
import Kodama.Lemmas.Fingerprint.Relabel
import Kodama.Lemmas.Fingerprint.Spanning
import Kodama.Lemmas.Fingerprint.Table
import Kodama.Lemmas.Forest
import Kodama.Lemmas.GenericBody
import Kodama.Lemmas.GenericExample
import Kodama.Lemmas.ExampleRuns
import Kodama.Lemmas.GenericGreedySim
import Kodama.Lemmas.GenericGreedySpec
import Kodama.Lemmas.GenericInv
import Kodama.Lemmas.GenericInvInit
import Kodama.Lemmas.GenericInvRepair
import Kodama.Lemmas.GenericInvUpdate
import Kodama.Lemmas.GenericRun
import Kodama.Lemmas.HeapInv
import Kodama.Lemmas.HeapInvExample
import Kodama.Lemmas.HeapInvOps
import Kodama.Lemmas.HeapInvSift
import Kodama.Lemmas.LabelAgree
import Kodama.Lemmas.Layout
import Kodama.Lemmas.Loc
import Kodama.Lemmas.Loop
import Kodama.Lemmas.MergeFacts
import Kodama.Lemmas.MstGreedyPair
import Kodama.Lemmas.MstGreedyReplay
import Kodama.Lemmas.MstGreedyRun
import Kodama.Lemmas.MstGreedySort
import Kodama.Lemmas.MstInv
import Kodama.Lemmas.MstPrimComp
import Kodama.Lemmas.MstPrimEntry
import Kodama.Lemmas.MstPrimExact
import Kodama.Lemmas.MstPrimInterval
import Kodama.Lemmas.MstPrimInv
import Kodama.Lemmas.MstRun
import Kodama.Lemmas.Naturality
import Kodama.Lemmas.NaturalityChain
import Kodama.Lemmas.NaturalityGenericRel
import Kodama.Lemmas.NaturalityHeapRel
import Kodama.Lemmas.NaturalityMst
import Kodama.Lemmas.NaturalityRel
import Kodama.Lemmas.NaturalityRun
import Kodama.Lemmas.NaturalitySafe
import Kodama.Lemmas.NonNegEntry
import Kodama.Lemmas.NonNegRound
import Kodama.Lemmas.Ok
import Kodama.Lemmas.OnSquares
import Kodama.Lemmas.NonNegSpec
import Kodama.Lemmas.PermTransport
import Kodama.Lemmas.PrimGreedyArgmin
import Kodama.Lemmas.PrimGreedyLabels
import Kodama.Lemmas.PrimGreedyRelabel
import Kodama.Lemmas.PrimGreedyRun
import Kodama.Lemmas.PrimGreedySim
import Kodama.Lemmas.PrimGreedySpec
import Kodama.Lemmas.PrimGreedyUpdate
import Kodama.Lemmas.PrimInv
import Kodama.Lemmas.PrimRun
import Kodama.Lemmas.ReduciblePos
import Kodama.Lemmas.Relabel
import Kodama.Lemmas.RelabelWF
import Kodama.Lemmas.Reset
import Kodama.Lemmas.RnnChain
import Kodama.Lemmas.RnnMono
import Kodama.Lemmas.RnnRun
import Kodama.Lemmas.RnnSort
import Kodama.Lemmas.RnnSpec
import Kodama.Lemmas.RnnState
import Kodama.Lemmas.RoundBound
import Kodama.Lemmas.RoundChain
import Kodama.Lemmas.RoundCore
import Kodama.Lemmas.RoundExamples
import Kodama.Lemmas.RoundGeneric
import Kodama.Lemmas.RoundGreedy
import Kodama.Lemmas.RoundGreedyChain
import Kodama.Lemmas.RoundModel
import Kodama.Lemmas.RoundPrimitive
import Kodama.Lemmas.RoundRuns
import Kodama.Lemmas.RoundSort
import Kodama.Lemmas.RoundTree
import Kodama.Lemmas.RoundWeighted
import Kodama.Lemmas.Simulation
import Kodama.Lemmas.Sort
import Kodama.Lemmas.SortedList
import Kodama.Lemmas.SpecDecide
import Kodama.Lemmas.SpecLaws
import Kodama.Lemmas.SpecPerm
import Kodama.Lemmas.SpecReplay
import Kodama.Lemmas.SpecRunGood
import Kodama.Lemmas.SpecSingle
import Kodama.Lemmas.SpecUnique
import Kodama.Lemmas.SpecView
import Kodama.Lemmas.SpecUpTo
import Kodama.Lemmas.SpecWellFormed
import Kodama.Lemmas.Tail
import Kodama.Lemmas.UnionFindCompress
import Kodama.Lemmas.UnionFindRefine
import Kodama.Lemmas.WardClamp
import Kodama.Lemmas.WardExact
import Kodama.Lemmas.WeightedExact
import Kodama.Lemmas.WeightedMono
import Kodama.Model.Active
import Kodama.Model.Alloc
import Kodama.Model.CApi
import Kodama.Model.Chain
import Kodama.Model.Containers
import Kodama.Model.Dendrogram
import Kodama.Model.DendrogramOps
import Kodama.Model.Generic
import Kodama.Model.Heap
import Kodama.Model.Linkage
import Kodama.Model.Locations
import Kodama.Model.Mat
import Kodama.Model.Mst
import Kodama.Model.Primitive
import Kodama.Model.Relabel
import Kodama.Model.State
import Kodama.Model.UnionFind
import Kodama.Model.UnionFindC
import Kodama.Model.Vec
import Kodama.Num
import Kodama.Props.C18Source
import Kodama.Props.C11NaNFree
import Kodama.Props.C11Order
import Kodama.Props.C11Quotient
import Kodama.Props.C11RoundingWeighted
import Kodama.Props.C19Source
import Kodama.Props.C14Source
import Kodama.Props.C12Source
import Kodama.Props.C11Source
import Kodama.Props.C10Source
import Kodama.Props.C09Source
import Kodama.Props.C07Source
import Kodama.Props.C06Source
import Kodama.Props.C05Source
import Kodama.Props.C04Source
import Kodama.Props.C03Source
import Kodama.Props.C02Source
import Kodama.Props.C01Source
import Kodama.Props.C01
import Kodama.Props.C01Average
import Kodama.Props.C01Compress
import Kodama.Props.C01Generic
import Kodama.Props.C01Ward
import Kodama.Props.C01Weighted
import Kodama.Props.C02
import Kodama.Props.C02Generic
import Kodama.Props.C02Loops
import Kodama.Props.C02Nnchain
import Kodama.Props.C02Primitive
import Kodama.Props.C02Rounding
import Kodama.Props.C02RoundingGeneric
import Kodama.Props.C02RoundingPrim
import Kodama.Props.C03
import Kodama.Props.C03Generic
import Kodama.Props.C03GenericRun
import Kodama.Props.C03Mst
import Kodama.Props.C03Nnchain
import Kodama.Props.C03SingleComplete
import Kodama.Props.C03NaNFree
import Kodama.Props.C03Quotient
import Kodama.Props.C03Rounding
import Kodama.Props.C04
import Kodama.Props.C04NaNFree
import Kodama.Props.C04Quotient
import Kodama.Props.C04Single
import Kodama.Props.C05
import Kodama.Props.C06
import Kodama.Props.C06All
import Kodama.Props.C06Mst
import Kodama.Props.C06Nnchain
import Kodama.Props.C06NaNFree
import Kodama.Props.C06Order
import Kodama.Props.C06Quotient
import Kodama.Props.C06Rounding
import Kodama.Props.C06RoundingWeighted
import Kodama.Props.C07
import Kodama.Props.C07Steps
import Kodama.Props.C08
import Kodama.Props.C09
import Kodama.Props.C09Float
import Kodama.Props.C10
import Kodama.Props.C11
import Kodama.Props.C11Generic
import Kodama.Props.C11Mst
import Kodama.Props.C11Nnchain
import Kodama.Props.C11Rounding
import Kodama.Props.C12
import Kodama.Props.C12Average
import Kodama.Props.C12Generic
import Kodama.Props.C12NonNeg
import Kodama.Props.C12Ward
import Kodama.Props.C12Weighted
import Kodama.Props.C13
import Kodama.Props.C14
import Kodama.Props.C14Average
import Kodama.Props.C14Ward
import Kodama.Props.C14Weighted
import Kodama.Props.C15
import Kodama.Props.C16
import Kodama.Props.C17
import Kodama.Props.C18
import Kodama.Props.C19
import Kodama.Props.C20
import Kodama.Spec.Naive
import Kodama.Spec.Pairs
import Kodama.Spec.RawTree
import Kodama.Spec.WellFormed
import Kodama.Spec.WellFormedB
