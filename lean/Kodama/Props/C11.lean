/-
C11 — renumbering the observations renumbers the dendrogram (permutation equivariance).

## Specification level

Proved here (FULL statements, for the label-based specification `Spec.GreedyValid` of
`Kodama/Spec/Naive.lean`; the theorems for `primitive_with`, `C11_primitive` and
`C11_primitive_self` further down, are built on top of these):

Setting: `π` is a permutation of the observations `0 … n-1` with inverse `ρ` (`Spec.IsPerm n π ρ`),
and the condensed matrix `data'` is the matrix `data` with rows and columns renumbered, which is
*characterised* by the hypothesis
    `hperm : ∀ i j < n, entry n data' ∞ i j = entry n data ∞ (π i) (π j)`
rather than constructed (no permuted array is built; any `data'` with these entries will do).
`σ π n` is the label map (`π` on observations, identity on internal labels `≥ n`) and
`mapStep (σ π n)` relabels the two children of a step, smaller label first, keeping height and size.

* `C11_spec`        every greedy-valid dendrogram `steps` of `data'` yields a greedy-valid dendrogram
                    `steps'` of `data` with the same heights, the same sizes, and, for every internal
                    label `n+i`, the leaf set of `n+i` in `steps'` is the `π`-image of its leaf set in
                    `steps` (as lists: up to `List.Perm`, because relabelling may swap the two
                    children of a step).  The witness is `steps.map (mapStep (σ π n))`.
* `C11_spec_unique` if moreover `steps₀` is a greedy-valid dendrogram of `data` whose run never meets
                    a tie (`TieFreeFrom`), then `steps₀` IS `steps.map (mapStep (σ π n))`; hence the
                    same three conclusions hold of `steps₀`.
* `C11_spec_unique'` the same with the tie-freeness hypothesis placed on the run on `data'` instead
                    (the two are equivalent: `Spec.tieFreeFrom_perm`).
* `C11_lwSymm`      which number laws discharge the hypothesis `LwSymm` for each of the seven
                    generated update formulas; `C11_spec_of_laws` is `C11_spec` with the laws plugged in.

Number laws used (hypotheses, not axioms): ONLY `Spec.LwSymm α m` — the generated Lance–Williams
formula of `m` is symmetric in the two merged clusters — needed because the renumbering may swap
which child is "a" and which is "b".  It is discharged
  - for weighted / centroid / median by `CommLaws` (commutativity of `+`, and of
    `×` for centroid only), which is true of IEEE add/mul as operations on values (the only caveat
    is the payload of a NaN produced from two NaN operands);
  - for single / complete by `OrderLaws.asymm` + `LtTrichotomy` (incomparable ⇒ equal).
    `LtTrichotomy` is FALSE of IEEE floats (`+0`/`-0`, NaN), so for floats the single/complete
    instance is a theorem about the inputs on which it holds (e.g. no NaN and no zero of both signs
    among the values compared); the NaN/±0-robust statement for single linkage is the C04
    threshold theorem, not this one;
  - for average by ALL THREE: `CommLaws.add_comm` for the mean, `OrderLaws.asymm` + `LtTrichotomy`
    for the clamp `least := if a < b then a else b; if mean < least then least else mean` of
    `method::average` (a minimum written with one `<`, as in single).  `CommLaws` alone suffices for the
    plain mean, but with the clamp `CommLaws → LwSymm α .average` is not provable for an abstract `Num`
    (the two `least`s of order-equivalent, non-identical arguments such as `±0` are different values) —
    same proviso for floats as for single/complete;
  - for Ward by ALL THREE, for the same reason: `CommLaws.add_comm` for the quotient (outer sum of
    the numerator, `sa + sb` of the denominator), `OrderLaws.asymm` + `LtTrichotomy` for the guarded
    clamp `least := if a < b then a else b; if !(least < c) && value < least then least else value`
    of `method::ward`; same proviso for floats as for single/complete.
No field law (associativity, distributivity, exactness of rounding, …) is used, and neither is any
well-formedness of `steps` beyond what `GreedyValid` says.

The specification-level section mentions no algorithm.  That the outputs of an entry point on `data'` and
`data` are related needs "the model's output is `GreedyValid`" (C03) plus a tie-freeness hypothesis as in
`C11_spec_unique`: `C11_primitive` in the last section of this file, the other entry points in
`Props/C11Nnchain.lean`, `C11Generic.lean`, `C11Mst.lean`, `C11Order.lean` (exact arithmetic, or single /
complete over an ordered type), average / weighted under rounding in `Props/C11Rounding*.lean`.  With ties,
two greedy runs of the same matrix may legitimately differ, so only the existence statement `C11_spec` holds.

Trusted: nothing beyond the definitions of `Spec.GreedyValid`, `Spec.entry`, `Spec.leaves`.
-/
import Kodama.Lemmas.SpecPerm
import Kodama.Lemmas.SpecUnique
import Kodama.Lemmas.ExampleRuns
import Kodama.Lemmas.FieldInstances
import Kodama.Props.C03
namespace Kodama
open Spec
variable {α : Type} [Num α]

omit [Num α] in
/-- The leaf set of an internal label of the mapped dendrogram is the `π`-image of its leaf set. -/
theorem leaves_perm_mapStep {n : Nat} {π ρ : Nat → Nat} (hπ : IsPerm n π ρ) (steps : List (Step α))
    (i : Nat) :
    (leaves n (steps.map (mapStep (σ π n))) (steps.map (mapStep (σ π n))).length (n + i)).Perm
      ((leaves n steps steps.length (n + i)).map π) := by
  have := leaves_mapStep_gen (σ_labelMap hπ) steps steps.length (n + i)
  rw [σ_of_ge π (Nat.le_add_right n i),
    List.map_congr_left fun u hu => σ_of_lt π (leaves_lt n steps _ _ u hu)] at this
  rw [List.length_map]
  exact this

theorem C11_spec {n : Nat} {π ρ : Nat → Nat} {m : Method} {data data' : Array α}
    {steps : List (Step α)} (hπ : IsPerm n π ρ) (hS : LwSymm α m)
    (hperm : ∀ i j, i < n → j < n →
      entry n data' Num.infinity i j = entry n data Num.infinity (π i) (π j))
    (h : GreedyValid m n data' steps) :
    ∃ steps' : List (Step α), GreedyValid m n data steps' ∧
      steps'.map (·.d) = steps.map (·.d) ∧
      steps'.map (·.size) = steps.map (·.size) ∧
      ∀ i, (leaves n steps' steps'.length (n + i)).Perm
        ((leaves n steps steps.length (n + i)).map π) := by
  refine ⟨steps.map (mapStep (σ π n)), greedyValid_perm hπ hS hperm h,
    (heights_sizes_mapStep _ _).1, (heights_sizes_mapStep _ _).2, leaves_perm_mapStep hπ steps⟩

theorem C11_spec_unique {n : Nat} {π ρ : Nat → Nat} {m : Method} {data data' : Array α}
    {steps steps₀ : List (Step α)} (hπ : IsPerm n π ρ) (hS : LwSymm α m)
    (hperm : ∀ i j, i < n → j < n →
      entry n data' Num.infinity i j = entry n data Num.infinity (π i) (π j))
    (h : GreedyValid m n data' steps)
    (h₀ : GreedyValid m n data steps₀) (ht : TieFreeFrom m (init m n data) steps₀) :
    steps₀ = steps.map (mapStep (σ π n)) ∧
      steps₀.map (·.d) = steps.map (·.d) ∧
      steps₀.map (·.size) = steps.map (·.size) ∧
      ∀ i, (leaves n steps₀ steps₀.length (n + i)).Perm
        ((leaves n steps steps.length (n + i)).map π) := by
  have hv := greedyValid_perm hπ hS hperm h
  have e : steps₀ = steps.map (mapStep (σ π n)) :=
    greedyFrom_unique _ _ _ (h₀.1.trans hv.1.symm) h₀.2 hv.2 ht
  subst e
  exact ⟨rfl, (heights_sizes_mapStep _ _).1, (heights_sizes_mapStep _ _).2,
    leaves_perm_mapStep hπ steps⟩

/-- `C11_spec_unique` with the tie-freeness hypothesis on the run on the renumbered matrix. -/
theorem C11_spec_unique' {n : Nat} {π ρ : Nat → Nat} {m : Method} {data data' : Array α}
    {steps steps₀ : List (Step α)} (hπ : IsPerm n π ρ) (hS : LwSymm α m)
    (hperm : ∀ i j, i < n → j < n →
      entry n data' Num.infinity i j = entry n data Num.infinity (π i) (π j))
    (h : GreedyValid m n data' steps) (ht : TieFreeFrom m (init m n data') steps)
    (h₀ : GreedyValid m n data steps₀) :
    steps₀ = steps.map (mapStep (σ π n)) ∧
      steps₀.map (·.d) = steps.map (·.d) ∧
      steps₀.map (·.size) = steps.map (·.size) ∧
      ∀ i, (leaves n steps₀ steps₀.length (n + i)).Perm
        ((leaves n steps steps.length (n + i)).map π) := by
  have hv := greedyValid_perm hπ hS hperm h
  have ht' := (tieFreeFrom_perm hπ hS hperm h).1 ht
  have e : steps.map (mapStep (σ π n)) = steps₀ :=
    greedyFrom_unique _ _ _ (hv.1.trans h₀.1.symm) hv.2 h₀.2 ht'
  exact C11_spec_unique hπ hS hperm h h₀ (e ▸ ht')

/-- C11 of two calls that return greedy runs, one of a matrix and one of its renumbering: with a
tie-free reference run of the first matrix the outputs correspond under the renumbering. -/
theorem ReturnsGreedy.renumber {n : Nat} {π ρ : Nat → Nat} {m : Method} {data data' : Array α}
    {r r' : R (State α × Dendrogram α × Mat α)} (h : ReturnsGreedy r m n data)
    (h' : ReturnsGreedy r' m n data') (hπ : IsPerm n π ρ) (hS : LwSymm α m)
    (hperm : ∀ i j, i < n → j < n →
      entry n data' Num.infinity i j = entry n data Num.infinity (π i) (π j))
    (steps₀ : List (Step α)) (h₀ : GreedyValid m n data steps₀)
    (ht : TieFreeFrom m (init m n data) steps₀) :
    ∃ s₁ e M₁ s₂ e' M₂, r = .ok (s₁, e, M₁) ∧ r' = .ok (s₂, e', M₂) ∧
      e.steps.toList = e'.steps.toList.map (mapStep (σ π n)) ∧
      e.steps.toList.map (·.d) = e'.steps.toList.map (·.d) ∧
      e.steps.toList.map (·.size) = e'.steps.toList.map (·.size) ∧
      ∀ i, (leaves n e.steps.toList e.steps.toList.length (n + i)).Perm
        ((leaves n e'.steps.toList e'.steps.toList.length (n + i)).map π) := by
  obtain ⟨s₁, e, M₁, hr, hg⟩ := h
  obtain ⟨s₂, e', M₂, hr', hg'⟩ := h'
  cases h₀.eq_of_tieFree hg ht
  exact ⟨s₁, e, M₁, s₂, e', M₂, hr, hr', C11_spec_unique hπ hS hperm hg' hg ht⟩

/-- The same with the tie-freeness hypothesis on the run of either returned dendrogram. -/
theorem ReturnsGreedy.renumber_self {n : Nat} {π ρ : Nat → Nat} {m : Method}
    {data data' : Array α} {r r' : R (State α × Dendrogram α × Mat α)}
    (h : ReturnsGreedy r m n data) (h' : ReturnsGreedy r' m n data') (hπ : IsPerm n π ρ)
    (hS : LwSymm α m)
    (hperm : ∀ i j, i < n → j < n →
      entry n data' Num.infinity i j = entry n data Num.infinity (π i) (π j)) :
    ∃ s₁ e M₁ s₂ e' M₂, r = .ok (s₁, e, M₁) ∧ r' = .ok (s₂, e', M₂) ∧
      (TieFreeFrom m (init m n data) e.steps.toList ∨
          TieFreeFrom m (init m n data') e'.steps.toList →
        e.steps.toList = e'.steps.toList.map (mapStep (σ π n)) ∧
        e.steps.toList.map (·.d) = e'.steps.toList.map (·.d) ∧
        e.steps.toList.map (·.size) = e'.steps.toList.map (·.size) ∧
        ∀ i, (leaves n e.steps.toList e.steps.toList.length (n + i)).Perm
          ((leaves n e'.steps.toList e'.steps.toList.length (n + i)).map π)) := by
  obtain ⟨s₁, e, M₁, hr, hg⟩ := h
  obtain ⟨s₂, e', M₂, hr', hg'⟩ := h'
  refine ⟨s₁, e, M₁, s₂, e', M₂, hr, hr', ?_⟩
  rintro (ht | ht)
  · exact C11_spec_unique hπ hS hperm hg' hg ht
  · exact C11_spec_unique' hπ hS hperm hg' ht hg

theorem C11_lwSymm (α : Type) [Num α] :
    (CommLaws α → LwSymm α .weighted ∧ LwSymm α .centroid ∧ LwSymm α .median) ∧
    (OrderLaws α → LtTrichotomy α → LwSymm α .single ∧ LwSymm α .complete) ∧
    (OrderLaws α → LtTrichotomy α → CommLaws α → LwSymm α .average ∧ LwSymm α .ward) ∧
    (OrderLaws α → LtTrichotomy α → CommLaws α → ∀ m : Method, LwSymm α m) :=
  ⟨fun C => ⟨lwSymm_weighted C, lwSymm_centroid C, lwSymm_median C⟩,
   fun L T => ⟨lwSymm_single L T, lwSymm_complete L T⟩,
   fun L T C => ⟨lwSymm_average L T C, lwSymm_ward L T C⟩,
   fun L T C m => lwSymm_all L T C m⟩

theorem C11_spec_of_laws (L : OrderLaws α) (T : LtTrichotomy α) (C : CommLaws α)
    {n : Nat} {π ρ : Nat → Nat} {m : Method} {data data' : Array α}
    {steps : List (Step α)} (hπ : IsPerm n π ρ)
    (hperm : ∀ i j, i < n → j < n →
      entry n data' Num.infinity i j = entry n data Num.infinity (π i) (π j))
    (h : GreedyValid m n data' steps) :
    ∃ steps' : List (Step α), GreedyValid m n data steps' ∧
      steps'.map (·.d) = steps.map (·.d) ∧
      steps'.map (·.size) = steps.map (·.size) ∧
      ∀ i, (leaves n steps' steps'.length (n + i)).Perm
        ((leaves n steps steps.length (n + i)).map π) :=
  C11_spec hπ (lwSymm_all L T C m) hperm h

/-! ### Non-vacuity -/

section NonVacuity

/-- The 3-cycle `0 ↦ 1 ↦ 2 ↦ 0` and its inverse. -/
private def cyc : Nat → Nat
  | 0 => 1 | 1 => 2 | 2 => 0 | k => k
private def cycInv : Nat → Nat
  | 0 => 2 | 1 => 0 | 2 => 1 | k => k

/-- (1) The hypotheses on `π` are satisfiable by a non-trivial permutation. -/
private theorem cyc_isPerm : IsPerm 3 cyc cycInv := by
  refine ⟨?_, ?_, ?_, ?_⟩ <;> decide

example : IsPerm 3 cyc cycInv := cyc_isPerm

/-- A toy exact number type (`Nat` with its own `<`, `+`, `*`). -/
@[instance_reducible] private def natNum : Num Nat where
  lt a b := decide (a < b)
  beq a b := decide (a = b)
  add := (· + ·)
  sub := (· - ·)
  mul := (· * ·)
  div := (· / ·)
  ofNat := id
  half := 0
  quarter := 0
  sqrt := id
  abs := id
  maxValue := 1000
  infinity := 1000
  isNaN _ := false

attribute [local instance] natNum

/-- (2) The three law bundles hold of the toy instance, hence `LwSymm` for all seven methods. -/
private theorem natNum_laws : OrderLaws Nat ∧ LtTrichotomy Nat ∧ CommLaws Nat :=
  ⟨orderLaws_of_lt fun _ _ => rfl, ltTrichotomy_of_lt fun _ _ => rfl, ⟨Nat.add_comm, Nat.mul_comm⟩⟩

example : OrderLaws Nat ∧ LtTrichotomy Nat ∧ CommLaws Nat := natNum_laws

example (m : Method) : LwSymm Nat m :=
  lwSymm_all natNum_laws.1 natNum_laws.2.1 natNum_laws.2.2 m

/-- (3) A concrete instance, `n = 3`, single linkage, `π` the 3-cycle.  `exData` has
`d(0,1) = 5, d(0,2) = 2, d(1,2) = 9`; `exData'` is the renumbered matrix
`d'(i,j) = d(π i, π j)`, i.e. `d'(0,1) = 9, d'(0,2) = 5, d'(1,2) = 2`. -/
private def exData : Array Nat := #[5, 2, 9]
private def exData' : Array Nat := #[9, 5, 2]
/-- The greedy run on `exData'`: merge `1,2` at height 2, then `0` with the new cluster `3` at 5. -/
private def exSteps : List (Step Nat) := [⟨1, 2, 2, 2⟩, ⟨0, 3, 5, 3⟩]

private theorem ex_hperm : ∀ i j, i < 3 → j < 3 →
    entry 3 exData' Num.infinity i j = entry 3 exData Num.infinity (cyc i) (cyc j) :=
  forall_lt_pairs (by decide)

private theorem ex_valid : GreedyValid .single 3 exData' exSteps := by decide

/-- All hypotheses of `C11_spec` hold simultaneously, so its conclusion is not vacuous … -/
example : ∃ steps' : List (Step Nat), GreedyValid .single 3 exData steps' ∧
    steps'.map (·.d) = exSteps.map (·.d) ∧ steps'.map (·.size) = exSteps.map (·.size) ∧
    ∀ i, (leaves 3 steps' steps'.length (3 + i)).Perm
      ((leaves 3 exSteps exSteps.length (3 + i)).map cyc) :=
  C11_spec cyc_isPerm (lwSymm_single natNum_laws.1 natNum_laws.2.1) ex_hperm ex_valid

/-- … and the witness is the expected relabelled dendrogram: in `exData` the closest pair is `0,2`
(the images of `2,1`: the children swap), then `1` joins the new cluster `3`. -/
example : exSteps.map (mapStep (σ cyc 3)) = [⟨0, 2, 2, 2⟩, ⟨1, 3, 5, 3⟩] := by decide

example : GreedyValid .single 3 exData [⟨0, 2, 2, 2⟩, ⟨1, 3, 5, 3⟩] :=
  greedyValid_perm cyc_isPerm (lwSymm_single natNum_laws.1 natNum_laws.2.1) ex_hperm ex_valid

end NonVacuity


/-! ## EXACT ARITHMETIC: `primitive_with` is permutation-equivariant on tie-free input

Scope.  Exact arithmetic ONLY: `K` a linearly ordered field whose `Num K` instance computes the field
operations and has no NaN (`ExactLaws K`, `Lemmas/FieldInstances.lean`: `fieldNum K`,
`fieldNumWith K sq`).  IEEE floats are not a field; single / complete over any ordered number type:
`Props/C11Order.lean`; average / weighted under rounding: `Props/C11Rounding.lean`,
`Props/C11RoundingWeighted.lean`.

Entry point: `primitive_with` (model `primitiveWith`), called twice — on `data` and on the renumbered
matrix `data'` — with arbitrary (possibly different) build modes and prior states; all seven methods;
both matrices of valid shape `2 ≤ n < 2^31`, `2·len = n(n-1)`.

Hypotheses: `IsPerm n π ρ`; `hperm` (`data'` is `data` renumbered by `π`, characterised entrywise as
in `C11_spec`); tie-freeness — in `C11_primitive` of ANY greedy-valid reference run `steps₀` of
`data`; in `C11_primitive_self` of the run of either returned dendrogram (no reference needed).

Conclusion: both calls return; the steps returned on `data` are the steps returned on `data'`
relabelled by `σ π n` (`mapStep`: smaller label first); hence same heights, same sizes, and the leaf
set of every internal label `n+i` in the first is the `π`-image of its leaf set in the second.
(`C03_primitive_exact` twice + `C11_spec_unique` / `C11_spec_unique'`.)  With ties two greedy runs may
legitimately differ, so no such statement holds without the hypothesis.
-/

section primitive
variable {K : Type} [Field K] [LinearOrder K] [IsStrictOrderedRing K] [Num K]

theorem C11_primitive (E : ExactLaws K) (chk chk' : Bool) (m : Method) (st st' : State K)
    (d d' : Dendrogram K) (data data' : Array K) (n : Nat) (h2 : 2 ≤ n) (hs : n < 2147483648)
    (hl : 2 * data.size = n * (n - 1)) (hl' : 2 * data'.size = n * (n - 1))
    {π ρ : Nat → Nat} (hπ : IsPerm n π ρ)
    (hperm : ∀ i j, i < n → j < n →
      entry n data' Num.infinity i j = entry n data Num.infinity (π i) (π j))
    (steps₀ : List (Step K)) (h₀ : GreedyValid m n data steps₀)
    (ht : TieFreeFrom m (init m n data) steps₀) :
    ∃ s₁ e M₁ s₂ e' M₂,
      primitiveWith chk m st d data n = .ok (s₁, e, M₁) ∧
      primitiveWith chk' m st' d' data' n = .ok (s₂, e', M₂) ∧
      e.steps.toList = e'.steps.toList.map (mapStep (σ π n)) ∧
      e.steps.toList.map (·.d) = e'.steps.toList.map (·.d) ∧
      e.steps.toList.map (·.size) = e'.steps.toList.map (·.size) ∧
      ∀ i, (leaves n e.steps.toList e.steps.toList.length (n + i)).Perm
        ((leaves n e'.steps.toList e'.steps.toList.length (n + i)).map π) :=
  ReturnsGreedy.renumber (C03_primitive_exact E chk m st d data n h2 hs hl)
    (C03_primitive_exact E chk' m st' d' data' n h2 hs hl')
    hπ (E.field.lwSymm m) hperm steps₀ h₀ ht

/-- The same with the tie-freeness hypothesis on the run of either returned dendrogram. -/
theorem C11_primitive_self (E : ExactLaws K) (chk chk' : Bool) (m : Method) (st st' : State K)
    (d d' : Dendrogram K) (data data' : Array K) (n : Nat) (h2 : 2 ≤ n) (hs : n < 2147483648)
    (hl : 2 * data.size = n * (n - 1)) (hl' : 2 * data'.size = n * (n - 1))
    {π ρ : Nat → Nat} (hπ : IsPerm n π ρ)
    (hperm : ∀ i j, i < n → j < n →
      entry n data' Num.infinity i j = entry n data Num.infinity (π i) (π j)) :
    ∃ s₁ e M₁ s₂ e' M₂,
      primitiveWith chk m st d data n = .ok (s₁, e, M₁) ∧
      primitiveWith chk' m st' d' data' n = .ok (s₂, e', M₂) ∧
      (TieFreeFrom m (init m n data) e.steps.toList ∨
          TieFreeFrom m (init m n data') e'.steps.toList →
        e.steps.toList = e'.steps.toList.map (mapStep (σ π n)) ∧
        e.steps.toList.map (·.d) = e'.steps.toList.map (·.d) ∧
        e.steps.toList.map (·.size) = e'.steps.toList.map (·.size) ∧
        ∀ i, (leaves n e.steps.toList e.steps.toList.length (n + i)).Perm
          ((leaves n e'.steps.toList e'.steps.toList.length (n + i)).map π)) :=
  ReturnsGreedy.renumber_self (C03_primitive_exact E chk m st d data n h2 hs hl)
    (C03_primitive_exact E chk' m st' d' data' n h2 hs hl')
    hπ (E.field.lwSymm m) hperm

end primitive

/-! ### Non-vacuity over `ℚ` -/

section primitiveExample
@[reducible] private def qNum : Num ℚ := fieldNum ℚ
attribute [local instance] qNum

/-- `d(0,1) = 5, d(0,2) = 2, d(1,2) = 9` and its renumbering by the 3-cycle `cyc`. -/
private def exQ : Array ℚ := #[5, 2, 9]
private def exQ' : Array ℚ := #[9, 5, 2]
private def exQSteps : List (Step ℚ) := [⟨0, 2, 2, 2⟩, ⟨1, 3, 5, 3⟩]

private theorem exQ_hperm : ∀ i j, i < 3 → j < 3 →
    entry 3 exQ' Num.infinity i j = entry 3 exQ Num.infinity (cyc i) (cyc j) :=
  forall_lt_pairs (by decide)

/-- All hypotheses of `C11_primitive` hold of a concrete rational instance with a non-trivial
permutation (single linkage; different build modes for the two calls). -/
example : ∃ s₁ e M₁ s₂ e' M₂,
    primitiveWith true .single State.new (Dendrogram.new 0) exQ 3 = .ok (s₁, e, M₁) ∧
    primitiveWith false .single State.new (Dendrogram.new 3) exQ' 3 = .ok (s₂, e', M₂) ∧
    e.steps.toList = e'.steps.toList.map (mapStep (σ cyc 3)) ∧
    e.steps.toList.map (·.d) = e'.steps.toList.map (·.d) ∧
    e.steps.toList.map (·.size) = e'.steps.toList.map (·.size) ∧
    ∀ i, (leaves 3 e.steps.toList e.steps.toList.length (3 + i)).Perm
      ((leaves 3 e'.steps.toList e'.steps.toList.length (3 + i)).map cyc) :=
  C11_primitive (exactLaws_fieldNum ℚ) true false .single _ _ _ _ exQ exQ' 3 (by decide)
    (by decide) (by decide) (by decide) cyc_isPerm exQ_hperm exQSteps exQ_single_valid0
    exQ_single_tieFree0

end primitiveExample

end Kodama
