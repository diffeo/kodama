/-
C04 (tie to the source) — fingerprints of the hand-modelled functions this property's theorems are about.

The model of these functions is written by hand and tied to the crate by the bit-exact correspondence
run, which is bounded by the sizes it generates.  `Generated/Bodies.lean` is re-emitted from /repo on
every run with a fingerprint of each function's NORMALISED body (comments, attributes, cfg(test) items
and whitespace removed; parameters and local bindings alpha-renamed; tools/extract_bodies.py); each
theorem below pins the fingerprint of the text the model was written against.  A theorem that no longer
checks names the function that was edited: the model may no longer describe it (for instance on sizes the
correspondence run does not reach), and `check` searches for a failing input.  A fingerprint is proved
by exhibiting its row of the table (`Gen.bodyHash_of_row`); functions that other properties rest on
too are proved once, in `Lemmas/Fingerprint/`.  Written by
tools/mk_source_snapshot.py — by hand, after the model has been brought up to date, never by a check.
-/
import Kodama.Lemmas.Fingerprint.Active
import Kodama.Lemmas.Fingerprint.Spanning
namespace Kodama

theorem C04_source_active_Active_contains : Gen.bodyHash "active.rs::Active::contains" = some 654886494140433379 := Fingerprint.active_Active_contains
theorem C04_source_active_Active_remove : Gen.bodyHash "active.rs::Active::remove" = some 386005549530244905 := Fingerprint.active_Active_remove
theorem C04_source_active_Active_iter : Gen.bodyHash "active.rs::Active::iter" = some 515319513971985362 := Fingerprint.active_Active_iter
theorem C04_source_active_Active_range : Gen.bodyHash "active.rs::Active::range" = some 148316777747368857 := Fingerprint.active_Active_range
theorem C04_source_active_ActiveIter_next : Gen.bodyHash "active.rs::ActiveIter::next" = some 1007075780930307687 := Fingerprint.active_ActiveIter_next
theorem C04_source_active_ActiveRange_next : Gen.bodyHash "active.rs::ActiveRange::next" = some 547352909114454429 := Fingerprint.active_ActiveRange_next
theorem C04_source_spanning_mst_with : Gen.bodyHash "spanning.rs::mst_with" = some 666729020279403072 := Fingerprint.spanning_mst_with
theorem C04_source_spanning_mst : Gen.bodyHash "spanning.rs::mst" = some 18907340084940961 := Fingerprint.spanning_mst

end Kodama
