/-
C01 for `generic_with` under a RUN-DEPENDENT value hypothesis (no closure of the good set under the
Lance–Williams update; motivation: header of `Props/C03GenericRun.lean`; the two formulations (A) / (B):
header of `Props/C12Generic.lean`).

* `C01_generic_run`         under (B) `Spec.RunGood G m n data`: whatever `generic_with` returns has
                            `observations = n` and is `Spec.WellFormed`.
* `C01_generic_run_model`   under (A) `GenericRunGood G chk m n data` — the hypotheses of the
                            closure-based `C01_generic` minus `UpdClosed`, which implies (A)
                            (`genericRunGood_of_updClosed`): `C01_generic` is a corollary (`example`).
* `C01_generic_run_exact`   exact arithmetic, all seven methods: `RunGood (· < max_value)` alone.
* `C01_linkage_run`, `C01_linkage_run_exact`   centroid / median through `linkageWith`.
* non-vacuity: Ward / centroid / median on NON-constant rational matrices.
-/
import Kodama.Props.C03GenericRun
namespace Kodama
open Spec

section Run
variable {α : Type} [Num α] {G : α → Prop}

theorem C01_generic_run (L : OrderLaws α) (hbeq : BeqLe α) (gs : GoodSet G) (chk : Bool)
    (m : Method) (hlbc : l1Mode m = .fix → LBClosed G m) (hsym : LwSymm α m)
    (hmax : Num.isNaN (Num.maxValue : α) = false)
    (st st' : State α) (d d' : Dendrogram α) (data : Array α) (n : Nat) (M' : Mat α)
    (h2 : 2 ≤ n) (hs : n < 2147483648) (hl : 2 * data.size = n * (n - 1))
    (hrun : RunGood G m n data)
    (h : genericWith chk m st d data n = .ok (st', d', M')) :
    d'.obs = n ∧ WellFormed n d'.steps.toList :=
  (genericWith_sim_run L hbeq gs chk m hlbc hsym hmax st d data n h2 hs hl hrun).wf
    (fun _ _ _ h => ⟨h.1.res.obs, h.1.res.raw⟩) h2 h

theorem C01_generic_run_model (L : OrderLaws α) (gs : GoodSet G) (chk : Bool) (m : Method)
    (hmax : Num.isNaN (Num.maxValue : α) = false)
    (st st' : State α) (d d' : Dendrogram α) (data : Array α) (n : Nat) (M' : Mat α)
    (h2 : 2 ≤ n) (hs : n < 2147483648) (hl : 2 * data.size = n * (n - 1))
    (hrun : GenericRunGood G chk m n data)
    (h : genericWith chk m st d data n = .ok (st', d', M')) :
    d'.obs = n ∧ WellFormed n d'.steps.toList :=
  (genericWith_eq_run L gs chk m hmax st d data n h2 hs hl hrun).wf
    (fun _ _ _ h => ⟨h.1.obs, h.1.raw⟩) h2 h

/-- The closure-based `C01_generic` is a corollary. -/
example (L : OrderLaws α) (gs : GoodSet G) (chk : Bool) (m : Method)
    (hcl : UpdClosed G m) (hmax : Num.isNaN (Num.maxValue : α) = false)
    (st st' : State α) (d d' : Dendrogram α) (data : Array α) (n : Nat) (M' : Mat α)
    (h2 : 2 ≤ n) (hs : n < 2147483648) (hl : 2 * data.size = n * (n - 1))
    (hin : ∀ i (h : i < (squareData m data).size), G (squareData m data)[i])
    (h : genericWith chk m st d data n = .ok (st', d', M')) :
    d'.obs = n ∧ WellFormed n d'.steps.toList :=
  C01_generic_run_model L gs chk m hmax st st' d d' data n M' h2 hs hl
    (genericRunGood_of_updClosed L gs chk m hcl hmax data n h2 hs hl hin) h

theorem C01_linkage_run (L : OrderLaws α) (hbeq : BeqLe α) (gs : GoodSet G) (chk : Bool)
    (m : Method) (hm : m = .centroid ∨ m = .median) (hsym : LwSymm α m)
    (hmax : Num.isNaN (Num.maxValue : α) = false)
    (st st' : State α) (d d' : Dendrogram α) (data : Array α) (n : Nat) (M' : Mat α)
    (h2 : 2 ≤ n) (hs : n < 2147483648) (hl : 2 * data.size = n * (n - 1))
    (hrun : RunGood G m n data)
    (h : linkageWith chk m st d data n = .ok (st', d', M')) :
    d'.obs = n ∧ WellFormed n d'.steps.toList := by
  rw [linkageWith_generic chk m hm] at h
  exact C01_generic_run L hbeq gs chk m (lbClosed_of_centroid_median hm) hsym hmax st st' d d' data
    n M' h2 hs hl hrun h

end Run

section Exact
variable {K : Type} [Field K] [LinearOrder K] [IsStrictOrderedRing K] [Num K]

theorem C01_generic_run_exact (E : ExactLaws K) (B : BeqExact K) (chk : Bool) (m : Method)
    (st st' : State K) (d d' : Dendrogram K) (data : Array K) (n : Nat) (M' : Mat K)
    (h2 : 2 ≤ n) (hs : n < 2147483648) (hl : 2 * data.size = n * (n - 1))
    (hrun : RunGood (fun v : K => v < (Num.maxValue : K)) m n data)
    (h : genericWith chk m st d data n = .ok (st', d', M')) :
    d'.obs = n ∧ WellFormed n d'.steps.toList :=
  C01_generic_run E.field.orderLaws (B.beqLe E) (goodSet_exact B E (fun _ h => h)) chk m
    (lbClosed_exact_of_fix E _ m) (E.field.lwSymm m) (E.noNaN _) st st' d d' data n M' h2 hs hl
    hrun h

set_option linter.unusedSectionVars false in
theorem C01_linkage_run_exact (E : ExactLaws K) (B : BeqExact K) (chk : Bool) (m : Method)
    (hm : m = .centroid ∨ m = .median)
    (st st' : State K) (d d' : Dendrogram K) (data : Array K) (n : Nat) (M' : Mat K)
    (h2 : 2 ≤ n) (hs : n < 2147483648) (hl : 2 * data.size = n * (n - 1))
    (hrun : RunGood (fun v : K => v < (Num.maxValue : K)) m n data)
    (h : linkageWith chk m st d data n = .ok (st', d', M')) :
    d'.obs = n ∧ WellFormed n d'.steps.toList :=
  C01_linkage_run E.field.orderLaws (B.beqLe E) (goodSet_exact B E (fun _ h => h)) chk m hm
    (E.field.lwSymm m) (E.noNaN _) st st' d d' data n M' h2 hs hl hrun h

end Exact

/-! ## Non-vacuity: Ward, centroid, median on NON-constant rational matrices -/
section Example
@[reducible] private def qNumRun01 : Num ℚ := ratNumMax 1000
attribute [local instance] qNumRun01

/-- Ward, `d01 = 1, d02 = 3, d12 = 2`: every hypothesis of `C01_generic_run` holds. -/
example (st' : State ℚ) (d' : Dendrogram ℚ) (M' : Mat ℚ)
    (h : genericWith true .ward State.new (Dendrogram.new 0) (#[1, 3, 2] : Array ℚ) 3
      = .ok (st', d', M')) :
    d'.obs = 3 ∧ WellFormed 3 d'.steps.toList :=
  C01_generic_run (ratNumMax_exact 1000).field.orderLaws
    ((ratNumMax_beq 1000).beqLe (ratNumMax_exact 1000))
    (goodSet_exact (ratNumMax_beq 1000) (ratNumMax_exact 1000) (fun _ h => h)) true .ward
    (lbClosed_exact_of_fix (ratNumMax_exact 1000) _ .ward)
    ((ratNumMax_exact 1000).field.lwSymm .ward) rfl _ st' _ d' _ 3 M' (by decide) (by decide)
    (by decide) runGood_ward3 h

/-- Centroid, 4 points. -/
example (st' : State ℚ) (d' : Dendrogram ℚ) (M' : Mat ℚ)
    (h : genericWith true .centroid State.new (Dendrogram.new 0) (#[1, 3, 2, 4, 5, 7] : Array ℚ) 4
      = .ok (st', d', M')) :
    d'.obs = 4 ∧ WellFormed 4 d'.steps.toList :=
  C01_generic_run_exact (ratNumMax_exact 1000) (ratNumMax_beq 1000) true .centroid _ st' _ d' _ 4
    M' (by decide) (by decide) (by decide) runGood_centroid4 h

/-- Median through `linkage_with`, 4 points. -/
example (st' : State ℚ) (d' : Dendrogram ℚ) (M' : Mat ℚ)
    (h : linkageWith false .median State.new (Dendrogram.new 0) (#[1, 3, 2, 4, 5, 7] : Array ℚ) 4
      = .ok (st', d', M')) :
    d'.obs = 4 ∧ WellFormed 4 d'.steps.toList :=
  C01_linkage_run_exact (ratNumMax_exact 1000) (ratNumMax_beq 1000) false .median (Or.inr rfl)
    _ st' _ d' _ 4 M' (by decide) (by decide) (by decide) runGood_median4 h

end Example

end Kodama
