/-
C02 / C03 — syntactic tie for the hand-written loops.

The three matrix-updating algorithms repeat the same three-range update loop 7 × 3 (primitive.rs),
5 × 3 (chain.rs) and 7 × 3 (generic.rs) times, written out by hand; the model has ONE `updateRows`
(plus `genericL1/L2/L3` with the flags `l1Mode`, `tracksPriorities`).  The correspondence run only
samples these loops.  Here every `for … in state.active.range(..)` loop of the four algorithm
files is re-read from the source on every run (`Generated/Loops.lean`: range expression, `.skip(1)`,
normalised statements) and proved EQUAL to the table generated from the model's own description:

* `C02_loops_shape`  the 63 loops of the source are exactly: for each method, the three ranges
  `(..a | a..b skip 1 | b.. skip 1)` with index pairs `([x,a],[x,b]) ([a,x],[x,b]) ([a,x],[b,x])`, the
  formula `method::<same name>` with the arguments the model passes (`size_a, size_b` / `dist` /
  `state.sizes[x]`), the generic bookkeeping statements selected by the MODEL's `l1Mode` and
  `tracksPriorities`, and the six search loops (nnchain restart scan and chain growth, generic repair
  scan, the two mst scans) in the form the model transcribes.

So an index mix-up, a wrong formula, a dropped `.skip(1)` or a changed priority update in ONE range
of ONE method in ONE file breaks this theorem at build time (in addition to the sampled
correspondence).  Trusted: the translator's loop reader (`tools/extract_more.py: gen_loops`).
-/
import Kodama.Generated.Loops
import Kodama.Model.Generic
namespace Kodama

namespace LoopSpec

def lname : Method → String
  | .single => "single" | .complete => "complete" | .average => "average" | .weighted => "weighted"
  | .ward => "ward" | .centroid => "centroid" | .median => "median"

/-- Extra arguments of the update call, as the model's `updFn` uses them. -/
def extraArgs : Method → String
  | .average => ", size_a, size_b"
  | .ward => ", dist, size_a, size_b, state.sizes[x]"
  | .centroid => ", dist, size_a, size_b"
  | .median => ", dist"
  | _ => ""

def upd (m : Method) (i1 i2 : String) : String :=
  "method::" ++ lname m ++ "(dis[[" ++ i1 ++ "]], &mut dis[[" ++ i2 ++ "]]" ++ extraArgs m ++ ")"

def fixStr : String := "if state.nearest[x] == a { state.nearest[x] = ab; }"
def lowerStr : String :=
  "if &dis[[x, b]] < state.queue.priority(x) { state.queue.set_priority(x, dis[[x, b]]); state.nearest[x] = ab; } else if state.nearest[x] == a { state.nearest[x] = ab; }"
def l2Str : String :=
  "if &dis[[x, ab]] < state.queue.priority(x) { state.queue.set_priority(x, dis[[x, ab]]); state.nearest[x] = ab; }"
def l3Str : String :=
  "if dis[[ab, x]] < min { state.queue.set_priority(b, dis[[ab, x]]); state.nearest[b] = x; min = dis[[ab, x]]; }"

abbrev Row := String × String × String × Bool × List String

/-- The three update loops of method `m` in `file`; `generic` adds the bookkeeping the model's flags select. -/
def rows (file : String) (generic : Bool) (m : Method) : List Row :=
  let b1 := if generic then (match l1Mode m with | .fix => [fixStr] | .lower => [lowerStr]) else []
  let b2 := if generic && tracksPriorities m then [l2Str] else []
  let b3 := if generic && tracksPriorities m then [l3Str] else []
  [ (file, lname m, "..a", false, upd m "x, a" "x, b" :: b1),
    (file, lname m, "a..b", true, upd m "a, x" "x, b" :: b2),
    (file, lname m, "b..", true, upd m "a, x" "b, x" :: b3) ]

def expected : List Row :=
  (Method.all.map (rows "src/primitive.rs" false)).flatten ++
  [ ("src/chain.rs", "nnchain_with", "b..", true, ["if dis[[a, x]] < min { min = dis[[a, x]]; b = x; }"]),
    ("src/chain.rs", "nnchain_with", "..b", false, ["if dis[[x, b]] < min { min = dis[[x, b]]; a = x; }"]),
    ("src/chain.rs", "nnchain_with", "b..", true, ["if dis[[b, x]] < min { min = dis[[b, x]]; a = x; }"]) ] ++
  ((MethodChain.all.map MethodChain.intoMethod).map (rows "src/chain.rs" false)).flatten ++
  [ ("src/generic.rs", "generic_with", "a..", true,
      ["if dis[[a, x]] < min { min = dis[[a, x]]; state.nearest[a] = x; }"]) ] ++
  (Method.all.map (rows "src/generic.rs" true)).flatten ++
  [ ("src/spanning.rs", "mst_with", "..cluster", false,
      ["let slot = &mut state.min_dists[x]", "method::single(dis[[x, cluster]], slot)",
       "if *slot < min_dist { min_obs = x; min_dist = *slot; }"]),
    ("src/spanning.rs", "mst_with", "cluster..", false,
      ["let slot = &mut state.min_dists[x]", "method::single(dis[[cluster, x]], slot)",
       "if *slot < min_dist { min_obs = x; min_dist = *slot; }"]) ]

end LoopSpec

/- `expected` is unfolded to a list of literals (`String.reduceAppend` evaluates the 57 update calls),
which is then `Gen.loops` word for word; kernel evaluation of `=` on strings would re-encode every
literal of both tables, identical or not. -/
theorem C02_loops_shape : Gen.loops = LoopSpec.expected := by
  delta LoopSpec.expected LoopSpec.rows LoopSpec.upd
  simp only [LoopSpec.lname, LoopSpec.extraArgs, LoopSpec.fixStr, LoopSpec.lowerStr, LoopSpec.l2Str,
    LoopSpec.l3Str, Method.all, MethodChain.all, MethodChain.intoMethod, l1Mode, tracksPriorities,
    String.reduceAppend, List.map, List.flatten, Bool.and_true, Bool.and_false, if_true, if_false,
    Bool.false_eq_true]
  rfl

theorem C02_loops_count : Gen.loops.length = 63 := by decide

end Kodama
