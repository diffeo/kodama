/-
C02 UNDER FLOATING-POINT ROUNDING — rounding-error theorems for AVERAGE and WEIGHTED linkage through the
nearest-neighbour-chain algorithm (`nnchain_with`, and `linkage_with(Method::Average / Weighted)`, which the
generated dispatch table routes to it).

`Props/C02.lean`, `C02Nnchain.lean` and `C02Generic.lean` prove "reported height = documented criterion of the
two merged clusters" in EXACT arithmetic only (`ExactLaws K`).  Here the number type `α` is ABSTRACT and is only assumed to
satisfy THE STANDARD MODEL OF FLOATING-POINT ARITHMETIC `Round.Model val fin u lo hi N`
(`Lemmas/RoundModel.lean`): on finite arguments whose exact result is `0` or has magnitude in
`[lo, hi]`, each of `+ × /` returns the exact result times `(1 + δ)`, `|δ| ≤ u`; sizes `≤ N` convert
exactly; `<` is the order of the values; finite numbers are not NaN.

## What is proved

* `C02_nnchain_average_rounded`   for every valid matrix the call RETURNS, and EVERY returned step
      `(c1, c2, h, size)` satisfies, with `A`, `B` the observation sets of the labels `c1`, `c2` in the
      returned dendrogram (`Spec.leaves`, as in `C02_nnchain`) and `mean` the EXACT arithmetic mean of
      `val (input entry (x, y))` over the cross pairs `x ∈ A`, `y ∈ B` (`Crit.avg`):

          h finite,   size = |A| + |B| ≤ n,   A ∩ B = ∅,
          mean · (1−u)^k ≤ val h      and      val h · (1−u)^k ≤ mean,        k = 4·(size − 2)

      (`Round.Near u k mean (val h)`: `val h = mean · ∏ (1+δᵢ)^{±1}` with `k` factors — the classical
      `θ_k`).  CONSTANT: `c = 4` rounding factors per unit of cluster size (`×`, `+`, the rounded
      denominator `sa + sb`, `/`; comparisons and the clamp cost nothing).
* `C02_nnchain_average_rounded_bounds`  the same with `Near` unfolded.
* `C02_nnchain_average_rounded_one_add` the weaker form `mean·(1−u)^(4·size) ≤ val h ≤ mean·(1+u)^(8·size)`
      (`u ≤ 1/2`).
* `C02_linkage_average_rounded`   the same through `linkageWith … .average`.
* `C02_average_rounded_gamma`     hence (stated through `linkageWith`) `|val h − mean| ≤ γ · mean` whenever
      `4·n·u ≤ c` and `1 ≤ (1+γ)(1−c)`;
* `C02_average_rounded_1e9`       `u ≤ 2⁻⁵³`, `n ≤ 10⁶`  ⇒  `|val h − mean| ≤ 10⁻⁹ · mean`: the relative
      form of the tolerance of the property for `f64`;
* `C02_average_rounded_1e3`       `u ≤ 2⁻²⁴`, `n ≤ 2000`  ⇒  `|val h − mean| ≤ 10⁻³ · mean`: for `f32`.
* `C02_nnchain_weighted_rounded`, `C02_linkage_weighted_rounded`   WEIGHTED linkage, strictly positive
      entries in `[dlo, dhi]`, under the ADDITIONAL hypothesis `ChainGeOn ok .weighted` (see "not proved"):
      every returned height is within `2·(size − 2)` factors (`c = 2`: `+`, `× half`) of the recursively
      halved mean `Crit.wdist` of the original entries over the merge trees `Crit.clusterTree` of the
      two merged labels (tree level: `Round.wgtComputed_near`, `Lemmas/RoundWeighted.lean`).
      `C02_nnchain_weighted_rounded_of_halfAdd`: the hypothesis obtained from `HalfAddLaws α ok`.
* Non-vacuity: the bundle and all hypotheses are satisfied by exact `ℚ` (`u = 0`), by a toy type that
  rounds every operation DOWN by the factor `1 − 1/1000` (average; on it the clamp does fire), and by a
  toy type that rounds every operation toward `+∞` (weighted; monotone rounding, hence reducible).

## Hypotheses, and why each is needed

* `OrderLaws α`             `<` is a strict weak order off NaN (true of IEEE): the chain invariant.
* `Round.Model …`           the rounding model (TRUSTED for IEEE floats, see below).
* `2 ≤ n < 2³¹`, `2·len = n(n−1)`   a valid condensed matrix (as everywhere).
* every input entry is finite and `0` or in `[dlo, dhi]`, `0 < dlo ≤ dhi` (`hdata`):
      NON-NEGATIVITY — there is no cancellation, so RELATIVE error bounds compose (a sum of
      non-negative terms known up to `k` factors is known up to `k` factors); with entries of both
      signs no relative bound on the mean exists.  The interval `[dlo, dhi]` feeds the range analysis.
* `Round.RangeOk u lo hi N n dlo dhi`:  `n ≤ N`, `lo·n³ ≤ dlo·(1−u)^(4n+3)`, `n·dhi ≤ hi·(1−u)^(4n+3)`:
      NO OVERFLOW / UNDERFLOW — every exact intermediate result of every update is then `0` or normal,
      which is what the model's laws require.  (All values of a run are `0` or in
      `[dlo/n²·(1−u)^(4n), dhi/(1−u)^(4n)]`, `Round.RAvg.range`.)  There is NO run-level "`ok`"
      hypothesis: finiteness of every value of the run is DERIVED.

## What is NOT proved

* That IEEE-754 binary64/binary32 with round-to-nearest satisfy `Round.Model` with `u = 2⁻⁵³/2⁻²⁴`,
  `lo` = least positive normal, `hi` = largest finite, `N = 2⁵³/2²⁴` — the textbook fact
  (Higham, *Accuracy and Stability of Numerical Algorithms*, §2.2); it is a hypothesis here.
* Ward / centroid / median: their formulas subtract, cancellation forbids a relative bound.
* Reducibility of the WEIGHTED update `half·(a+b) ≥ min(a,b)`: it holds of IEEE arithmetic because
  rounding is monotone, but it does not follow from the standard model (and `method::weighted` has no
  clamp), so `C02_nnchain_weighted_rounded` takes it as the explicit hypothesis `ChainGeOn ok .weighted`
  on a domain `ok` containing the values of the run (the unrestricted `ChainGe α .weighted` is false of
  floats by overflow at `−max_value`; on a domain of moderate finite values it is what
  `Lemmas/WeightedMono.lean` derives from the sampled `HalfAddLaws`).
  Single / complete need no rounding analysis (exact, `Props/C03Nnchain`).
* Other entry points than `nnchain_with` / `linkage_with` are not in this file: `primitive_with` is
  `Props/C02RoundingPrim.lean`, `generic_with` is `Props/C02RoundingGeneric.lean`.

## Proof

`Lemmas/RoundModel.lean` (one update: `Model.average_near`, clamp included), `RoundTree.lean`
(`RAvg`: "within `4(|s|+|t|−2)` factors of the mean over the cross pairs of merge trees `s`, `t`" is
propagated by the update), `RoundChain.lean` (the loop keeps the matrix `RAvg`-related to the cluster
trees and every raw step at least as high as the earlier steps inside its two clusters),
`RoundSort.lean`, `RoundGreedy.lean`, `RoundGreedyChain.lean` (hence the stable sort is a legal replay
and the union–find labels of `relabel` name exactly those clusters: `nnchainWith_greedy`).  The clamped
average is reducible in every ordered type (`lwGeOn_average`); absence of NaN is derived from
finiteness.  `Lemmas/RoundRuns.lean` puts these together (`nnchain_average_greedySw`, …) and reads the
statement below off the result (`avgNear_of_sw`, `wgtNear_of_sw`).
-/
import Kodama.Lemmas.RoundRuns
import Kodama.Lemmas.RoundExamples
import Kodama.Lemmas.RoundBound
import Kodama.Lemmas.WeightedMono
namespace Kodama
open Spec Crit MTree Finset Round

variable {K : Type} [Field K] [LinearOrder K] [IsStrictOrderedRing K]
variable {α : Type} [Num α]

/-! ## `nnchain_with` -/

theorem C02_nnchain_average_rounded (L : OrderLaws α) {val : α → K} {fin : α → Prop}
    {u lo hi : K} {N : Nat} (RM : Round.Model val fin u lo hi N)
    (chk : Bool) (st : State α) (d : Dendrogram α) (data : Array α) (n : Nat)
    (h2 : 2 ≤ n) (hs : n < 2147483648) (hl : 2 * data.size = n * (n - 1))
    {dlo dhi : K} (hdlo : 0 < dlo) (hdle : dlo ≤ dhi)
    (hdata : ∀ (k : Nat) (h : k < data.size), fin data[k] ∧ In0 dlo dhi (val data[k]))
    (Rg : RangeOk u lo hi N n dlo dhi) :
    ∃ st' d' M', nnchainWith chk .average st d data n = .ok (st', d', M') ∧
      ∀ (i : Nat) (s : Step α), d'.steps.toList[i]? = some s →
        let steps := d'.steps.toList
        let A := (Spec.leaves n steps steps.length s.c1).toFinset
        let B := (Spec.leaves n steps steps.length s.c2).toFinset
        fin s.d ∧ Disjoint A B ∧ s.size = A.card + B.card ∧ s.size ≤ n ∧
          0 ≤ avg (valD val n data) A B ∧
          Near u (4 * (s.size - 2)) (avg (valD val n data) A B) (val s.d) :=
  exists_ok_imp (nnchain_average_greedySw L RM chk st d data n h2 hs hl hdlo hdle hdata Rg)
    fun _ h i s hi =>
      avgNear_of_sw (baseOk_valD data n h2 hs hl hdlo hdle hdata) h.1 hi (h.2 i s hi).1

theorem C02_nnchain_average_rounded_bounds (L : OrderLaws α) {val : α → K} {fin : α → Prop}
    {u lo hi : K} {N : Nat} (RM : Round.Model val fin u lo hi N)
    (chk : Bool) (st : State α) (d : Dendrogram α) (data : Array α) (n : Nat)
    (h2 : 2 ≤ n) (hs : n < 2147483648) (hl : 2 * data.size = n * (n - 1))
    {dlo dhi : K} (hdlo : 0 < dlo) (hdle : dlo ≤ dhi)
    (hdata : ∀ (k : Nat) (h : k < data.size), fin data[k] ∧ In0 dlo dhi (val data[k]))
    (Rg : RangeOk u lo hi N n dlo dhi) :
    ∃ st' d' M', nnchainWith chk .average st d data n = .ok (st', d', M') ∧
      ∀ (i : Nat) (s : Step α), d'.steps.toList[i]? = some s →
        let steps := d'.steps.toList
        let A := (Spec.leaves n steps steps.length s.c1).toFinset
        let B := (Spec.leaves n steps steps.length s.c2).toFinset
        let mean := avg (valD val n data) A B
        mean * (1 - u) ^ (4 * (s.size - 2)) ≤ val s.d ∧
          val s.d * (1 - u) ^ (4 * (s.size - 2)) ≤ mean :=
  exists_ok_imp (C02_nnchain_average_rounded L RM chk st d data n h2 hs hl hdlo hdle hdata Rg)
    fun _ h i s hi => (h i s hi).2.2.2.2.2

/-- The bound in the `(1−u)` / `(1+u)` form with exponents proportional to the step's `size`:
`mean·(1−u)^(4·size) ≤ val h ≤ mean·(1+u)^(8·size)` for `u ≤ 1/2` (`1/(1−u) ≤ (1+u)²` there; the
sharper two-sided statement is `C02_nnchain_average_rounded_bounds`). -/
theorem C02_nnchain_average_rounded_one_add (L : OrderLaws α) {val : α → K} {fin : α → Prop}
    {u lo hi : K} {N : Nat} (RM : Round.Model val fin u lo hi N) (hu2 : u ≤ 1 / 2)
    (chk : Bool) (st : State α) (d : Dendrogram α) (data : Array α) (n : Nat)
    (h2 : 2 ≤ n) (hs : n < 2147483648) (hl : 2 * data.size = n * (n - 1))
    {dlo dhi : K} (hdlo : 0 < dlo) (hdle : dlo ≤ dhi)
    (hdata : ∀ (k : Nat) (h : k < data.size), fin data[k] ∧ In0 dlo dhi (val data[k]))
    (Rg : RangeOk u lo hi N n dlo dhi) :
    ∃ st' d' M', nnchainWith chk .average st d data n = .ok (st', d', M') ∧
      ∀ (i : Nat) (s : Step α), d'.steps.toList[i]? = some s →
        let steps := d'.steps.toList
        let A := (Spec.leaves n steps steps.length s.c1).toFinset
        let B := (Spec.leaves n steps steps.length s.c2).toFinset
        let mean := avg (valD val n data) A B
        mean * (1 - u) ^ (4 * s.size) ≤ val s.d ∧ val s.d ≤ mean * (1 + u) ^ (8 * s.size) := by
  obtain ⟨st', d', M', hrun, h⟩ :=
    C02_nnchain_average_rounded L RM chk st d data n h2 hs hl hdlo hdle hdata Rg
  refine ⟨st', d', M', hrun, fun i s hi => ?_⟩
  obtain ⟨_, _, _, _, hnn, hnear⟩ := h i s hi
  have hk : 4 * (s.size - 2) ≤ 4 * s.size := by omega
  have hnear' := hnear.mono RM.u_nonneg RM.u_lt_one hnn hk
  refine ⟨hnear'.1, ?_⟩
  have := hnear'.le_mul_one_add_pow RM.u_nonneg hu2 hnn
  have e : 2 * (4 * s.size) = 8 * s.size := by ring
  rw [e] at this
  exact this

theorem C02_linkage_average_rounded (L : OrderLaws α) {val : α → K} {fin : α → Prop}
    {u lo hi : K} {N : Nat} (RM : Round.Model val fin u lo hi N)
    (chk : Bool) (st : State α) (d : Dendrogram α) (data : Array α) (n : Nat)
    (h2 : 2 ≤ n) (hs : n < 2147483648) (hl : 2 * data.size = n * (n - 1))
    {dlo dhi : K} (hdlo : 0 < dlo) (hdle : dlo ≤ dhi)
    (hdata : ∀ (k : Nat) (h : k < data.size), fin data[k] ∧ In0 dlo dhi (val data[k]))
    (Rg : RangeOk u lo hi N n dlo dhi) :
    ∃ st' d' M', linkageWith chk .average st d data n = .ok (st', d', M') ∧
      ∀ (i : Nat) (s : Step α), d'.steps.toList[i]? = some s →
        let steps := d'.steps.toList
        let A := (Spec.leaves n steps steps.length s.c1).toFinset
        let B := (Spec.leaves n steps steps.length s.c2).toFinset
        fin s.d ∧ Disjoint A B ∧ s.size = A.card + B.card ∧ s.size ≤ n ∧
          0 ≤ avg (valD val n data) A B ∧
          Near u (4 * (s.size - 2)) (avg (valD val n data) A B) (val s.d) :=
  exists_ok_imp (linkage_average_greedySw L RM chk st d data n h2 hs hl hdlo hdle hdata Rg)
    fun _ h i s hi =>
      avgNear_of_sw (baseOk_valD data n h2 hs hl hdlo hdle hdata) h.1 hi (h.2 i s hi).1

/-! ## Numeric corollaries -/

/-- Relative-error form: every returned height is within `γ · mean` of the exact mean whenever
`4·n·u ≤ c` and `1 ≤ (1+γ)(1−c)` (e.g. `γ = c/(1−c)`). -/
theorem C02_average_rounded_gamma (L : OrderLaws α) {val : α → K} {fin : α → Prop}
    {u lo hi : K} {N : Nat} (RM : Round.Model val fin u lo hi N)
    (chk : Bool) (st : State α) (d : Dendrogram α) (data : Array α) (n : Nat)
    (h2 : 2 ≤ n) (hs : n < 2147483648) (hl : 2 * data.size = n * (n - 1))
    {dlo dhi : K} (hdlo : 0 < dlo) (hdle : dlo ≤ dhi)
    (hdata : ∀ (k : Nat) (h : k < data.size), fin data[k] ∧ In0 dlo dhi (val data[k]))
    (Rg : RangeOk u lo hi N n dlo dhi)
    {c γ : K} (hc : 4 * (n : K) * u ≤ c) (hγ0 : 0 ≤ γ) (hγ : 1 ≤ (1 + γ) * (1 - c)) :
    ∃ st' d' M', linkageWith chk .average st d data n = .ok (st', d', M') ∧
      ∀ (i : Nat) (s : Step α), d'.steps.toList[i]? = some s →
        let steps := d'.steps.toList
        let A := (Spec.leaves n steps steps.length s.c1).toFinset
        let B := (Spec.leaves n steps steps.length s.c2).toFinset
        |val s.d - avg (valD val n data) A B| ≤ γ * avg (valD val n data) A B :=
  exists_ok_imp (C02_linkage_average_rounded L RM chk st d data n h2 hs hl hdlo hdle hdata Rg)
    fun _ h i s hi => avgNear_step_tol RM.u_nonneg RM.u_lt_one (fun _ hk =>
      one_le_mul_pow_w (m := 4 * n) RM.u_nonneg RM.u_lt_one hk
        (by rwa [Nat.cast_mul, Nat.cast_ofNat]) hγ0 hγ) (h i s hi)

/-- The tolerance of the property for `f64` (relative to the mean): unit roundoff at most `2⁻⁵³`, at most `10⁶`
observations ⇒ every returned height is within `10⁻⁹` (relative) of the exact mean over the cross
pairs of the original matrix. -/
theorem C02_average_rounded_1e9 (L : OrderLaws α) {val : α → K} {fin : α → Prop}
    {u lo hi : K} {N : Nat} (RM : Round.Model val fin u lo hi N)
    (chk : Bool) (st : State α) (d : Dendrogram α) (data : Array α) (n : Nat)
    (h2 : 2 ≤ n) (hs : n < 2147483648) (hl : 2 * data.size = n * (n - 1))
    {dlo dhi : K} (hdlo : 0 < dlo) (hdle : dlo ≤ dhi)
    (hdata : ∀ (k : Nat) (h : k < data.size), fin data[k] ∧ In0 dlo dhi (val data[k]))
    (Rg : RangeOk u lo hi N n dlo dhi)
    (hu : u ≤ 1 / 2 ^ 53) (hn : n ≤ 1000000) :
    ∃ st' d' M', linkageWith chk .average st d data n = .ok (st', d', M') ∧
      ∀ (i : Nat) (s : Step α), d'.steps.toList[i]? = some s →
        let steps := d'.steps.toList
        let A := (Spec.leaves n steps steps.length s.c1).toFinset
        let B := (Spec.leaves n steps steps.length s.c2).toFinset
        |val s.d - avg (valD val n data) A B| ≤ 1 / 1000000000 * avg (valD val n data) A B :=
  exists_ok_imp (C02_linkage_average_rounded L RM chk st d data n h2 hs hl hdlo hdle hdata Rg)
    fun _ h i s hi => avgNear_step_tol RM.u_nonneg RM.u_lt_one (fun _ hk =>
      f64_one_le_mul_pow_w RM.u_nonneg hu hn (by omega)) (h i s hi)

/-- The tolerance of the property for `f32` (relative to the mean): unit roundoff at most `2⁻²⁴`, at most `2000`
observations ⇒ relative error at most `10⁻³`. -/
theorem C02_average_rounded_1e3 (L : OrderLaws α) {val : α → K} {fin : α → Prop}
    {u lo hi : K} {N : Nat} (RM : Round.Model val fin u lo hi N)
    (chk : Bool) (st : State α) (d : Dendrogram α) (data : Array α) (n : Nat)
    (h2 : 2 ≤ n) (hs : n < 2147483648) (hl : 2 * data.size = n * (n - 1))
    {dlo dhi : K} (hdlo : 0 < dlo) (hdle : dlo ≤ dhi)
    (hdata : ∀ (k : Nat) (h : k < data.size), fin data[k] ∧ In0 dlo dhi (val data[k]))
    (Rg : RangeOk u lo hi N n dlo dhi)
    (hu : u ≤ 1 / 2 ^ 24) (hn : n ≤ 2000) :
    ∃ st' d' M', linkageWith chk .average st d data n = .ok (st', d', M') ∧
      ∀ (i : Nat) (s : Step α), d'.steps.toList[i]? = some s →
        let steps := d'.steps.toList
        let A := (Spec.leaves n steps steps.length s.c1).toFinset
        let B := (Spec.leaves n steps steps.length s.c2).toFinset
        |val s.d - avg (valD val n data) A B| ≤ 1 / 1000 * avg (valD val n data) A B :=
  exists_ok_imp (C02_linkage_average_rounded L RM chk st d data n h2 hs hl hdlo hdle hdata Rg)
    fun _ h i s hi => avgNear_step_tol RM.u_nonneg RM.u_lt_one (fun _ hk =>
      f32_one_le_mul_pow_w RM.u_nonneg hu hn (by omega)) (h i s hi)

/-! ## Weighted linkage (under an explicit reducibility hypothesis) -/

/-- Weighted linkage through `nnchain_with`, under the standard model AND reducibility of
the weighted update ON A DOMAIN (`hge : ChainGeOn ok .weighted`: `half·(a+b) ≥ t` whenever `a, b ≥ t`,
all in `ok`; `hok`: the domain contains every finite value in `[dlo·(1−u)^(2n), dhi/(1−u)^(2n)]`, the
range of all values of the run).  For IEEE arithmetic `ChainGeOn ok .weighted` holds on finite values
of moderate magnitude because rounding is monotone (`chainReducibleOn_weighted` from `HalfAddLaws`,
`Lemmas/WeightedMono.lean`, sampled not proved; `ChainReducibleOn.chainGeOn`, `Lemmas/RoundChain.lean`); it is NOT
a consequence of the standard model, and the crate's `method::weighted` has no clamp.  Entries
strictly positive, in `[dlo, dhi]`.  Every returned height
is within `2·(size − 2)` rounding factors of the recursively halved mean `Crit.wdist` of the original
entries over the merge trees of the two merged clusters. -/
theorem C02_nnchain_weighted_rounded (L : OrderLaws α) {val : α → K} {fin : α → Prop}
    {u lo hi : K} {N : Nat} (RM : Round.Model val fin u lo hi N)
    {ok : α → Prop} (hge : ChainGeOn ok .weighted)
    (chk : Bool) (st : State α) (d : Dendrogram α) (data : Array α) (n : Nat)
    (h2 : 2 ≤ n) (hs : n < 2147483648) (hl : 2 * data.size = n * (n - 1))
    {dlo dhi : K} (hdlo : 0 < dlo)
    (hdata : ∀ (k : Nat) (h : k < data.size),
      fin data[k] ∧ dlo ≤ val data[k] ∧ val data[k] ≤ dhi)
    (Rg : RangeOkW u lo hi n dlo dhi)
    (hok : ∀ v, fin v → dlo * (1 - u) ^ (2 * n) ≤ val v → val v ≤ dhi / (1 - u) ^ (2 * n) → ok v) :
    ∃ st' d' M', nnchainWith chk .weighted st d data n = .ok (st', d', M') ∧
      ∀ (i : Nat) (s : Step α), d'.steps.toList[i]? = some s →
        let steps := d'.steps.toList
        let w := wdist (valD val n data) (clusterTree n steps s.c1) (clusterTree n steps s.c2)
        fin s.d ∧ s.size ≤ n ∧ 0 ≤ w ∧ Near u (2 * (s.size - 2)) w (val s.d) :=
  exists_ok_imp (nnchain_weighted_greedySw L RM hge chk st d data n h2 hs hl hdlo hdata Rg hok)
    fun _ h i s hi => wgtNear_of_sw (baseOkW_valD data n hs hl hdlo hdata) (h.2 i s hi).1

/-- `C02_nnchain_weighted_rounded` with reducibility obtained from the monotonicity laws of `+` and
`½·` on a domain (`HalfAddLaws α ok`, `Lemmas/WeightedMono.lean`: true of exact arithmetic, sampled on
`Float`/`Float32` grids by `kodama-laws`). -/
theorem C02_nnchain_weighted_rounded_of_halfAdd (L : OrderLaws α) {val : α → K} {fin : α → Prop}
    {u lo hi : K} {N : Nat} (RM : Round.Model val fin u lo hi N)
    {ok : α → Prop} (H : HalfAddLaws α ok)
    (chk : Bool) (st : State α) (d : Dendrogram α) (data : Array α) (n : Nat)
    (h2 : 2 ≤ n) (hs : n < 2147483648) (hl : 2 * data.size = n * (n - 1))
    {dlo dhi : K} (hdlo : 0 < dlo)
    (hdata : ∀ (k : Nat) (h : k < data.size),
      fin data[k] ∧ dlo ≤ val data[k] ∧ val data[k] ≤ dhi)
    (Rg : RangeOkW u lo hi n dlo dhi)
    (hok : ∀ v, fin v → dlo * (1 - u) ^ (2 * n) ≤ val v → val v ≤ dhi / (1 - u) ^ (2 * n) → ok v) :
    ∃ st' d' M', nnchainWith chk .weighted st d data n = .ok (st', d', M') ∧
      ∀ (i : Nat) (s : Step α), d'.steps.toList[i]? = some s →
        let steps := d'.steps.toList
        let w := wdist (valD val n data) (clusterTree n steps s.c1) (clusterTree n steps s.c2)
        fin s.d ∧ s.size ≤ n ∧ 0 ≤ w ∧ Near u (2 * (s.size - 2)) w (val s.d) :=
  C02_nnchain_weighted_rounded L RM (chainReducibleOn_weighted L H).chainGeOn chk st d data n h2 hs hl
    hdlo hdata Rg hok

theorem C02_linkage_weighted_rounded (L : OrderLaws α) {val : α → K} {fin : α → Prop}
    {u lo hi : K} {N : Nat} (RM : Round.Model val fin u lo hi N)
    {ok : α → Prop} (hge : ChainGeOn ok .weighted)
    (chk : Bool) (st : State α) (d : Dendrogram α) (data : Array α) (n : Nat)
    (h2 : 2 ≤ n) (hs : n < 2147483648) (hl : 2 * data.size = n * (n - 1))
    {dlo dhi : K} (hdlo : 0 < dlo)
    (hdata : ∀ (k : Nat) (h : k < data.size),
      fin data[k] ∧ dlo ≤ val data[k] ∧ val data[k] ≤ dhi)
    (Rg : RangeOkW u lo hi n dlo dhi)
    (hok : ∀ v, fin v → dlo * (1 - u) ^ (2 * n) ≤ val v → val v ≤ dhi / (1 - u) ^ (2 * n) → ok v) :
    ∃ st' d' M', linkageWith chk .weighted st d data n = .ok (st', d', M') ∧
      ∀ (i : Nat) (s : Step α), d'.steps.toList[i]? = some s →
        let steps := d'.steps.toList
        let w := wdist (valD val n data) (clusterTree n steps s.c1) (clusterTree n steps s.c2)
        fin s.d ∧ s.size ≤ n ∧ 0 ≤ w ∧ Near u (2 * (s.size - 2)) w (val s.d) :=
  exists_ok_imp (linkage_weighted_greedySw L RM hge chk st d data n h2 hs hl hdlo hdata Rg hok)
    fun _ h i s hi => wgtNear_of_sw (baseOkW_valD data n hs hl hdlo hdata) (h.2 i s hi).1

/-! ## Non-vacuity

The number types and the data `1, 9, 4` of `Lemmas/RoundExamples.lean`. -/

section Examples

section ExactRat
attribute [local instance] ratNum

/-- Exact `ℚ`: all hypotheses hold, and (with `u = 0`, so `Near` is equality) every returned height
IS the mean over the cross pairs. -/
example : ∃ st' d' M',
    nnchainWith true .average State.new (Dendrogram.new 0) (#[1, 9, 4] : Array ℚ) 3
      = .ok (st', d', M') ∧
    ∀ (i : Nat) (s : Step ℚ), d'.steps.toList[i]? = some s →
      s.d = avg (valD (fun x : ℚ => x) 3 #[1, 9, 4])
        (Spec.leaves 3 d'.steps.toList d'.steps.toList.length s.c1).toFinset
        (Spec.leaves 3 d'.steps.toList d'.steps.toList.length s.c2).toFinset := by
  have RM := ratNum_model_ex
  obtain ⟨st', d', M', hrun, h⟩ := C02_nnchain_average_rounded_bounds
    (exactLaws_fieldNum ℚ).field.orderLaws RM true State.new (Dendrogram.new 0) #[1, 9, 4] 3
    (by decide) (by decide) (by decide) (dlo := 1) (dhi := 9) (by norm_num) (by norm_num)
    example_data_ok rangeOk_ex_exact
  refine ⟨st', d', M', hrun, fun i s hi => ?_⟩
  exact Round.Near.eq_of_zero (h i s hi)

end ExactRat

section RoundDown
attribute [local instance] downNum

/-- The rounding toy type: all hypotheses of the theorem hold, so the call returns and every returned
height is within `4·(size − 2)` factors `(1 − 1/1000)` of the exact mean over the cross pairs. -/
example : ∃ st' d' M',
    nnchainWith true .average State.new (Dendrogram.new 0) (#[1, 9, 4] : Array ℚ) 3
      = .ok (st', d', M') ∧
    ∀ (i : Nat) (s : Step ℚ), d'.steps.toList[i]? = some s →
      let A := (Spec.leaves 3 d'.steps.toList d'.steps.toList.length s.c1).toFinset
      let B := (Spec.leaves 3 d'.steps.toList d'.steps.toList.length s.c2).toFinset
      let mean := avg (valD (fun x : ℚ => x) 3 #[1, 9, 4]) A B
      mean * (1 - 1 / 1000) ^ (4 * (s.size - 2)) ≤ s.d ∧
        s.d * (1 - 1 / 1000) ^ (4 * (s.size - 2)) ≤ mean :=
  C02_nnchain_average_rounded_bounds downNum_orderLaws
    downNum_model_ex
    true State.new (Dendrogram.new 0) #[1, 9, 4] 3 (by decide) (by decide) (by decide)
    (dlo := 1) (dhi := 9) (by norm_num) (by norm_num)
    example_data_ok rangeOk_ex

end RoundDown

/-! ### Weighted linkage: exact `ℚ`, and a type that rounds every operation toward `+∞` -/

section ExactRatWeighted
attribute [local instance] ratNum

/-- Exact `ℚ`, weighted linkage: all hypotheses hold (reducibility from `chainReducible_exact`), and
every returned height IS the recursively halved mean. -/
example : ∃ st' d' M',
    nnchainWith true .weighted State.new (Dendrogram.new 0) (#[1, 9, 4] : Array ℚ) 3
      = .ok (st', d', M') ∧
    ∀ (i : Nat) (s : Step ℚ), d'.steps.toList[i]? = some s →
      s.d = wdist (valD (fun x : ℚ => x) 3 #[1, 9, 4])
        (clusterTree 3 d'.steps.toList s.c1) (clusterTree 3 d'.steps.toList s.c2) := by
  have E := exactLaws_fieldNum ℚ
  have RM := ratNum_model_ex
  obtain ⟨st', d', M', hrun, h⟩ := C02_nnchain_weighted_rounded E.field.orderLaws RM
    (ratNum_chainGeOn_weighted fun _ => True) true State.new
    (Dendrogram.new 0) #[1, 9, 4] 3 (by decide) (by decide) (by decide) (dlo := 1) (dhi := 9)
    (by norm_num) example_data_pos rangeOkW_ex_exact (fun _ _ _ _ => trivial)
  refine ⟨st', d', M', hrun, fun i s hi => ?_⟩
  exact (h i s hi).2.2.2.eq_of_zero

end ExactRatWeighted

section RoundUp
attribute [local instance] upNum

/-- The round-up toy type, weighted linkage: all hypotheses hold (standard model with `u = 1/1000`,
reducibility by monotonicity), so every returned height is within `2·(size − 2)` factors of the
recursively halved mean of the original entries. -/
example : ∃ st' d' M',
    nnchainWith true .weighted State.new (Dendrogram.new 0) (#[1, 9, 4] : Array ℚ) 3
      = .ok (st', d', M') ∧
    ∀ (i : Nat) (s : Step ℚ), d'.steps.toList[i]? = some s →
      let w := wdist (valD (fun x : ℚ => x) 3 #[1, 9, 4])
        (clusterTree 3 d'.steps.toList s.c1) (clusterTree 3 d'.steps.toList s.c2)
      Near (1 / 1000 : ℚ) (2 * (s.size - 2)) w s.d := by
  obtain ⟨st', d', M', hrun, h⟩ := C02_nnchain_weighted_rounded upNum_orderLaws
    upNum_model_ex
    (upNum_chainGe_weighted.on (fun _ => True)) true State.new (Dendrogram.new 0) #[1, 9, 4] 3
    (by decide) (by decide) (by decide) (dlo := 1) (dhi := 9) (by norm_num)
    example_data_pos rangeOkW_ex (fun _ _ _ _ => trivial)
  exact ⟨st', d', M', hrun, fun i s hi => (h i s hi).2.2.2⟩

end RoundUp

end Examples

end Kodama
