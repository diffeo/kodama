/-
C17 — the Rust FFI definitions, both shipped headers and the Go bindings agree.

Everything here is stated over `Kodama.Gen.Abi`, plain data that the translator
(`tools/extract_abi.py`) re-reads on every run from
  `kodama-capi/include/kodama.h` (capiH_*), `go-kodama/kodama.h` (goH_*, the copy cgo includes),
  `kodama-capi/src/lib.rs` + `macros.rs` (rust_*), `go-kodama/kodama.go` (go_*),
  `src/dendrogram.rs` (core_stepFields) and, via `Generated/Tables`, `src/lib.rs` (`Method`).
The quantifier is a finite configuration (7 methods, 6 functions, 4 fields, 2 header copies), so
`decide` over the whole table is a proof.  All comparison logic (name maps, type maps, layout
computation) is defined in this file, not in the translator.

Proved:

* `C17_enum`      both headers declare `kodama_method` with the same enumerators, in the same order,
                  with values 0..6; enumerator k is `kodama_method_` ++ lowercase of the k-th Rust
                  `kodama_method` constructor, whose discriminant is k and which is `repr(C)`; the
                  Rust constructor names are exactly the names of `Kodama.Method.all` (the library's
                  `Method`, from Generated/Tables) in order; `into_method` maps every constructor to
                  its namesake `Method::X` (imported from `kodama`), has 7 arms and no wildcard; the
                  Go iota block is `MethodX` at value k for the same X; Go `enum()` switches on its
                  receiver, sends every constant to its namesake `C.kodama_method_x`, has exactly 7
                  cases, no other case, and a `default:` that panics.
* `C17_enum_pointwise`  the same as one statement per method m with index k: at every layer the
                  k-th name is m's name and the two conversion tables send it to m.
* `C17_struct`    `kodama_step`: same member names, order and type tokens in both headers; under
                  `size_t ↦ usize, double ↦ f64` (C) and the crate's aliases `size_t = usize,
                  c_double = f64` (Rust) the same (name, machine type) list as the `repr(C)` Rust
                  struct; the x86-64 SysV layout computed here from the type lists is offsets
                  [0,8,16,24], size 32, alignment 8 for all three; `kodama_dendrogram` is an incomplete
                  type in both headers (its Rust layout is not ABI); Go `Steps()` reinterprets the
                  result of `kodama_dendrogram_steps` (declared `kodama_step *`) as `C.kodama_step`
                  and reads each C member into the like-named Go field with that field's Go type.
* `C17_fns`       the prototype lists of the two headers are token-for-token equal (names, order,
                  parameter names, qualifiers); they are the six expected functions; for each, the
                  Rust item of the same name produced by `ffi_fn!` has the same return and parameter
                  types at ABI level (pointer constness dropped, `size_t ↦ usize`, `void ↦ ()`,
                  pointee names equal), every type being one this file knows; Rust exports no
                  seventh function; the macro arm selected for each invocation emits
                  `#[no_mangle] pub extern fn` (bare `extern` is `extern "C"`).
* `C17_len`       Go `expectedLen` (both functions) and Rust `dis_len` (both functions) are the same
                  function `Nat → Nat` for ALL n (n = 0 included), and Go's formula evaluated in
                  signed `int` arithmetic (`/` truncating toward zero) equals it for all n as well;
                  Rust's expression contains no plain `-` (only `saturating_sub`), so reading it
                  with truncated subtraction is exact; `dis_len` is the slice length passed to
                  `from_raw_parts_mut`; Go panics unless `len(matrix) = expectedLen`.
                  Token equality of the two expressions is NOT demanded (Rust writes
                  `observations.saturating_sub(1)`, Go `observations - 1`).
                  At n = 0: Go computes `0 * -1 / 2 = 0`; Rust `0 * 0 / 2 = 0`.  (A plain
                  `observations - 1` in Rust would be a `usize` underflow in checked builds — C15's
                  subject — and would make the "-" conjunct here fail.)
* `C17_go_calls`  `Linkage64` passes a `*C.double` into `kodama_linkage_double`, `Linkage32` a
                  `*C.float` into `kodama_linkage_float`, argument order (matrix, `C.size_t(n)`,
                  `method.enum()`) matching the header's parameter types; `Len`, `Observations`,
                  `Steps` and the finalizer call the like-named C functions and nothing else.
* `C17_rust_bodies`  the Rust wrappers copy each step field from the namesake field of the
                  library's `Step` (cast `as c_double` only for the float variant's dissimilarity),
                  store `observations: observations`, pass `method.into_method()` to `linkage`,
                  and the accessors return `steps.len()`, `observations`, `steps.as_ptr()`.

NOT proved / trusted:
* the translator: that the emitted tokens are what the files say (token-level readers, comments
  stripped, headers read as a C compiler would with `__cplusplus` undefined; an unknown directive,
  `#pragma pack`, attribute, bit-field, extra C in the cgo preamble etc. is a TRANSLATOR-ERROR,
  not silently ignored);
* the C compiler's layout rules for x86-64 SysV as encoded in `sizeAlign`/`layout` below
  (size_t 8/8, double 8/8, float 4/4, members at the next multiple of their alignment), and that
  rustc's `repr(C)` follows them; that a C enum and a fieldless `repr(C)` Rust enum have the same
  size; other targets are not covered;
* cgo and the Go compiler: there is NO Go toolchain in this sandbox, the Go file is only read,
  never compiled or run; that `C.kodama_method_x` denotes the enumerator of the header next to
  the Go file, and that `int(size_t)` is value-preserving below 2^63, is Go's documented
  behaviour, not checked here;
* that the library's `Method::X` *behaves* as method X is the business of C01..C12; the per-name
  behaviour through the real C API is exercised by C15's driver.
-/
import Kodama.Generated.Abi
import Kodama.Generated.Tables
namespace Kodama
open Gen.Abi

namespace Abi

/-- Association-list lookup (first match), list first. -/
def assoc {α β : Type} [BEq α] (l : List (α × β)) (a : α) : Option β := List.lookup a l

def lower (s : String) : String := String.ofList (s.toList.map Char.toLower)

def capitalise (s : String) : String :=
  match s.toList with
  | [] => ""
  | c :: cs => String.ofList (c.toUpper :: cs)

/-- Rust constructor `X` ↦ C enumerator `kodama_method_x`. -/
def cEnumerator (ctor : String) : String := "kodama_method_" ++ lower ctor

/-- Rust constructor `X` ↦ Go constant `MethodX`. -/
def goConst (ctor : String) : String := "Method" ++ ctor

/-- Go constant `MethodX` ↦ `X` (none without the prefix). -/
def goCtor (c : String) : Option String :=
  if c.toList.take 6 = "Method".toList then some (String.ofList (c.toList.drop 6)) else none

/-! ### machine types and the x86-64 SysV layout -/

/-- C scalar type tokens ↦ machine type (named like the Rust primitive). -/
def cScalar : List (List String × String) :=
  [(["size_t"], "usize"), (["double"], "f64"), (["float"], "f32")]

/-- Struct/enum names that may appear as pointees or by value, and `void`. -/
def cNamed : List (List String × String) :=
  [(["void"], "()"), (["kodama_dendrogram"], "kodama_dendrogram"), (["kodama_step"], "kodama_step"),
   (["kodama_method"], "kodama_method")]

def rustKnown : List String :=
  ["usize", "f64", "f32", "()", "kodama_dendrogram", "kodama_step", "kodama_method"]

/-- A Rust type name through the crate's `pub type` aliases. -/
def rustResolve (t : String) : Option String :=
  let r := (assoc rust_aliases t).getD t
  if r ∈ rustKnown then some r else none

def cFieldType (t : List String) : Option String := assoc cScalar t

def rustFieldType : List String → Option String
  | [t] => (rustResolve t).bind fun r => if r ∈ cScalar.map (·.2) then some r else none
  | _ => none

/-- (size, alignment) on x86-64 SysV. -/
def sizeAlign : List (String × Nat × Nat) := [("usize", 8, 8), ("f64", 8, 8), ("f32", 4, 4)]

def roundUp (x a : Nat) : Nat := (x + a - 1) / a * a

/-- C struct layout: each member at the next multiple of its alignment; struct alignment is the
maximum; size rounded up to it.  Returns (offsets, size, alignment). -/
def layout (members : List (Nat × Nat)) : List Nat × Nat × Nat :=
  let r := members.foldl
    (fun (acc : List Nat × Nat × Nat) (m : Nat × Nat) =>
      let o := roundUp acc.2.1 m.2
      (acc.1 ++ [o], o + m.1, max acc.2.2 m.2))
    ([], 0, 1)
  (r.1, roundUp r.2.1 r.2.2, r.2.2)

def allSome {α : Type} : List (Option α) → Option (List α)
  | [] => some []
  | none :: _ => none
  | some a :: t => (allSome t).map (a :: ·)

def layoutOf (tys : List (Option String)) : Option (List Nat × Nat × Nat) :=
  ((allSome tys).bind fun ts => allSome (ts.map (assoc sizeAlign))).map layout

/-! ### ABI-level normal form of a type: (pointee or scalar, pointer depth), constness dropped -/

def cAbiTy (t : List String) : Option (String × Nat) :=
  (assoc (cScalar ++ cNamed) (t.filter (fun s => s ≠ "const" ∧ s ≠ "*"))).map (·, t.count "*")

def rustAbiTy : List String → Option (String × Nat)
  | [] => none
  | [t] => (rustResolve t).map (·, 0)
  | s :: q :: rest =>
    if s = "*" ∧ (q = "const" ∨ q = "mut") then (rustAbiTy rest).map (fun p => (p.1, p.2 + 1))
    else none

abbrev Proto := String × List String × List (String × List String)

def sigWith (f : List String → Option (String × Nat)) (p : List String × List (String × List String)) :
    Option ((String × Nat) × List (String × Nat)) :=
  (f p.1).bind fun r => (allSome (p.2.map (f ·.2))).map (r, ·)

def cSig (p : Proto) := sigWith cAbiTy p.2
def rustSig (p : List String × List (String × List String)) := sigWith rustAbiTy p

def exported : List String :=
  ["kodama_linkage_double", "kodama_linkage_float", "kodama_dendrogram_len",
   "kodama_dendrogram_observations", "kodama_dendrogram_steps", "kodama_dendrogram_free"]

/-- Go type used for a machine type in `Step`. -/
def goTypeOf : List (String × String) := [("usize", "int"), ("f64", "float64")]

end Abi
open Abi

theorem C17_enum :
    -- the two headers
    capiH_enumerators = goH_enumerators ∧
    capiH_enumTag = ("kodama_method", "kodama_method") ∧ goH_enumTag = capiH_enumTag ∧
    capiH_enumerators.map (·.2) = List.range 7 ∧
    -- Rust `kodama_method`: repr(C), the library's method names in order, discriminants 0..6
    "repr(C)" ∈ rust_methodAttrs ∧
    rust_methodCtors.map (·.1) = Method.all.map Method.name ∧
    rust_methodCtors.map (·.2) = List.range 7 ∧
    -- header enumerator k is the k-th Rust constructor, name-wise and value-wise
    capiH_enumerators = rust_methodCtors.map (fun c => (cEnumerator c.1, c.2)) ∧
    -- Rust `into_method`: namesake to namesake, total, no wildcard, into kodama's `Method`
    rust_intoMethodRet = "Method" ∧ "Method" ∈ rust_kodamaImports ∧
    rust_intoMethod.length = 7 ∧
    (∀ a ∈ rust_intoMethod, a.1 = a.2) ∧
    (∀ c ∈ rust_methodCtors, assoc rust_intoMethod c.1 = some c.1) ∧
    -- Go iota constants: `MethodX` at the value of `kodama_method_x`
    go_constType = "Method" ∧
    go_consts = rust_methodCtors.map (fun c => (goConst c.1, c.2)) ∧
    go_consts.map (fun c => ((goCtor c.1).map cEnumerator, c.2))
      = goH_enumerators.map (fun e => (some e.1, e.2)) ∧
    -- Go `enum()`: every constant to its namesake, all seven, nothing else, default panics
    go_enumRet = "C.kodama_method" ∧
    go_enumSwitch.length = 7 ∧
    (∀ p ∈ go_enumSwitch, (goCtor p.1).map cEnumerator = some p.2 ∧ p.1 ∈ go_consts.map (·.1)) ∧
    (∀ c ∈ go_consts, (assoc go_enumSwitch c.1).bind (assoc goH_enumerators) = some c.2) ∧
    go_enumDefault = ["panic"] := by
  decide +kernel

/-- One statement per method: index k carries the name of method m at every layer, and both
conversion tables lead to m. -/
theorem C17_enum_pointwise :
    ∀ m ∈ Method.all,
      let k := Method.all.idxOf m
      capiH_enumerators[k]? = some (cEnumerator m.name, k) ∧
      goH_enumerators[k]? = some (cEnumerator m.name, k) ∧
      rust_methodCtors[k]? = some (m.name, k) ∧
      assoc rust_intoMethod m.name = some m.name ∧
      go_consts[k]? = some (goConst m.name, k) ∧
      assoc go_enumSwitch (goConst m.name) = some (cEnumerator m.name) := by
  decide +kernel

theorem C17_methods_complete : Method.all.length = 7 ∧ Method.all.Nodup := by decide

theorem C17_struct :
    -- the two headers: token equality
    capiH_stepFields = goH_stepFields ∧
    capiH_stepTag = ("kodama_step", "kodama_step") ∧ goH_stepTag = capiH_stepTag ∧
    capiH_stepFields.map (·.1) = ["cluster1", "cluster2", "dissimilarity", "size"] ∧
    -- Rust: repr(C), same names, order and machine types
    "repr(C)" ∈ rust_stepAttrs ∧
    capiH_stepFields.map (fun f => (f.1, cFieldType f.2))
      = rust_stepFields.map (fun f => (f.1, rustFieldType f.2)) ∧
    (∀ f ∈ rust_stepFields, (rustFieldType f.2).isSome) ∧
    -- computed layout
    layoutOf (capiH_stepFields.map (cFieldType ·.2)) = some ([0, 8, 16, 24], 32, 8) ∧
    layoutOf (goH_stepFields.map (cFieldType ·.2)) = some ([0, 8, 16, 24], 32, 8) ∧
    layoutOf (rust_stepFields.map (rustFieldType ·.2)) = some ([0, 8, 16, 24], 32, 8) ∧
    -- the dendrogram is opaque to C
    capiH_opaque = [("kodama_dendrogram", "kodama_dendrogram")] ∧ goH_opaque = capiH_opaque ∧
    -- Go `Steps()`
    go_cgoIncludes = ["kodama.h"] ∧
    go_stepsSource = "kodama_dendrogram_steps" ∧
    (assoc goH_protos go_stepsSource).bind (cAbiTy ·.1) = some (go_stepsElem, 1) ∧
    go_stepsElem = goH_stepTag.2 ∧
    go_stepsConv.length = 4 ∧ go_stepFields.length = 4 ∧
    (∀ f ∈ goH_stepFields,
      go_stepsConv.filter (fun c => c.2.2 = f.1)
        = [(capitalise f.1, ((cFieldType f.2).bind (assoc goTypeOf)).getD "?", f.1)] ∧
      assoc go_stepFields (capitalise f.1) = (cFieldType f.2).bind (assoc goTypeOf)) := by
  decide +kernel

theorem C17_fns :
    -- the two headers: token equality of all prototypes
    capiH_protos = goH_protos ∧
    capiH_protos.map (·.1) = exported ∧ exported.Nodup ∧
    -- Rust: same set of names, nothing else exported
    rust_fns.length = 6 ∧ (∀ f ∈ rust_fns, f.1 ∈ exported) ∧ (rust_fns.map (·.1)).Nodup ∧
    -- per function: same ABI signature, all types known
    (∀ p ∈ capiH_protos, (cSig p).isSome ∧ (assoc rust_fns p.1).bind rustSig = cSig p) ∧
    -- linkage of the Rust items
    rust_fnLinkage.map (·.1) = rust_fns.map (·.1) ∧
    (∀ f ∈ rust_fnLinkage, "no_mangle" ∈ f.2.1 ∧ f.2.2.1 = "pub" ∧ f.2.2.2 = "C") := by
  decide +kernel

private theorem tdiv_tri (n : Nat) :
    Int.tdiv ((n : Int) * ((n : Int) - 1)) 2 = ((n * (n - 1) / 2 : Nat) : Int) := by
  cases n with
  | zero => decide
  | succ k =>
    have h : ((k + 1 : Nat) : Int) - 1 = (k : Int) := by omega
    rw [h, Nat.add_sub_cancel, ← Int.natCast_mul,
      Int.tdiv_eq_ediv_of_nonneg (Int.natCast_nonneg _)]
    exact (Int.natCast_ediv _ _).symm

theorem C17_len :
    -- the same function over Nat, for all n
    (∀ n : Nat, go_expectedLenN_64 n = rust_disLenN_double n) ∧
    (∀ n : Nat, go_expectedLenN_32 n = rust_disLenN_float n) ∧
    -- Go's signed arithmetic gives the same value, for all n ≥ 0
    (∀ n : Nat, go_expectedLenZ_64 (n : Int) = ((rust_disLenN_double n : Nat) : Int)) ∧
    (∀ n : Nat, go_expectedLenZ_32 (n : Int) = ((rust_disLenN_float n : Nat) : Int)) ∧
    -- and it is the condensed length
    (∀ n : Nat, rust_disLenN_double n = n * (n - 1) / 2 ∧ rust_disLenN_float n = n * (n - 1) / 2) ∧
    -- Rust has no partial subtraction, so the Nat reading is exact
    rust_disLenOps.map (·.1) = ["kodama_linkage_double", "kodama_linkage_float"] ∧
    (∀ f ∈ rust_disLenOps, "-" ∉ f.2) ∧
    -- the variable is the observation count on both sides, the length is used as the length
    rust_disLenVar = [("kodama_linkage_double", "observations"), ("kodama_linkage_float", "observations")] ∧
    rust_sliceArgs.map (·.2) = [["dis", "dis", "dis_len"], ["dis", "dis", "dis_len"]] ∧
    go_expectedLenVar.map (·.1) = ["Linkage64", "Linkage32"] ∧
    go_lenGuard = [("Linkage64", "len(MATRIX) != expectedLen", true),
                   ("Linkage32", "len(MATRIX) != expectedLen", true)] ∧
    -- which Go function feeds which Rust function
    go_linkageCall.map (fun c => (c.1, c.2.1))
      = [("Linkage64", "kodama_linkage_double"), ("Linkage32", "kodama_linkage_float")] := by
  refine ⟨fun _ => rfl, fun _ => rfl, ?_, ?_, fun _ => ⟨rfl, rfl⟩, rfl, by decide +kernel, rfl,
    rfl, rfl, rfl, rfl⟩
  · intro n; simp only [go_expectedLenZ_64, rust_disLenN_double]; exact tdiv_tri n
  · intro n; simp only [go_expectedLenZ_32, rust_disLenN_float]; exact tdiv_tri n

/-- Go slice element type ↦ the C scalar it is reinterpreted as. -/
def Abi.goSliceElem : List (String × String) := [("[]float64", "double"), ("[]float32", "float")]

theorem C17_go_calls :
    go_calls = [("Method.enum", []),
                ("newDendrogram", ["kodama_dendrogram_free"]),
                ("Dendrogram.Len", ["kodama_dendrogram_len"]),
                ("Dendrogram.Observations", ["kodama_dendrogram_observations"]),
                ("Dendrogram.Steps", ["kodama_dendrogram_steps"]),
                ("Linkage64", ["kodama_linkage_double"]),
                ("Linkage32", ["kodama_linkage_float"])] ∧
    go_linkageCall.length = 2 ∧
    (∀ c ∈ go_linkageCall,
      -- arguments in header order: matrix pointer, observation count, method
      c.2.2 = ["CMAT", "C.size_t(OBS)", "method.enum()"] ∧
      -- parameter types of the called prototype in the header cgo includes
      ((assoc goH_protos c.2.1).map fun p => p.2.map (·.2))
        = (assoc go_cmat c.1).map (fun t => [[t, "*"], ["size_t"], ["kodama_method"]]) ∧
      -- the C pointer type is the one the Go slice's element type corresponds to
      ((assoc go_linkageParams c.1).bind fun ps => (ps.head?).bind fun p => assoc Abi.goSliceElem p.2)
        = assoc go_cmat c.1 ∧
      ((assoc go_linkageParams c.1).map fun ps => ps.map (·.2) |>.drop 1) = some ["int", "Method"]) :=
  ⟨rfl, rfl, by decide +kernel⟩

theorem C17_rust_bodies :
    -- the library's Step has these fields (T = the float type)
    core_stepFields = [("cluster1", "usize"), ("cluster2", "usize"), ("dissimilarity", "T"), ("size", "usize")] ∧
    -- each C step field is copied from the namesake; only the float variant casts, and only the float
    rust_stepCopy =
      [("kodama_linkage_double", rust_stepFields.map fun f => (f.1, f.1, "")),
       ("kodama_linkage_float", rust_stepFields.map fun f =>
          (f.1, f.1, if f.1 = "dissimilarity" then "c_double" else ""))] ∧
    rust_stepCopy.all (fun fc => fc.2.map (·.1) == core_stepFields.map (·.1)) = true ∧
    rust_dendLiteral.map (·.2)
      = [[("steps", "STEPS"), ("observations", "observations")],
         [("steps", "STEPS"), ("observations", "observations")]] ∧
    rust_linkageArgs.map (·.2)
      = [["dis", "observations", "method.into_method()"], ["dis", "observations", "method.into_method()"]] ∧
    rust_accessors = [("kodama_dendrogram_len", "dend.steps.len()"),
                      ("kodama_dendrogram_observations", "dend.observations"),
                      ("kodama_dendrogram_steps", "dend.steps.as_ptr()")] ∧
    rust_dendrogramFields = [("steps", "Vec<kodama_step>"), ("observations", "size_t")] :=
  ⟨rfl, by decide +kernel, by decide +kernel, rfl, rfl, rfl, rfl⟩

/-! ## non-vacuity: concrete rows of the data, and the layout function on a padded struct -/

example :
    capiH_enumerators[4]? = some ("kodama_method_ward", 4) ∧
    rust_methodCtors[4]? = some ("Ward", 4) ∧ go_consts[4]? = some ("MethodWard", 4) ∧
    assoc go_enumSwitch "MethodWard" = some "kodama_method_ward" ∧
    assoc rust_intoMethod "Ward" = some "Ward" ∧ Method.all[4]? = some .ward ∧
    goH_stepFields[2]? = some ("dissimilarity", ["double"]) ∧
    rust_stepFields[2]? = some ("dissimilarity", ["c_double"]) := by
  decide +kernel

example :
    (assoc capiH_protos "kodama_dendrogram_steps").bind (fun p => cSig ("", p))
      = some (("kodama_step", 1), [("kodama_dendrogram", 1)]) ∧
    (assoc rust_fns "kodama_dendrogram_steps").bind rustSig
      = some (("kodama_step", 1), [("kodama_dendrogram", 1)]) ∧
    -- the comparison functions do distinguish: a different scalar, an unknown type, a swap
    cAbiTy ["int"] = none ∧ cAbiTy ["double", "*"] ≠ cAbiTy ["float", "*"] ∧
    cAbiTy ["const", "kodama_step", "*"] = rustAbiTy ["*", "mut", "kodama_step"] := by
  decide +kernel

example :
    layout [(8, 8), (4, 4), (8, 8)] = ([0, 8, 16], 24, 8) ∧
    layout [(4, 4), (8, 8), (4, 4)] = ([0, 8, 16], 24, 8) ∧
    layout [(4, 4), (4, 4), (8, 8)] = ([0, 4, 8], 16, 8) ∧
    go_expectedLenZ_64 0 = 0 ∧ go_expectedLenN_64 5 = 10 ∧ rust_disLenN_double 0 = 0 := by
  decide +kernel

end Kodama
