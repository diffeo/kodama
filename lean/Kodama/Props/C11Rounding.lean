/-
C11 UNDER FLOATING-POINT ROUNDING (average linkage) — "on a tie-free (margin-certified) input,
permuting the observations yields the same hierarchy: after mapping indices back, the same family of
clusters as sets of observations, merged at the same heights up to rounding".

`Props/C11*.lean` prove C11 in exact arithmetic.  Here, for average linkage under the standard model of
floating-point arithmetic:

Let `π` be a permutation of the observations (`IsPerm n π ρ`), `D` the exact (symmetric) dissimilarities
of the original input and `D' i j = D (π i) (π j)` those of the renumbered input.  Let `s₁` be a
well-formed output for `D` along which the rounding-safe margin holds (`AvgMarginAlong D u n s₁`,
`Props/C06Rounding.lean`) and `s₂` ANY well-formed output for `D'` that is greedy up to rounding
(`AvgGreedyUpTo D' u n s₂` — what `Props/C03Rounding.lean` proves of every entry point).  Then

* `C11_average_rounded_family`   for every step `i` the cluster created by step `i` of `s₂`, mapped back
  through `π`, IS the cluster created by step `i` of `s₁` (as sets of observations), and the two steps
  report the same size;
* `C11_average_rounded_heights`  and, when both lists are within rounding of the exact means (the C02
  rounding theorems), their heights are within `2·4·(size−2)` rounding factors of each other.

Proof: renumber `s₂` back (`steps.map (mapStep (σ π n))`, `Lemmas/SpecPerm.lean`); well-formedness,
presence of labels, observation sets (as images) and — by reindexing the double sums, `D` symmetric —
`AvgGreedyUpTo` transport along the renumbering (`avgGreedyUpTo_mapStep`); then `C06_average_rounded_labels_unique`
(uniqueness under the margin) identifies the renumbered `s₂` with `s₁` label by label.

* `C11_linkage_average_rounded`, `C11_nnchain_average_rounded`, `C11_primitive_average_rounded`  entry points: the call on
  `data` and on the renumbered `data'`, under the hypotheses of the C02/C03 rounding theorems for both inputs.

Non-vacuity (`C11Ex`): on the round-down toy type (`u = 1/1000`, every operation rounded) the inputs
`d01 = 1, d02 = 9, d12 = 4` and its renumbering by `0 ↔ 2` meet every hypothesis, the margin included.

NOT proved: `generic_with` is not restated (same composition with `C03_generic_average_rounded` /
`C02_generic_average_rounded`, plus its sentinel hypotheses for both inputs); Ward / centroid / median
(no relative bound).  Weighted linkage is in `Props/C11RoundingWeighted.lean`.
-/
import Kodama.Props.C06Rounding
import Kodama.Lemmas.PermTransport
namespace Kodama
open Spec Crit MTree Finset Round

variable {K : Type} [Field K] [LinearOrder K] [IsStrictOrderedRing K]
variable {α : Type} [Num α]

/-! ## Transport of sums, presence and greediness along a renumbering -/

set_option linter.unusedSectionVars false in
theorem presentBefore_mapStep {n : Nat} {f : Nat → Nat} (hf : LabelMap n f) (steps : List (Step α))
    (i l : Nat) : PresentBefore n (steps.map (mapStep f)) i (f l) ↔ PresentBefore n steps i l := by
  unfold PresentBefore
  rw [hf.lt_add_iff, usedBefore_mapStep hf]

omit [LinearOrder K] [IsStrictOrderedRing K] [Num α] in
/-- The mean for `D` over the images of two observation sets is the mean for the renumbered `D'` over the
sets. -/
theorem avg_image_leaves {D D' : Nat → Nat → K} {n : Nat} {π ρ : Nat → Nat} (hπ : IsPerm n π ρ)
    (hD : ∀ i j, i < n → j < n → D' i j = D (π i) (π j)) (steps : List (Step α)) (fuel l l' : Nat) :
    avg D ((Spec.leaves n steps fuel l).toFinset.image (σ π n))
        ((Spec.leaves n steps fuel l').toFinset.image (σ π n)) =
      avg D' (Spec.leaves n steps fuel l).toFinset (Spec.leaves n steps fuel l').toFinset :=
  (avg_image (σ_labelMap hπ).injective fun x hx y hy => by
    rw [σ_eq_on_leaves π n steps fuel l x hx, σ_eq_on_leaves π n steps fuel l' y hy]
    exact hD x y (leaves_lt n steps fuel l x (List.mem_toFinset.mp hx))
      (leaves_lt n steps fuel l' y (List.mem_toFinset.mp hy))).symm

omit [IsStrictOrderedRing K] in
/-- **Greedy-up-to-rounding is equivariant under renumbering.**  The observation sets of the renumbered
list are the images of the original ones (`leaves_toFinset_mapStep`), with the same cardinalities and,
for `D`, the means that the original sets have for `D ∘ (π × π)`; `mapStep` may swap the two merged
labels, which the symmetric mean does not see. -/
theorem avgGreedyUpTo_renumber {D D' : Nat → Nat → K} {u : K} {n : Nat} {π ρ : Nat → Nat}
    (hπ : IsPerm n π ρ) (hsym : ∀ i j, D' i j = D' j i)
    (hD : ∀ i j, i < n → j < n → D' i j = D (π i) (π j)) {steps : List (Step α)}
    (g : AvgGreedyUpTo D' u n steps) :
    AvgGreedyUpTo D u n (steps.map (mapStep (σ π n))) := by
  have hf := σ_labelMap hπ
  have hinj := hf.injective
  intro i s' hi p q hp hq hpq
  obtain ⟨b, hb, rfl⟩ := getElem?_map_mapStep hi
  obtain ⟨p₀, rfl⟩ := hf.surj' p
  obtain ⟨q₀, rfl⟩ := hf.surj' q
  obtain ⟨hX, hY, hdis, hcAB, hcXY, h0, hle⟩ := g i b hb p₀ q₀
    ((presentBefore_mapStep hf steps i p₀).mp hp) ((presentBefore_mapStep hf steps i q₀).mp hq)
    (fun h => hpq (by rw [h]))
  rw [List.length_map]
  rcases mapStep_cases (σ π n) b with ⟨e1, e2, _⟩ | ⟨e1, e2, _⟩
  · simp only [e1, e2, leaves_toFinset_mapStep hf, Finset.card_image_of_injective _ hinj,
      avg_image_leaves hπ hD]
    exact ⟨hX.image _, hY.image _, (Finset.disjoint_image hinj).mpr hdis, hcAB, hcXY, h0, hle⟩
  · simp only [e1, e2, leaves_toFinset_mapStep hf, Finset.card_image_of_injective _ hinj,
      avg_image_leaves hπ hD]
    rw [avg_symm hsym, Nat.add_comm (Finset.card _)]
    exact ⟨hX.image _, hY.image _, (Finset.disjoint_image hinj).mpr hdis, hcAB, hcXY, h0, hle⟩

set_option linter.unusedSectionVars false in
theorem avgGreedyUpTo_mapStep {D : Nat → Nat → K} {u : K} {n : Nat} {π ρ : Nat → Nat}
    (hπ : IsPerm n π ρ) (hsym : ∀ i j, D i j = D j i) {steps : List (Step α)}
    (g : AvgGreedyUpTo (fun i j => D (π i) (π j)) u n steps) :
    AvgGreedyUpTo D u n (steps.map (mapStep (σ π n))) :=
  avgGreedyUpTo_renumber hπ (fun i j => hsym (π i) (π j)) (fun _ _ _ _ => rfl) g

omit [IsStrictOrderedRing K] [Num α] in
/-- Heights near the exact means for `D ∘ (π × π)` are, on the renumbered list, near the exact means
for `D`. -/
theorem avgHeightsNear_mapStep {D D' : Nat → Nat → K} {u : K} {n : Nat} {π ρ : Nat → Nat}
    {val : α → K} (hπ : IsPerm n π ρ) (hsym : ∀ i j, D' i j = D' j i)
    (hD : ∀ i j, i < n → j < n → D' i j = D (π i) (π j)) {steps : List (Step α)}
    (h : AvgHeightsNear D' u n val steps) :
    AvgHeightsNear D u n val (steps.map (mapStep (σ π n))) := by
  have hf := σ_labelMap hπ
  intro i s' hi
  obtain ⟨b, hb, rfl⟩ := getElem?_map_mapStep hi
  have hn := h i b hb
  rw [List.length_map, mapStep_d, mapStep_size]
  rcases mapStep_cases (σ π n) b with ⟨e1, e2, _⟩ | ⟨e1, e2, _⟩
  · rwa [e1, e2, leaves_toFinset_mapStep hf, leaves_toFinset_mapStep hf, avg_image_leaves hπ hD]
  · rwa [e1, e2, leaves_toFinset_mapStep hf, leaves_toFinset_mapStep hf, avg_image_leaves hπ hD,
      avg_symm hsym]

/-! ## The hierarchy -/

/-- From label agreement with the renumbered list to the family of clusters (shared by the average and
the weighted theorem). -/
theorem family_of_labAgree {n : Nat} {π ρ : Nat → Nat} (hπ : IsPerm n π ρ) {s₁ s₂ : List (Step α)}
    (wf₁ : WellFormed n s₁) (wf₂ : WellFormed n s₂)
    (hlab : ∀ i, LabAgree i s₁ (s₂.map (mapStep (σ π n)))) :
    ∀ (i : Nat) (a b : Step α), s₁[i]? = some a → s₂[i]? = some b →
      (Spec.leaves n s₁ s₁.length (n + i)).toFinset =
        (Spec.leaves n s₂ s₂.length (n + i)).toFinset.image π ∧ a.size = b.size := by
  have hf := σ_labelMap hπ
  have wf₂' := wellFormed_mapStep hf wf₂
  intro i a b ha hb
  constructor
  · have hlv := leaves_toFinset_mapStep hf s₂ s₂.length (n + i)
    rw [σ_of_ge π (Nat.le_add_right n i)] at hlv
    rw [leaves_lab_wf wf₁ wf₂' (hlab (i + 1)) (List.getElem?_eq_some_iff.mp ha).1 (n + i)
      (by omega), List.length_map, hlv]
    exact Finset.image_congr (σ_eq_on_leaves π n s₂ s₂.length (n + i))
  · exact (step_eq_of_labAgree wf₁ wf₂' hlab ha
      (by rw [List.getElem?_map, hb]; rfl)).2.2.trans (mapStep_size _ b)

/-- **C11 under rounding, average linkage: the family of clusters.**  See the file header. -/
theorem C11_average_rounded_family {D : Nat → Nat → K} {u : K} {n : Nat} {π ρ : Nat → Nat}
    (hπ : IsPerm n π ρ) (hsym : ∀ i j, D i j = D j i) {s₁ s₂ : List (Step α)}
    (wf₁ : WellFormed n s₁) (wf₂ : WellFormed n s₂)
    (m₁ : AvgMarginAlong D u n s₁) (g₂ : AvgGreedyUpTo (fun i j => D (π i) (π j)) u n s₂) :
    ∀ (i : Nat) (a b : Step α), s₁[i]? = some a → s₂[i]? = some b →
      (Spec.leaves n s₁ s₁.length (n + i)).toFinset =
        (Spec.leaves n s₂ s₂.length (n + i)).toFinset.image π ∧ a.size = b.size :=
  family_of_labAgree hπ wf₁ wf₂
    (C06_average_rounded_labels_unique wf₁ (wellFormed_mapStep (σ_labelMap hπ) wf₂) m₁
      (avgGreedyUpTo_mapStep hπ hsym g₂))

theorem C11_average_rounded_heights {D : Nat → Nat → K} {u : K} {n : Nat} {π ρ : Nat → Nat}
    {val : α → K} (hu : u < 1)
    (hπ : IsPerm n π ρ) (hsym : ∀ i j, D i j = D j i) {s₁ s₂ : List (Step α)}
    (wf₁ : WellFormed n s₁) (wf₂ : WellFormed n s₂)
    (m₁ : AvgMarginAlong D u n s₁) (g₂ : AvgGreedyUpTo (fun i j => D (π i) (π j)) u n s₂)
    (h₁ : AvgHeightsNear D u n val s₁)
    (h₂ : AvgHeightsNear (fun i j => D (π i) (π j)) u n val s₂) :
    ∀ (i : Nat) (a b : Step α), s₁[i]? = some a → s₂[i]? = some b →
      Near u (2 * (4 * (a.size - 2))) (val a.d) (val b.d) := by
  have wf₂' := wellFormed_mapStep (σ_labelMap hπ) wf₂
  have hlab := C06_average_rounded_labels_unique wf₁ wf₂' m₁ (avgGreedyUpTo_mapStep hπ hsym g₂)
  intro i a b ha hb
  have := C06_average_rounded_heights hu wf₁ wf₂' hlab h₁ (avgHeightsNear_mapStep hπ (fun i j => hsym (π i) (π j)) (fun _ _ _ _ => rfl) h₂) i a
    (mapStep (σ π n) b) ha (by rw [List.getElem?_map, hb]; rfl)
  rw [mapStep_d] at this
  exact this.2.2.2

/-! ## Entry point: `linkage_with` on the original and on the renumbered matrix -/

/-- The composition shared by the entry-point theorems below: two well-formed outputs, for `data` and
for the renumbered `data'`, each within rounding of the exact means of its input, the second greedy up
to rounding, the first with the margin. -/
theorem renumbered_average_agree {val : α → K} {u : K} {n : Nat} {π ρ : Nat → Nat} (hu : u < 1)
    (hπ : IsPerm n π ρ) {data data' : Array α}
    (hperm : ∀ i j, i < n → j < n →
      entry n data' Num.infinity i j = entry n data Num.infinity (π i) (π j))
    {s₁ s₂ : List (Step α)} (wf₁ : WellFormed n s₁) (wf₂ : WellFormed n s₂)
    (g₂ : AvgGreedyUpTo (valD val n data') u n s₂)
    (h₁ : AvgHeightsNear (valD val n data) u n val s₁)
    (h₂ : AvgHeightsNear (valD val n data') u n val s₂)
    (m₁ : AvgMarginAlong (valD val n data) u n s₁) :
    ∀ (i : Nat) (a b : Step α), s₁[i]? = some a → s₂[i]? = some b →
      (Spec.leaves n s₁ s₁.length (n + i)).toFinset =
        (Spec.leaves n s₂ s₂.length (n + i)).toFinset.image π ∧
      a.size = b.size ∧ Near u (2 * (4 * (a.size - 2))) (val a.d) (val b.d) := by
  intro i a b ha hb
  have wf₂' := wellFormed_mapStep (σ_labelMap hπ) wf₂
  have hsym := valD_symm val n data'
  have hlab := C06_average_rounded_labels_unique wf₁ wf₂' m₁
    (avgGreedyUpTo_renumber hπ hsym (valD_perm hperm) g₂)
  have r := C06_average_rounded_heights hu wf₁ wf₂' hlab h₁
    (avgHeightsNear_mapStep hπ hsym (valD_perm hperm) h₂) i a (mapStep (σ π n) b) ha
    (by rw [List.getElem?_map, hb]; rfl)
  rw [mapStep_d] at r
  exact ⟨(family_of_labAgree hπ wf₁ wf₂ hlab i a b ha hb).1, r.2.2.1.trans (mapStep_size _ b), r.2.2.2⟩

/-- **C11 for IEEE-style arithmetic, average linkage, through `linkage_with`.**  `data'` is the matrix of
the renumbered observations (`hperm`).  Under the hypotheses of the C02/C03 rounding theorems for BOTH
inputs the two calls return, and IF the rounding-safe margin holds along the output for `data` THEN, step
by step, the cluster created from `data'`, mapped back through `π`, is the cluster created from `data`,
with the same size and a height within `2·4·(size−2)` rounding factors. -/
theorem C11_linkage_average_rounded (L : OrderLaws α) {val : α → K} {fin : α → Prop}
    {u lo hi : K} {N : Nat} (RM : Round.Model val fin u lo hi N)
    (chk chk' : Bool) (st st' : State α) (d d' : Dendrogram α) (data data' : Array α) (n : Nat)
    (h2 : 2 ≤ n) (hs : n < 2147483648) (hl : 2 * data.size = n * (n - 1))
    (hl' : 2 * data'.size = n * (n - 1))
    {π ρ : Nat → Nat} (hπ : IsPerm n π ρ)
    (hperm : ∀ i j, i < n → j < n →
      entry n data' Num.infinity i j = entry n data Num.infinity (π i) (π j))
    {dlo dhi : K} (hdlo : 0 < dlo) (hdle : dlo ≤ dhi)
    (hdata : ∀ (k : Nat) (h : k < data.size), fin data[k] ∧ In0 dlo dhi (val data[k]))
    (hdata' : ∀ (k : Nat) (h : k < data'.size), fin data'[k] ∧ In0 dlo dhi (val data'[k]))
    (Rg : RangeOk u lo hi N n dlo dhi) :
    ∃ s₁ e M₁ s₂ e' M₂,
      linkageWith chk .average st d data n = .ok (s₁, e, M₁) ∧
      linkageWith chk' .average st' d' data' n = .ok (s₂, e', M₂) ∧
      (AvgMarginAlong (valD val n data) u n e.steps.toList →
        ∀ (i : Nat) (a b : Step α), e.steps.toList[i]? = some a → e'.steps.toList[i]? = some b →
          (Spec.leaves n e.steps.toList e.steps.toList.length (n + i)).toFinset =
            (Spec.leaves n e'.steps.toList e'.steps.toList.length (n + i)).toFinset.image π ∧
          a.size = b.size ∧ Near u (2 * (4 * (a.size - 2))) (val a.d) (val b.d)) :=
  exists_ok_pair
    (avgRun_of_greedySw RM (baseOk_valD data n h2 hs hl hdlo hdle hdata)
      (linkage_average_greedySw L RM chk st d data n h2 hs hl hdlo hdle hdata Rg))
    (avgRun_of_greedySw RM (baseOk_valD data' n h2 hs hl' hdlo hdle hdata')
      (linkage_average_greedySw L RM chk' st' d' data' n h2 hs hl' hdlo hdle hdata' Rg))
    fun _ _ a b => renumbered_average_agree RM.u_lt_one hπ hperm a.1 b.1 b.2.1 a.2.2 b.2.2

theorem C11_nnchain_average_rounded (L : OrderLaws α) {val : α → K} {fin : α → Prop}
    {u lo hi : K} {N : Nat} (RM : Round.Model val fin u lo hi N)
    (chk chk' : Bool) (st st' : State α) (d d' : Dendrogram α) (data data' : Array α) (n : Nat)
    (h2 : 2 ≤ n) (hs : n < 2147483648) (hl : 2 * data.size = n * (n - 1))
    (hl' : 2 * data'.size = n * (n - 1))
    {π ρ : Nat → Nat} (hπ : IsPerm n π ρ)
    (hperm : ∀ i j, i < n → j < n →
      entry n data' Num.infinity i j = entry n data Num.infinity (π i) (π j))
    {dlo dhi : K} (hdlo : 0 < dlo) (hdle : dlo ≤ dhi)
    (hdata : ∀ (k : Nat) (h : k < data.size), fin data[k] ∧ In0 dlo dhi (val data[k]))
    (hdata' : ∀ (k : Nat) (h : k < data'.size), fin data'[k] ∧ In0 dlo dhi (val data'[k]))
    (Rg : RangeOk u lo hi N n dlo dhi) :
    ∃ s₁ e M₁ s₂ e' M₂,
      nnchainWith chk .average st d data n = .ok (s₁, e, M₁) ∧
      nnchainWith chk' .average st' d' data' n = .ok (s₂, e', M₂) ∧
      (AvgMarginAlong (valD val n data) u n e.steps.toList →
        ∀ (i : Nat) (a b : Step α), e.steps.toList[i]? = some a → e'.steps.toList[i]? = some b →
          (Spec.leaves n e.steps.toList e.steps.toList.length (n + i)).toFinset =
            (Spec.leaves n e'.steps.toList e'.steps.toList.length (n + i)).toFinset.image π ∧
          a.size = b.size ∧ Near u (2 * (4 * (a.size - 2))) (val a.d) (val b.d)) :=
  exists_ok_pair
    (avgRun_of_greedySw RM (baseOk_valD data n h2 hs hl hdlo hdle hdata)
      (nnchain_average_greedySw L RM chk st d data n h2 hs hl hdlo hdle hdata Rg))
    (avgRun_of_greedySw RM (baseOk_valD data' n h2 hs hl' hdlo hdle hdata')
      (nnchain_average_greedySw L RM chk' st' d' data' n h2 hs hl' hdlo hdle hdata' Rg))
    fun _ _ a b => renumbered_average_agree RM.u_lt_one hπ hperm a.1 b.1 b.2.1 a.2.2 b.2.2

theorem C11_primitive_average_rounded (L : OrderLaws α) {val : α → K} {fin : α → Prop}
    {u lo hi : K} {N : Nat} (RM : Round.Model val fin u lo hi N)
    (chk chk' : Bool) (st st' : State α) (d d' : Dendrogram α) (data data' : Array α) (n : Nat)
    (h2 : 2 ≤ n) (hs : n < 2147483648) (hl : 2 * data.size = n * (n - 1))
    (hl' : 2 * data'.size = n * (n - 1))
    {π ρ : Nat → Nat} (hπ : IsPerm n π ρ)
    (hperm : ∀ i j, i < n → j < n →
      entry n data' Num.infinity i j = entry n data Num.infinity (π i) (π j))
    {dlo dhi : K} (hdlo : 0 < dlo) (hdle : dlo ≤ dhi)
    (hdata : ∀ (k : Nat) (h : k < data.size), fin data[k] ∧ In0 dlo dhi (val data[k]))
    (hdata' : ∀ (k : Nat) (h : k < data'.size), fin data'[k] ∧ In0 dlo dhi (val data'[k]))
    (Rg : RangeOk u lo hi N n dlo dhi) :
    ∃ s₁ e M₁ s₂ e' M₂,
      primitiveWith chk .average st d data n = .ok (s₁, e, M₁) ∧
      primitiveWith chk' .average st' d' data' n = .ok (s₂, e', M₂) ∧
      (AvgMarginAlong (valD val n data) u n e.steps.toList →
        ∀ (i : Nat) (a b : Step α), e.steps.toList[i]? = some a → e'.steps.toList[i]? = some b →
          (Spec.leaves n e.steps.toList e.steps.toList.length (n + i)).toFinset =
            (Spec.leaves n e'.steps.toList e'.steps.toList.length (n + i)).toFinset.image π ∧
          a.size = b.size ∧ Near u (2 * (4 * (a.size - 2))) (val a.d) (val b.d)) :=
  exists_ok_pair
    (avgRun_of_greedySw RM (baseOk_valD data n h2 hs hl hdlo hdle hdata)
      (primitive_average_greedySw L RM chk st d data n h2 hs hl hdlo hdle hdata Rg))
    (avgRun_of_greedySw RM (baseOk_valD data' n h2 hs hl' hdlo hdle hdata')
      (primitive_average_greedySw L RM chk' st' d' data' n h2 hs hl' hdlo hdle hdata' Rg))
    fun _ _ a b => renumbered_average_agree RM.u_lt_one hπ hperm a.1 b.1 b.2.1 a.2.2 b.2.2

/-! ## Non-vacuity -/

namespace C11Ex
attribute [local instance] downNum

def π (i : Nat) : Nat := if i = 0 then 2 else if i = 2 then 0 else i

theorem isPerm : IsPerm 3 π π := by
  refine ⟨?_, ?_, ?_, ?_⟩ <;> decide

theorem data_ok' : ∀ (k : Nat) (h : k < (#[4, 9, 1] : Array ℚ).size),
    (fun _ : ℚ => True) (#[4, 9, 1] : Array ℚ)[k] ∧
      In0 (1 : ℚ) 9 ((fun x : ℚ => x) (#[4, 9, 1] : Array ℚ)[k]) := by
  intro k hk
  have hk' : k = 0 ∨ k = 1 ∨ k = 2 := by
    simp only [List.size_toArray, List.length_cons, List.length_nil] at hk; omega
  rcases hk' with rfl | rfl | rfl <;> exact ⟨trivial, Or.inr ⟨by norm_num, by norm_num⟩⟩

theorem hperm : ∀ i j, i < 3 → j < 3 →
    entry 3 (#[4, 9, 1] : Array ℚ) Num.infinity i j =
      entry 3 (#[1, 9, 4] : Array ℚ) Num.infinity (π i) (π j) :=
  forall_lt_pairs (by decide)

/-- Round-down toy type: `linkage_with` on `d01 = 1, d02 = 9, d12 = 4` and on the matrix of the
observations renumbered by `0 ↔ 2` build the same clusters (mapped back), with the same sizes and heights
equal up to rounding — all hypotheses of `C11_linkage_average_rounded`, the margin included, hold. -/
example : ∃ s₁ e M₁ s₂ e' M₂,
    linkageWith true .average State.new (Dendrogram.new 0) (#[1, 9, 4] : Array ℚ) 3 = .ok (s₁, e, M₁) ∧
    linkageWith true .average State.new (Dendrogram.new 0) (#[4, 9, 1] : Array ℚ) 3 = .ok (s₂, e', M₂) ∧
    ∀ (i : Nat) (a b : Step ℚ), e.steps.toList[i]? = some a → e'.steps.toList[i]? = some b →
      (Spec.leaves 3 e.steps.toList e.steps.toList.length (3 + i)).toFinset =
        (Spec.leaves 3 e'.steps.toList e'.steps.toList.length (3 + i)).toFinset.image π ∧
      a.size = b.size ∧
      Near (1 / 1000 : ℚ) (2 * (4 * (a.size - 2))) a.d b.d := by
  have RM := downNum_model_ex
  obtain ⟨s₁, e, M₁, s₂, e', M₂, r₁, r₂, h⟩ := C11_linkage_average_rounded downNum_orderLaws RM
    true true State.new State.new (Dendrogram.new 0) (Dendrogram.new 0) #[1, 9, 4] #[4, 9, 1] 3
    (by decide) (by decide) (by decide) (by decide) isPerm hperm
    (dlo := 1) (dhi := 9) (by norm_num) (by norm_num) example_data_ok data_ok'
    rangeOk_ex
  refine ⟨s₁, e, M₁, s₂, e', M₂, r₁, r₂, h ?_⟩
  -- the margin along the returned run: it has the labels of `C06Ex.exSteps`
  obtain ⟨_, e₀, _, r₀, wf, g⟩ := C03_linkage_average_rounded downNum_orderLaws RM
    true State.new (Dendrogram.new 0) #[1, 9, 4] 3 (by decide) (by decide) (by decide)
    (dlo := 1) (dhi := 9) (by norm_num) (by norm_num)
    example_data_ok rangeOk_ex
  rw [r₁] at r₀; cases r₀
  exact C06_average_rounded_margin_of_labAgree C06Ex.exSteps_wf wf
    (C06_average_rounded_labels_unique C06Ex.exSteps_wf wf C06Ex.exSteps_margin g)
    C06Ex.exSteps_margin
end C11Ex

end Kodama
