/-
C11 for `mst_with` / `linkage_with(.., Method::Single, ..)` — renumbering the observations renumbers
the returned dendrogram, on tie-free input.

Entry point: `mst_with` (model `mstWith`), called twice — on `data` and on the renumbered matrix
`data'` — with arbitrary (possibly different) build modes and prior states; both matrices of valid
shape `2 ≤ n < 2^31`, `2·len = n(n-1)`.  `C11_mst_linkage_single`: the same through `linkage_with`
with `Method::Single`.

Setting as in `Props/C11.lean`: `π` a permutation of `0 … n-1` with inverse `ρ` (`IsPerm n π ρ`);
`data'` is characterised entrywise by `hperm : entry n data' ∞ i j = entry n data ∞ (π i) (π j)`;
`σ π n` is `π` on observations and the identity on internal labels; `mapStep (σ π n)` relabels the
two children of a step, smaller label first.

Hypotheses (explicit): `OrderLaws α`, `LtTrichotomy α` (FALSE for IEEE floats: `±0`, NaN — an
exact-order statement, needed by `C03_mst` and by the symmetry of `min`, `lwSymm_single`),
`NoNaN n data`, `InfTop n data` (both are inherited by `data'` through `hperm`:
`noNaN_perm`, `infTop_perm`), and tie-freeness — in `C11_mst` of ANY greedy-valid reference run of
`data`, in `C11_mst_self` of the run of either returned dendrogram.  With ties two greedy runs may
legitimately differ (and `mst_with` breaks ties by Prim order, which is not equivariant), so no such
statement holds without it.

Conclusion: both calls return; the steps returned on `data` are the steps returned on `data'`
relabelled by `σ π n`; hence same heights, same sizes, and the leaf set of every internal label
`n+i` in the first is the `π`-image of its leaf set in the second.
(`C03_mst` twice + `C11_spec_unique` / `C11_spec_unique'`.)
-/
import Kodama.Props.C03Mst
import Kodama.Props.C11
import Kodama.Lemmas.ComposePerm
namespace Kodama
open Spec
variable {α : Type} [Num α]

theorem C11_mst (L : OrderLaws α) (T : LtTrichotomy α) (chk chk' : Bool) (st st' : State α)
    (d d' : Dendrogram α) (data data' : Array α) (n : Nat) (h2 : 2 ≤ n) (hs : n < 2147483648)
    (hl : 2 * data.size = n * (n - 1)) (hl' : 2 * data'.size = n * (n - 1))
    {π ρ : Nat → Nat} (hπ : IsPerm n π ρ)
    (hperm : ∀ i j, i < n → j < n →
      entry n data' Num.infinity i j = entry n data Num.infinity (π i) (π j))
    (hnan : NoNaN n data) (hinf : InfTop n data)
    (steps₀ : List (Step α)) (h₀ : GreedyValid .single n data steps₀)
    (ht : TieFreeFrom .single (init .single n data) steps₀) :
    ∃ s₁ e M₁ s₂ e' M₂,
      mstWith chk st d data n = .ok (s₁, e, M₁) ∧
      mstWith chk' st' d' data' n = .ok (s₂, e', M₂) ∧
      e.steps.toList = e'.steps.toList.map (mapStep (σ π n)) ∧
      e.steps.toList.map (·.d) = e'.steps.toList.map (·.d) ∧
      e.steps.toList.map (·.size) = e'.steps.toList.map (·.size) ∧
      ∀ i, (leaves n e.steps.toList e.steps.toList.length (n + i)).Perm
        ((leaves n e'.steps.toList e'.steps.toList.length (n + i)).map π) :=
  ReturnsGreedy.renumber (C03_mst_total L T chk st d data n h2 hs hl hnan hinf)
    (C03_mst_total L T chk' st' d' data' n h2 hs hl' (noNaN_perm hπ hperm hnan)
      (infTop_perm hπ hperm hinf))
    hπ (lwSymm_single L T) hperm steps₀ h₀ ht

/-- The same with the tie-freeness hypothesis on the run of either returned dendrogram. -/
theorem C11_mst_self (L : OrderLaws α) (T : LtTrichotomy α) (chk chk' : Bool) (st st' : State α)
    (d d' : Dendrogram α) (data data' : Array α) (n : Nat) (h2 : 2 ≤ n) (hs : n < 2147483648)
    (hl : 2 * data.size = n * (n - 1)) (hl' : 2 * data'.size = n * (n - 1))
    {π ρ : Nat → Nat} (hπ : IsPerm n π ρ)
    (hperm : ∀ i j, i < n → j < n →
      entry n data' Num.infinity i j = entry n data Num.infinity (π i) (π j))
    (hnan : NoNaN n data) (hinf : InfTop n data) :
    ∃ s₁ e M₁ s₂ e' M₂,
      mstWith chk st d data n = .ok (s₁, e, M₁) ∧
      mstWith chk' st' d' data' n = .ok (s₂, e', M₂) ∧
      (TieFreeFrom .single (init .single n data) e.steps.toList ∨
          TieFreeFrom .single (init .single n data') e'.steps.toList →
        e.steps.toList = e'.steps.toList.map (mapStep (σ π n)) ∧
        e.steps.toList.map (·.d) = e'.steps.toList.map (·.d) ∧
        e.steps.toList.map (·.size) = e'.steps.toList.map (·.size) ∧
        ∀ i, (leaves n e.steps.toList e.steps.toList.length (n + i)).Perm
          ((leaves n e'.steps.toList e'.steps.toList.length (n + i)).map π)) :=
  ReturnsGreedy.renumber_self (C03_mst_total L T chk st d data n h2 hs hl hnan hinf)
    (C03_mst_total L T chk' st' d' data' n h2 hs hl' (noNaN_perm hπ hperm hnan)
      (infTop_perm hπ hperm hinf))
    hπ (lwSymm_single L T) hperm

theorem C11_mst_linkage_single (L : OrderLaws α) (T : LtTrichotomy α) (chk chk' : Bool)
    (st st' : State α) (d d' : Dendrogram α) (data data' : Array α) (n : Nat) (h2 : 2 ≤ n)
    (hs : n < 2147483648) (hl : 2 * data.size = n * (n - 1))
    (hl' : 2 * data'.size = n * (n - 1)) {π ρ : Nat → Nat} (hπ : IsPerm n π ρ)
    (hperm : ∀ i j, i < n → j < n →
      entry n data' Num.infinity i j = entry n data Num.infinity (π i) (π j))
    (hnan : NoNaN n data) (hinf : InfTop n data)
    (steps₀ : List (Step α)) (h₀ : GreedyValid .single n data steps₀)
    (ht : TieFreeFrom .single (init .single n data) steps₀) :
    ∃ s₁ e M₁ s₂ e' M₂,
      linkageWith chk .single st d data n = .ok (s₁, e, M₁) ∧
      linkageWith chk' .single st' d' data' n = .ok (s₂, e', M₂) ∧
      e.steps.toList = e'.steps.toList.map (mapStep (σ π n)) ∧
      e.steps.toList.map (·.d) = e'.steps.toList.map (·.d) ∧
      e.steps.toList.map (·.size) = e'.steps.toList.map (·.size) ∧
      ∀ i, (leaves n e.steps.toList e.steps.toList.length (n + i)).Perm
        ((leaves n e'.steps.toList e'.steps.toList.length (n + i)).map π) := by
  rw [linkage_single_eq, linkage_single_eq]
  exact C11_mst L T chk chk' st st' d d' data data' n h2 hs hl hl' hπ hperm hnan hinf steps₀ h₀ ht

/-! ### Non-vacuity (toy exact numbers, `n = 3`, the 3-cycle) -/

section NonVacuity
attribute [local instance] Toy.natNum

/-- The 3-cycle `0 ↦ 1 ↦ 2 ↦ 0` and its inverse. -/
private def cyc : Nat → Nat
  | 0 => 1 | 1 => 2 | 2 => 0 | k => k
private def cycInv : Nat → Nat
  | 0 => 2 | 1 => 0 | 2 => 1 | k => k

private theorem cyc_isPerm : IsPerm 3 cyc cycInv := by
  refine ⟨?_, ?_, ?_, ?_⟩ <;> decide

/-- `d(0,1) = 5, d(0,2) = 2, d(1,2) = 9` and its renumbering `d'(i,j) = d(π i, π j)`. -/
private def exData : Array Nat := #[5, 2, 9]
private def exData' : Array Nat := #[9, 5, 2]
private def exSteps : List (Step Nat) := [⟨0, 2, 2, 2⟩, ⟨1, 3, 5, 3⟩]

private theorem ex_hperm : ∀ i j, i < 3 → j < 3 →
    entry 3 exData' Num.infinity i j = entry 3 exData Num.infinity (cyc i) (cyc j) :=
  forall_lt_pairs (by decide)

private theorem exNoNaN : NoNaN 3 exData := fun _ _ _ _ _ => rfl

private theorem exInfTop : InfTop 3 exData := ⟨rfl, forall_lt_pairs (by decide)⟩

/-- All hypotheses of `C11_mst` hold of a concrete instance with a non-trivial permutation
(different build modes for the two calls). -/
example : ∃ s₁ e M₁ s₂ e' M₂,
    mstWith true State.new (Dendrogram.new 0) exData 3 = .ok (s₁, e, M₁) ∧
    mstWith false State.new (Dendrogram.new 3) exData' 3 = .ok (s₂, e', M₂) ∧
    e.steps.toList = e'.steps.toList.map (mapStep (σ cyc 3)) ∧
    e.steps.toList.map (·.d) = e'.steps.toList.map (·.d) ∧
    e.steps.toList.map (·.size) = e'.steps.toList.map (·.size) ∧
    ∀ i, (leaves 3 e.steps.toList e.steps.toList.length (3 + i)).Perm
      ((leaves 3 e'.steps.toList e'.steps.toList.length (3 + i)).map cyc) :=
  C11_mst Toy.natOrderLaws Toy.natTrichotomy true false _ _ _ _ exData exData' 3 (by decide)
    (by decide) (by decide) (by decide) cyc_isPerm ex_hperm exNoNaN exInfTop exSteps (by decide)
    (by decide)

end NonVacuity

end Kodama
