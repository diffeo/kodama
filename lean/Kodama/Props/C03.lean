/-
C03 — each step merges a closest pair of the clusters then existing, ties included.

Full statement (`C03_statement`, a definition, nothing asserted): for every entry point and every
method it accepts, the steps RETURNED on a valid matrix, replayed with the independent label-based
Lance–Williams bookkeeping of `Kodama/Spec/Naive.lean` (a table between live cluster labels, no
condensed indices, no active list, no heap), are a greedy run: `Spec.GreedyValid m n data`.

## Proved here — entry point `primitive_with` (model `primitiveWith`, both build modes `chk`,
## every prior `LinkageState`/`Dendrogram`), every `2 ≤ n < 2^31`, every `data` with
## `data.size = n(n-1)/2`, abstract number type `α`

Stages 1 and 2, the search and the update (valid for ALL seven methods and any update function):
* `C03_primitive_argmin_min`   `argmin` returns a live pair `a < b`, its entry `v`, and no live pair
                      has a strictly smaller entry (global minimum; nothing about which pair wins a
                      tie).  Needs `OrderLaws α` and non-NaN entries at live pairs.
* `C03_primitive_update_spec`  exact effect of the three-range update `updateRows … a b`: for every
                      live `x ∉ {a,b}` entry `{x,b}` becomes `upd x (old{x,a}) (old{x,b})`, every
                      other entry is unchanged (no number law; uses injectivity of the generated
                      index expression, C07).

Stage 3, the simulation (all seven methods):
* `C03_primitive_mergeorder`   the main loop is total and the raw dendrogram `dend1` it leaves,
                      relabelled IN MERGE ORDER (`mergeOrder`: step `k` creates label `n+k`, the
                      cluster living at the index kept by the merge; heights passed through
                      `Spec.post`, i.e. the final `sqrt` for Ward/centroid/median), is
                      `Spec.GreedyValid m n data`; the raw heights are the spec's table values and
                      are not NaN; and `primitiveWith` IS that loop followed by `relabel m` and
                      `sqrtSteps m`.
  Hypotheses: `OrderLaws α`; `Spec.LwSymm α m` (the update is symmetric in the two merged
  clusters — needed because the model passes `(entry{x,a}, entry{x,b}, sizes[a], sizes[b])` with
  `a < b` INDICES while the spec orders the two merged LABELS; proved in `Lemmas/SpecLaws.lean` from
  commutativity of `+`/`×` for weighted/centroid/median, from `LtTrichotomy` for
  single/complete, and from both for the clamped average and the guarded, clamped Ward);
  `Spec.NoNaNRun m n data`: no state reached by a greedy run of the SPEC from the
  initial table has a NaN at a live pair (includes: the — squared, for the methods on squares —
  input entries are not NaN).  `Spec.noNaNRun_of_lwNoNaN` derives it from non-NaN input entries
  (`Spec.InitNoNaN`) when the formula maps non-NaN to non-NaN (`Spec.LwNoNaN`; automatic for
  single/complete).

Stage 4, the RETURNED dendrogram (`relabel` = stable sort by height unless centroid/median, then
union–find labels; then `sqrtSteps`):
* `C03_primitive_unsorted`     `m.requiresSorting = false` (centroid, median): the call returns
                      normally and the returned steps are `GreedyValid m n data` — they ARE the
                      merge-order relabelling (`relabel`'s union–find labels coincide with the
                      merge-order labels).
* `C03_primitive_of_monotone`  any method: the same, under the HYPOTHESIS that the raw heights left
                      by the loop are non-decreasing (then `List.mergeSort` is the identity).
* `C03_primitive_reducible`    any method with `Spec.Reducible α m` (HYPOTHESIS, for non-NaN
                      arguments: `dab ≤ dax`, `dab ≤ dbx` ⇒ `dab ≤ lw m dax dbx dab …`; implied under
                      `OrderLaws` by the textbook form `Spec.ReducibleMin` "`… ⇒ min dax dbx ≤ lw …`",
                      `Spec.reducible_of_min`): the raw heights are non-decreasing
                      (`Spec.greedy_heights_mono`, a theorem about the SPEC), hence the stable sort is
                      the identity and the returned steps are `GreedyValid`.
* `C03_primitive_reduciblePos` `C03_primitive_reducible` with `Spec.ReduciblePos α m` — reducibility for
                      POSITIVE cluster sizes only — in place of `Spec.Reducible α m`, which quantifies
                      over all sizes and is FALSE for the UNCLAMPED average and Ward formulas in a field at
                      sizes `0` (`0/0 = 0`).  The sizes met along a greedy run are positive (`LiveSizePos`,
                      `Lemmas/SpecReplay.lean`; used in `Lemmas/ReduciblePos.lean`).
* `C03_primitive_single`, `C03_primitive_complete`   `Reducible`, `LwNoNaN` are theorems for these
                      two; remaining hypotheses: `OrderLaws α`, `LtTrichotomy α`, non-NaN input.

## Elsewhere, and NOT proved
* The other entry points: `generic_with` and `linkage_with` for centroid / median in the section `Generic`
  below; `nnchain_with` in `Props/C03Nnchain.lean`; `mst_with` in `Props/C03Mst.lean`; exact arithmetic for
  `generic_with` in `Props/C03Generic.lean`; average / weighted under rounding in `Props/C03Rounding.lean`.
* `Spec.Reducible α m`: for average and Ward a theorem from `OrderLaws` (`Spec.reducible_average`,
  `Spec.reducible_ward`) because `method::average` clamps the mean from below by the smaller argument and
  `method::ward` is guarded and clamped — the unclamped mean has `(sa·x+sb·x)/(sa+sb) < x` in ~11 % of
  random f32 cases.  For weighted it is an explicit hypothesis (true in exact arithmetic; not a consequence
  of the standard rounding model, see `Props/C02Rounding.lean`).  Centroid/median are not reducible but
  need no sort.
* `LtTrichotomy α` is false for IEEE floats (`±0`, NaN): for floats `C03_primitive_single/complete`
  speak about inputs on which incomparable values are equal.
* first-wins tie-breaking of `argmin` (not part of the property).

## Trusted
The definitions in `Spec/Naive.lean`, `Spec/Pairs.lean` (the specification); that the model
`primitiveWith` is the Rust `primitive_with` (translator for the formulas/index expression/tables,
bit-exact correspondence run for the loops); std's `sort_by` being a stable sort (`List.mergeSort`).
-/
import Kodama.Lemmas.PrimGreedyRun
import Kodama.Lemmas.EntryGreedy
import Kodama.Lemmas.SpecDecide
import Kodama.Lemmas.GenericGreedySpec
import Kodama.Lemmas.GenericExample
import Kodama.Model.Linkage
import Kodama.Lemmas.ReduciblePos
import Kodama.Lemmas.FieldInstances
import Kodama.Lemmas.Entry
import Kodama.Lemmas.SpecRunGood
import Mathlib.Algebra.Order.Field.Rat
namespace Kodama
open Spec
variable {α : Type} [Num α]

/-- Full statement of C03 (not asserted): every entry point returns a greedy-valid dendrogram on
every valid matrix. -/
def C03_statement (α : Type) [Num α] : Prop :=
  ∀ (chk : Bool) (alg : Alg) (m : Method), alg.accepts m = true →
    ∀ (st : State α) (d : Dendrogram α) (data : Array α) (n : Nat), 2 ≤ n → n < 2147483648 →
      2 * data.size = n * (n - 1) →
      ∀ st' dend' M', runWith chk alg m st d data n = .ok (st', dend', M') →
        GreedyValid m n data dend'.steps.toList

theorem C03_primitive_argmin_min (L : OrderLaws α) (chk : Bool) (n : Nat) (act : Active)
    (live : List Nat) (hrep : act.Rep live n) (hlen : 2 ≤ live.length) (M : Mat α) (hv : M.Valid)
    (hn : M.n = n)
    (hnn : ∀ x ∈ live, ∀ y ∈ live, x < y → ∀ w, M.get chk x y = .ok w → Num.isNaN w = false) :
    ∃ a b v, argmin chk M act = .ok (some (a, b, v)) ∧ a < b ∧ a ∈ live ∧ b ∈ live ∧
      M.get chk a b = .ok v ∧
      ∀ x ∈ live, ∀ y ∈ live, x < y → ∀ w, M.get chk x y = .ok w → Num.lt w v = false :=
  argmin_min L chk n act live hrep hlen M hv hn hnn

/-- The matrix after the three-range update (`mget chk M x y = M.get chk (min x y) (max x y)`). -/
theorem C03_primitive_update_spec (chk : Bool) (n : Nat) (act : Active) (live : List Nat)
    (hrep : act.Rep live n) (upd : Nat → α → α → R α)
    (a b : Nat) (hab : a < b) (ha : a ∈ live) (hb : b ∈ live) (M M' : Mat α) (hv : M.Valid)
    (hn : M.n = n) (h : updateRows chk act upd a b M = .ok M') :
    M'.n = n ∧ M'.data.size = M.data.size ∧
    (∀ x ∈ live, x ≠ a → x ≠ b → ∃ va vb v, mget chk M x a = .ok va ∧ mget chk M x b = .ok vb ∧
        upd x va vb = .ok v ∧ mget chk M' x b = .ok v) ∧
    (∀ r c, r < c → c < n → (∀ x ∈ live, x ≠ a → x ≠ b → (r, c) ≠ (min x b, max x b)) →
        M'.get chk r c = M.get chk r c) :=
  updateRows_spec chk n act live hrep upd a b hab ha hb M M' hv hn h

theorem C03_primitive_mergeorder (L : OrderLaws α) (chk : Bool) (m : Method) (hsym : LwSymm α m)
    (st : State α) (d : Dendrogram α) (data : Array α) (n : Nat) (h2 : 2 ≤ n)
    (hs : n < 2147483648) (hl : 2 * data.size = n * (n - 1)) (hnn : NoNaNRun m n data) :
    ∃ (st1 : State α) (dend1 : Dendrogram α) (M1 : Mat α),
      iterM (primitiveIter chk m) (n - 1)
        ((State.fresh n : State α), Dendrogram.new n,
          ({ data := squareData m data, n := n, acc := 0 } : Mat α)) = .ok (st1, dend1, M1) ∧
      primitiveWith chk m st d data n =
        (relabel m st1.set dend1 >>= fun r =>
          pure ({ st1 with set := r.1 }, sqrtSteps m r.2, M1)) ∧
      GreedyValid m n data (mergeOrder m n dend1.steps.toList) ∧
      dend1.steps.toList.map (·.d)
        = rawHeights m (init m n data) (mergeOrder m n dend1.steps.toList) ∧
      (∀ s ∈ dend1.steps.toList, Num.isNaN s.d = false) := by
  obtain ⟨st1, dend1, M1, hloop, hres, heq⟩ := primitiveWith_sim L chk m hsym st d data n h2 hs hl hnn
  exact ⟨st1, dend1, M1, hloop, heq, hres.valid, hres.hts, hres.noNaN hnn⟩

/-- Any method: the returned steps are greedy-valid whenever the raw heights left by the loop are
non-decreasing (hypothesis `hmono`; then the stable sort of `relabel` is the identity). -/
theorem C03_primitive_of_monotone (L : OrderLaws α) (chk : Bool) (m : Method) (hsym : LwSymm α m)
    (st : State α) (d : Dendrogram α) (data : Array α) (n : Nat) (h2 : 2 ≤ n)
    (hs : n < 2147483648) (hl : 2 * data.size = n * (n - 1)) (hnn : NoNaNRun m n data)
    (hmono : ∀ st1 dend1 M1,
      iterM (primitiveIter chk m) (n - 1)
        ((State.fresh n : State α), Dendrogram.new n,
          ({ data := squareData m data, n := n, acc := 0 } : Mat α)) = .ok (st1, dend1, M1) →
      dend1.steps.toList.Pairwise (fun s t => Num.lt t.d s.d = false)) :
    ∃ st' dend' M', primitiveWith chk m st d data n = .ok (st', dend', M') ∧
      GreedyValid m n data dend'.steps.toList := by
  obtain ⟨st1, dend1, M1, hloop, hres, heq⟩ := primitiveWith_sim L chk m hsym st d data n h2 hs hl hnn
  exact greedyValid_of_processed hres (hres.noNaN hnn) h2 heq
    (processed_of_pairwise m _ (hmono st1 dend1 M1 hloop))

theorem C03_primitive_unsorted (L : OrderLaws α) (chk : Bool) (m : Method)
    (hm : m.requiresSorting = false) (hsym : LwSymm α m)
    (st : State α) (d : Dendrogram α) (data : Array α) (n : Nat) (h2 : 2 ≤ n)
    (hs : n < 2147483648) (hl : 2 * data.size = n * (n - 1)) (hnn : NoNaNRun m n data) :
    ∃ st' dend' M', primitiveWith chk m st d data n = .ok (st', dend', M') ∧
      GreedyValid m n data dend'.steps.toList := by
  obtain ⟨st1, dend1, M1, _, hres, heq⟩ := primitiveWith_sim L chk m hsym st d data n h2 hs hl hnn
  exact greedyValid_of_sim hres (hres.noNaN hnn) h2 heq (.inl hm)

/-- Methods reducible on positive sizes: the merge-order heights never decrease, so the stable sort
is the identity and the returned steps are greedy-valid. -/
theorem C03_primitive_reduciblePos (L : OrderLaws α) (chk : Bool) (m : Method) (hsym : LwSymm α m)
    (hred : ReduciblePos α m)
    (st : State α) (d : Dendrogram α) (data : Array α) (n : Nat) (h2 : 2 ≤ n)
    (hs : n < 2147483648) (hl : 2 * data.size = n * (n - 1)) (hnn : NoNaNRun m n data) :
    ∃ st' dend' M', primitiveWith chk m st d data n = .ok (st', dend', M') ∧
      GreedyValid m n data dend'.steps.toList := by
  obtain ⟨st1, dend1, M1, _, hres, heq⟩ := primitiveWith_sim L chk m hsym st d data n h2 hs hl hnn
  exact greedyValid_of_sim hres (hres.noNaN hnn) h2 heq
    (.inr (greedy_heights_mono L hred hnn hres.valid.2))

theorem C03_primitive_reducible (L : OrderLaws α) (chk : Bool) (m : Method) (hsym : LwSymm α m)
    (hred : Reducible α m)
    (st : State α) (d : Dendrogram α) (data : Array α) (n : Nat) (h2 : 2 ≤ n)
    (hs : n < 2147483648) (hl : 2 * data.size = n * (n - 1)) (hnn : NoNaNRun m n data) :
    ∃ st' dend' M', primitiveWith chk m st d data n = .ok (st', dend', M') ∧
      GreedyValid m n data dend'.steps.toList :=
  C03_primitive_reduciblePos L chk m hsym (reduciblePos_of_reducible hred) st d data n h2 hs hl hnn

theorem C03_primitive_single (L : OrderLaws α) (T : LtTrichotomy α) (chk : Bool)
    (st : State α) (d : Dendrogram α) (data : Array α) (n : Nat) (h2 : 2 ≤ n)
    (hs : n < 2147483648) (hl : 2 * data.size = n * (n - 1)) (h0 : InitNoNaN .single n data) :
    ∃ st' dend' M', primitiveWith chk .single st d data n = .ok (st', dend', M') ∧
      GreedyValid .single n data dend'.steps.toList :=
  C03_primitive_reducible L chk .single (lwSymm_single L T) reducible_single st d data n h2 hs hl
    (noNaNRun_of_lwNoNaN lwNoNaN_single h0)

theorem C03_primitive_complete (L : OrderLaws α) (T : LtTrichotomy α) (chk : Bool)
    (st : State α) (d : Dendrogram α) (data : Array α) (n : Nat) (h2 : 2 ≤ n)
    (hs : n < 2147483648) (hl : 2 * data.size = n * (n - 1)) (h0 : InitNoNaN .complete n data) :
    ∃ st' dend' M', primitiveWith chk .complete st d data n = .ok (st', dend', M') ∧
      GreedyValid .complete n data dend'.steps.toList :=
  C03_primitive_reducible L chk .complete (lwSymm_complete L T) reducible_complete st d data n h2 hs
    hl (noNaNRun_of_lwNoNaN lwNoNaN_complete h0)

/-! ## Non-vacuity: the hypotheses are satisfiable (toy exact numbers `Nat`) -/

section Example
attribute [local instance] Toy.natNum

theorem Toy.natTrichotomy : LtTrichotomy Nat := by
  intro a b h1 h2
  change decide (a < b) = false at h1
  change decide (b < a) = false at h2
  simp only [decide_eq_false_iff_not] at h1 h2
  omega

theorem Toy.natComm : CommLaws Nat := ⟨Nat.add_comm, Nat.mul_comm⟩

theorem Toy.natInitNoNaN (m : Method) (n : Nat) (data : Array Nat) : InitNoNaN m n data :=
  fun _ _ _ _ _ => rfl

/-- Over `Nat` nothing is NaN, so `NoNaNRun` holds for every method and input. -/
theorem Toy.natNoNaNRun (m : Method) (n : Nat) (data : Array Nat) : NoNaNRun m n data :=
  fun _ _ _ _ _ _ _ => rfl

/-- Single linkage on the 4-point matrix `[5,1,4, 3,1, 2]` (ties: two entries equal to 1): all
hypotheses of `C03_primitive_single` hold, so the returned steps are greedy-valid. -/
example : ∃ st' dend' M',
    primitiveWith true .single State.new (Dendrogram.new 0) (#[5, 1, 4, 3, 1, 2] : Array Nat) 4
      = .ok (st', dend', M') ∧
    GreedyValid .single 4 (#[5, 1, 4, 3, 1, 2] : Array Nat) dend'.steps.toList :=
  C03_primitive_single Toy.natOrderLaws Toy.natTrichotomy true _ _ _ 4 (by decide) (by decide)
    (by decide) (Toy.natInitNoNaN _ _ _)

/-- What the model returns on that input (`#eval`: steps `(0,2,1,2) (1,3,1,2) (4,5,2,4)`) is indeed
accepted by the specification predicate, and the predicate is not trivially true: a run that does not
start with a closest pair is rejected. -/
example : GreedyValid .single 4 (#[5, 1, 4, 3, 1, 2] : Array Nat)
    [⟨0, 2, 1, 2⟩, ⟨1, 3, 1, 2⟩, ⟨4, 5, 2, 4⟩] := by decide

example : ¬ GreedyValid .single 4 (#[5, 1, 4, 3, 1, 2] : Array Nat)
    [⟨0, 1, 5, 2⟩, ⟨2, 3, 2, 2⟩, ⟨4, 5, 1, 4⟩] := by decide

/-- Centroid (no sort, merge order kept, update symmetric by commutativity) on the same input. -/
example : ∃ st' dend' M',
    primitiveWith false .centroid State.new (Dendrogram.new 0) (#[5, 1, 4, 3, 1, 2] : Array Nat) 4
      = .ok (st', dend', M') ∧
    GreedyValid .centroid 4 (#[5, 1, 4, 3, 1, 2] : Array Nat) dend'.steps.toList :=
  C03_primitive_unsorted Toy.natOrderLaws false .centroid rfl (lwSymm_centroid Toy.natComm) _ _ _ 4
    (by decide) (by decide) (by decide) (Toy.natNoNaNRun _ _ _)

/-- The merge-order theorem for Ward (all hypotheses satisfiable). -/
example := C03_primitive_mergeorder Toy.natOrderLaws true .ward (lwSymm_ward Toy.natOrderLaws Toy.natTrichotomy Toy.natComm)
  State.new (Dendrogram.new 0) (#[5, 1, 4, 3, 1, 2] : Array Nat) 4 (by decide) (by decide)
  (by decide) (Toy.natNoNaNRun _ _ _)

/-- The hypotheses of the two building blocks on a concrete state: the fresh active list on four
indices and the matrix above. -/
example : ∃ a b v, argmin true ({ data := #[5, 1, 4, 3, 1, 2], n := 4 } : Mat Nat) (Active.fresh 4)
      = .ok (some (a, b, v)) ∧ a < b ∧ a ∈ List.range 4 ∧ b ∈ List.range 4 ∧
      ({ data := #[5, 1, 4, 3, 1, 2], n := 4 } : Mat Nat).get true a b = .ok v ∧
      ∀ x ∈ List.range 4, ∀ y ∈ List.range 4, x < y → ∀ w,
        ({ data := #[5, 1, 4, 3, 1, 2], n := 4 } : Mat Nat).get true x y = .ok w →
        Num.lt w v = false :=
  C03_primitive_argmin_min Toy.natOrderLaws true 4 (Active.fresh 4) (List.range 4)
    (Active.rep_fresh 4) (by decide) _ ⟨by decide, by decide, by decide⟩ rfl
    (fun _ _ _ _ _ _ _ => rfl)

end Example

/-! ## EXACT ARITHMETIC: `primitive_with` over a linearly ordered field

Scope.  Exact arithmetic ONLY: `K` is a linearly ordered field
(`[Field K] [LinearOrder K] [IsStrictOrderedRing K]`) whose `Num K` instance computes the field
operations and has no NaN (`ExactLaws K`, `Lemmas/FieldInstances.lean`; satisfied by `fieldNum K` and
`fieldNumWith K sq` for every `sq`).  IEEE floats are not a field, so nothing here is a statement
about `f32`/`f64`; average and weighted linkage under rounding: `Props/C03Rounding.lean`.

Entry point: `primitive_with` (model `primitiveWith`), both build modes, every prior state, every
valid matrix `2 ≤ n < 2^31`, `2·len = n(n-1)`, ALL SEVEN methods.  No further hypothesis: all law
hypotheses of the theorems above (`OrderLaws`, `LwSymm`, `NoNaNRun`, reducibility) are discharged.

* `C03_primitive_exact`  all seven methods over `K`: `primitiveWith` returns normally and the
      returned steps are `Spec.GreedyValid m n data` (centroid/median through
      `C03_primitive_unsorted`, the other five through `C03_primitive_reduciblePos`).
-/

section Exact
variable {K : Type} [Field K] [LinearOrder K] [IsStrictOrderedRing K] [Num K]

theorem C03_primitive_exact (E : ExactLaws K) (chk : Bool) (m : Method) (st : State K)
    (d : Dendrogram K) (data : Array K) (n : Nat) (h2 : 2 ≤ n) (hs : n < 2147483648)
    (hl : 2 * data.size = n * (n - 1)) :
    ∃ st' d' M', primitiveWith chk m st d data n = .ok (st', d', M') ∧
      GreedyValid m n data d'.steps.toList := by
  cases hm : m.requiresSorting with
  | true =>
    exact C03_primitive_reduciblePos E.field.orderLaws chk m (E.field.lwSymm m)
      (E.field.reduciblePos m hm) st d data n h2 hs hl (E.noNaNRun m n data)
  | false =>
    exact C03_primitive_unsorted E.field.orderLaws chk m hm (E.field.lwSymm m) st d data n h2 hs hl
      (E.noNaNRun m n data)

end Exact

/-! ### Non-vacuity over `ℚ` -/

section ExactExample

/-- The hypothesis bundle is inhabited by `fieldNum ℚ`; Ward on the matrix `d01=1 d02=9 d12=4`. -/
example : ∃ st' d' M',
    @primitiveWith ℚ (fieldNum ℚ) true .ward State.new (Dendrogram.new 0) #[1, 9, 4] 3
      = .ok (st', d', M') ∧
    @GreedyValid ℚ (fieldNum ℚ) .ward 3 #[1, 9, 4] d'.steps.toList :=
  @C03_primitive_exact ℚ _ _ _ (fieldNum ℚ) (exactLaws_fieldNum ℚ) true .ward _ _ _ 3
    (by decide) (by decide) (by decide)

/-- The same for every method at once (and for `fieldNumWith ℚ sq`, any `sq`). -/
example (sq : ℚ → ℚ) (m : Method) : ∃ st' d' M',
    @primitiveWith ℚ (fieldNumWith ℚ sq) false m State.new (Dendrogram.new 0) #[1, 9, 4] 3
      = .ok (st', d', M') ∧
    @GreedyValid ℚ (fieldNumWith ℚ sq) m 3 #[1, 9, 4] d'.steps.toList :=
  @C03_primitive_exact ℚ _ _ _ (fieldNumWith ℚ sq) (exactLaws_fieldNumWith ℚ sq) false m _ _ _ 3
    (by decide) (by decide) (by decide)

end ExactExample

/-!
## `generic_with` (Müllner's generic algorithm; `linkage` uses it for centroid and median)

Entry point `generic_with` (model `genericWith`, both build modes `chk`, every prior
`LinkageState`/`Dendrogram`), every `2 ≤ n < 2^31`, every `data` with `data.size = n(n-1)/2` whose
(squared, for the methods on squares) entries lie in a user-chosen good set `G`, abstract `α`.
Built on the totality proof `genericWith_eq` (`Lemmas/GenericRun.lean`), the invariants of
`Lemmas/GenericInv*.lean` and the simulation `Lemmas/GenericGreedySim.lean`, `GenericGreedySpec.lean`.

### Proved
* `C03_generic_pop_min`     (stages 1+2) under the LOWER-BOUND invariant `LB` ("the priority of every
                      live row is `≤` every entry of that row at a live column") an exact top row `a`
                      of the heap (`dis[[a, nearest[a]]] == priority(a)`, the exit test of the repair
                      loop) gives a live pair `a < b = nearest[a]` whose entry is a minimum over ALL
                      live pairs.
* `C03_generic_iter_min`    one iteration of the main loop (repair ; pop ; update ; merge) is total,
                      merges a GLOBALLY closest live pair of the matrix it starts from, and
                      re-establishes the loop invariant `GenSim` = `GenInv` (totality) + `LB` +
                      `PrimSim` (matrix = spec table under merge-order labels).  `LB` is established by
                      the initial scan (`genericInit_spec`), kept by the rescan of the repair loop
                      (`genericRepair_spec`), by `pop`, and by the three ranges of the method-specific
                      update (`genericUpdate_lb`); the matrix part of that update IS `updateRows`
                      of `primitive`, so `C03_primitive_update_spec` is reused.
* `C03_generic_mergeorder`  (stage 3) `genericWith` is a total loop followed by `relabel m` and
                      `sqrtSteps m`, and the raw dendrogram left by the loop, relabelled IN MERGE ORDER,
                      is `Spec.GreedyValid m n data`; its raw heights are the spec's table values and
                      lie in `G`.
* `C03_generic_unsorted`    (stage 4) centroid, median: the call returns normally and the RETURNED
                      steps are `GreedyValid`.  `C03_linkage_centroid_median`: the same through
                      `linkageWith` (the `dispatch` table routes exactly these two methods to generic).
* `C03_generic_of_monotone` any method: the same under the spec-level hypothesis that greedy runs have
                      non-decreasing heights;  `C03_generic_reducible`: that hypothesis from
                      `Spec.Reducible α m`;  `C03_generic_reducible_noDist`: for the methods that
                      do not read the merged distance (single, complete, average, weighted) `Reducible`
                      alone suffices, `LBClosed` follows;  `C03_generic_single`, `C03_generic_complete`.

### Hypotheses (all explicit; ✓ = true of IEEE floats)
* `OrderLaws α` ✓;  `BeqLe α`: `a == b → ¬ b < a` ✓ (needed because the repair loop exits on `==`).
* `GoodSet G` (members non-NaN, `< max_value`, `v == v`) ✓ for any set of ordinary finite floats;
  `Num.isNaN max_value = false` ✓;  inputs in `G`.
* `UpdClosed G m`: `G` closed under the update formula — a theorem for single/complete, otherwise a
  hypothesis on the chosen `G` (no overflow / NaN produced).
* `Spec.LwSymm α m`: from commutativity of `+`, `×` ✓ for weighted/centroid/median
  (`lwSymm_centroid`, …); for single/complete from `LtTrichotomy` (false for `±0`); for the clamped
  average and the guarded, clamped Ward from both (`lwSymm_average`, `lwSymm_ward`).
* `LBClosed G m` — ONLY for the five methods whose range 1 does not lower priorities (single, complete,
  average, weighted, Ward; `l1Mode m = .fix`): the update of two values `≥ p` is `≥ p` (Ward: given
  also `p ≥` merged distance).  Theorem for single/complete; follows from `Spec.Reducible` for
  average/weighted (`lbClosed_of_reducible`); for the clamped average and the guarded, clamped Ward of the
  crate a theorem in every ordered number type (`lbClosed_average`, `lbClosed_ward`,
  `Spec.reducible_average`, `Spec.reducible_ward`); for weighted true in exact arithmetic, otherwise a
  hypothesis.  Centroid and median — the `linkage` case — need NO such hypothesis:
  their range 1 lowers the priority itself.
* `Spec.Reducible α m` only for the sorted methods' returned dendrogram (as for `primitive`).
* No `NoNaNRun` hypothesis: it follows from `GoodSet`/`UpdClosed`/good inputs
  (`runGood_of_updClosed`, `Spec.RunGood.noNaNRun`).

### Not proved
* `LBClosed`/`Reducible` for weighted over an abstract number type (hypotheses; average and Ward: theorems).
* first-wins tie-breaking (not part of the property).
-/

section Generic
variable {G : α → Prop}

/-- Stages 1+2: under `LB` an exact top row gives a globally minimal pair; every live priority is
`≥` its entry. -/
theorem C03_generic_pop_min {n : Nat} {M : Mat α} (L : OrderLaws α) (hbeq : BeqLe α)
    (gs : GoodSet G) (chk : Bool) (hM : MGood G n M) (live : List Nat) (q : Heap α)
    (nr : Array Nat) (hq : QInv G n live q nr) (hlb : LB chk M live q.prio)
    (h2 : 2 ≤ live.length) (hnd : live.Nodup) {a : Nat} (hpeek : q.peek = some a)
    (hex : Exact chk M q nr a) :
    ∃ b dist, nr[a]? = some b ∧ a < b ∧ a ∈ live ∧ b ∈ live ∧ M.get chk a b = .ok dist ∧ G dist ∧
      (∀ x ∈ live, ∀ y ∈ live, x < y → ∀ w, M.get chk x y = .ok w → Num.lt w dist = false) ∧
      (∀ x ∈ live, ∀ px, q.prio[x]? = some px → Num.lt px dist = false) :=
  generic_pop_min L hbeq gs chk hM live q nr hq hlb h2 hnd hpeek hex

set_option linter.unusedVariables false in
theorem C03_generic_iter_min (L : OrderLaws α) (hbeq : BeqLe α) (gs : GoodSet G)
    (chk : Bool) (m : Method) (hcl : UpdClosed G m) (hlbc : l1Mode m = .fix → LBClosed G m)
    (hsym : LwSymm α m) (hmax : Num.isNaN (Num.maxValue : α) = false)
    (n : Nat) (data : Array α) (k : Nat) (live : List Nat) (st : State α) (dend : Dendrogram α)
    (M : Mat α) (hk : k + 1 < n) (inv : GenSim G chk m n data k live st dend M) :
    ∃ st' dend' M' a b dist sz, GlobalMinPair chk M live a b dist ∧
      dend' = { dend with steps := dend.steps.push (Step.new a b dist sz) } ∧
      genericIter chk m (st, dend, M) = .ok (st', dend', M') ∧
      GenSim G chk m n data (k + 1) (live.filter (· ≠ a)) st' dend' M' :=
  genericIter_sim' L hbeq gs chk m hlbc hsym n data k live st dend M hk inv
    (fun a b hab ha hb _ => inv.gen.updGoodAt_of_updClosed chk hcl a b ha hb hab)

theorem C03_generic_mergeorder (L : OrderLaws α) (hbeq : BeqLe α) (gs : GoodSet G)
    (chk : Bool) (m : Method) (hcl : UpdClosed G m) (hlbc : l1Mode m = .fix → LBClosed G m)
    (hsym : LwSymm α m) (hmax : Num.isNaN (Num.maxValue : α) = false)
    (st : State α) (d : Dendrogram α) (data : Array α) (n : Nat) (h2 : 2 ≤ n)
    (hs : n < 2147483648) (hl : 2 * data.size = n * (n - 1))
    (hin : ∀ i (h : i < (squareData m data).size), G (squareData m data)[i]) :
    ∃ (st1 : State α) (dend1 : Dendrogram α) (M1 : Mat α),
      genericWith chk m st d data n =
        (relabel m st1.set dend1 >>= fun r =>
          pure ({ st1 with set := r.1 }, sqrtSteps m r.2, M1)) ∧
      GreedyValid m n data (mergeOrder m n dend1.steps.toList) ∧
      dend1.steps.toList.map (·.d)
        = rawHeights m (init m n data) (mergeOrder m n dend1.steps.toList) ∧
      (∀ s ∈ dend1.steps.toList, G s.d) := by
  obtain ⟨st1, dend1, M1, ⟨hres, hdg⟩, heq⟩ :=
    genericWith_sim L hbeq gs chk m hcl hlbc hsym hmax st d data n h2 hs hl hin
  exact ⟨st1, dend1, M1, heq, hres.valid, hres.hts, hdg⟩

/-- Stage 4, any method: the returned steps are greedy-valid whenever every greedy run of the
SPECIFICATION has non-decreasing raw heights (then the stable sort of `relabel` is the identity). -/
theorem C03_generic_of_monotone (L : OrderLaws α) (hbeq : BeqLe α) (gs : GoodSet G)
    (chk : Bool) (m : Method) (hcl : UpdClosed G m) (hlbc : l1Mode m = .fix → LBClosed G m)
    (hsym : LwSymm α m) (hmax : Num.isNaN (Num.maxValue : α) = false)
    (st : State α) (d : Dendrogram α) (data : Array α) (n : Nat) (h2 : 2 ≤ n)
    (hs : n < 2147483648) (hl : 2 * data.size = n * (n - 1))
    (hin : ∀ i (h : i < (squareData m data).size), G (squareData m data)[i])
    (hmono : ∀ l, GreedyValid m n data l →
      (rawHeights m (init m n data) l).Pairwise (fun a b => Num.lt b a = false)) :
    ∃ st' dend' M', genericWith chk m st d data n = .ok (st', dend', M') ∧
      GreedyValid m n data dend'.steps.toList := by
  obtain ⟨st1, dend1, M1, ⟨hres, hdg⟩, heq⟩ :=
    genericWith_sim L hbeq gs chk m hcl hlbc hsym hmax st d data n h2 hs hl hin
  exact greedyValid_of_sim hres (fun s hs' => gs.notNaN _ (hdg s hs')) h2 heq
    (.inr (hmono _ hres.valid))

/-- Stage 4, centroid and median (no sort; no `LBClosed`, no `Reducible`): the returned steps are
greedy-valid. -/
theorem C03_generic_unsorted (L : OrderLaws α) (hbeq : BeqLe α) (gs : GoodSet G)
    (chk : Bool) (m : Method) (hm : m.requiresSorting = false) (hcl : UpdClosed G m)
    (hsym : LwSymm α m) (hmax : Num.isNaN (Num.maxValue : α) = false)
    (st : State α) (d : Dendrogram α) (data : Array α) (n : Nat) (h2 : 2 ≤ n)
    (hs : n < 2147483648) (hl : 2 * data.size = n * (n - 1))
    (hin : ∀ i (h : i < (squareData m data).size), G (squareData m data)[i]) :
    ∃ st' dend' M', genericWith chk m st d data n = .ok (st', dend', M') ∧
      GreedyValid m n data dend'.steps.toList := by
  have hlbc : l1Mode m = .fix → LBClosed G m := by
    intro h; cases m <;> simp [Method.requiresSorting] at hm <;> simp [l1Mode] at h
  obtain ⟨st1, dend1, M1, ⟨hres, hdg⟩, heq⟩ :=
    genericWith_sim L hbeq gs chk m hcl hlbc hsym hmax st d data n h2 hs hl hin
  exact greedyValid_of_sim hres (fun s hs' => gs.notNaN _ (hdg s hs')) h2 heq (.inl hm)

/-- `linkage(.., Centroid | Median)`: `linkage_with` routes these two methods (and only these) to
`generic_with`; the returned steps are greedy-valid. -/
theorem C03_linkage_centroid_median (L : OrderLaws α) (hbeq : BeqLe α) (gs : GoodSet G)
    (chk : Bool) (m : Method) (hm : m = .centroid ∨ m = .median) (hcl : UpdClosed G m)
    (hsym : LwSymm α m) (hmax : Num.isNaN (Num.maxValue : α) = false)
    (st : State α) (d : Dendrogram α) (data : Array α) (n : Nat) (h2 : 2 ≤ n)
    (hs : n < 2147483648) (hl : 2 * data.size = n * (n - 1))
    (hin : ∀ i (h : i < (squareData m data).size), G (squareData m data)[i]) :
    dispatch m = .generic ∧
    ∃ st' dend' M', linkageWith chk m st d data n = .ok (st', dend', M') ∧
      GreedyValid m n data dend'.steps.toList := by
  have hd : dispatch m = .generic := by rcases hm with rfl | rfl <;> rfl
  have hr : m.requiresSorting = false := by rcases hm with rfl | rfl <;> rfl
  rw [linkageWith_generic chk m hm]
  exact ⟨hd, C03_generic_unsorted L hbeq gs chk m hr hcl hsym hmax st d data n h2 hs hl hin⟩

/-- Stage 4, reducible methods: the merge-order heights never decrease, so the stable sort is the
identity and the returned steps are greedy-valid. -/
theorem C03_generic_reducible (L : OrderLaws α) (hbeq : BeqLe α) (gs : GoodSet G)
    (chk : Bool) (m : Method) (hcl : UpdClosed G m) (hlbc : l1Mode m = .fix → LBClosed G m)
    (hsym : LwSymm α m) (hred : Reducible α m) (hmax : Num.isNaN (Num.maxValue : α) = false)
    (st : State α) (d : Dendrogram α) (data : Array α) (n : Nat) (h2 : 2 ≤ n)
    (hs : n < 2147483648) (hl : 2 * data.size = n * (n - 1))
    (hin : ∀ i (h : i < (squareData m data).size), G (squareData m data)[i]) :
    ∃ st' dend' M', genericWith chk m st d data n = .ok (st', dend', M') ∧
      GreedyValid m n data dend'.steps.toList := by
  have hnn : NoNaNRun m n data :=
    (runGood_of_updClosed hcl (init_TableGood m data n h2 hs hl hin)).noNaNRun gs.notNaN
  apply C03_generic_of_monotone L hbeq gs chk m hcl hlbc hsym hmax st d data n h2 hs hl hin
  exact fun l hl' => greedy_heights_mono L (reduciblePos_of_reducible hred) hnn hl'.2

/-- Reducible methods that do not read the merged distance (single, complete, average, weighted):
`Reducible` alone suffices (`LBClosed` follows). -/
theorem C03_generic_reducible_noDist (L : OrderLaws α) (hbeq : BeqLe α) (gs : GoodSet G)
    (chk : Bool) (m : Method) (hnd : usesDist m = false) (hcl : UpdClosed G m)
    (hsym : LwSymm α m) (hred : Reducible α m) (hmax : Num.isNaN (Num.maxValue : α) = false)
    (st : State α) (d : Dendrogram α) (data : Array α) (n : Nat) (h2 : 2 ≤ n)
    (hs : n < 2147483648) (hl : 2 * data.size = n * (n - 1))
    (hin : ∀ i (h : i < (squareData m data).size), G (squareData m data)[i]) :
    ∃ st' dend' M', genericWith chk m st d data n = .ok (st', dend', M') ∧
      GreedyValid m n data dend'.steps.toList :=
  C03_generic_reducible L hbeq gs chk m hcl (fun _ => lbClosed_of_reducible gs.notNaN hnd hred) hsym hred
    hmax st d data n h2 hs hl hin

theorem C03_generic_single (L : OrderLaws α) (T : LtTrichotomy α) (hbeq : BeqLe α)
    (gs : GoodSet G) (chk : Bool) (hmax : Num.isNaN (Num.maxValue : α) = false)
    (st : State α) (d : Dendrogram α) (data : Array α) (n : Nat) (h2 : 2 ≤ n)
    (hs : n < 2147483648) (hl : 2 * data.size = n * (n - 1))
    (hin : ∀ i (h : i < (squareData .single data).size), G (squareData .single data)[i]) :
    ∃ st' dend' M', genericWith chk .single st d data n = .ok (st', dend', M') ∧
      GreedyValid .single n data dend'.steps.toList :=
  C03_generic_reducible L hbeq gs chk .single (updClosed_single G)
    (fun _ => (lwGeOn_single G).lbClosed L gs.notNaN) (lwSymm_single L T) reducible_single hmax
    st d data n h2 hs hl hin

theorem C03_generic_complete (L : OrderLaws α) (T : LtTrichotomy α) (hbeq : BeqLe α)
    (gs : GoodSet G) (chk : Bool) (hmax : Num.isNaN (Num.maxValue : α) = false)
    (st : State α) (d : Dendrogram α) (data : Array α) (n : Nat) (h2 : 2 ≤ n)
    (hs : n < 2147483648) (hl : 2 * data.size = n * (n - 1))
    (hin : ∀ i (h : i < (squareData .complete data).size), G (squareData .complete data)[i]) :
    ∃ st' dend' M', genericWith chk .complete st d data n = .ok (st', dend', M') ∧
      GreedyValid .complete n data dend'.steps.toList :=
  C03_generic_reducible L hbeq gs chk .complete (updClosed_complete G)
    (fun _ => (lwGeOn_complete G).lbClosed L gs.notNaN) (lwSymm_complete L T) reducible_complete
    hmax st d data n h2 hs hl hin

end Generic

/-! ### Non-vacuity for `generic_with` (toy exact numbers `Nat`, `max_value = 10^6`) -/

section GenericExample
attribute [local instance] Toy.natNum

theorem Toy.natBeqLe : BeqLe Nat := by
  intro a b h
  change decide (a = b) = true at h
  change decide (b < a) = false
  simp only [decide_eq_true_eq] at h
  simp only [decide_eq_false_iff_not]
  omega

/-- Centroid through `linkage_with` (routed to `generic_with`) on the 4-point matrix
`[5,1,4, 3,1, 2]` (entries are squared first; ties): every hypothesis of
`C03_linkage_centroid_median` holds, so the returned steps are greedy-valid. -/
example : dispatch .centroid = .generic ∧ ∃ st' dend' M',
    linkageWith true .centroid State.new (Dendrogram.new 0) (#[5, 1, 4, 3, 1, 2] : Array Nat) 4
      = .ok (st', dend', M') ∧
    GreedyValid .centroid 4 (#[5, 1, 4, 3, 1, 2] : Array Nat) dend'.steps.toList :=
  C03_linkage_centroid_median Toy.natOrderLaws Toy.natBeqLe GenericExample.goodSet_G true .centroid
    (Or.inl rfl) GenericExample.closed_centroid (lwSymm_centroid Toy.natComm) GenericExample.hmax
    _ _ _ 4 (by decide) (by decide) (by decide)
    (GenericExample.good_of_lt .centroid _ (by decide))

/-- Median through `generic_with`. -/
example : ∃ st' dend' M',
    genericWith false .median State.new (Dendrogram.new 0) (#[5, 1, 4, 3, 1, 2] : Array Nat) 4
      = .ok (st', dend', M') ∧
    GreedyValid .median 4 (#[5, 1, 4, 3, 1, 2] : Array Nat) dend'.steps.toList :=
  C03_generic_unsorted Toy.natOrderLaws Toy.natBeqLe GenericExample.goodSet_G false .median rfl
    GenericExample.closed_median (lwSymm_median Toy.natComm) GenericExample.hmax
    _ _ _ 4 (by decide) (by decide) (by decide)
    (GenericExample.good_of_lt .median _ (by decide))

/-- Single linkage through `generic_with` (sorted method: `LBClosed`, `Reducible` are theorems). -/
example : ∃ st' dend' M',
    genericWith true .single State.new (Dendrogram.new 0) (#[5, 1, 4, 3, 1, 2] : Array Nat) 4
      = .ok (st', dend', M') ∧
    GreedyValid .single 4 (#[5, 1, 4, 3, 1, 2] : Array Nat) dend'.steps.toList :=
  C03_generic_single Toy.natOrderLaws Toy.natTrichotomy Toy.natBeqLe GenericExample.goodSet_G true
    GenericExample.hmax _ _ _ 4 (by decide) (by decide) (by decide)
    (GenericExample.good_of_lt .single _ (by decide))

/-- The merge-order theorem for average linkage: `LBClosed` is satisfiable (the clamped average of two
values `≥ p` is `≥ p` in every ordered number type, `lbClosed_average`). -/
theorem Toy.natLBClosed_average : LBClosed GenericExample.G .average :=
  lbClosed_average Toy.natOrderLaws GenericExample.goodSet_G

example := C03_generic_mergeorder Toy.natOrderLaws Toy.natBeqLe GenericExample.goodSet_G true
  .average GenericExample.closed_average (fun _ => Toy.natLBClosed_average)
  (lwSymm_average Toy.natOrderLaws Toy.natTrichotomy Toy.natComm) GenericExample.hmax State.new (Dendrogram.new 0)
  (#[5, 1, 4, 3, 1, 2] : Array Nat) 4 (by decide) (by decide) (by decide)
  (GenericExample.good_of_lt .average _ (by decide))

end GenericExample


end Kodama
