/-
C01 — every result is a well-formed stepwise dendrogram (binary tree, SciPy labels).

Specification (`Kodama/Spec/WellFormed.lean`, written against the step list only): exactly n-1
steps; step i merges two distinct, not yet merged clusters with labels < n+i, smaller label first;
size = sum of the two sizes (`Spec.WellFormed`).

Proved here, for every valid matrix (2 ≤ n < 2^31, len = n(n-1)/2), both build modes, every prior
LinkageState / Dendrogram, and ANY behaviour of the number operations (no law about `<`, `+`, … is
used — ties, zeros, negatives, ±0, ∞ and even NaN inputs are covered as far as the call returns):

* `C01_relabel`   (core; from the union–find refinement and the forest lemma "effective unions are
                  permutation invariant") whenever the raw merge steps of an algorithm form a
                  spanning tree of the observations, `relabel` — stable sort, union–find labels
                  `n+i`, recomputed sizes — returns a `WellFormed` dendrogram with `observations = n`.
* `C01_mst`       `mst_with`: the raw steps form a spanning tree (Prim path), hence the result is
                  well-formed.  Also through `linkage_with` for `Method::Single` (`C01_linkage_single`).
* `C01_primitive` `primitive_with`, all 7 methods: the raw steps form a spanning tree, hence the
                  result is well-formed.
* `C01_sizes_pos` from `WellFormed` alone: every recorded size is `≥ 2`.  (Sizes = number of leaves:
                  `C19_size`, `Props/C19.lean`.)
Elsewhere: n ≤ 1, the dendrogram is empty for all entry points — `C12_empty`; every greedy-valid dendrogram
of the label-based specification is well-formed — `C06_wellFormed`.

That the raw steps of `nnchain_with` and `generic_with` form a spanning tree is proved under explicit
hypotheses in the sections at the end of this file (`C01_generic`; `C01_nnchain*`, `C01_linkage`).  Both
need algorithm-specific invariants: for nnchain, chain entries are live and distinct — which in turn
needs reducibility of the update: the clamped average and the guarded, clamped Ward of the crate are
reducible in every ordered number type, `Props/C01Average.lean`, `Props/C01Ward.lean`; weighted is
reducible under the sampled laws `HalfAddLaws`, `Props/C01Weighted.lean`; for generic, `nearest[x]` is
live and > x plus the heap invariants of `Lemmas/HeapInv*.lean`.  Outside those hypotheses the claim for
these two entry points rests on the bit-exact correspondence of the model with the real crate and on
the structural validator (own `used[]` bitmap and size table, independent of kodama's union–find) run
on every dendrogram the harness obtains.
-/
import Kodama.Lemmas.Entry
import Kodama.Lemmas.MstRun
import Kodama.Lemmas.PrimRun
import Kodama.Lemmas.GenericRun
import Kodama.Spec.WellFormed
import Kodama.Model.Linkage
import Kodama.Lemmas.ChainExact
import Kodama.Lemmas.SpecDecide
import Kodama.Lemmas.ChainOn
namespace Kodama
open Spec
variable {α : Type} [Num α]

theorem C01_relabel (m : Method) (uf0 uf : UF) (d d' : Dendrogram α) (n : Nat) (hn : 2 ≤ n)
    (hobs : d.obs = n) (hraw : RawTree n (rawOf d))
    (h : relabel m uf0 d = .ok (uf, d')) : d'.obs = n ∧ WellFormed n d'.steps.toList :=
  relabel_wellFormed m uf0 uf d d' n hn hobs hraw h

theorem C01_mst (chk : Bool) (st st' : State α) (d d' : Dendrogram α) (data : Array α) (n : Nat)
    (M' : Mat α) (h2 : 2 ≤ n) (hs : n < 2147483648) (hl : 2 * data.size = n * (n - 1))
    (h : mstWith chk st d data n = .ok (st', d', M')) :
    d'.obs = n ∧ WellFormed n d'.steps.toList :=
  (mstWith_eq chk st d data n h2 hs hl).wf (fun _ _ _ h => ⟨h.obs, h.raw⟩) h2 h

theorem C01_primitive (chk : Bool) (m : Method) (st st' : State α) (d d' : Dendrogram α)
    (data : Array α) (n : Nat) (M' : Mat α) (h2 : 2 ≤ n) (hs : n < 2147483648)
    (hl : 2 * data.size = n * (n - 1))
    (h : primitiveWith chk m st d data n = .ok (st', d', M')) :
    d'.obs = n ∧ WellFormed n d'.steps.toList :=
  (primitiveWith_eq chk m st d data n h2 hs hl).wf (fun _ _ _ h => ⟨h.obs, h.raw⟩) h2 h

/-- `linkage_with` with `Method::Single` is `mst_with` (generated dispatch table). -/
theorem C01_linkage_single (chk : Bool) (st st' : State α) (d d' : Dendrogram α) (data : Array α)
    (n : Nat) (M' : Mat α) (h2 : 2 ≤ n) (hs : n < 2147483648) (hl : 2 * data.size = n * (n - 1))
    (h : linkageWith chk .single st d data n = .ok (st', d', M')) :
    d'.obs = n ∧ WellFormed n d'.steps.toList :=
  C01_mst chk st st' d d' data n M' h2 hs hl h

set_option linter.unusedSectionVars false in
/-- Consequence of `WellFormed`: the size recorded by a step is at least 2 and the sizes of the two
merged clusters are positive (sizes are sums of sizes of earlier steps or of observations). -/
theorem C01_sizes_pos (n : Nat) (steps : List (Step α)) (h : WellFormed n steps) :
    ∀ (i : Nat) (s : Step α), steps[i]? = some s → 2 ≤ s.size := by
  have hpos : ∀ l, l < n + steps.length → 1 ≤ sz n steps l :=
    Spec.label_induct
      (fun j s hs => ⟨Nat.lt_trans (h.ordered j s hs).1 (h.ordered j s hs).2, (h.ordered j s hs).2⟩)
      (Nat.le_refl _) (fun l c => (Spec.sz_obs c steps).ge)
      fun j s _ hs h1 h2 => by rw [Spec.sz_node hs, h.size j s hs]; omega
  intro i s hs
  have hord := h.ordered i s hs
  have hi := (List.getElem?_eq_some_iff.mp hs).1
  have h1 := hpos s.c1 (by omega)
  have h2 := hpos s.c2 (by omega)
  rw [h.size i s hs]
  omega

end Kodama

/-!
### `generic_with`

`C01_generic`: under the explicit value
hypotheses of `Lemmas/GenericInv.lean` (`GoodSet G`: a user-chosen set of non-NaN values strictly
below `T::max_value()` with `v == v`; `UpdClosed G m`: `G` is closed under the Lance–Williams
update of `m` as `generic.rs` calls it — proved outright for `single` and `complete`; every
(squared) input in `G`; `max_value` not NaN; `OrderLaws`), the raw merge steps of `generic_with`
form a spanning tree (`genericWith_eq`), hence the result is well-formed.  The loop invariant is
`GenInv` (`Lemmas/GenericRun.lean`).
-/
namespace Kodama
open Spec
variable {α : Type} [Num α]

theorem C01_generic {G : α → Prop} (L : OrderLaws α) (gs : GoodSet G) (chk : Bool) (m : Method)
    (hcl : UpdClosed G m) (hmax : Num.isNaN (Num.maxValue : α) = false)
    (st st' : State α) (d d' : Dendrogram α) (data : Array α) (n : Nat) (M' : Mat α)
    (h2 : 2 ≤ n) (hs : n < 2147483648) (hl : 2 * data.size = n * (n - 1))
    (hin : ∀ i (h : i < (squareData m data).size), G (squareData m data)[i])
    (h : genericWith chk m st d data n = .ok (st', d', M')) :
    d'.obs = n ∧ WellFormed n d'.steps.toList :=
  (genericWith_eq L gs chk m hcl hmax st d data n h2 hs hl hin).wf
    (fun _ _ _ h => ⟨h.1.obs, h.1.raw⟩) h2 h

end Kodama

/-!
### `nnchain_with` (chain invariant, `Lemmas/Chain{Mat,Scan,Inv,Iter,Run,Exact}.lean`)

* `C01_nnchain`   under `OrderLaws α`, NaN-free (squared) input and the named algebraic hypothesis
                  `ChainReducible α mc` (`Lemmas/ChainIter.lean`): the chain invariant
                  (`ChainInv` / `ChainL`) makes the chain entries pairwise distinct live clusters, so
                  every merge joins two distinct live clusters, the raw steps form a spanning tree
                  (`nnchainWith_eq_on`) and the result is well-formed with `observations = n`.
* `C01_nnchain_on`  the same for a method that is reducible on a domain `ok` containing the (squared)
                  input (`ChainReducibleOn α ok mc`, `Lemmas/ChainOn.lean`); `C01_nnchain` is the case
                  `ok := fun _ => True`, the weighted theorems of `Props/C01Weighted.lean` use a proper domain.
* `C01_nnchain_single_complete`  `Single` / `Complete` WITHOUT the reducibility hypothesis.
* `C01_nnchain_exact`  all five chain methods in exact arithmetic (`FieldLaws K`, no NaN).
* `C01_linkage`   through `linkage_with` for every method it routes to mst or nnchain.
-/
namespace Kodama
open Spec
variable {α : Type} [Num α]


theorem C01_nnchain_on (L : OrderLaws α) (chk : Bool) (mc : MethodChain) (ok : α → Prop)
    (hred : ChainReducibleOn α ok mc)
    (st st' : State α) (d d' : Dendrogram α) (data : Array α) (n : Nat) (M' : Mat α)
    (h2 : 2 ≤ n) (hs : n < 2147483648) (hl : 2 * data.size = n * (n - 1))
    (hnan : NoNaNData (squareData mc.intoMethod data))
    (hd : OkData ok (squareData mc.intoMethod data))
    (h : nnchainWith chk mc st d data n = .ok (st', d', M')) :
    d'.obs = n ∧ WellFormed n d'.steps.toList :=
  (nnchainWith_eq_on L chk mc ok hred st d data n h2 hs hl hnan hd).wf
    (fun _ _ _ h => ⟨h.obs, h.raw⟩) h2 h

theorem C01_nnchain (L : OrderLaws α) (chk : Bool) (mc : MethodChain) (hred : ChainReducible α mc)
    (st st' : State α) (d d' : Dendrogram α) (data : Array α) (n : Nat) (M' : Mat α)
    (h2 : 2 ≤ n) (hs : n < 2147483648) (hl : 2 * data.size = n * (n - 1))
    (hnan : NoNaNData (squareData mc.intoMethod data))
    (h : nnchainWith chk mc st d data n = .ok (st', d', M')) :
    d'.obs = n ∧ WellFormed n d'.steps.toList :=
  C01_nnchain_on L chk mc _ hred.on st st' d d' data n M' h2 hs hl hnan (fun _ _ => trivial) h

theorem C01_nnchain_single_complete (L : OrderLaws α) (chk : Bool) (mc : MethodChain)
    (hmc : mc = .single ∨ mc = .complete) (st st' : State α) (d d' : Dendrogram α)
    (data : Array α) (n : Nat) (M' : Mat α) (h2 : 2 ≤ n) (hs : n < 2147483648)
    (hl : 2 * data.size = n * (n - 1)) (hnan : NoNaNData data)
    (h : nnchainWith chk mc st d data n = .ok (st', d', M')) :
    d'.obs = n ∧ WellFormed n d'.steps.toList :=
  C01_nnchain L chk mc (chainReducible_single_complete mc hmc) st st' d d' data n M' h2 hs hl
    (by rw [squareData_single_complete mc hmc]; exact hnan) h

theorem C01_nnchain_exact {K : Type} [Field K] [LinearOrder K] [IsStrictOrderedRing K] [Num K]
    (F : FieldLaws K) (hnn : ∀ x : K, Num.isNaN x = false) (chk : Bool) (mc : MethodChain)
    (st st' : State K) (d d' : Dendrogram K) (data : Array K) (n : Nat) (M' : Mat K) (h2 : 2 ≤ n)
    (hs : n < 2147483648) (hl : 2 * data.size = n * (n - 1))
    (h : nnchainWith chk mc st d data n = .ok (st', d', M')) :
    d'.obs = n ∧ WellFormed n d'.steps.toList :=
  C01_nnchain F.orderLaws chk mc (chainReducible_exact F hnn mc) st st' d d' data n M'
    h2 hs hl (fun _ _ => hnn _) h

/-- `linkage_with` for the five methods it serves through mst / nnchain (generated dispatch table). -/
theorem C01_linkage (L : OrderLaws α) (chk : Bool) (m : Method)
    (hred : ∀ mc, m.intoMethodChain = some mc → ChainReducible α mc)
    (hm : m.requiresSorting = true)
    (st st' : State α) (d d' : Dendrogram α) (data : Array α) (n : Nat) (M' : Mat α)
    (h2 : 2 ≤ n) (hs : n < 2147483648) (hl : 2 * data.size = n * (n - 1))
    (hnan : m ≠ .single → NoNaNData (squareData m data))
    (h : linkageWith chk m st d data n = .ok (st', d', M')) :
    d'.obs = n ∧ WellFormed n d'.steps.toList := by
  revert h
  refine linkageWith_cases (P := fun f => f st d data n = .ok (st', d', M') → _) chk m ?_ ?_ ?_
  · exact fun _ => C01_mst chk st st' d d' data n M' h2 hs hl
  · exact fun mc hne hmc e =>
      C01_nnchain L chk mc (hred mc hmc) st st' d d' data n M' h2 hs hl (e ▸ hnan hne)
  · rintro (rfl | rfl) <;> cases hm

/-- Non-vacuity of the nnchain statements: see the `example`s at the end of `Props/C12.lean`
(toy exact number type, a valid 4-point matrix); here the conclusion for that input. -/
example (st' : State Nat) (d' : Dendrogram Nat) (M' : Mat Nat)
    (h : @nnchainWith Nat Toy.natNum true .complete State.new (Dendrogram.new 4)
      (#[5, 2, 9, 7, 4, 1] : Array Nat) 4 = .ok (st', d', M')) :
    d'.obs = 4 ∧ WellFormed 4 d'.steps.toList :=
  @C01_nnchain_single_complete Nat Toy.natNum Toy.natOrderLaws true .complete (Or.inr rfl) _ st' _ d'
    _ 4 M' (by decide) (by decide) (by decide) (fun _ _ => rfl) h

end Kodama
