/-
C06 UNDER FLOATING-POINT ROUNDING, WEIGHTED LINKAGE (WPGMA) — the companion of `Props/C06Rounding.lean`.

The criterion of weighted linkage is the recursively halved mean `Crit.wdist` over the MERGE TREES of
the two clusters (not only over their observation sets), so the margin and the uniqueness argument are
stated over `clusterTree n steps l`:

* `WgtMarginAlong D u n steps` — along the run, the merged pair's exact `wdist` beats every other present
  pair's by more than the factor `(1−u)^K`, `K = 2·(|A|+|B|−2) + 2·(|X|+|Y|−2)` (the looseness of
  `WgtGreedyUpTo`, `Props/C03Rounding.lean`);
* `C06_weighted_rounded_labels_unique`, `C06_weighted_rounded_unique` — a well-formed run with the margin
  and any well-formed run that is greedy up to rounding (`WgtGreedyUpTo`) merge the same labels and report
  the same sizes at every position (hence have the same merge trees: `clusterTree_lab`);
* `C06_weighted_rounded_agree` — and their heights are within `2·2·(size−2)` rounding factors of each
  other when both are within rounding of the exact `wdist` (what the C02 rounding theorems state);
* `C06_primitive_nnchain_weighted_rounded`, `C06_primitive_linkage_weighted_rounded`,
  `C06_primitive_generic_weighted_rounded` — entry points, under exactly the hypotheses of the C02/C03
  rounding theorems for weighted linkage.

* `C06_weighted_margin_of_gap` — the margin in numbers: a relative gap `γ` with `8·n·u ≤ c`, `1 ≤ (1+γ)(1−c)`.

Not proved: that IEEE arithmetic satisfies `Round.Model` / `ChainGeOn ok .weighted` (hypotheses; sampled).
-/
import Kodama.Props.C06Rounding
namespace Kodama
open Spec Crit MTree Finset Round

variable {K : Type} [Field K] [LinearOrder K] [IsStrictOrderedRing K]
variable {α : Type} [Num α]

/-! ## Merge trees depend on the labels only -/

omit [Num α] in
/-- The merge tree of a label below `n + i` only looks at the LABELS of the steps before `i`. -/
theorem clusterTree_lab {n i : Nat} {L L' : List (Step α)} (h : LabAgree i L L')
    (ho : LabelsOrdered n L) (ho' : LabelsOrdered n L') (hi : i ≤ L.length) :
    ∀ l, l < n + i → clusterTree n L l = clusterTree n L' l := by
  refine label_induct ho hi (fun l c => by rw [clusterTree_obs L c, clusterTree_obs L' c])
    fun j s hj hs h1 h2 => ?_
  obtain ⟨s', hs', e1, e2⟩ := h.get hj hs
  rw [clusterTree_node ho hs, clusterTree_node ho' hs', e1, e2, h1, h2]

/-! ## The margin -/

def WgtMarginAlong (D : Nat → Nat → K) (u : K) (n : Nat) (steps : List (Step α)) : Prop :=
  ∀ (i : Nat) (s : Step α), steps[i]? = some s →
    ∀ p q : Nat, PresentBefore n steps i p → PresentBefore n steps i q → p < q →
      ¬ (p = s.c1 ∧ q = s.c2) →
      let TA := clusterTree n steps s.c1
      let TB := clusterTree n steps s.c2
      let TX := clusterTree n steps p
      let TY := clusterTree n steps q
      wdist D TA TB < wdist D TX TY *
        (1 - u) ^ (2 * (TA.leaves.card + TB.leaves.card - 2) + 2 * (TX.leaves.card + TY.leaves.card - 2))

set_option linter.unusedSectionVars false in
/-- **Labels are unique under the margin (weighted linkage).**  As
`C06_average_rounded_labels_unique`, with the merge trees (`clusterTree_lab`) in place of the
observation sets. -/
theorem C06_weighted_rounded_labels_unique {D : Nat → Nat → K} {u : K} {n : Nat}
    {s₁ s₂ : List (Step α)} (wf₁ : WellFormed n s₁) (wf₂ : WellFormed n s₂)
    (m₁ : WgtMarginAlong D u n s₁) (g₂ : WgtGreedyUpTo D u n s₂) :
    ∀ i, LabAgree i s₁ s₂ := by
  refine labAgree_of_step wf₁ wf₂ (fun j a b ih ha hb => ?_)
  by_contra hne
  obtain ⟨pa1, pa2, hane⟩ := present_of_labAgree wf₁ ih ha
  obtain ⟨pb1, pb2, _⟩ := present_of_labAgree wf₂ ih.symm hb
  have oa := wf₁.ordered j a ha
  have ob := wf₂.ordered j b hb
  have htr := clusterTree_lab ih (labelsOrdered_of_wf wf₁) (labelsOrdered_of_wf wf₂)
    (List.getElem?_eq_some_iff.mp ha).1.le
  obtain ⟨_, _, _, _, g⟩ := g₂ j b hb a.c1 a.c2 pa1 pa2 hane
  have m := m₁ j a ha b.c1 b.c2 pb1 pb2 ob.1 (fun h => hne ⟨h.1.symm, h.2.symm⟩)
  simp only at m
  rw [← htr a.c1 (by omega), ← htr a.c2 (by omega)] at g
  rw [htr b.c1 (by omega), htr b.c2 (by omega), Nat.add_comm (2 * _) (2 * _)] at m
  exact lt_irrefl _ (lt_of_lt_of_le m g)

theorem C06_weighted_rounded_unique {D : Nat → Nat → K} {u : K} {n : Nat}
    {s₁ s₂ : List (Step α)} (wf₁ : WellFormed n s₁) (wf₂ : WellFormed n s₂)
    (m₁ : WgtMarginAlong D u n s₁) (g₂ : WgtGreedyUpTo D u n s₂) :
    ∀ i : Nat, (s₁[i]?).map (fun s : Step α => (s.c1, s.c2, s.size)) =
      (s₂[i]?).map (fun s : Step α => (s.c1, s.c2, s.size)) :=
  unique_of_labAgree wf₁ wf₂ (C06_weighted_rounded_labels_unique wf₁ wf₂ m₁ g₂)

/-! ## Heights -/

/-- What the C02 rounding theorems say about the heights, weighted linkage. -/
def WgtHeightsNear (D : Nat → Nat → K) (u : K) (n : Nat) (val : α → K) (steps : List (Step α)) : Prop :=
  ∀ (i : Nat) (s : Step α), steps[i]? = some s →
    Near u (2 * (s.size - 2))
      (wdist D (clusterTree n steps s.c1) (clusterTree n steps s.c2)) (val s.d)

theorem C06_weighted_rounded_agree {D : Nat → Nat → K} {u : K} {n : Nat} {val : α → K}
    {s₁ s₂ : List (Step α)} (hu : u < 1) (wf₁ : WellFormed n s₁) (wf₂ : WellFormed n s₂)
    (m₁ : WgtMarginAlong D u n s₁) (g₂ : WgtGreedyUpTo D u n s₂)
    (h₁ : WgtHeightsNear D u n val s₁) (h₂ : WgtHeightsNear D u n val s₂) :
    s₁.length = s₂.length ∧
    ∀ (i : Nat) (a b : Step α), s₁[i]? = some a → s₂[i]? = some b →
      a.c1 = b.c1 ∧ a.c2 = b.c2 ∧ a.size = b.size ∧
        Near u (2 * (2 * (a.size - 2))) (val a.d) (val b.d) := by
  refine ⟨by rw [wf₁.len, wf₂.len], fun i a b ha hb => ?_⟩
  have hlab := C06_weighted_rounded_labels_unique wf₁ wf₂ m₁ g₂
  obtain ⟨e1, e2, hsz⟩ := step_eq_of_labAgree wf₁ wf₂ hlab ha hb
  have oa := wf₁.ordered i a ha
  have htr := clusterTree_lab (hlab i) (labelsOrdered_of_wf wf₁) (labelsOrdered_of_wf wf₂)
    (List.getElem?_eq_some_iff.mp ha).1.le
  have n2 := h₂ i b hb
  rw [← e1, ← e2, ← htr a.c1 (by omega), ← htr a.c2 (by omega), ← hsz] at n2
  exact ⟨e1, e2, hsz, (h₁ i a ha).agree hu n2⟩

/-! ## Entry points -/

/-- What the theorems of this file and of `Props/C11RoundingWeighted.lean` use of a run that is greedy up
to `RWgt` (`Lemmas/RoundRuns.lean`). -/
theorem wgtRun_of_greedySw {val : α → K} {fin : α → Prop} {u lo hi dlo dhi : K} {N n : Nat}
    {D : Nat → Nat → K} (RM : Round.Model val fin u lo hi N) (B : BaseOkW n D dlo dhi)
    {S C : Type} {r : R (S × Dendrogram α × C)}
    (h : ∃ st' d' M', r = .ok (st', d', M') ∧ WellFormed n d'.steps.toList ∧
      Rnn.GreedySw (RWgt val fin u n D) n d'.steps.toList) :
    ∃ st' d' M', r = .ok (st', d', M') ∧ WellFormed n d'.steps.toList ∧
      WgtGreedyUpTo D u n d'.steps.toList ∧ WgtHeightsNear D u n val d'.steps.toList :=
  exists_ok_imp h fun _ h => ⟨h.1, wgtGreedyUpTo_of_sw RM B h.2,
    fun i s hi => (wgtNear_of_sw B (h.2 i s hi).1).2.2.2⟩

section EntryPoints
variable {val : α → K} {fin : α → Prop} {u lo hi : K} {N : Nat}

/-- Both calls return, and IF the margin holds along the first output THEN the two outputs agree. -/
def AgreeIfMarginW (D : Nat → Nat → K) (u : K) (n : Nat) (val : α → K) (d₁ d₂ : Dendrogram α) : Prop :=
  WgtMarginAlong D u n d₁.steps.toList →
    d₁.steps.toList.length = d₂.steps.toList.length ∧
    ∀ (i : Nat) (a b : Step α), d₁.steps.toList[i]? = some a → d₂.steps.toList[i]? = some b →
      a.c1 = b.c1 ∧ a.c2 = b.c2 ∧ a.size = b.size ∧
        Near u (2 * (2 * (a.size - 2))) (val a.d) (val b.d)

theorem C06_primitive_nnchain_weighted_rounded (L : OrderLaws α)
    (RM : Round.Model val fin u lo hi N) {ok : α → Prop} (hge : ChainGeOn ok .weighted)
    (chk : Bool) (st : State α) (d : Dendrogram α) (data : Array α) (n : Nat)
    (h2 : 2 ≤ n) (hs : n < 2147483648) (hl : 2 * data.size = n * (n - 1))
    {dlo dhi : K} (hdlo : 0 < dlo)
    (hdata : ∀ (k : Nat) (h : k < data.size), fin data[k] ∧ dlo ≤ val data[k] ∧ val data[k] ≤ dhi)
    (Rg : RangeOkW u lo hi n dlo dhi)
    (hok : ∀ v, fin v → dlo * (1 - u) ^ (2 * n) ≤ val v → val v ≤ dhi / (1 - u) ^ (2 * n) → ok v) :
    ∃ st₁ d₁ M₁ st₂ d₂ M₂,
      primitiveWith chk .weighted st d data n = .ok (st₁, d₁, M₁) ∧
      nnchainWith chk .weighted st d data n = .ok (st₂, d₂, M₂) ∧
      AgreeIfMarginW (valD val n data) u n val d₁ d₂ := by
  have B := baseOkW_valD data n hs hl hdlo hdata
  exact exists_ok_pair
    (wgtRun_of_greedySw RM B
      (primitive_weighted_greedySw L RM hge chk st d data n h2 hs hl hdlo hdata Rg hok))
    (wgtRun_of_greedySw RM B
      (nnchain_weighted_greedySw L RM hge chk st d data n h2 hs hl hdlo hdata Rg hok))
    fun _ _ a b m₁ => C06_weighted_rounded_agree RM.u_lt_one a.1 b.1 m₁ b.2.1 a.2.2 b.2.2

theorem C06_primitive_linkage_weighted_rounded (L : OrderLaws α)
    (RM : Round.Model val fin u lo hi N) {ok : α → Prop} (hge : ChainGeOn ok .weighted)
    (chk : Bool) (st : State α) (d : Dendrogram α) (data : Array α) (n : Nat)
    (h2 : 2 ≤ n) (hs : n < 2147483648) (hl : 2 * data.size = n * (n - 1))
    {dlo dhi : K} (hdlo : 0 < dlo)
    (hdata : ∀ (k : Nat) (h : k < data.size), fin data[k] ∧ dlo ≤ val data[k] ∧ val data[k] ≤ dhi)
    (Rg : RangeOkW u lo hi n dlo dhi)
    (hok : ∀ v, fin v → dlo * (1 - u) ^ (2 * n) ≤ val v → val v ≤ dhi / (1 - u) ^ (2 * n) → ok v) :
    ∃ st₁ d₁ M₁ st₂ d₂ M₂,
      primitiveWith chk .weighted st d data n = .ok (st₁, d₁, M₁) ∧
      linkageWith chk .weighted st d data n = .ok (st₂, d₂, M₂) ∧
      AgreeIfMarginW (valD val n data) u n val d₁ d₂ := by
  have B := baseOkW_valD data n hs hl hdlo hdata
  exact exists_ok_pair
    (wgtRun_of_greedySw RM B
      (primitive_weighted_greedySw L RM hge chk st d data n h2 hs hl hdlo hdata Rg hok))
    (wgtRun_of_greedySw RM B
      (linkage_weighted_greedySw L RM hge chk st d data n h2 hs hl hdlo hdata Rg hok))
    fun _ _ a b m₁ => C06_weighted_rounded_agree RM.u_lt_one a.1 b.1 m₁ b.2.1 a.2.2 b.2.2

theorem C06_primitive_generic_weighted_rounded (L : OrderLaws α) (hbeq : BeqLe α)
    (RM : Round.Model val fin u lo hi N)
    (hmax : Num.isNaN (Num.maxValue : α) = false) {G : α → Prop} (gs : GoodSet G)
    (hge : ChainGeOn G .weighted)
    (chk : Bool) (st : State α) (d : Dendrogram α) (data : Array α) (n : Nat)
    (h2 : 2 ≤ n) (hs : n < 2147483648) (hl : 2 * data.size = n * (n - 1))
    {dlo dhi : K} (hdlo : 0 < dlo)
    (hdata : ∀ (k : Nat) (h : k < data.size), fin data[k] ∧ dlo ≤ val data[k] ∧ val data[k] ≤ dhi)
    (Rg : RangeOkW u lo hi n dlo dhi)
    (hG : ∀ v, fin v → dlo * (1 - u) ^ (2 * n) ≤ val v → val v ≤ dhi / (1 - u) ^ (2 * n) → G v) :
    ∃ st₁ d₁ M₁ st₂ d₂ M₂,
      primitiveWith chk .weighted st d data n = .ok (st₁, d₁, M₁) ∧
      genericWith chk .weighted st d data n = .ok (st₂, d₂, M₂) ∧
      AgreeIfMarginW (valD val n data) u n val d₁ d₂ := by
  have B := baseOkW_valD data n hs hl hdlo hdata
  exact exists_ok_pair
    (wgtRun_of_greedySw RM B
      (primitive_weighted_greedySw L RM hge chk st d data n h2 hs hl hdlo hdata Rg hG))
    (wgtRun_of_greedySw RM B
      (generic_weighted_greedySw L RM hge chk st d data n h2 hs hl hdlo hdata Rg hG hbeq hmax gs))
    fun _ _ a b m₁ => C06_weighted_rounded_agree RM.u_lt_one a.1 b.1 m₁ b.2.1 a.2.2 b.2.2

end EntryPoints

/-! ## The margin in numbers -/

/-- Merge trees of a step list have at most `n` leaves. -/
theorem card_clusterTree_le {n : Nat} {steps : List (Step α)} (wf : WellFormed n steps) (l : Nat)
    (hl : l < n + steps.length) : (clusterTree n steps l).leaves.card ≤ n := by
  rw [← obs_eq_clusterTree_leaves wf l hl]
  exact card_leaves_le n steps steps.length l

/-- **The margin in the property's words, weighted linkage**: a RELATIVE GAP `γ` between the exact
`wdist` of the merged pair (non-negative) and that of every other present pair is a rounding-safe margin as
soon as `8·n·u ≤ c` and `1 ≤ (1+γ)(1−c)`. -/
theorem C06_weighted_margin_of_gap {D : Nat → Nat → K} {u : K} {n : Nat} {steps : List (Step α)}
    (wf : WellFormed n steps)
    (h0 : 0 ≤ u) (hu : u < 1) {c γ : K} (hc : 8 * (n : K) * u ≤ c) (hγ0 : 0 ≤ γ)
    (hγ : 1 ≤ (1 + γ) * (1 - c))
    (hgap : ∀ (i : Nat) (s : Step α), steps[i]? = some s →
      ∀ p q : Nat, PresentBefore n steps i p → PresentBefore n steps i q → p < q →
        ¬ (p = s.c1 ∧ q = s.c2) →
        0 ≤ wdist D (clusterTree n steps s.c1) (clusterTree n steps s.c2) ∧
        wdist D (clusterTree n steps s.c1) (clusterTree n steps s.c2) * (1 + γ) <
          wdist D (clusterTree n steps p) (clusterTree n steps q)) :
    WgtMarginAlong D u n steps := by
  intro i s hi p q hp hq hpq hne
  obtain ⟨hnn, hlt⟩ := hgap i s hi p q hp hq hpq hne
  have hil : i < steps.length := (List.getElem?_eq_some_iff.mp hi).1
  have o := wf.ordered i s hi
  have cA := card_clusterTree_le wf s.c1 (by omega)
  have cB := card_clusterTree_le wf s.c2 (by omega)
  have cX := card_clusterTree_le wf p (by have := hp.1; omega)
  have cY := card_clusterTree_le wf q (by have := hq.1; omega)
  refine lt_mul_pow_of_gap hu
    (one_le_mul_pow_w (m := 8 * n) h0 hu (by omega) ?_ hγ0 hγ) hnn hlt
  rwa [Nat.cast_mul, Nat.cast_ofNat]

end Kodama
