/-
C03 for `nnchain_with` — the CORRECTNESS THEOREM OF THE NEAREST-NEIGHBOUR-CHAIN ALGORITHM
(Müllner 2011, Thm 3; Bruynooghe 1977; Murtagh 1983): the dendrogram returned by the model
`nnchainWith` of `src/chain.rs` — reciprocal-nearest-neighbour merges, stably sorted by height,
relabelled by union–find — is a GREEDY RUN of the independent label-based specification
`Spec.GreedyValid` (`Spec/Naive.lean`), ties included.  Hence also for `linkage_with` with
complete / average / weighted / Ward (which the generated `dispatch` table routes to nnchain).

## Scope of the statements

* EXACT ARITHMETIC for average / weighted / Ward: `K` a linearly ordered field whose `Num K` instance
  computes the field operations and has no NaN (`ExactLaws K`; `fieldNum K`, `fieldNumWith K sq`).
  IEEE floats are NOT a field, so for these methods nothing here is a statement about `f32`/`f64`
  (`Spec.GreedyValid` replays the COMPUTED table); average and weighted linkage under rounding, stated
  about the exact criterion: `Props/C03Rounding.lean`.
* single / complete: any number type whose `<` is a linear order without NaN, in two equivalent
  forms: `[LinearOrder α]` + `OrderNum α` (`Num.lt` is the order) + `∀ x, isNaN x = false`, or the
  law bundles `OrderLaws α` + `LtTrichotomy α` + `∀ x, isNaN x = false`.  (`LtTrichotomy` is false
  for IEEE floats because of `±0`; it is genuinely needed: `GreedyValid` demands the recorded height
  to EQUAL the spec's table value, and `min(+0,−0)` depends on the argument order.)
* entry point `nnchain_with` (model `nnchainWith`), both build modes `chk`, every prior
  `LinkageState`/`Dendrogram`, every valid matrix `2 ≤ n < 2^31`, `2·len = n(n−1)`.

## Theorems

The loop (any number type, `OrderLaws` + `ChainReducible` as hypotheses — true of floats for
single/complete):
* `C03_nnchain_rnn`      every outer iteration merges two live clusters `a < b` that are RECIPROCAL
                         NEAREST NEIGHBOURS w.r.t. the current matrix, ties included (nothing is
                         strictly closer to `a` or to `b` than they are to each other), and records
                         `(a, b, M[a,b], |a|+|b|)`.
* `C03_nnchain_partial`  the whole loop: for every relation `R` propagated by the method's formula,
                         the raw dendrogram is a run of reciprocal-nearest-neighbour merges
                         (`Rnn.RnnFrom R`) of the clusters' `R`-dissimilarities.
The sort:
* `C03_nnchain_parent_ge_child`  in the raw dendrogram the step that consumes the cluster created by
                         step `i` is at least as high as step `i`.
* `C03_nnchain_sorted_run`  the stably sorted raw steps are again a run of reciprocal-nearest-neighbour
                         merges from the singletons (legality of the sorted replay included).
The returned dendrogram:
* `C03_nnchain_of_criterion`                  abstract form (any number type, hypotheses as law bundles).
* `C03_nnchain_exact`, `C03_nnchain`          all five methods over `ExactLaws K`.
* `C03_runWith_nnchain`                       the `C03_statement` instance for the entry point `nnchain`.
* `C03_nnchain_single`, `C03_nnchain_complete` (+ `_laws` forms) single / complete over a linear order.
* `C03_linkage_nnchain`  through `linkageWith` for complete / average / weighted / Ward.

## Proof (files `Lemmas/Rnn*.lean`)
`RnnState`: index-based runs; dissimilarities are a relation `R` on merge trees (`Crit.LWCompat`).
`RnnChain`: the loop performs such a run (matrix entry = `R`-value of the two trees; the scan
gives reciprocal nearest neighbours).  `RnnMono`: by reducibility every step is at least as high as
every earlier step inside its two clusters.  `RnnSort`: two ADJACENT steps with strictly decreasing
heights therefore touch disjoint index pairs and commute (both stay reciprocal nearest neighbours, the
higher one by reducibility), so the stable (insertion) sort of the run is a run; a complete run with
non-decreasing heights is greedy (from the end: a live pair untouched by the current step is still
live and unchanged at the next step, which is a global minimum of what is left and at least as high).
`RnnSpec`: index-based greedy run ⇒ `Spec.GreedyFrom` in merge-order labels.  `RnnRun`,
`PrimGreedyRelabel`: the sorted run obeys the index discipline `MergeTrace`, so `relabel`, which
processes the steps in sorted order, hands out the merge-order labels of that order
(`relabel_greedyValid`).

## Trusted
`Spec/Naive.lean`, `Spec/Pairs.lean` (the specification); that the model `nnchainWith` is the Rust
`nnchain_with` (translator + bit-exact correspondence run); std's `sort_by` being a stable sort
(`List.mergeSort`); Lean kernel + Mathlib (`propext`, `Classical.choice`, `Quot.sound`).
-/
import Kodama.Lemmas.RnnRun
import Kodama.Lemmas.RnnMono
import Kodama.Lemmas.ChainExact
import Kodama.Lemmas.Tail
import Kodama.Props.C02
import Kodama.Props.C03
import Kodama.Lemmas.RnnChain
namespace Kodama
open Spec Crit MTree
variable {α : Type} [Num α]

theorem C03_nnchain_rnn (L : OrderLaws α) (chk : Bool) (m : MethodChain) (hred : ChainReducible α m)
    (n k : Nat) (live : List Nat) (st : State α) (dend : Dendrogram α) (M : Mat α)
    (hk : k + 1 < n) (inv : ChainInv n k live st dend M) :
    ∃ st' dend' M' a b, chainIter chk m ⟨st, dend, M⟩ = .ok ⟨st', dend', M'⟩ ∧
      a < b ∧ a ∈ live ∧ b ∈ live ∧
      (∀ x ∈ live, x ≠ a → Num.lt (M.dval a x) (M.dval a b) = false) ∧
      (∀ x ∈ live, x ≠ b → Num.lt (M.dval b x) (M.dval a b) = false) ∧
      dend'.steps = dend.steps.push
        (Step.new a b (M.dval a b) (st.sizes.getD a 0 + st.sizes.getD b 0)) ∧
      ChainInv n (k + 1) (live.filter (· ≠ a)) st' dend' M' := by
  obtain ⟨st', dend', M', a, b, e, cinv, F⟩ := chainIter_ok_ext L chk m hred n k live st dend M hk inv
  exact ⟨st', dend', M', a, b, e, F.lt, F.ma, F.mb, F.nn a (Or.inl rfl), F.nn b (Or.inr rfl),
    F.steps, cinv⟩

/-- **The loop of `nnchain_with` is a run of reciprocal-nearest-neighbour merges** of the
`R`-dissimilarities of the clusters, for every relation `R` on merge trees that the method's
Lance–Williams formula propagates and that is functional.  Any number type; hypotheses: `OrderLaws`,
`ChainReducible`, no NaN in the (squared) input. -/
theorem C03_nnchain_partial (L : OrderLaws α) (chk : Bool) (mc : MethodChain)
    (hred : ChainReducible α mc) {R : MTree Nat → MTree Nat → α → Prop}
    (C : LWCompat mc.intoMethod R) (hu : ∀ s t v w, R s t v → R s t w → v = w)
    (data : Array α) (n : Nat) (h2 : 2 ≤ n) (hs : n < 2147483648)
    (hl : 2 * data.size = n * (n - 1)) (hnan : NoNaNData (squareData mc.intoMethod data))
    (hR : ∀ i j, i ≠ j → R (leaf i) (leaf j) ((init mc.intoMethod n data).D i j)) :
    ∃ s1 : ChainSt α,
      iterM (chainIter chk mc) (n - 1)
        ⟨{ (State.fresh n : State α) with chain := #[] }, Dendrogram.new n,
          { data := squareData mc.intoMethod data, n := n, acc := 0 }⟩ = .ok s1 ∧
      s1.dend.steps.size = n - 1 ∧
      Rnn.RnnFrom R (Rnn.IState.init n) s1.dend.steps.toList := by
  obtain ⟨s1, e, hres⟩ := chainLoop_rnn L chk mc hred C hu data n h2 hs hl hnan hR
  exact ⟨s1, e, hres.res.steps_sz, hres.run⟩

set_option linter.unusedVariables false in
/-- In a run of reciprocal-nearest-neighbour merges from the singletons (in particular the
raw dendrogram of `nnchain_with`, `C03_nnchain_partial`), the first step after step `i` that touches the
index kept by step `i` — the merge consuming the cluster that step `i` created — is at least as high
as step `i`. -/
theorem C03_nnchain_parent_ge_child (L : OrderLaws α) (hnan : ∀ x : α, Num.isNaN x = false)
    {mc : MethodChain} (hred : ChainReducible α mc) {R : MTree Nat → MTree Nat → α → Prop}
    (C : LWCompat mc.intoMethod R) (hu : ∀ s t v w, R s t v → R s t w → v = w)
    (n : Nat) (data : Array α)
    (hR : ∀ i j, i ≠ j → R (leaf i) (leaf j) ((init mc.intoMethod n data).D i j))
    (raw : List (Step α)) (hrun : Rnn.RnnFrom R (Rnn.IState.init n) raw)
    (i j : Nat) (x y : Step α) (hij : i < j) (hx : raw[i]? = some x) (hy : raw[j]? = some y)
    (hbetween : ∀ k s, i < k → k < j → raw[k]? = some s → s.c1 ≠ x.c2 ∧ s.c2 ≠ x.c2)
    (htouch : y.c1 = x.c2 ∨ y.c2 = x.c2) : Num.lt y.d x.d = false :=
  Rnn.parent_ge_child_at (rlaws_of_reducible C hu hred hnan) L hnan
    (Rnn.sim_init mc.intoMethod n data hR).tab (Rnn.Clu.init n) hrun i j x y hij hx hy htouch

/-- **The stably sorted raw steps are again a run of reciprocal-nearest-neighbour merges** from the
singletons (so they are a legal replay: every step merges two clusters alive at that time), and,
relabelled in that order, a greedy-valid dendrogram. -/
theorem C03_nnchain_sorted_run (L : OrderLaws α) (hnan : ∀ x : α, Num.isNaN x = false)
    {mc : MethodChain} (hred : ChainReducible α mc) (hsym : LwSymm α mc.intoMethod)
    {R : MTree Nat → MTree Nat → α → Prop}
    (C : LWCompat mc.intoMethod R) (hu : ∀ s t v w, R s t v → R s t w → v = w)
    (n : Nat) (h1 : 1 ≤ n) (data : Array α)
    (hR : ∀ i j, i ≠ j → R (leaf i) (leaf j) ((init mc.intoMethod n data).D i j))
    (raw : List (Step α)) (hlen : raw.length = n - 1)
    (hrun : Rnn.RnnFrom R (Rnn.IState.init n) raw) :
    Rnn.RnnFrom R (Rnn.IState.init n) (raw.mergeSort stepLe) ∧
    MergeTrace n (edgesOf (raw.mergeSort stepLe)) ∧
    GreedyValid mc.intoMethod n data (mergeOrder mc.intoMethod n (raw.mergeSort stepLe)) := by
  obtain ⟨hS, hg⟩ := sorted_rnn_greedyValid L hnan (rlaws_of_reducible C hu hred hnan) hsym n data hR
    raw hlen h1 hrun
  exact ⟨hS, Rnn.mergeTrace_of_rnn n _ hS, hg⟩

/-- **C03 for `nnchain_with`, abstract form** (any number type): under `OrderLaws`, absence of NaN,
reducibility (`ChainReducible`) and symmetry (`LwSymm`) of the method's update, and for ANY relation
`R` on merge trees that the update propagates (`LWCompat`), that is functional and that holds of the
input entries, `nnchainWith` returns and the returned steps are greedy-valid.  The theorems below
instantiate `R` with the documented criteria. -/
theorem C03_nnchain_of_criterion (L : OrderLaws α) (hnan : ∀ x : α, Num.isNaN x = false)
    (chk : Bool) (mc : MethodChain) (hred : ChainReducible α mc) (hsym : LwSymm α mc.intoMethod)
    {R : MTree Nat → MTree Nat → α → Prop} (C : LWCompat mc.intoMethod R)
    (hu : ∀ s t v w, R s t v → R s t w → v = w)
    (st : State α) (d : Dendrogram α) (data : Array α) (n : Nat) (h2 : 2 ≤ n)
    (hs : n < 2147483648) (hl : 2 * data.size = n * (n - 1))
    (hR : ∀ i j, i ≠ j → R (leaf i) (leaf j) ((init mc.intoMethod n data).D i j)) :
    ∃ st' d' M', nnchainWith chk mc st d data n = .ok (st', d', M') ∧
      GreedyValid mc.intoMethod n data d'.steps.toList := by
  have RL := rlaws_of_reducible C hu hred hnan
  have hnd : NoNaNData (squareData mc.intoMethod data) := fun _ _ => hnan _
  obtain ⟨s1, hloop, hres⟩ := chainLoop_rnn L chk mc hred C hu data n h2 hs hl hnd hR
  have heq := nnchainWith_of_loop chk mc st d data n h2 hs hl hloop
  have hraw : RawTree n (s1.dend.steps.toList.map (fun s => (s.c1, s.c2))) := hres.res.raw
  have hlen : s1.dend.steps.toList.length = n - 1 := by simp [hres.res.steps_sz]
  -- the sorted run is greedy, and the sorted order is the order `relabel` processes
  obtain ⟨hS, hgv⟩ := sorted_rnn_greedyValid L hnan RL hsym n data hR s1.dend.steps.toList hlen
    (by omega) hres.run
  have hproc : (processed mc.intoMethod s1.dend.steps).toList
      = s1.dend.steps.toList.mergeSort stepLe := by
    unfold processed; rw [if_pos (by cases mc <;> rfl)]
  obtain ⟨uf, d', hr, -, hg⟩ := relabel_greedyValid (m := mc.intoMethod) (data := data) s1.dend h2
    hres.res.obs hraw (fun s _ => hnan s.d) (by rw [hproc]; exact Rnn.mergeTrace_of_rnn n _ hS)
    (by rw [hproc]; exact hgv) s1.st.set
  exact ⟨{ s1.st with set := uf }, sqrtSteps mc.intoMethod d', s1.M, by rw [heq, hr]; rfl, hg⟩

section Exact
variable {K : Type} [Field K] [LinearOrder K] [IsStrictOrderedRing K] [Num K]

/-- **C03 for `nnchain_with` in exact arithmetic, all five methods**: the call returns normally and
the returned steps are a greedy run of the specification, ties included. -/
theorem C03_nnchain_exact (E : ExactLaws K) (chk : Bool) (mc : MethodChain) (st : State K)
    (d : Dendrogram K) (data : Array K) (n : Nat) (h2 : 2 ≤ n) (hs : n < 2147483648)
    (hl : 2 * data.size = n * (n - 1)) :
    ∃ st' d' M', nnchainWith chk mc st d data n = .ok (st', d', M') ∧
      GreedyValid mc.intoMethod n data d'.steps.toList :=
  C03_nnchain_of_criterion E.field.orderLaws E.noNaN chk mc (chainReducible_exact E.field E.noNaN mc)
    (E.field.lwSymm mc.intoMethod)
    (C02_lw_criterion E.field mc.intoMethod _ (init_DSymm mc.intoMethod n data))
    (fun s t v w => Criterion.unique mc.intoMethod s t v w) st d data n h2 hs hl
    (fun i j _ => Criterion.leaf mc.intoMethod i j)

/-- **C03 for `nnchain_with`**, run form: whatever `nnchainWith` returns on a valid matrix is
greedy-valid. -/
theorem C03_nnchain (E : ExactLaws K) (chk : Bool) (mc : MethodChain) (st st' : State K)
    (d d' : Dendrogram K) (M' : Mat K) (data : Array K) (n : Nat) (h2 : 2 ≤ n)
    (hs : n < 2147483648) (hl : 2 * data.size = n * (n - 1))
    (hrun : nnchainWith chk mc st d data n = .ok (st', d', M')) :
    GreedyValid mc.intoMethod n data d'.steps.toList :=
  of_exists_ok (C03_nnchain_exact E chk mc st d data n h2 hs hl) hrun

omit [Field K] [LinearOrder K] [IsStrictOrderedRing K] in
/-- `linkage_with` routes complete / average / weighted / Ward to `nnchain_with`. -/
theorem linkageWith_eq_nnchainWith (chk : Bool) (mc : MethodChain) (hm : mc ≠ .single) (st : State K)
    (d : Dendrogram K) (data : Array K) (n : Nat) :
    linkageWith chk mc.intoMethod st d data n = nnchainWith chk mc st d data n :=
  linkageWith_nnchain chk _ mc (fun h => hm (by cases mc <;> first | rfl | cases h))
    mc.intoMethodChain_intoMethod st d data n

theorem C03_linkage_nnchain (E : ExactLaws K) (chk : Bool) (mc : MethodChain) (hm : mc ≠ .single)
    (st : State K) (d : Dendrogram K) (data : Array K) (n : Nat) (h2 : 2 ≤ n)
    (hs : n < 2147483648) (hl : 2 * data.size = n * (n - 1)) :
    ∃ st' d' M', linkageWith chk mc.intoMethod st d data n = .ok (st', d', M') ∧
      GreedyValid mc.intoMethod n data d'.steps.toList := by
  rw [linkageWith_eq_nnchainWith chk mc hm]
  exact C03_nnchain_exact E chk mc st d data n h2 hs hl

omit [Field K] [LinearOrder K] [IsStrictOrderedRing K] in
theorem intoMethod_of_intoMethodChain {m : Method} {mc : MethodChain}
    (h : m.intoMethodChain = some mc) : mc.intoMethod = m :=
  intoMethodChain_roundtrip m mc h

/-- **C03 for the entry point `nnchain`** in the form of `C03_statement` (`runWith .nnchain`): every
method the entry point accepts, exact arithmetic. -/
theorem C03_runWith_nnchain (E : ExactLaws K) (chk : Bool) (m : Method)
    (hacc : Alg.nnchain.accepts m = true) (st : State K) (d : Dendrogram K) (data : Array K)
    (n : Nat) (h2 : 2 ≤ n) (hs : n < 2147483648) (hl : 2 * data.size = n * (n - 1)) :
    ∃ st' d' M', runWith chk .nnchain m st d data n = .ok (st', d', M') ∧
      GreedyValid m n data d'.steps.toList := by
  simp only [Alg.accepts, Option.isSome_iff_exists] at hacc
  obtain ⟨mc, hmc⟩ := hacc
  have e := intoMethod_of_intoMethodChain hmc
  subst e
  simp only [runWith, hmc]
  exact C03_nnchain_exact E chk mc st d data n h2 hs hl

end Exact

/-! ### single / complete over any linear order without NaN -/

section Order
variable {β : Type} [LinearOrder β] [Num β]

theorem OrderNum.orderLaws (O : OrderNum β) : OrderLaws β := orderLaws_of_lt O.lt

theorem OrderNum.ltTrichotomy (O : OrderNum β) : LtTrichotomy β := ltTrichotomy_of_lt O.lt

/-- The minimum over the cross pairs is propagated by the single-linkage update. -/
theorem lwCompat_single (O : OrderNum β) (d : Nat → Nat → β) (hd : ∀ i j, d i j = d j i) :
    LWCompat .single (fun s t v => IsMinOver d s.leaves t.leaves v) where
  symm := fun _ _ _ h => h.symm hd
  step := by
    intro ta tb tx va vb vab _ _ _ ha hb _
    simp only [MTree.leaves_node, Spec.lw]
    exact C02_single_criterion O ha hb

/-- The maximum over the cross pairs is propagated by the complete-linkage update. -/
theorem lwCompat_complete (O : OrderNum β) (d : Nat → Nat → β) (hd : ∀ i j, d i j = d j i) :
    LWCompat .complete (fun s t v => IsMaxOver d s.leaves t.leaves v) where
  symm := fun _ _ _ h => h.symm hd
  step := by
    intro ta tb tx va vb vab _ _ _ ha hb _
    simp only [MTree.leaves_node, Spec.lw]
    exact C02_complete_criterion O ha hb

theorem C03_nnchain_single (O : OrderNum β) (hnan : ∀ x : β, Num.isNaN x = false) (chk : Bool)
    (st : State β) (d : Dendrogram β) (data : Array β) (n : Nat) (h2 : 2 ≤ n)
    (hs : n < 2147483648) (hl : 2 * data.size = n * (n - 1)) :
    ∃ st' d' M', nnchainWith chk .single st d data n = .ok (st', d', M') ∧
      GreedyValid .single n data d'.steps.toList :=
  C03_nnchain_of_criterion O.orderLaws hnan chk .single chainReducible_single
    (lwSymm_single O.orderLaws O.ltTrichotomy)
    (lwCompat_single O _ (init_DSymm .single n data))
    (fun _ _ _ _ h1 h2 => h1.unique h2) st d data n h2 hs hl
    (fun i j _ => IsMinOver.singleton i j)

theorem C03_nnchain_complete (O : OrderNum β) (hnan : ∀ x : β, Num.isNaN x = false) (chk : Bool)
    (st : State β) (d : Dendrogram β) (data : Array β) (n : Nat) (h2 : 2 ≤ n)
    (hs : n < 2147483648) (hl : 2 * data.size = n * (n - 1)) :
    ∃ st' d' M', nnchainWith chk .complete st d data n = .ok (st', d', M') ∧
      GreedyValid .complete n data d'.steps.toList :=
  C03_nnchain_of_criterion O.orderLaws hnan chk .complete chainReducible_complete
    (lwSymm_complete O.orderLaws O.ltTrichotomy)
    (lwCompat_complete O _ (init_DSymm .complete n data))
    (fun _ _ _ _ h1 h2 => h1.unique h2) st d data n h2 hs hl
    (fun i j _ => IsMaxOver.singleton i j)

end Order

/-! ### single / complete from the law bundles -/

/-- `OrderLaws` + `LtTrichotomy` + "no NaN" make `Num.lt` the strict part of a linear order. -/
@[reducible] def linearOrderOfLaws (L : OrderLaws α) (T : LtTrichotomy α)
    (hnan : ∀ x : α, Num.isNaN x = false) : LinearOrder α where
  le a b := Num.lt b a = false
  lt a b := Num.lt a b = true
  le_refl a := L.irrefl a
  le_trans a b c h1 h2 := L.le_trans a b c (hnan b) h1 h2
  lt_iff_le_not_ge a b := by
    constructor
    · intro h; exact ⟨L.asymm a b h, by simp [h]⟩
    · intro h; simpa using h.2
  le_antisymm a b h1 h2 := T a b h2 h1
  le_total a b := L.le_total a b
  toDecidableLE := fun a b => inferInstanceAs (Decidable (Num.lt b a = false))
  toDecidableLT := fun a b => inferInstanceAs (Decidable (Num.lt a b = true))

theorem orderNum_ofLaws (L : OrderLaws α) (T : LtTrichotomy α)
    (hnan : ∀ x : α, Num.isNaN x = false) : @OrderNum α (linearOrderOfLaws L T hnan) _ :=
  @OrderNum.mk α (linearOrderOfLaws L T hnan) _ (fun a b => by
    show Num.lt a b = decide (Num.lt a b = true)
    simp)

theorem C03_nnchain_single_laws (L : OrderLaws α) (T : LtTrichotomy α)
    (hnan : ∀ x : α, Num.isNaN x = false) (chk : Bool)
    (st : State α) (d : Dendrogram α) (data : Array α) (n : Nat) (h2 : 2 ≤ n)
    (hs : n < 2147483648) (hl : 2 * data.size = n * (n - 1)) :
    ∃ st' d' M', nnchainWith chk .single st d data n = .ok (st', d', M') ∧
      GreedyValid .single n data d'.steps.toList :=
  @C03_nnchain_single α (linearOrderOfLaws L T hnan) _ (orderNum_ofLaws L T hnan) hnan chk st d data
    n h2 hs hl

theorem C03_nnchain_complete_laws (L : OrderLaws α) (T : LtTrichotomy α)
    (hnan : ∀ x : α, Num.isNaN x = false) (chk : Bool)
    (st : State α) (d : Dendrogram α) (data : Array α) (n : Nat) (h2 : 2 ≤ n)
    (hs : n < 2147483648) (hl : 2 * data.size = n * (n - 1)) :
    ∃ st' d' M', nnchainWith chk .complete st d data n = .ok (st', d', M') ∧
      GreedyValid .complete n data d'.steps.toList :=
  @C03_nnchain_complete α (linearOrderOfLaws L T hnan) _ (orderNum_ofLaws L T hnan) hnan chk st d
    data n h2 hs hl

/-! ## Non-vacuity -/

section Example

/-- All five methods over `fieldNum ℚ` on `d01=1 d02=9 d12=4` (and every `sqrt`). -/
example (sq : ℚ → ℚ) (mc : MethodChain) : ∃ st' d' M',
    @nnchainWith ℚ (fieldNumWith ℚ sq) true mc State.new (Dendrogram.new 0) #[1, 9, 4] 3
      = .ok (st', d', M') ∧
    @GreedyValid ℚ (fieldNumWith ℚ sq) mc.intoMethod 3 #[1, 9, 4] d'.steps.toList :=
  @C03_nnchain_exact ℚ _ _ _ (fieldNumWith ℚ sq) (exactLaws_fieldNumWith ℚ sq) true mc _ _ _ 3
    (by decide) (by decide) (by decide)

/-- Ward through `linkage_with`, with ties (`d01 = d23 = 1`, everything else `4`). -/
example : ∃ st' d' M',
    @linkageWith ℚ (fieldNum ℚ) false .ward State.new (Dendrogram.new 0) #[1, 4, 4, 4, 4, 1] 4
      = .ok (st', d', M') ∧
    @GreedyValid ℚ (fieldNum ℚ) .ward 4 #[1, 4, 4, 4, 4, 1] d'.steps.toList :=
  @C03_linkage_nnchain ℚ _ _ _ (fieldNum ℚ) (exactLaws_fieldNum ℚ) false .ward (by decide) _ _ _ 4
    (by decide) (by decide) (by decide)

section
attribute [local instance] Toy.natNum

/-- Single linkage over the toy numbers `Nat` (a linear order that is not a field), with ties. -/
example : ∃ st' d' M',
    nnchainWith true .single State.new (Dendrogram.new 0) (#[5, 1, 4, 3, 1, 2] : Array Nat) 4
      = .ok (st', d', M') ∧
    GreedyValid .single 4 (#[5, 1, 4, 3, 1, 2] : Array Nat) d'.steps.toList :=
  C03_nnchain_single_laws Toy.natOrderLaws Toy.natTrichotomy (fun _ => rfl) true _ _ _ 4
    (by decide) (by decide) (by decide)

end

end Example

end Kodama
