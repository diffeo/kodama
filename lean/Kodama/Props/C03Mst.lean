/-
C03 for `mst_with` / `linkage_with(.., Method::Single, ..)` — each returned step merges a closest
pair of the clusters then existing.

Entry points: `mst_with` (model `mstWith`: Prim over the condensed matrix, then `relabel .single` =
stable sort by height + union–find labels) and `linkage_with` with `Method::Single` (generated
dispatch table); both build modes `chk`, every prior `LinkageState`/`Dendrogram`, every valid shape
`2 ≤ n < 2^31`, `2·len = n(n-1)`, abstract number type `α`.

Hypotheses (all explicit, never axioms):
  `OrderLaws α`            asymmetry + co-transitivity through non-NaN (true of IEEE floats);
  `NoNaN n data`           no off-diagonal entry of the matrix is NaN;
  `InfTop n data`          the sentinel `T::infinity()` is not NaN and not strictly below an entry
                           (true of IEEE floats, ±∞ entries allowed);
  `LtTrichotomy α`         (only for `C03_mst`, `C03_mst_total`, `C03_linkage_single`) incomparable
                           values are equal.  FALSE for IEEE floats (`±0`, NaN): `Spec.Admissible`
                           demands `st.d = D c1 c2` as an EQUALITY of table value and recorded height,
                           while Prim's recorded weight is only known to be order-EQUIVALENT to the
                           minimum crossing entry (`IsMinCross`: lower bound + reached up to
                           equivalence).  So, as for `C03_primitive_single`, the statement about the
                           spec replay is an exact-order statement; for floats it speaks about inputs
                           on which incomparable values are equal.  `C03_mst_pair_min` does not need it.

Proved:
* `C03_mst_pair_min`  (stage 1; `OrderLaws`, `NoNaN`, `InfTop` only).  `mstWith`'s output `d'` is the
      relabelling (`OutOf`: heights kept, the observations beneath label `n+k` are the component of
      the `k`-th processed edge after `k+1` edges) of a Prim path `rs` (`PrimRun`) processed in the
      stably sorted order `ps` (`StableSorted`: permutation, sorted, ties keep the Prim order).
      With `compAt (edgesOf ps) i` the current clusters before processing `ps[i] = s0`:
      every entry between two DIFFERENT current clusters is not below `s0.d`, and some entry between
      the current clusters of the two endpoints of `s0` is not above `s0.d`.
      Why the stable sort matters: the tree vertex `u` at which the minimum crossing weight of the
      Prim step is reached is joined to the previously added vertex by EARLIER path edges of weight
      `≤ s0.d` (interval lemma); only a stable sort guarantees that they have been processed.
* `C03_mst_upTo`      (`OrderLaws`, `NoNaN`, `InfTop` only — a statement that is true of IEEE floats)
      the returned steps are `Spec.GreedyValidUpTo .single n data` (`Lemmas/SpecUpTo.lean`):
      `Spec.GreedyValid` with the height clause `st.d = D c1 c2` weakened to "`st.d` and `D c1 c2`
      are incomparable" (`¬ <` both ways; for floats: equal, or `±0` of different sign).  Everything
      else — live labels, smaller first, NO live pair strictly closer, sizes — is as in the spec.
* `C03_mst`           the returned steps are `Spec.GreedyValid .single n data` — replayed with the
      independent label-based bookkeeping of `Spec/Naive.lean`, every step merges two live labels,
      smaller first, no live pair is strictly closer, the recorded height is the pair's table value
      and the recorded size is the merged size.
* `C03_mst_total`     the call returns (no NaN reaches the sort) and the result is greedy-valid.
* `C03_linkage_single`, `C03_linkage_single_total`  the same through `linkage_with`.

Proof: `Lemmas/MstGreedySort.lean` (stability of `List.mergeSort` in index form),
`Lemmas/MstGreedyPair.lean` (the Prim argument on component maps), `Lemmas/SpecUpTo.lean`
(`GreedyValidUpTo`), `Lemmas/MstGreedyReplay.lean` (replay of a well-formed list; the single-linkage
table invariant `SInv` of `Lemmas/SpecSingle.lean` holds along it; admissibility step by step),
`Lemmas/MstGreedyRun.lean` (`mstWith_greedyValidUpTo`: the above for the output of `mstWith`, and
no returned height is NaN).

NOT proved here: `Spec.GreedyValid` (height EQUAL to the table value) without `LtTrichotomy`.  It is
not to be expected of IEEE floats (argued, not checked by a run): with entries `-0.0` and `+0.0`
tied for a minimum the spec's table and Prim's `min_dists` slot may hold zeros of different sign
(`Gen.single` keeps its second argument on ties; the two computations fold the entries in different
orders).
Trusted: the definitions in `Spec/Naive.lean`, `Spec/Pairs.lean`, and for `C03_mst_upTo` the weakened
predicate `Spec.GreedyValidUpTo` (`Lemmas/SpecUpTo.lean`, 20 lines; `greedyValidUpTo_iff` ties
it to `Spec.GreedyValid`); that the model `mstWith` is the Rust
`mst_with` (translator + bit-exact correspondence run); std's `sort_by` being a stable sort
(`List.mergeSort`).
-/
import Kodama.Lemmas.MstGreedyPair
import Kodama.Lemmas.MstGreedyReplay
import Kodama.Props.C04
import Kodama.Lemmas.ExampleRuns
namespace Kodama
open Spec
variable {α : Type} [Num α]

/-- **C03 for `mst_with`, stage 1** (no trichotomy): in the stably sorted processing order, before
edge `i` every entry between two different current clusters is not below its weight, and some entry
between the current clusters of its two endpoints is not above it. -/
theorem C03_mst_pair_min (L : OrderLaws α) (chk : Bool) (st st' : State α) (d d' : Dendrogram α)
    (data : Array α) (n : Nat) (M' : Mat α) (h2 : 2 ≤ n) (hs : n < 2147483648)
    (hl : 2 * data.size = n * (n - 1)) (hnan : NoNaN n data) (hinf : InfTop n data)
    (hrun : mstWith chk st d data n = .ok (st', d', M')) :
    ∃ (ord : List Nat) (rs ps : List (Step α)),
      PrimRun n data ord rs ∧ StableSorted rs ps ∧ OutOf n ps d'.steps.toList ∧
      ∀ (i : Nat) (s0 : Step α), ps[i]? = some s0 →
        (∀ u v, u < n → v < n → compAt (edgesOf ps) i u ≠ compAt (edgesOf ps) i v →
          Num.lt (entry n data Num.infinity u v) s0.d = false) ∧
        (∃ u v, u < n ∧ v < n ∧ compAt (edgesOf ps) i u = compAt (edgesOf ps) i s0.c1 ∧
          compAt (edgesOf ps) i v = compAt (edgesOf ps) i s0.c2 ∧
          Num.lt s0.d (entry n data Num.infinity u v) = false) := by
  obtain ⟨ord, rs, ps, hprim, S, O⟩ :=
    mstWith_outOf L chk st st' d d' data n M' h2 hs hl hnan hinf hrun
  refine ⟨ord, rs, ps, hprim, S, O, ?_⟩
  intro i s0 hs0
  exact ⟨fun u v hu hv hne => mst_pair_lb L hnan hprim S hs0 hu hv hne,
    mst_pair_att L hnan hprim S hs0⟩

/-- **C03 for `mst_with`, up to order-equivalence of the heights** (no trichotomy; true of IEEE
floats on NaN-free input): replayed with the label-based bookkeeping of the specification, every
returned step merges two live labels, smaller first, no live pair is strictly closer, the recorded
size is the merged size, and the recorded height is ORDER-EQUIVALENT to the pair's table value. -/
theorem C03_mst_upTo (L : OrderLaws α) (chk : Bool) (st st' : State α)
    (d d' : Dendrogram α) (data : Array α) (n : Nat) (M' : Mat α) (h2 : 2 ≤ n)
    (hs : n < 2147483648) (hl : 2 * data.size = n * (n - 1)) (hnan : NoNaN n data)
    (hinf : InfTop n data) (hrun : mstWith chk st d data n = .ok (st', d', M')) :
    GreedyValidUpTo .single n data d'.steps.toList :=
  (mstWith_greedyValidUpTo L chk st st' d d' data n M' h2 hs hl hnan hinf hrun).1

/-- **C03 for `mst_with`**: the returned steps are a greedy run of the single-linkage
specification. -/
theorem C03_mst (L : OrderLaws α) (T : LtTrichotomy α) (chk : Bool) (st st' : State α)
    (d d' : Dendrogram α) (data : Array α) (n : Nat) (M' : Mat α) (h2 : 2 ≤ n)
    (hs : n < 2147483648) (hl : 2 * data.size = n * (n - 1)) (hnan : NoNaN n data)
    (hinf : InfTop n data) (hrun : mstWith chk st d data n = .ok (st', d', M')) :
    GreedyValid .single n data d'.steps.toList :=
  (greedyValidUpTo_iff L T _ _ _ _).1
    (C03_mst_upTo L chk st st' d d' data n M' h2 hs hl hnan hinf hrun)

/-- `mst_with` returns, and what it returns is greedy-valid. -/
theorem C03_mst_total (L : OrderLaws α) (T : LtTrichotomy α) (chk : Bool) (st : State α)
    (d : Dendrogram α) (data : Array α) (n : Nat) (h2 : 2 ≤ n) (hs : n < 2147483648)
    (hl : 2 * data.size = n * (n - 1)) (hnan : NoNaN n data) (hinf : InfTop n data) :
    ∃ st' d' M', mstWith chk st d data n = .ok (st', d', M') ∧
      GreedyValid .single n data d'.steps.toList := by
  obtain ⟨⟨st', d', M'⟩, hr⟩ := C04_mst_total L chk st d data n h2 hs hl hnan hinf
  exact ⟨st', d', M', hr, C03_mst L T chk st st' d d' data n M' h2 hs hl hnan hinf hr⟩

theorem C03_linkage_single (L : OrderLaws α) (T : LtTrichotomy α) (chk : Bool) (st st' : State α)
    (d d' : Dendrogram α) (data : Array α) (n : Nat) (M' : Mat α) (h2 : 2 ≤ n)
    (hs : n < 2147483648) (hl : 2 * data.size = n * (n - 1)) (hnan : NoNaN n data)
    (hinf : InfTop n data) (hrun : linkageWith chk .single st d data n = .ok (st', d', M')) :
    GreedyValid .single n data d'.steps.toList := by
  rw [linkage_single_eq] at hrun
  exact C03_mst L T chk st st' d d' data n M' h2 hs hl hnan hinf hrun

/-- `C03_mst_upTo` through `linkage_with(.., Method::Single, ..)`. -/
theorem C03_linkage_single_upTo (L : OrderLaws α) (chk : Bool) (st st' : State α)
    (d d' : Dendrogram α) (data : Array α) (n : Nat) (M' : Mat α) (h2 : 2 ≤ n)
    (hs : n < 2147483648) (hl : 2 * data.size = n * (n - 1)) (hnan : NoNaN n data)
    (hinf : InfTop n data) (hrun : linkageWith chk .single st d data n = .ok (st', d', M')) :
    GreedyValidUpTo .single n data d'.steps.toList := by
  rw [linkage_single_eq] at hrun
  exact C03_mst_upTo L chk st st' d d' data n M' h2 hs hl hnan hinf hrun

theorem C03_linkage_single_total (L : OrderLaws α) (T : LtTrichotomy α) (chk : Bool)
    (st : State α) (d : Dendrogram α) (data : Array α) (n : Nat) (h2 : 2 ≤ n)
    (hs : n < 2147483648) (hl : 2 * data.size = n * (n - 1)) (hnan : NoNaN n data)
    (hinf : InfTop n data) :
    ∃ st' d' M', linkageWith chk .single st d data n = .ok (st', d', M') ∧
      GreedyValid .single n data d'.steps.toList := by
  rw [linkage_single_eq]
  exact C03_mst_total L T chk st d data n h2 hs hl hnan hinf

/-! ### Non-vacuity (toy exact numbers, the 4-observation matrix of `Props/C04.lean`) -/

section NonVacuity
attribute [local instance] Toy.natNum

/-- Condensed matrix `d01=5 d02=9 d03=7 d12=8 d13=6 d23=1`. -/
private def exData : Array Nat := #[5, 9, 7, 8, 6, 1]

private theorem exNoNaN : NoNaN 4 exData := fun _ _ _ _ _ => rfl

private theorem exInfTop : InfTop 4 exData := Toy.ex6_infTop

/-- All hypotheses of `C03_mst` are satisfiable together, the run returns, and its steps are a greedy
run of the specification. -/
example : OrderLaws Nat ∧ LtTrichotomy Nat ∧ NoNaN 4 exData ∧ InfTop 4 exData ∧
    ∃ st' d' M', mstWith true State.new (Dendrogram.new 4) exData 4 = .ok (st', d', M') ∧
      GreedyValid .single 4 exData d'.steps.toList :=
  ⟨Toy.natOrderLaws, Toy.natTrichotomy, exNoNaN, exInfTop,
    C03_mst_total Toy.natOrderLaws Toy.natTrichotomy true State.new (Dendrogram.new 4) exData 4
      (by decide) (by decide) (by decide) exNoNaN exInfTop⟩

end NonVacuity

end Kodama
