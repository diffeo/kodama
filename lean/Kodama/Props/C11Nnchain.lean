/-
C11 for `nnchain_with`: permutation equivariance on tie-free input.

Scope.  EXACT ARITHMETIC ONLY (`ExactLaws K`, see `Props/C03Nnchain.lean`); entry point `nnchain_with`
(model `nnchainWith`) called twice — on `data` and on the renumbered matrix `data'` — with arbitrary
build modes and prior states; all five chain methods; both matrices of valid shape.

Hypotheses: `IsPerm n π ρ`; `hperm` (`data'` is `data` renumbered by `π`, entrywise); tie-freeness — in
`C11_nnchain` of ANY greedy-valid reference run `steps₀` of `data`, in `C11_nnchain_self` of the run
of either returned dendrogram.  Conclusion: both calls return; the steps returned on `data` are the
steps returned on `data'` relabelled by `σ π n`; same heights, same sizes, and the leaf set of every
internal label `n+i` in the first is the `π`-image of its leaf set in the second.
(`C03_nnchain_exact` twice + `C11_spec_unique` / `C11_spec_unique'`.)
-/
import Kodama.Props.C03Nnchain
import Kodama.Props.C11
namespace Kodama
open Spec
variable {K : Type} [Field K] [LinearOrder K] [IsStrictOrderedRing K] [Num K]

theorem C11_nnchain (E : ExactLaws K) (chk chk' : Bool) (mc : MethodChain) (st st' : State K)
    (d d' : Dendrogram K) (data data' : Array K) (n : Nat) (h2 : 2 ≤ n) (hs : n < 2147483648)
    (hl : 2 * data.size = n * (n - 1)) (hl' : 2 * data'.size = n * (n - 1))
    {π ρ : Nat → Nat} (hπ : IsPerm n π ρ)
    (hperm : ∀ i j, i < n → j < n →
      entry n data' Num.infinity i j = entry n data Num.infinity (π i) (π j))
    (steps₀ : List (Step K)) (h₀ : GreedyValid mc.intoMethod n data steps₀)
    (ht : TieFreeFrom mc.intoMethod (init mc.intoMethod n data) steps₀) :
    ∃ s₁ e M₁ s₂ e' M₂,
      nnchainWith chk mc st d data n = .ok (s₁, e, M₁) ∧
      nnchainWith chk' mc st' d' data' n = .ok (s₂, e', M₂) ∧
      e.steps.toList = e'.steps.toList.map (mapStep (σ π n)) ∧
      e.steps.toList.map (·.d) = e'.steps.toList.map (·.d) ∧
      e.steps.toList.map (·.size) = e'.steps.toList.map (·.size) ∧
      ∀ i, (leaves n e.steps.toList e.steps.toList.length (n + i)).Perm
        ((leaves n e'.steps.toList e'.steps.toList.length (n + i)).map π) :=
  ReturnsGreedy.renumber (C03_nnchain_exact E chk mc st d data n h2 hs hl)
    (C03_nnchain_exact E chk' mc st' d' data' n h2 hs hl')
    hπ (E.field.lwSymm mc.intoMethod) hperm steps₀ h₀ ht

/-- The same with the tie-freeness hypothesis on the run of either returned dendrogram. -/
theorem C11_nnchain_self (E : ExactLaws K) (chk chk' : Bool) (mc : MethodChain) (st st' : State K)
    (d d' : Dendrogram K) (data data' : Array K) (n : Nat) (h2 : 2 ≤ n) (hs : n < 2147483648)
    (hl : 2 * data.size = n * (n - 1)) (hl' : 2 * data'.size = n * (n - 1))
    {π ρ : Nat → Nat} (hπ : IsPerm n π ρ)
    (hperm : ∀ i j, i < n → j < n →
      entry n data' Num.infinity i j = entry n data Num.infinity (π i) (π j)) :
    ∃ s₁ e M₁ s₂ e' M₂,
      nnchainWith chk mc st d data n = .ok (s₁, e, M₁) ∧
      nnchainWith chk' mc st' d' data' n = .ok (s₂, e', M₂) ∧
      (TieFreeFrom mc.intoMethod (init mc.intoMethod n data) e.steps.toList ∨
          TieFreeFrom mc.intoMethod (init mc.intoMethod n data') e'.steps.toList →
        e.steps.toList = e'.steps.toList.map (mapStep (σ π n)) ∧
        e.steps.toList.map (·.d) = e'.steps.toList.map (·.d) ∧
        e.steps.toList.map (·.size) = e'.steps.toList.map (·.size) ∧
        ∀ i, (leaves n e.steps.toList e.steps.toList.length (n + i)).Perm
          ((leaves n e'.steps.toList e'.steps.toList.length (n + i)).map π)) :=
  ReturnsGreedy.renumber_self (C03_nnchain_exact E chk mc st d data n h2 hs hl)
    (C03_nnchain_exact E chk' mc st' d' data' n h2 hs hl')
    hπ (E.field.lwSymm mc.intoMethod) hperm

end Kodama
