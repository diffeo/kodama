/-
C11 UNDER FLOATING-POINT ROUNDING, WEIGHTED LINKAGE (WPGMA) — the companion of `Props/C11Rounding.lean`.

Same statement, with the recursively halved mean `Crit.wdist` over MERGE TREES in place of the mean over
observation sets:

* `clusterTree_mapStep`            the merge tree of a label in the renumbered list is — up to the order of
  children (`Rnn.Sw`; `mapStep` re-sorts the two labels of a step) — the image of its merge tree;
* `wgtGreedyUpTo_mapStep`          greedy-up-to-rounding (`WgtGreedyUpTo`) is equivariant under renumbering
  (`D` symmetric; `wdist` does not depend on the order of children and is symmetric);
* `C11_weighted_rounded_family`    a well-formed run `s₁` for `D` with the rounding-safe margin
  (`WgtMarginAlong`) and ANY well-formed run `s₂` for `D' = D ∘ (π × π)` that is greedy up to rounding
  build, step by step, the same clusters after mapping back through `π`, with the same sizes;
* `C11_weighted_rounded_heights`   and heights within `2·2·(size−2)` rounding factors of each other when
  both lists are within rounding of the exact `wdist` (the C02 rounding theorems).

* `C11_linkage_weighted_rounded`   entry point: `linkage_with(Weighted)` on `data` and on the renumbered `data'`, under
  the hypotheses of the C02/C03 rounding theorems for weighted linkage on both inputs.
-/
import Kodama.Props.C11Rounding
import Kodama.Props.C06RoundingWeighted
namespace Kodama
open Spec Crit MTree Finset Round

variable {K : Type} [Field K] [LinearOrder K] [IsStrictOrderedRing K]
variable {α : Type} [Num α]

/-! ## Images of merge trees -/

/-- Renumber the observations of a merge tree. -/
def MTree.mapObs (f : Nat → Nat) : MTree Nat → MTree Nat
  | .leaf i => .leaf (f i)
  | .node l r => .node (MTree.mapObs f l) (MTree.mapObs f r)

theorem MTree.leaves_mapObs (f : Nat → Nat) (t : MTree Nat) :
    (MTree.mapObs f t).leaves = t.leaves.image f := by
  induction t with
  | leaf i => simp [MTree.mapObs]
  | node l r ihl ihr => simp [MTree.mapObs, ihl, ihr, Finset.image_union]

omit [LinearOrder K] [IsStrictOrderedRing K] in
theorem wdistLeaf_mapObs {D D' : Nat → Nat → K} {f : Nat → Nat} (i : Nat) (t : MTree Nat)
    (h : ∀ y ∈ t.leaves, D' i y = D (f i) (f y)) :
    wdistLeaf D' i t = wdistLeaf D (f i) (MTree.mapObs f t) := by
  induction t with
  | leaf j => exact h j (by simp)
  | node l r ihl ihr =>
    simp only [wdistLeaf, MTree.mapObs]
    rw [ihl (fun y hy => h y (by simp [hy])), ihr (fun y hy => h y (by simp [hy]))]

omit [LinearOrder K] [IsStrictOrderedRing K] in
/-- Reindexing the recursively halved mean (`f = id`: it only reads `D` on the leaves of the two trees). -/
theorem wdist_mapObs {D D' : Nat → Nat → K} {f : Nat → Nat} (s t : MTree Nat)
    (h : ∀ x ∈ s.leaves, ∀ y ∈ t.leaves, D' x y = D (f x) (f y)) :
    wdist D' s t = wdist D (MTree.mapObs f s) (MTree.mapObs f t) := by
  induction s with
  | leaf i => exact wdistLeaf_mapObs i t (h i (by simp))
  | node l r ihl ihr =>
    simp only [wdist, MTree.mapObs]
    rw [ihl (fun x hx => h x (by simp [hx])), ihr (fun x hx => h x (by simp [hx]))]

set_option linter.unusedSectionVars false in
/-- The merge tree of a label in the renumbered list, up to the order of children. -/
theorem clusterTree_mapStep {n : Nat} {f : Nat → Nat} (hf : LabelMap n f) {steps : List (Step α)}
    (wf : WellFormed n steps) :
    ∀ l, l < n + steps.length →
      Rnn.Sw (clusterTree n (steps.map (mapStep f)) (f l)) (MTree.mapObs f (clusterTree n steps l)) := by
  have ho := labelsOrdered_of_wf wf
  have ho' := labelsOrdered_of_wf (wellFormed_mapStep hf wf)
  refine label_induct ho (Nat.le_refl _) (fun l c => ?_) fun j b _ hb h1 h2 => ?_
  · rw [clusterTree_obs _ c, clusterTree_obs _ (hf.lt l c)]
    exact Rnn.Sw.leaf _
  · have hb' : (steps.map (mapStep f))[j]? = some (mapStep f b) := by
      rw [List.getElem?_map, hb]; rfl
    rw [hf.fix (n + j) (by omega), clusterTree_node ho hb, clusterTree_node ho' hb']
    simp only [MTree.mapObs]
    rcases mapStep_cases f b with ⟨e1, e2, _⟩ | ⟨e1, e2, _⟩
    · rw [e1, e2]; exact Rnn.Sw.node h1 h2
    · rw [e1, e2]
      -- children swapped: node (T' c2) (T' c1) against node (map T c1) (map T c2)
      exact Rnn.Sw.swap h2 h1

/-! ## Transport of greediness -/

theorem leaves_clusterTree_mapStep {n : Nat} {f : Nat → Nat} (hf : LabelMap n f)
    {steps : List (Step α)} (wf : WellFormed n steps) (l : Nat) (hl : l < n + steps.length) :
    (clusterTree n (steps.map (mapStep f)) (f l)).leaves = (clusterTree n steps l).leaves.image f := by
  rw [(clusterTree_mapStep hf wf l hl).leaves_eq, MTree.leaves_mapObs]

omit [LinearOrder K] [IsStrictOrderedRing K] in
/-- `wdist` for `D` between the merge trees of two labels of the renumbered list is `wdist` for
`D ∘ (π × π)` between the merge trees of the labels: the trees are images up to the order of children,
and on observations `σ π n` is `π`. -/
theorem wdist_clusterTree_mapStep {D D' : Nat → Nat → K} {n : Nat} {π ρ : Nat → Nat}
    (hπ : IsPerm n π ρ) (hD : ∀ i j, i < n → j < n → D' i j = D (π i) (π j))
    {steps : List (Step α)} (wf : WellFormed n steps) (l l' : Nat)
    (hl : l < n + steps.length) (hl' : l' < n + steps.length) :
    wdist D (clusterTree n (steps.map (mapStep (σ π n))) (σ π n l))
        (clusterTree n (steps.map (mapStep (σ π n))) (σ π n l')) =
      wdist D' (clusterTree n steps l) (clusterTree n steps l') := by
  have hf := σ_labelMap hπ
  rw [(clusterTree_mapStep hf wf l hl).wdist_left, (clusterTree_mapStep hf wf l' hl').wdist_right]
  refine (wdist_mapObs _ _ fun x hx y hy => ?_).symm
  have a := clusterTree_leaves_lt wf l hl x hx
  have b := clusterTree_leaves_lt wf l' hl' y hy
  rw [σ_of_lt π a, σ_of_lt π b]; exact hD x y a b

omit [IsStrictOrderedRing K] in
theorem wgtGreedyUpTo_renumber {D D' : Nat → Nat → K} {u : K} {n : Nat} {π ρ : Nat → Nat}
    (hπ : IsPerm n π ρ) (hsym : ∀ i j, D' i j = D' j i)
    (hD : ∀ i j, i < n → j < n → D' i j = D (π i) (π j)) {steps : List (Step α)}
    (wf : WellFormed n steps) (g : WgtGreedyUpTo D' u n steps) :
    WgtGreedyUpTo D u n (steps.map (mapStep (σ π n))) := by
  have hf := σ_labelMap hπ
  have hinj := hf.injective
  intro i s' hi p q hp hq hpq
  obtain ⟨b, hb, rfl⟩ := getElem?_map_mapStep hi
  obtain ⟨p₀, rfl⟩ := hf.surj' p
  obtain ⟨q₀, rfl⟩ := hf.surj' q
  have hp₀ := (presentBefore_mapStep hf steps i p₀).mp hp
  have hq₀ := (presentBefore_mapStep hf steps i q₀).mp hq
  obtain ⟨hdis, hcAB, hcXY, h0, hle⟩ := g i b hb p₀ q₀ hp₀ hq₀ (fun h => hpq (by rw [h]))
  have hil : i < steps.length := (List.getElem?_eq_some_iff.mp hb).1
  have o := wf.ordered i b hb
  have b1 : b.c1 < n + steps.length := by omega
  have b2 : b.c2 < n + steps.length := by omega
  have bp : p₀ < n + steps.length := by have := hp₀.1; omega
  have bq : q₀ < n + steps.length := by have := hq₀.1; omega
  rcases mapStep_cases (σ π n) b with ⟨e1, e2, _⟩ | ⟨e1, e2, _⟩
  · simp only [e1, e2, leaves_clusterTree_mapStep hf wf _ b1, leaves_clusterTree_mapStep hf wf _ b2,
      leaves_clusterTree_mapStep hf wf _ bp, leaves_clusterTree_mapStep hf wf _ bq,
      Finset.card_image_of_injective _ hinj, wdist_clusterTree_mapStep hπ hD wf _ _ b1 b2,
      wdist_clusterTree_mapStep hπ hD wf _ _ bp bq]
    exact ⟨(Finset.disjoint_image hinj).mpr hdis, hcAB, hcXY, h0, hle⟩
  · simp only [e1, e2, leaves_clusterTree_mapStep hf wf _ b1, leaves_clusterTree_mapStep hf wf _ b2,
      leaves_clusterTree_mapStep hf wf _ bp, leaves_clusterTree_mapStep hf wf _ bq,
      Finset.card_image_of_injective _ hinj, wdist_clusterTree_mapStep hπ hD wf _ _ b2 b1,
      wdist_clusterTree_mapStep hπ hD wf _ _ bp bq]
    rw [wdist_symm hsym, Nat.add_comm (Finset.card _)]
    exact ⟨(Finset.disjoint_image hinj).mpr hdis, hcAB, hcXY, h0, hle⟩

set_option linter.unusedSectionVars false in
theorem wgtGreedyUpTo_mapStep {D : Nat → Nat → K} {u : K} {n : Nat} {π ρ : Nat → Nat}
    (hπ : IsPerm n π ρ) (hsym : ∀ i j, D i j = D j i) {steps : List (Step α)}
    (wf : WellFormed n steps)
    (g : WgtGreedyUpTo (fun i j => D (π i) (π j)) u n steps) :
    WgtGreedyUpTo D u n (steps.map (mapStep (σ π n))) :=
  wgtGreedyUpTo_renumber hπ (fun i j => hsym (π i) (π j)) (fun _ _ _ _ => rfl) wf g

omit [IsStrictOrderedRing K] in
/-- Heights near the exact `wdist` for `D ∘ (π × π)` are, on the renumbered list, near the exact
`wdist` for `D`. -/
theorem wgtHeightsNear_mapStep {D D' : Nat → Nat → K} {u : K} {n : Nat} {π ρ : Nat → Nat}
    {val : α → K} (hπ : IsPerm n π ρ) (hsym : ∀ i j, D' i j = D' j i)
    (hD : ∀ i j, i < n → j < n → D' i j = D (π i) (π j)) {steps : List (Step α)}
    (wf : WellFormed n steps) (h : WgtHeightsNear D' u n val steps) :
    WgtHeightsNear D u n val (steps.map (mapStep (σ π n))) := by
  intro i s' hi
  obtain ⟨b, hb, rfl⟩ := getElem?_map_mapStep hi
  have hil : i < steps.length := (List.getElem?_eq_some_iff.mp hb).1
  have o := wf.ordered i b hb
  have hn := h i b hb
  rw [mapStep_d, mapStep_size]
  rcases mapStep_cases (σ π n) b with ⟨e1, e2, _⟩ | ⟨e1, e2, _⟩
  · rwa [e1, e2, wdist_clusterTree_mapStep hπ hD wf _ _ (by omega) (by omega)]
  · rwa [e1, e2, wdist_clusterTree_mapStep hπ hD wf _ _ (by omega) (by omega),
      wdist_symm hsym]

/-! ## The hierarchy -/

theorem C11_weighted_rounded_family {D : Nat → Nat → K} {u : K} {n : Nat} {π ρ : Nat → Nat}
    (hπ : IsPerm n π ρ) (hsym : ∀ i j, D i j = D j i) {s₁ s₂ : List (Step α)}
    (wf₁ : WellFormed n s₁) (wf₂ : WellFormed n s₂)
    (m₁ : WgtMarginAlong D u n s₁) (g₂ : WgtGreedyUpTo (fun i j => D (π i) (π j)) u n s₂) :
    ∀ (i : Nat) (a b : Step α), s₁[i]? = some a → s₂[i]? = some b →
      (Spec.leaves n s₁ s₁.length (n + i)).toFinset =
        (Spec.leaves n s₂ s₂.length (n + i)).toFinset.image π ∧ a.size = b.size :=
  family_of_labAgree hπ wf₁ wf₂
    (C06_weighted_rounded_labels_unique wf₁ (wellFormed_mapStep (σ_labelMap hπ) wf₂) m₁
      (wgtGreedyUpTo_mapStep hπ hsym wf₂ g₂))

theorem C11_weighted_rounded_heights {D D' : Nat → Nat → K} {u : K} {n : Nat} {π ρ : Nat → Nat}
    {val : α → K} (hu : u < 1)
    (hπ : IsPerm n π ρ) (hsym : ∀ i j, D' i j = D' j i)
    (hD : ∀ i j, i < n → j < n → D' i j = D (π i) (π j)) {s₁ s₂ : List (Step α)}
    (wf₁ : WellFormed n s₁) (wf₂ : WellFormed n s₂)
    (m₁ : WgtMarginAlong D u n s₁) (g₂ : WgtGreedyUpTo D' u n s₂)
    (h₁ : WgtHeightsNear D u n val s₁) (h₂ : WgtHeightsNear D' u n val s₂) :
    ∀ (i : Nat) (a b : Step α), s₁[i]? = some a → s₂[i]? = some b →
      a.size = b.size ∧ Near u (2 * (2 * (a.size - 2))) (val a.d) (val b.d) := by
  have wf₂' := wellFormed_mapStep (σ_labelMap hπ) wf₂
  intro i a b ha hb
  have r := (C06_weighted_rounded_agree hu wf₁ wf₂' m₁ (wgtGreedyUpTo_renumber hπ hsym hD wf₂ g₂) h₁
    (wgtHeightsNear_mapStep hπ hsym hD wf₂ h₂)).2 i a (mapStep (σ π n) b) ha
    (by rw [List.getElem?_map, hb]; rfl)
  rw [mapStep_d, mapStep_size] at r
  exact r.2.2

/-! ## Entry point: `linkage_with(Weighted)` on the original and on the renumbered matrix -/

theorem C11_linkage_weighted_rounded (L : OrderLaws α) {val : α → K} {fin : α → Prop}
    {u lo hi : K} {N : Nat} (RM : Round.Model val fin u lo hi N)
    {ok : α → Prop} (hge : ChainGeOn ok .weighted)
    (chk chk' : Bool) (st st' : State α) (d d' : Dendrogram α) (data data' : Array α) (n : Nat)
    (h2 : 2 ≤ n) (hs : n < 2147483648) (hl : 2 * data.size = n * (n - 1))
    (hl' : 2 * data'.size = n * (n - 1))
    {π ρ : Nat → Nat} (hπ : IsPerm n π ρ)
    (hperm : ∀ i j, i < n → j < n →
      entry n data' Num.infinity i j = entry n data Num.infinity (π i) (π j))
    {dlo dhi : K} (hdlo : 0 < dlo)
    (hdata : ∀ (k : Nat) (h : k < data.size), fin data[k] ∧ dlo ≤ val data[k] ∧ val data[k] ≤ dhi)
    (hdata' : ∀ (k : Nat) (h : k < data'.size), fin data'[k] ∧ dlo ≤ val data'[k] ∧ val data'[k] ≤ dhi)
    (Rg : RangeOkW u lo hi n dlo dhi)
    (hok : ∀ v, fin v → dlo * (1 - u) ^ (2 * n) ≤ val v → val v ≤ dhi / (1 - u) ^ (2 * n) → ok v) :
    ∃ s₁ e M₁ s₂ e' M₂,
      linkageWith chk .weighted st d data n = .ok (s₁, e, M₁) ∧
      linkageWith chk' .weighted st' d' data' n = .ok (s₂, e', M₂) ∧
      (WgtMarginAlong (valD val n data) u n e.steps.toList →
        ∀ (i : Nat) (a b : Step α), e.steps.toList[i]? = some a → e'.steps.toList[i]? = some b →
          (Spec.leaves n e.steps.toList e.steps.toList.length (n + i)).toFinset =
            (Spec.leaves n e'.steps.toList e'.steps.toList.length (n + i)).toFinset.image π ∧
          a.size = b.size ∧ Near u (2 * (2 * (a.size - 2))) (val a.d) (val b.d)) := by
  obtain ⟨s₁, e, M₁, r₁, wf₁, _, h₁⟩ :=
    wgtRun_of_greedySw RM (baseOkW_valD data n hs hl hdlo hdata)
      (linkage_weighted_greedySw L RM hge chk st d data n h2 hs hl hdlo hdata Rg hok)
  obtain ⟨s₂, e', M₂, r₂, wf₂, g₂, h₂⟩ :=
    wgtRun_of_greedySw RM (baseOkW_valD data' n hs hl' hdlo hdata')
      (linkage_weighted_greedySw L RM hge chk' st' d' data' n h2 hs hl' hdlo hdata' Rg hok)
  refine ⟨s₁, e, M₁, s₂, e', M₂, r₁, r₂, fun m₁ i a b ha hb => ?_⟩
  have hsym := valD_symm val n data'
  have hD := valD_perm (val := val) hperm
  exact ⟨(family_of_labAgree hπ wf₁ wf₂ (C06_weighted_rounded_labels_unique wf₁
      (wellFormed_mapStep (σ_labelMap hπ) wf₂) m₁ (wgtGreedyUpTo_renumber hπ hsym hD wf₂ g₂)) i a b ha hb).1,
    C11_weighted_rounded_heights RM.u_lt_one hπ hsym hD wf₁ wf₂ m₁ g₂ h₁ h₂ i a b ha hb⟩

end Kodama
