/-
C06 for SINGLE and COMPLETE linkage WITHOUT `LtTrichotomy` — see `Props/C03Quotient.lean` for the
quotient + naturality argument (`quotient_transfer`, `C03_single_complete_upTo`).

* `C06_single_complete_agree_upTo`   on an input that is tie-free in the quotient (`TieFreeFrom` along a
  greedy-valid reference run `steps₀` of the projected input), `primitive_with` and `nnchain_with`
  return the SAME labels and sizes in the same order and order-equivalent heights: the projections of
  the outputs ARE `steps₀`.  Hypotheses: `OrderLaws α`, no NaN, `BeqOrd α`.  (`linkage_with` is not in
  the statement; for complete linkage it is `nnchain_with` by `linkageWith_eq_nnchainWith`.)
-/
import Kodama.Props.C03Quotient
import Kodama.Props.C06
namespace Kodama
open Spec
variable {α : Type} [Num α]

/-- `C06_single_complete_agree_upTo` for both entry points at once. -/
theorem agree_upTo (L : OrderLaws α) (hnan : ∀ x : α, Num.isNaN x = false)
    (B : BeqOrd α) {m : Method} (hm : m.selectsOnly) (data : Array α) (n : Nat) (h2 : 2 ≤ n)
    (hs : n < 2147483648) (hl : 2 * data.size = n * (n - 1))
    (steps₀ : List (Step (OrdQ L hnan)))
    (h₀ : @GreedyValid _ (ordQNum L hnan) m n (data.map (OrdQ.mk L hnan)) steps₀)
    (htf : @TieFreeFrom _ (ordQNum L hnan) m
      (@init _ (ordQNum L hnan) m n (data.map (OrdQ.mk L hnan))) steps₀)
    {alg : Alg} (ha : alg = .primitive ∨ alg = .nnchain) (chk : Bool) (st : State α)
    (d : Dendrogram α) :
    ∃ st' d' M', runWith chk alg m st d data n = .ok (st', d', M') ∧
      d'.steps.toList.map (mapStep (OrdQ.mk L hnan)) = steps₀ :=
  let _ : Num (OrdQ L hnan) := ordQNum L hnan
  exists_ok_imp (greedyValid_upTo L hnan B hm ha chk st d data n h2 hs hl)
    fun _ hg => (C06_unique m n _ steps₀ _ h₀ hg htf).symm

theorem C06_single_complete_agree_upTo (L : OrderLaws α) (hnan : ∀ x : α, Num.isNaN x = false)
    (B : BeqOrd α) {m : Method} (hm : m.selectsOnly) (data : Array α) (n : Nat) (h2 : 2 ≤ n)
    (hs : n < 2147483648) (hl : 2 * data.size = n * (n - 1))
    (steps₀ : List (Step (OrdQ L hnan)))
    (h₀ : @GreedyValid _ (ordQNum L hnan) m n (data.map (OrdQ.mk L hnan)) steps₀)
    (htf : @TieFreeFrom _ (ordQNum L hnan) m
      (@init _ (ordQNum L hnan) m n (data.map (OrdQ.mk L hnan))) steps₀) :
    (∀ (chk : Bool) (st : State α) (d : Dendrogram α),
      ∃ st' d' M', primitiveWith chk m st d data n = .ok (st', d', M') ∧
        d'.steps.toList.map (mapStep (OrdQ.mk L hnan)) = steps₀) ∧
    (∀ mc : MethodChain, m.intoMethodChain = some mc → ∀ (chk : Bool) (st : State α) (d : Dendrogram α),
      ∃ st' d' M', nnchainWith chk mc st d data n = .ok (st', d', M') ∧
        d'.steps.toList.map (mapStep (OrdQ.mk L hnan)) = steps₀) :=
  ⟨agree_upTo L hnan B hm data n h2 hs hl steps₀ h₀ htf (Or.inl rfl), fun _ hmc chk st d =>
    runWith_nnchain hmc chk st d data n ▸
      agree_upTo L hnan B hm data n h2 hs hl steps₀ h₀ htf (Or.inr rfl) chk st d⟩

end Kodama
