/-
C11 for SINGLE and COMPLETE linkage under hypotheses an IEEE float type satisfies (companion of
`Props/C03NaNFree.lean`, `C04NaNFree.lean`, `C06NaNFree.lean`).

* `C11_single_complete_float`   `data'` is the matrix of the renumbered observations, neither matrix has a NaN
  entry; if the input is tie-free read over the non-NaN subtype modulo order-equivalence (`TieFreeFrom` along a
  greedy-valid reference run `steps₀` of the projected `data`), `primitive_with` and `nnchain_with` applied to
  `data'` return steps that are images of steps `l` over `NonNaN α` with
  `steps₀ = (l projected).map (mapStep (σ π n))`: renumbering only renumbers.  Hypotheses: `OrderLaws α`,
  `BeqOrdOn α`, non-NaN sentinels — no type-level "no NaN", no trichotomy.
-/
import Kodama.Props.C03NaNFree
import Kodama.Props.C11Quotient
namespace Kodama
open Spec
variable {α : Type} [Num α]

theorem C11_single_complete_float (L : OrderLaws α) (B : BeqOrdOn α)
    (hmax : Num.isNaN (Num.maxValue : α) = false) (hinf : Num.isNaN (Num.infinity : α) = false)
    {m : Method} (hm : m.selectsOnly) (data data' : Array α) (n : Nat) (h2 : 2 ≤ n)
    (hs : n < 2147483648) (hl' : 2 * data'.size = n * (n - 1))
    (hdata : ∀ x ∈ data, Num.isNaN x = false) (hdata' : ∀ x ∈ data', Num.isNaN x = false)
    {π ρ : Nat → Nat} (hπ : IsPerm n π ρ)
    (hperm : ∀ i j, i < n → j < n →
      entry n data' Num.infinity i j = entry n data Num.infinity (π i) (π j)) :
    letI : Num (NonNaN α) := nnNum hmax hinf
    let Ls := nn_orderLaws hmax hinf L
    let hn := nn_noNaN hmax hinf (α := α)
    ∀ (steps₀ : List (Step (OrdQ Ls hn))),
      @GreedyValid _ (ordQNum Ls hn) m n ((nnData data hdata).map (OrdQ.mk Ls hn)) steps₀ →
      @TieFreeFrom _ (ordQNum Ls hn) m
        (@init _ (ordQNum Ls hn) m n ((nnData data hdata).map (OrdQ.mk Ls hn))) steps₀ →
      (∀ (chk : Bool) (st : State α) (d : Dendrogram α),
        ∃ st' e' M', primitiveWith chk m st d data' n = .ok (st', e', M') ∧
          ∃ l : List (Step (NonNaN α)), e'.steps.toList = l.map (mapStep Subtype.val) ∧
            steps₀ = (l.map (mapStep (OrdQ.mk Ls hn))).map (Spec.mapStep (σ π n))) ∧
      (∀ mc : MethodChain, m.intoMethodChain = some mc →
        ∀ (chk : Bool) (st : State α) (d : Dendrogram α),
          ∃ st' e' M', nnchainWith chk mc st d data' n = .ok (st', e', M') ∧
            ∃ l : List (Step (NonNaN α)), e'.steps.toList = l.map (mapStep Subtype.val) ∧
              steps₀ = (l.map (mapStep (OrdQ.mk Ls hn))).map (Spec.mapStep (σ π n))) := by
  intro Ls hn steps₀ h₀ ht
  let : Num (NonNaN α) := nnNum hmax hinf
  have hlS : 2 * (nnData data' hdata').size = n * (n - 1) := by rw [nnData_size]; exact hl'
  -- the renumbering relation between the two matrices over the subtype
  have hpermS : ∀ i j, i < n → j < n →
      entry n (nnData data' hdata') Num.infinity i j =
        entry n (nnData data hdata) Num.infinity (π i) (π j) := by
    intro i j hi hj
    apply Subtype.ext
    have e1 := entry_map (Subtype.val : NonNaN α → α) n (nnData data' hdata') Num.infinity i j
    have e2 := entry_map (Subtype.val : NonNaN α → α) n (nnData data hdata) Num.infinity (π i) (π j)
    rw [nnData_map] at e1 e2
    change entry n data' Num.infinity i j = _ at e1
    change entry n data Num.infinity (π i) (π j) = _ at e2
    rw [← e1, ← e2]
    exact hperm i j hi hj
  have pair := fun (chk : Bool) (st : State α) (d : Dendrogram α) =>
    nonNaN_transfer_pair hmax hinf hm chk st d data' n hdata'
      (fun l => steps₀ = (l.map (mapStep (OrdQ.mk Ls hn))).map (Spec.mapStep (σ π n)))
      fun alg ha => renumber_upTo Ls hn (nn_beqOrd hmax hinf B) hm (nnData data hdata)
        (nnData data' hdata') n h2 hs hlS hπ hpermS steps₀ h₀ ht ha chk State.new (Dendrogram.new 0)
  exact ⟨fun chk st d => (pair chk st d).1, fun mc hmc chk st d => (pair chk st d).2 mc hmc⟩

end Kodama
