/-
C12 (totality: no panic) for WARD linkage through `nnchain_with` / `linkage_with`, for EVERY
ordered number type.

`C12_nnchain_ok` / `C12_nnchain_total` take the hypothesis `ChainReducible α .ward`.  For the plain quotient
`((sx+sa)·a + (sx+sb)·b − sx·c)/(sa+sb+sx)` it is FALSE for IEEE floats (`Props/C01Ward.lean`): the
chain then revisits a cluster and a dead cluster is merged — release builds return an invalid
dendrogram, debug builds hit an assertion.
`method::ward` clamps the quotient from below by the smaller argument whenever the merged distance is
not above it; for that formula `ChainReducible α .ward` is a THEOREM from `OrderLaws α` plus the
no-NaN-generation hypothesis (`chainReducible_ward`, `Lemmas/ChainIter.lean`; `Gen.ward_not_lt`,
`Lemmas/WardClamp.lean`) — no field law, no exact arithmetic.

Proved here (by instantiating `C12_nnchain_ok` / `C12_nnchain_total` / `C12_linkage_ok`), for every
valid matrix (2 ≤ n < 2^31, 2·len = n(n−1)), both build modes, every prior state:

* `C12_nnchain_ward_ok`     `nnchainWith chk .ward …` RETURNS NORMALLY: no index out of bounds, no
                            failed (debug) assertion, no `unwrap` on `None`, no overflow, the fuel of
                            the inner `loop` is never exhausted, no NaN reaches the sort;
* `C12_nnchain_ward_total`  the same in the "ok or nanInSort" form of the other C12 theorems;
* `C12_linkage_ward_ok`     the same through `linkageWith chk .ward`.

Hypotheses (explicit): `OrderLaws α` (true of IEEE `<`), `hsq` (no SQUARED input entry is NaN — Ward
squares the input; for floats: no NaN in the input), `WardNoNaN α` (the update of non-NaN values with
`d(a,b) ≤ d(x,a), d(x,b)` and positive sizes is not NaN; for floats: the numerator does not overflow to
`∞ − ∞`; hypothesis, not proved for floats).

NOT proved: `WardNoNaN` for floats; weighted: `Props/C12Weighted.lean`; average: `Props/C12Average.lean`.
-/
import Kodama.Props.C12
import Kodama.Props.C01Ward
namespace Kodama
open Spec
variable {α : Type} [Num α]

/-- **C12, Ward linkage through `nnchain_with`, any ordered number type**: returns normally. -/
theorem C12_nnchain_ward_ok (L : OrderLaws α) (hn : WardNoNaN α) (chk : Bool)
    (st : State α) (d : Dendrogram α) (data : Array α) (n : Nat) (h2 : 2 ≤ n)
    (hs : n < 2147483648) (hl : 2 * data.size = n * (n - 1))
    (hsq : ∀ (i : Nat) (h : i < data.size), Num.isNaN (Num.mul data[i] data[i]) = false) :
    ∃ r, nnchainWith chk .ward st d data n = .ok r :=
  C12_nnchain_ok L chk .ward (chainReducible_ward L hn) st d data n h2 hs hl
    (noNaNData_squareData_ward hsq)

/-- The same in the form of `C12_nnchain_total` / `C12_mst_total` / `C12_primitive_total`. -/
theorem C12_nnchain_ward_total (L : OrderLaws α) (hn : WardNoNaN α) (chk : Bool)
    (st : State α) (d : Dendrogram α) (data : Array α) (n : Nat) (h2 : 2 ≤ n)
    (hs : n < 2147483648) (hl : 2 * data.size = n * (n - 1))
    (hsq : ∀ (i : Nat) (h : i < data.size), Num.isNaN (Num.mul data[i] data[i]) = false) :
    (∃ r, nnchainWith chk .ward st d data n = .ok r) ∨
      nnchainWith chk .ward st d data n = .error .nanInSort :=
  C12_nnchain_total L chk .ward (chainReducible_ward L hn) st d data n h2 hs hl
    (noNaNData_squareData_ward hsq)

/-- Through `linkage_with` (dispatched to `nnchain_with`). -/
theorem C12_linkage_ward_ok (L : OrderLaws α) (hn : WardNoNaN α) (chk : Bool)
    (st : State α) (d : Dendrogram α) (data : Array α) (n : Nat) (h2 : 2 ≤ n)
    (hs : n < 2147483648) (hl : 2 * data.size = n * (n - 1))
    (hsq : ∀ (i : Nat) (h : i < data.size), Num.isNaN (Num.mul data[i] data[i]) = false) :
    ∃ r, linkageWith chk .ward st d data n = .ok r :=
  C12_linkage_ok L chk .ward .ward (by decide) rfl (chainReducible_ward L hn) st d data n
    h2 hs hl (noNaNData_squareData_ward hsq)

/-! ### Non-vacuity (toy exact number type, a valid 4-point matrix) -/

section NonVacuity
attribute [local instance] Toy.natNum

example : ∃ r, nnchainWith true .ward State.new (Dendrogram.new 4)
    (#[5, 2, 9, 7, 4, 1] : Array Nat) 4 = .ok r :=
  C12_nnchain_ward_ok Toy.natOrderLaws (wardNoNaN_of_noNaN fun _ => rfl) true _ _ _ 4
    (by decide) (by decide) (by decide) (fun _ _ => rfl)

/-- … and on the rounding toy type on which the UNCLAMPED quotient is not reducible
(`UnclampedWardDefect.unclamped_not_reducible`, `Props/C01Ward.lean`). -/
example : ∃ r, @nnchainWith Nat UnclampedDefect.truncNum true .ward State.new (Dendrogram.new 4)
    (#[5, 2, 9, 7, 4, 1] : Array Nat) 4 = .ok r :=
  @C12_nnchain_ward_ok Nat UnclampedDefect.truncNum UnclampedDefect.truncNum_orderLaws
    (@wardNoNaN_of_noNaN _ UnclampedDefect.truncNum fun _ => rfl) true _ _ _ 4
    (by decide) (by decide) (by decide) (fun _ _ => rfl)

end NonVacuity

end Kodama
