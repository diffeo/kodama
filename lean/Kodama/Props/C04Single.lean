/-
C04 — single linkage is exact, for two more entry points that accept `Method::Single`:
`nnchain_with(.., MethodChain::Single, ..)` and `generic_with(.., Method::Single, ..)`.
(`mst_with`, `linkage_with(Single)` and `primitive_with(Single)`: `C04_mst`, `C04_linkage_single`,
`C04_primitive` in `Props/C04.lean`.)

## Statement (same conclusion as `C04_primitive` / `C04_mst`)
The call returns, and for EVERY level `h` (not only the heights that occur) and observations
`u, v < n`: `u`, `v` are joined by the returned steps of height `≤ h`
(`SameCluster n steps h u v`: `u = v`, or some step `k` with `¬ h < d_k` has both among the
`Spec.leaves` of its new label `n+k`) IFF they are connected in the threshold graph `entry u v ≤ h`
(`Reach n data h u v`).  `_count` forms: the returned heights are non-decreasing and the number of
steps of height `≤ h` is `n −` the number of connected components of the threshold graph at `h`.
Both build modes, every prior state, every valid matrix `2 ≤ n < 2^31`, `2·len = n(n−1)`.

## Hypotheses (abstract number type `α`; explicit, never axioms)
* `C04_nnchain_single`, `C04_nnchain_single_count`:  `OrderLaws α`, `LtTrichotomy α` (incomparable ⇒
  equal), `∀ x, Num.isNaN x = false` — the hypotheses of `C03_nnchain_single_laws`.
  `C04_nnchain_single_order`: the equivalent `[LinearOrder α]` + `OrderNum α` form.
* `C04_generic_single`, `C04_generic_single_count`:  `OrderLaws α`, `LtTrichotomy α`, `BeqLe α`
  (`a == b → ¬ b < a`), `GoodSet G` (members non-NaN, `< T::max_value()`, `v == v`), `max_value` not
  NaN, all input entries in `G` — the hypotheses of `C03_generic_single`.  `NoNaN n data` is derived
  from them (`noNaN_of_good`).
  `LtTrichotomy` is FALSE for IEEE floats (`±0`, NaN): as for `C04_primitive`, these are
  exact-order statements (for floats: about inputs on which incomparable values are equal).  It is
  inherited from `C03_nnchain_single_laws` / `C03_generic_single`, which prove `Spec.GreedyValid`
  (recorded height EQUAL to the table value); `C04_of_greedy` itself needs only `OrderLaws` and
  `NoNaN`.  The NaN/±0-robust statement for single linkage is `C04_mst` (`OrderLaws`, `NoNaN`,
  `InfTop` only).
* `C04_nnchain_single_exact`, `C04_generic_single_exact`: exact arithmetic (`ExactLaws K`); nnchain:
  no further hypothesis; generic: `BeqExact K` and "every entry `< T::max_value()`".

Proof: `C03_nnchain_single_laws` / `C03_generic_single` (`Spec.GreedyValid .single`) +
`C04_of_greedy` / `C04_heights_sorted` / `C04_count` (`Props/C04.lean`).

Without `LtTrichotomy` (floats with `±0`): the `_noTri` theorems of `Props/C04Quotient.lean`; without the
type-level "no NaN" as well: the `_float` theorems of `Props/C04NaNFree.lean`.
-/
import Kodama.Props.C03Nnchain
import Kodama.Props.C04
import Kodama.Lemmas.ComposePerm
import Kodama.Lemmas.ComposeExample
namespace Kodama
open Spec
variable {α : Type} [Num α]

theorem C04_nnchain_single (L : OrderLaws α) (T : LtTrichotomy α)
    (hnan : ∀ x : α, Num.isNaN x = false) (chk : Bool) (st : State α) (d : Dendrogram α)
    (data : Array α) (n : Nat) (h2 : 2 ≤ n) (hs : n < 2147483648)
    (hl : 2 * data.size = n * (n - 1)) :
    ∃ st' d' M', nnchainWith chk .single st d data n = .ok (st', d', M') ∧
      ∀ (h : α) (u v : Nat), u < n →
        (SameCluster n d'.steps.toList h u v ↔ Reach n data h u v) :=
  exists_ok_imp (C03_nnchain_single_laws L T hnan chk st d data n h2 hs hl)
    fun _ hg h u v hu => C04_of_greedy L n data _ (fun _ _ _ _ _ => hnan _) hg h u v hu

theorem C04_nnchain_single_count (L : OrderLaws α) (T : LtTrichotomy α)
    (hnan : ∀ x : α, Num.isNaN x = false) (chk : Bool) (st : State α) (d : Dendrogram α)
    (data : Array α) (n : Nat) (h2 : 2 ≤ n) (hs : n < 2147483648)
    (hl : 2 * data.size = n * (n - 1)) :
    ∃ st' d' M', nnchainWith chk .single st d data n = .ok (st', d', M') ∧
      d'.steps.toList.Pairwise (fun s t => Num.lt t.d s.d = false) ∧
      ∀ h : α, ∃ reps : List Nat,
        (d'.steps.toList.filter (fun st => !Num.lt h st.d)).length + reps.length = n ∧
        (∀ r ∈ reps, r < n) ∧
        reps.Pairwise (fun r r' => ¬ Reach n data h r r') ∧
        (∀ u, u < n → ∃ r ∈ reps, Reach n data h u r) := by
  have hnn : NoNaN n data := fun _ _ _ _ _ => hnan _
  exact exists_ok_imp (C03_nnchain_single_laws L T hnan chk st d data n h2 hs hl)
    fun _ hg => ⟨C04_heights_sorted L n data _ hnn hg, fun h => C04_count L n data _ hnn hg h⟩

/-- `C04_nnchain_single` over a linearly ordered number type whose `Num.lt` is the order. -/
theorem C04_nnchain_single_order {β : Type} [LinearOrder β] [Num β] (O : OrderNum β)
    (hnan : ∀ x : β, Num.isNaN x = false) (chk : Bool) (st : State β) (d : Dendrogram β)
    (data : Array β) (n : Nat) (h2 : 2 ≤ n) (hs : n < 2147483648)
    (hl : 2 * data.size = n * (n - 1)) :
    ∃ st' d' M', nnchainWith chk .single st d data n = .ok (st', d', M') ∧
      ∀ (h : β) (u v : Nat), u < n →
        (SameCluster n d'.steps.toList h u v ↔ Reach n data h u v) :=
  C04_nnchain_single O.orderLaws O.ltTrichotomy hnan chk st d data n h2 hs hl

section Generic
variable {G : α → Prop}

theorem C04_generic_single (L : OrderLaws α) (T : LtTrichotomy α) (hbeq : BeqLe α)
    (gs : GoodSet G) (chk : Bool) (hmax : Num.isNaN (Num.maxValue : α) = false)
    (st : State α) (d : Dendrogram α) (data : Array α) (n : Nat) (h2 : 2 ≤ n)
    (hs : n < 2147483648) (hl : 2 * data.size = n * (n - 1))
    (hin : ∀ i (h : i < (squareData .single data).size), G (squareData .single data)[i]) :
    ∃ st' d' M', genericWith chk .single st d data n = .ok (st', d', M') ∧
      ∀ (h : α) (u v : Nat), u < n →
        (SameCluster n d'.steps.toList h u v ↔ Reach n data h u v) := by
  have hnn : NoNaN n data := noNaN_of_good gs .single rfl n data hl hin
  exact exists_ok_imp (C03_generic_single L T hbeq gs chk hmax st d data n h2 hs hl hin)
    fun _ hg h u v hu => C04_of_greedy L n data _ hnn hg h u v hu

theorem C04_generic_single_count (L : OrderLaws α) (T : LtTrichotomy α) (hbeq : BeqLe α)
    (gs : GoodSet G) (chk : Bool) (hmax : Num.isNaN (Num.maxValue : α) = false)
    (st : State α) (d : Dendrogram α) (data : Array α) (n : Nat) (h2 : 2 ≤ n)
    (hs : n < 2147483648) (hl : 2 * data.size = n * (n - 1))
    (hin : ∀ i (h : i < (squareData .single data).size), G (squareData .single data)[i]) :
    ∃ st' d' M', genericWith chk .single st d data n = .ok (st', d', M') ∧
      d'.steps.toList.Pairwise (fun s t => Num.lt t.d s.d = false) ∧
      ∀ h : α, ∃ reps : List Nat,
        (d'.steps.toList.filter (fun st => !Num.lt h st.d)).length + reps.length = n ∧
        (∀ r ∈ reps, r < n) ∧
        reps.Pairwise (fun r r' => ¬ Reach n data h r r') ∧
        (∀ u, u < n → ∃ r ∈ reps, Reach n data h u r) := by
  have hnn : NoNaN n data := noNaN_of_good gs .single rfl n data hl hin
  exact exists_ok_imp (C03_generic_single L T hbeq gs chk hmax st d data n h2 hs hl hin)
    fun _ hg => ⟨C04_heights_sorted L n data _ hnn hg, fun h => C04_count L n data _ hnn hg h⟩

end Generic

/-- **`nnchain_with(Single)`, `generic_with(Single)` and `primitive_with(Single)` cut identically at
every level** (all three are the threshold components). -/
theorem C04_single_same_cuts {G : α → Prop} (L : OrderLaws α) (T : LtTrichotomy α)
    (hnan : ∀ x : α, Num.isNaN x = false) (hbeq : BeqLe α) (gs : GoodSet G)
    (chk₁ chk₂ chk₃ : Bool) (st₁ st₂ st₃ : State α) (d₁ d₂ d₃ : Dendrogram α) (data : Array α)
    (n : Nat) (h2 : 2 ≤ n) (hs : n < 2147483648) (hl : 2 * data.size = n * (n - 1))
    (hin : ∀ i (h : i < (squareData .single data).size), G (squareData .single data)[i]) :
    ∃ sc dc Mc sg dg Mg sp dp Mp,
      nnchainWith chk₁ .single st₁ d₁ data n = .ok (sc, dc, Mc) ∧
      genericWith chk₂ .single st₂ d₂ data n = .ok (sg, dg, Mg) ∧
      primitiveWith chk₃ .single st₃ d₃ data n = .ok (sp, dp, Mp) ∧
      ∀ (h : α) (u v : Nat), u < n →
        (SameCluster n dc.steps.toList h u v ↔ SameCluster n dg.steps.toList h u v) ∧
        (SameCluster n dc.steps.toList h u v ↔ SameCluster n dp.steps.toList h u v) := by
  obtain ⟨sc, dc, Mc, hc, hcc⟩ := C04_nnchain_single L T hnan chk₁ st₁ d₁ data n h2 hs hl
  obtain ⟨sg, dg, Mg, hg, hcg⟩ :=
    C04_generic_single L T hbeq gs chk₂ (hnan _) st₂ d₂ data n h2 hs hl hin
  obtain ⟨sp, dp, Mp, hp, hcp⟩ :=
    C04_primitive L T chk₃ st₃ d₃ data n h2 hs hl (fun _ _ _ _ _ => hnan _)
  exact ⟨sc, dc, Mc, sg, dg, Mg, sp, dp, Mp, hc, hg, hp, fun h u v hu =>
    ⟨(hcc h u v hu).trans (hcg h u v hu).symm, (hcc h u v hu).trans (hcp h u v hu).symm⟩⟩

section Exact
variable {K : Type} [Field K] [LinearOrder K] [Num K]

/-- `C04_nnchain_single` in exact arithmetic: no hypothesis besides the shape of the input. -/
theorem C04_nnchain_single_exact (E : ExactLaws K) (chk : Bool) (st : State K)
    (d : Dendrogram K) (data : Array K) (n : Nat) (h2 : 2 ≤ n) (hs : n < 2147483648)
    (hl : 2 * data.size = n * (n - 1)) :
    ∃ st' d' M', nnchainWith chk .single st d data n = .ok (st', d', M') ∧
      ∀ (h : K) (u v : Nat), u < n →
        (SameCluster n d'.steps.toList h u v ↔ Reach n data h u v) :=
  C04_nnchain_single E.field.orderLaws E.field.ltTrichotomy E.noNaN chk st d data n h2 hs hl

/-- `C04_generic_single` in exact arithmetic: `==` is equality and every entry is strictly below
`T::max_value()`. -/
theorem C04_generic_single_exact (E : ExactLaws K) (B : BeqExact K) (chk : Bool) (st : State K)
    (d : Dendrogram K) (data : Array K) (n : Nat) (h2 : 2 ≤ n) (hs : n < 2147483648)
    (hl : 2 * data.size = n * (n - 1)) (hin : ∀ v ∈ data.toList, v < (Num.maxValue : K)) :
    ∃ st' d' M', genericWith chk .single st d data n = .ok (st', d', M') ∧
      ∀ (h : K) (u v : Nat), u < n →
        (SameCluster n d'.steps.toList h u v ↔ Reach n data h u v) :=
  C04_generic_single (G := fun v : K => v < (Num.maxValue : K)) E.field.orderLaws
    E.field.ltTrichotomy (B.beqLe E) (goodSet_exact B E (fun _ h => h)) chk (E.noNaN _) st d data
    n h2 hs hl (squareData_good (G := fun v : K => v < (Num.maxValue : K)) .single data
      (fun v hv => hin v hv))

end Exact

/-! ### Non-vacuity -/

section NonVacuity
attribute [local instance] Toy.natNum

/-- Condensed matrix `d01=5 d02=9 d03=7 d12=8 d13=6 d23=1` over the toy numbers `Nat`
(`max_value = 10^6`): all hypotheses of `C04_single_same_cuts` hold together. -/
example : ∃ sc dc Mc sg dg Mg sp dp Mp,
    nnchainWith true .single State.new (Dendrogram.new 0) (#[5, 9, 7, 8, 6, 1] : Array Nat) 4
      = .ok (sc, dc, Mc) ∧
    genericWith false .single State.new (Dendrogram.new 4) (#[5, 9, 7, 8, 6, 1] : Array Nat) 4
      = .ok (sg, dg, Mg) ∧
    primitiveWith true .single State.new (Dendrogram.new 0) (#[5, 9, 7, 8, 6, 1] : Array Nat) 4
      = .ok (sp, dp, Mp) ∧
    ∀ (h : Nat) (u v : Nat), u < 4 →
      (SameCluster 4 dc.steps.toList h u v ↔ SameCluster 4 dg.steps.toList h u v) ∧
      (SameCluster 4 dc.steps.toList h u v ↔ SameCluster 4 dp.steps.toList h u v) :=
  C04_single_same_cuts Toy.natOrderLaws Toy.natTrichotomy (fun _ => rfl) Toy.natBeqLe
    GenericExample.goodSet_G true false true _ _ _ _ _ _ _ 4 (by decide) (by decide) (by decide)
    (GenericExample.good_of_lt .single _ (by decide))

end NonVacuity

section ExactExample

/-- Exact arithmetic over `ℚ` with sentinel `1000`, `d01 = 5, d02 = 2, d12 = 9`. -/
example : ∃ st' d' M',
    @genericWith ℚ (ratNumMax 1000) true .single State.new (Dendrogram.new 0) #[5, 2, 9] 3
      = .ok (st', d', M') ∧
    ∀ (h : ℚ) (u v : Nat), u < 3 →
      (@SameCluster ℚ (ratNumMax 1000) 3 d'.steps.toList h u v ↔
        @Reach ℚ (ratNumMax 1000) 3 #[5, 2, 9] h u v) :=
  @C04_generic_single_exact ℚ _ _ (ratNumMax 1000) (ratNumMax_exact 1000) (ratNumMax_beq 1000) true
    _ _ _ 3 (by decide) (by decide) (by decide) (by decide)

example : ∃ st' d' M',
    @nnchainWith ℚ (fieldNum ℚ) false .single State.new (Dendrogram.new 0) #[5, 2, 9] 3
      = .ok (st', d', M') ∧
    ∀ (h : ℚ) (u v : Nat), u < 3 →
      (@SameCluster ℚ (fieldNum ℚ) 3 d'.steps.toList h u v ↔
        @Reach ℚ (fieldNum ℚ) 3 #[5, 2, 9] h u v) :=
  @C04_nnchain_single_exact ℚ _ _ (fieldNum ℚ) (exactLaws_fieldNum ℚ) false _ _ _ 3 (by decide)
    (by decide) (by decide)

end ExactExample

end Kodama
