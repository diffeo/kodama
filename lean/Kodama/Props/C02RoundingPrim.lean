/-
C02 UNDER FLOATING-POINT ROUNDING, ENTRY POINT `primitive_with` — the rounding-error theorems of
`Props/C02Rounding.lean` (average and weighted linkage through the nearest-neighbour chain) for the
O(n³) algorithm of `src/primitive.rs`, which also accepts `Method::Average` and `Method::Weighted`.
Property C02 quantifies over ALL entry points; the conclusion is word for word that of the nnchain
theorems, so the entry points compose (`C02_average_rounded_nnchain_primitive_agree`).

## What is proved

* `C02_primitive_average_rounded`   under EXACTLY the hypotheses of `C02_nnchain_average_rounded`
      (`OrderLaws α`; the standard model `Round.Model val fin u lo hi N`; a valid matrix `2 ≤ n < 2³¹`,
      `2·len = n(n−1)`; every entry finite and `0` or in `[dlo, dhi]`; `Round.RangeOk`: no overflow /
      underflow) the call `primitiveWith chk .average st d data n` RETURNS, and EVERY returned step
      `(c1, c2, h, size)` satisfies, with `A`, `B` the observation sets of the labels `c1`, `c2` in the
      returned dendrogram (`Spec.leaves`) and `mean` the EXACT mean of `val (input entry (x, y))` over the
      cross pairs `x ∈ A`, `y ∈ B` (`Crit.avg (valD val n data) A B`):

          h finite,   A ∩ B = ∅,   size = |A| + |B| ≤ n,   0 ≤ mean,
          Round.Near u (4·(size − 2)) mean (val h)

      — word for word the conclusion of the nnchain theorem (same constant `c = 4`).
* `C02_primitive_average_rounded_bounds`   the same with `Near` unfolded.
* `C02_average_rounded_agree`       the `Near` calculus has no triangle lemma; this is it:
      `Near u k A x → Near u k A y → Near u (2k) x y`  (`Round.Near.agree`).
* `C02_average_rounded_nnchain_primitive_agree`   COMPOSITION: on the same valid input both
      `nnchainWith` and `primitiveWith` return, and whenever a step of the one and a step of the other
      merge the same two observation sets, their sizes are equal and their heights are within
      `2·4·(size − 2)` rounding factors of each other.
* `C02_primitive_average_rounded_gamma`, `_1e9` (`u ≤ 2⁻⁵³`, `n ≤ 10⁶` ⇒ relative error `≤ 10⁻⁹`),
  `_1e3` (`u ≤ 2⁻²⁴`, `n ≤ 2000` ⇒ `≤ 10⁻³`): the numeric corollaries, via `one_le_mul_pow_w`
      (`Lemmas/RoundBound.lean`) exactly as for nnchain.
* `C02_primitive_weighted_rounded`  WEIGHTED linkage, strictly positive entries in `[dlo, dhi]`,
      `Round.RangeOkW`, under the same explicit reducibility hypothesis `ChainGeOn ok .weighted` as
      `C02_nnchain_weighted_rounded` (and `hok`: the domain contains the range of the run): every
      returned height is within `2·(size − 2)` factors of the recursively halved mean `Crit.wdist` of
      the original entries over the merge trees `Crit.clusterTree` of the two merged labels.
* `C02_primitive_weighted_rounded_of_halfAdd`   the same with reducibility from the monotonicity laws
      `HalfAddLaws α ok` (`Lemmas/WeightedMono.lean`).
* Non-vacuity: exact `ℚ` (`u = 0`: heights ARE the means / the halved means), the round-down toy type
  `downNum` (`u = 1/1000`, average), the round-up toy type `upNum` (weighted).

## Hypotheses, and why each is needed

As in `Props/C02Rounding.lean` (non-negativity for relative bounds, `RangeOk` for the model's laws,
no run-level "`ok`" hypothesis: finiteness of every value of the run is DERIVED).  Specific to this
entry point:

* NO reducibility is needed for termination (`C12_primitive_total`: the loop is total for any number
  operations), and none for "the matrix holds `RAvg`/`RWgt` values of the cluster trees".  Reducibility
  enters only through the SORT: `relabel` sorts the raw steps stably by height, and that is a legal
  replay of the merges only if every raw step is at least as high as the earlier steps inside its
  two clusters.  The loop invariant is the chain's (`RoundCore.inside`, `Lemmas/RoundCore.lean`): the
  merged pair is a GLOBAL minimum (`argmin_min`), in particular a pair of reciprocal nearest
  neighbours, and the update never falls below it
  (`LwGeOn`: for the clamped average a theorem of `OrderLaws`, `Gen.average_not_lt`; for the
  midpoint `half·(a+b)` the hypothesis `ChainGeOn ok .weighted`, as for nnchain).

## What is NOT proved

* That IEEE-754 arithmetic satisfies `Round.Model` (textbook; hypothesis), and that it satisfies
  `ChainGeOn ok .weighted` / `HalfAddLaws` (monotone rounding; sampled, hypothesis) — as in
  `Props/C02Rounding.lean`.
* `generic_with` needs extra hypotheses and is `Props/C02RoundingGeneric.lean`; Ward / centroid /
  median (cancellation); single / complete (exact, no rounding analysis needed).
* That the two entry points return THE SAME clusters: under rounding they need not (near-ties may be
  resolved differently); `C02_average_rounded_nnchain_primitive_agree` is conditional on a step of
  each merging the same two sets.

## Proof

`Lemmas/MergeFacts.lean`: `primIter_facts` (one iteration in `Mat.dval` form: `argmin_min`,
`primitiveIter_spec`, `updateRows_dval_of_ok`); `Lemmas/RoundCore.lean`: `RoundCore` / `roundCore_step` (the
invariant above, for any relation propagated by the update: `Crit.LWCompat`) and the loop
`roundLoop_of_step`; `Lemmas/RoundGreedyChain.lean`: the
sort/relabel stage `greedySw_of_core`; `Lemmas/RoundPrimitive.lean`: the whole call
`primitiveWith_greedy`.  The tree-level
relations `RAvg` (`Lemmas/RoundTree.lean`), `RWgt` (`Lemmas/RoundWeighted.lean`) and the reading of the
result (`avgNear_of_sw`, `wgtNear_of_sw`) are those of nnchain; the run itself is
`primitive_average_greedySw` / `primitive_weighted_greedySw` (`Lemmas/RoundRuns.lean`).
-/
import Kodama.Lemmas.RoundRuns
import Kodama.Lemmas.RoundExamples
import Kodama.Lemmas.RoundBound
import Kodama.Lemmas.WeightedMono
namespace Kodama
open Spec Crit MTree Finset Round

variable {K : Type} [Field K] [LinearOrder K] [IsStrictOrderedRing K]
variable {α : Type} [Num α]

/-- **Two computed heights of the same mean agree up to twice the factors**: if two entry points
return heights `x`, `y` that are both within `k` rounding factors of the same exact quantity `A`
(e.g. the mean over the cross pairs of the same two clusters, `k = 4·(size − 2)`), then `x` and `y`
are within `2k` factors of each other. -/
theorem C02_average_rounded_agree {u A x y : K} {k : Nat} (hu : u < 1) (hx : Near u k A x)
    (hy : Near u k A y) : Near u (2 * k) x y := hx.agree hu hy

/-- **C02 for average linkage through `primitive_with`, under the standard model of floating-point
arithmetic.**  Same hypotheses and same conclusion as `C02_nnchain_average_rounded`; see the file
header. -/
theorem C02_primitive_average_rounded (L : OrderLaws α) {val : α → K} {fin : α → Prop}
    {u lo hi : K} {N : Nat} (RM : Round.Model val fin u lo hi N)
    (chk : Bool) (st : State α) (d : Dendrogram α) (data : Array α) (n : Nat)
    (h2 : 2 ≤ n) (hs : n < 2147483648) (hl : 2 * data.size = n * (n - 1))
    {dlo dhi : K} (hdlo : 0 < dlo) (hdle : dlo ≤ dhi)
    (hdata : ∀ (k : Nat) (h : k < data.size), fin data[k] ∧ In0 dlo dhi (val data[k]))
    (Rg : RangeOk u lo hi N n dlo dhi) :
    ∃ st' d' M', primitiveWith chk .average st d data n = .ok (st', d', M') ∧
      ∀ (i : Nat) (s : Step α), d'.steps.toList[i]? = some s →
        let steps := d'.steps.toList
        let A := (Spec.leaves n steps steps.length s.c1).toFinset
        let B := (Spec.leaves n steps steps.length s.c2).toFinset
        fin s.d ∧ Disjoint A B ∧ s.size = A.card + B.card ∧ s.size ≤ n ∧
          0 ≤ avg (valD val n data) A B ∧
          Near u (4 * (s.size - 2)) (avg (valD val n data) A B) (val s.d) :=
  exists_ok_imp (primitive_average_greedySw L RM chk st d data n h2 hs hl hdlo hdle hdata Rg)
    fun _ h i s hi =>
      avgNear_of_sw (baseOk_valD data n h2 hs hl hdlo hdle hdata) h.1 hi (h.2 i s hi).1

theorem C02_primitive_average_rounded_bounds (L : OrderLaws α) {val : α → K} {fin : α → Prop}
    {u lo hi : K} {N : Nat} (RM : Round.Model val fin u lo hi N)
    (chk : Bool) (st : State α) (d : Dendrogram α) (data : Array α) (n : Nat)
    (h2 : 2 ≤ n) (hs : n < 2147483648) (hl : 2 * data.size = n * (n - 1))
    {dlo dhi : K} (hdlo : 0 < dlo) (hdle : dlo ≤ dhi)
    (hdata : ∀ (k : Nat) (h : k < data.size), fin data[k] ∧ In0 dlo dhi (val data[k]))
    (Rg : RangeOk u lo hi N n dlo dhi) :
    ∃ st' d' M', primitiveWith chk .average st d data n = .ok (st', d', M') ∧
      ∀ (i : Nat) (s : Step α), d'.steps.toList[i]? = some s →
        let steps := d'.steps.toList
        let A := (Spec.leaves n steps steps.length s.c1).toFinset
        let B := (Spec.leaves n steps steps.length s.c2).toFinset
        let mean := avg (valD val n data) A B
        mean * (1 - u) ^ (4 * (s.size - 2)) ≤ val s.d ∧
          val s.d * (1 - u) ^ (4 * (s.size - 2)) ≤ mean :=
  exists_ok_imp (C02_primitive_average_rounded L RM chk st d data n h2 hs hl hdlo hdle hdata Rg)
    fun _ h i s hi => (h i s hi).2.2.2.2.2

/-- **Composition of the two entry points.**  On the same valid input (hypotheses of either theorem)
both `nnchainWith` and `primitiveWith` return, and whenever a returned step `s` of the first and a
returned step `s'` of the second merge THE SAME TWO observation sets, `s.size = s'.size` and the two
heights are within `2·4·(size − 2)` rounding factors of each other. -/
theorem C02_average_rounded_nnchain_primitive_agree (L : OrderLaws α) {val : α → K}
    {fin : α → Prop} {u lo hi : K} {N : Nat} (RM : Round.Model val fin u lo hi N)
    (chk : Bool) (st : State α) (d : Dendrogram α) (data : Array α) (n : Nat)
    (h2 : 2 ≤ n) (hs : n < 2147483648) (hl : 2 * data.size = n * (n - 1))
    {dlo dhi : K} (hdlo : 0 < dlo) (hdle : dlo ≤ dhi)
    (hdata : ∀ (k : Nat) (h : k < data.size), fin data[k] ∧ In0 dlo dhi (val data[k]))
    (Rg : RangeOk u lo hi N n dlo dhi) :
    ∃ st₁ d₁ M₁ st₂ d₂ M₂,
      nnchainWith chk .average st d data n = .ok (st₁, d₁, M₁) ∧
      primitiveWith chk .average st d data n = .ok (st₂, d₂, M₂) ∧
      ∀ (i j : Nat) (s s' : Step α), d₁.steps.toList[i]? = some s → d₂.steps.toList[j]? = some s' →
        (Spec.leaves n d₁.steps.toList d₁.steps.toList.length s.c1).toFinset =
          (Spec.leaves n d₂.steps.toList d₂.steps.toList.length s'.c1).toFinset →
        (Spec.leaves n d₁.steps.toList d₁.steps.toList.length s.c2).toFinset =
          (Spec.leaves n d₂.steps.toList d₂.steps.toList.length s'.c2).toFinset →
        s.size = s'.size ∧ Near u (2 * (4 * (s.size - 2))) (val s.d) (val s'.d) := by
  have B := baseOk_valD data n h2 hs hl hdlo hdle hdata
  obtain ⟨st₁, d₁, M₁, hrun₁, wf₁, g₁⟩ :=
    nnchain_average_greedySw L RM chk st d data n h2 hs hl hdlo hdle hdata Rg
  obtain ⟨st₂, d₂, M₂, hrun₂, wf₂, g₂⟩ :=
    primitive_average_greedySw L RM chk st d data n h2 hs hl hdlo hdle hdata Rg
  refine ⟨st₁, d₁, M₁, st₂, d₂, M₂, hrun₁, hrun₂, fun i j s s' hi hj eA eB => ?_⟩
  obtain ⟨_, _, hsz₁, _, _, hn₁⟩ := avgNear_of_sw B wf₁ hi (g₁ i s hi).1
  obtain ⟨_, _, hsz₂, _, _, hn₂⟩ := avgNear_of_sw B wf₂ hj (g₂ j s' hj).1
  have hsize : s.size = s'.size := by rw [hsz₁, hsz₂, eA, eB]
  refine ⟨hsize, ?_⟩
  rw [← eA, ← eB, ← hsize] at hn₂
  exact C02_average_rounded_agree RM.u_lt_one hn₁ hn₂

/-! ## Numeric corollaries -/

/-- **Relative-error form**: every height returned by `primitive_with` is within `γ · mean` of the
exact mean whenever `4·n·u ≤ c` and `1 ≤ (1+γ)(1−c)`. -/
theorem C02_primitive_average_rounded_gamma (L : OrderLaws α) {val : α → K} {fin : α → Prop}
    {u lo hi : K} {N : Nat} (RM : Round.Model val fin u lo hi N)
    (chk : Bool) (st : State α) (d : Dendrogram α) (data : Array α) (n : Nat)
    (h2 : 2 ≤ n) (hs : n < 2147483648) (hl : 2 * data.size = n * (n - 1))
    {dlo dhi : K} (hdlo : 0 < dlo) (hdle : dlo ≤ dhi)
    (hdata : ∀ (k : Nat) (h : k < data.size), fin data[k] ∧ In0 dlo dhi (val data[k]))
    (Rg : RangeOk u lo hi N n dlo dhi)
    {c γ : K} (hc : 4 * (n : K) * u ≤ c) (hγ0 : 0 ≤ γ) (hγ : 1 ≤ (1 + γ) * (1 - c)) :
    ∃ st' d' M', primitiveWith chk .average st d data n = .ok (st', d', M') ∧
      ∀ (i : Nat) (s : Step α), d'.steps.toList[i]? = some s →
        let steps := d'.steps.toList
        let A := (Spec.leaves n steps steps.length s.c1).toFinset
        let B := (Spec.leaves n steps steps.length s.c2).toFinset
        |val s.d - avg (valD val n data) A B| ≤ γ * avg (valD val n data) A B :=
  exists_ok_imp (C02_primitive_average_rounded L RM chk st d data n h2 hs hl hdlo hdle hdata Rg)
    fun _ h i s hi => avgNear_step_tol RM.u_nonneg RM.u_lt_one (fun _ hk =>
      one_le_mul_pow_w (m := 4 * n) RM.u_nonneg RM.u_lt_one hk
        (by rwa [Nat.cast_mul, Nat.cast_ofNat]) hγ0 hγ) (h i s hi)

/-- **The tolerance of the property for `f64`, entry point `primitive_with`**: `u ≤ 2⁻⁵³`,
`n ≤ 10⁶` ⇒ every returned height is within `10⁻⁹` (relative) of the exact mean. -/
theorem C02_primitive_average_rounded_1e9 (L : OrderLaws α) {val : α → K} {fin : α → Prop}
    {u lo hi : K} {N : Nat} (RM : Round.Model val fin u lo hi N)
    (chk : Bool) (st : State α) (d : Dendrogram α) (data : Array α) (n : Nat)
    (h2 : 2 ≤ n) (hs : n < 2147483648) (hl : 2 * data.size = n * (n - 1))
    {dlo dhi : K} (hdlo : 0 < dlo) (hdle : dlo ≤ dhi)
    (hdata : ∀ (k : Nat) (h : k < data.size), fin data[k] ∧ In0 dlo dhi (val data[k]))
    (Rg : RangeOk u lo hi N n dlo dhi)
    (hu : u ≤ 1 / 2 ^ 53) (hn : n ≤ 1000000) :
    ∃ st' d' M', primitiveWith chk .average st d data n = .ok (st', d', M') ∧
      ∀ (i : Nat) (s : Step α), d'.steps.toList[i]? = some s →
        let steps := d'.steps.toList
        let A := (Spec.leaves n steps steps.length s.c1).toFinset
        let B := (Spec.leaves n steps steps.length s.c2).toFinset
        |val s.d - avg (valD val n data) A B| ≤ 1 / 1000000000 * avg (valD val n data) A B :=
  exists_ok_imp (C02_primitive_average_rounded L RM chk st d data n h2 hs hl hdlo hdle hdata Rg)
    fun _ h i s hi => avgNear_step_tol RM.u_nonneg RM.u_lt_one (fun _ hk =>
      f64_one_le_mul_pow_w RM.u_nonneg hu hn (by omega)) (h i s hi)

/-- **The tolerance of the property for `f32`, entry point `primitive_with`**: `u ≤ 2⁻²⁴`,
`n ≤ 2000` ⇒ relative error at most `10⁻³`. -/
theorem C02_primitive_average_rounded_1e3 (L : OrderLaws α) {val : α → K} {fin : α → Prop}
    {u lo hi : K} {N : Nat} (RM : Round.Model val fin u lo hi N)
    (chk : Bool) (st : State α) (d : Dendrogram α) (data : Array α) (n : Nat)
    (h2 : 2 ≤ n) (hs : n < 2147483648) (hl : 2 * data.size = n * (n - 1))
    {dlo dhi : K} (hdlo : 0 < dlo) (hdle : dlo ≤ dhi)
    (hdata : ∀ (k : Nat) (h : k < data.size), fin data[k] ∧ In0 dlo dhi (val data[k]))
    (Rg : RangeOk u lo hi N n dlo dhi)
    (hu : u ≤ 1 / 2 ^ 24) (hn : n ≤ 2000) :
    ∃ st' d' M', primitiveWith chk .average st d data n = .ok (st', d', M') ∧
      ∀ (i : Nat) (s : Step α), d'.steps.toList[i]? = some s →
        let steps := d'.steps.toList
        let A := (Spec.leaves n steps steps.length s.c1).toFinset
        let B := (Spec.leaves n steps steps.length s.c2).toFinset
        |val s.d - avg (valD val n data) A B| ≤ 1 / 1000 * avg (valD val n data) A B :=
  exists_ok_imp (C02_primitive_average_rounded L RM chk st d data n h2 hs hl hdlo hdle hdata Rg)
    fun _ h i s hi => avgNear_step_tol RM.u_nonneg RM.u_lt_one (fun _ hk =>
      f32_one_le_mul_pow_w RM.u_nonneg hu hn (by omega)) (h i s hi)

/-! ## Weighted linkage (under the same explicit reducibility hypothesis as for nnchain) -/

/-- **C02 for weighted linkage through `primitive_with`, under the standard model AND reducibility of
the weighted update on a domain** — same hypotheses and conclusion as `C02_nnchain_weighted_rounded`.
Reducibility is NOT needed for the call to return, nor for the matrix to hold `RWgt` values; it is
what makes the stable sort of `relabel` a legal replay (see the file header). -/
theorem C02_primitive_weighted_rounded (L : OrderLaws α) {val : α → K} {fin : α → Prop}
    {u lo hi : K} {N : Nat} (RM : Round.Model val fin u lo hi N)
    {ok : α → Prop} (hge : ChainGeOn ok .weighted)
    (chk : Bool) (st : State α) (d : Dendrogram α) (data : Array α) (n : Nat)
    (h2 : 2 ≤ n) (hs : n < 2147483648) (hl : 2 * data.size = n * (n - 1))
    {dlo dhi : K} (hdlo : 0 < dlo)
    (hdata : ∀ (k : Nat) (h : k < data.size),
      fin data[k] ∧ dlo ≤ val data[k] ∧ val data[k] ≤ dhi)
    (Rg : RangeOkW u lo hi n dlo dhi)
    (hok : ∀ v, fin v → dlo * (1 - u) ^ (2 * n) ≤ val v → val v ≤ dhi / (1 - u) ^ (2 * n) → ok v) :
    ∃ st' d' M', primitiveWith chk .weighted st d data n = .ok (st', d', M') ∧
      ∀ (i : Nat) (s : Step α), d'.steps.toList[i]? = some s →
        let steps := d'.steps.toList
        let w := wdist (valD val n data) (clusterTree n steps s.c1) (clusterTree n steps s.c2)
        fin s.d ∧ s.size ≤ n ∧ 0 ≤ w ∧ Near u (2 * (s.size - 2)) w (val s.d) :=
  exists_ok_imp (primitive_weighted_greedySw L RM hge chk st d data n h2 hs hl hdlo hdata Rg hok)
    fun _ h i s hi => wgtNear_of_sw (baseOkW_valD data n hs hl hdlo hdata) (h.2 i s hi).1

/-- `C02_primitive_weighted_rounded` with reducibility obtained from the monotonicity laws of `+` and
`½·` on a domain (`HalfAddLaws α ok`, `Lemmas/WeightedMono.lean`). -/
theorem C02_primitive_weighted_rounded_of_halfAdd (L : OrderLaws α) {val : α → K} {fin : α → Prop}
    {u lo hi : K} {N : Nat} (RM : Round.Model val fin u lo hi N)
    {ok : α → Prop} (H : HalfAddLaws α ok)
    (chk : Bool) (st : State α) (d : Dendrogram α) (data : Array α) (n : Nat)
    (h2 : 2 ≤ n) (hs : n < 2147483648) (hl : 2 * data.size = n * (n - 1))
    {dlo dhi : K} (hdlo : 0 < dlo)
    (hdata : ∀ (k : Nat) (h : k < data.size),
      fin data[k] ∧ dlo ≤ val data[k] ∧ val data[k] ≤ dhi)
    (Rg : RangeOkW u lo hi n dlo dhi)
    (hok : ∀ v, fin v → dlo * (1 - u) ^ (2 * n) ≤ val v → val v ≤ dhi / (1 - u) ^ (2 * n) → ok v) :
    ∃ st' d' M', primitiveWith chk .weighted st d data n = .ok (st', d', M') ∧
      ∀ (i : Nat) (s : Step α), d'.steps.toList[i]? = some s →
        let steps := d'.steps.toList
        let w := wdist (valD val n data) (clusterTree n steps s.c1) (clusterTree n steps s.c2)
        fin s.d ∧ s.size ≤ n ∧ 0 ≤ w ∧ Near u (2 * (s.size - 2)) w (val s.d) :=
  C02_primitive_weighted_rounded L RM (chainReducibleOn_weighted L H).chainGeOn chk st d data n h2 hs
    hl hdlo hdata Rg hok

/-! ## Non-vacuity (the number types and the data of `Lemmas/RoundExamples.lean`) -/

section Examples

section ExactRat
attribute [local instance] ratNum

/-- Exact `ℚ`: all hypotheses hold, and (with `u = 0`, so `Near` is equality) every height returned
by `primitive_with` IS the mean over the cross pairs. -/
example : ∃ st' d' M',
    primitiveWith true .average State.new (Dendrogram.new 0) (#[1, 9, 4] : Array ℚ) 3
      = .ok (st', d', M') ∧
    ∀ (i : Nat) (s : Step ℚ), d'.steps.toList[i]? = some s →
      s.d = avg (valD (fun x : ℚ => x) 3 #[1, 9, 4])
        (Spec.leaves 3 d'.steps.toList d'.steps.toList.length s.c1).toFinset
        (Spec.leaves 3 d'.steps.toList d'.steps.toList.length s.c2).toFinset := by
  have RM := ratNum_model_ex
  obtain ⟨st', d', M', hrun, h⟩ := C02_primitive_average_rounded_bounds
    (exactLaws_fieldNum ℚ).field.orderLaws RM true State.new (Dendrogram.new 0) #[1, 9, 4] 3
    (by decide) (by decide) (by decide) (dlo := 1) (dhi := 9) (by norm_num) (by norm_num)
    example_data_ok rangeOk_ex_exact
  refine ⟨st', d', M', hrun, fun i s hi => ?_⟩
  exact Round.Near.eq_of_zero (h i s hi)

/-- Exact `ℚ`, weighted linkage through `primitive_with`: every returned height IS the recursively
halved mean. -/
example : ∃ st' d' M',
    primitiveWith true .weighted State.new (Dendrogram.new 0) (#[1, 9, 4] : Array ℚ) 3
      = .ok (st', d', M') ∧
    ∀ (i : Nat) (s : Step ℚ), d'.steps.toList[i]? = some s →
      s.d = wdist (valD (fun x : ℚ => x) 3 #[1, 9, 4])
        (clusterTree 3 d'.steps.toList s.c1) (clusterTree 3 d'.steps.toList s.c2) := by
  have E := exactLaws_fieldNum ℚ
  have RM := ratNum_model_ex
  obtain ⟨st', d', M', hrun, h⟩ := C02_primitive_weighted_rounded E.field.orderLaws RM
    (ratNum_chainGeOn_weighted fun _ => True) true State.new
    (Dendrogram.new 0) #[1, 9, 4] 3 (by decide) (by decide) (by decide) (dlo := 1) (dhi := 9)
    (by norm_num) example_data_pos rangeOkW_ex_exact (fun _ _ _ _ => trivial)
  refine ⟨st', d', M', hrun, fun i s hi => ?_⟩
  exact (h i s hi).2.2.2.eq_of_zero

end ExactRat

section RoundDown
attribute [local instance] downNum

/-- The round-down toy type (`u = 1/1000`; the clamp does fire on it): all hypotheses hold, so
`primitive_with` returns and every returned height is within `4·(size − 2)` factors `(1 − 1/1000)` of
the exact mean over the cross pairs. -/
example : ∃ st' d' M',
    primitiveWith true .average State.new (Dendrogram.new 0) (#[1, 9, 4] : Array ℚ) 3
      = .ok (st', d', M') ∧
    ∀ (i : Nat) (s : Step ℚ), d'.steps.toList[i]? = some s →
      let A := (Spec.leaves 3 d'.steps.toList d'.steps.toList.length s.c1).toFinset
      let B := (Spec.leaves 3 d'.steps.toList d'.steps.toList.length s.c2).toFinset
      let mean := avg (valD (fun x : ℚ => x) 3 #[1, 9, 4]) A B
      mean * (1 - 1 / 1000) ^ (4 * (s.size - 2)) ≤ s.d ∧
        s.d * (1 - 1 / 1000) ^ (4 * (s.size - 2)) ≤ mean :=
  C02_primitive_average_rounded_bounds downNum_orderLaws
    downNum_model_ex
    true State.new (Dendrogram.new 0) #[1, 9, 4] 3 (by decide) (by decide) (by decide)
    (dlo := 1) (dhi := 9) (by norm_num) (by norm_num)
    example_data_ok rangeOk_ex

/-- On the round-down toy type the two entry points compose: whenever `nnchain_with` and
`primitive_with` merge the same two sets, the heights agree up to `8·(size − 2)` factors. -/
example : ∃ st₁ d₁ M₁ st₂ d₂ M₂,
    nnchainWith true .average State.new (Dendrogram.new 0) (#[1, 9, 4] : Array ℚ) 3
      = .ok (st₁, d₁, M₁) ∧
    primitiveWith true .average State.new (Dendrogram.new 0) (#[1, 9, 4] : Array ℚ) 3
      = .ok (st₂, d₂, M₂) ∧
    ∀ (i j : Nat) (s s' : Step ℚ), d₁.steps.toList[i]? = some s → d₂.steps.toList[j]? = some s' →
      (Spec.leaves 3 d₁.steps.toList d₁.steps.toList.length s.c1).toFinset =
        (Spec.leaves 3 d₂.steps.toList d₂.steps.toList.length s'.c1).toFinset →
      (Spec.leaves 3 d₁.steps.toList d₁.steps.toList.length s.c2).toFinset =
        (Spec.leaves 3 d₂.steps.toList d₂.steps.toList.length s'.c2).toFinset →
      s.size = s'.size ∧ Near (1 / 1000 : ℚ) (2 * (4 * (s.size - 2))) s.d s'.d :=
  C02_average_rounded_nnchain_primitive_agree downNum_orderLaws
    downNum_model_ex
    true State.new (Dendrogram.new 0) #[1, 9, 4] 3 (by decide) (by decide) (by decide)
    (dlo := 1) (dhi := 9) (by norm_num) (by norm_num)
    example_data_ok rangeOk_ex

end RoundDown

section RoundUp
attribute [local instance] upNum

/-- The round-up toy type, weighted linkage through `primitive_with`: all hypotheses hold (standard
model with `u = 1/1000`, reducibility by monotonicity), so every returned height is within
`2·(size − 2)` factors of the recursively halved mean of the original entries. -/
example : ∃ st' d' M',
    primitiveWith true .weighted State.new (Dendrogram.new 0) (#[1, 9, 4] : Array ℚ) 3
      = .ok (st', d', M') ∧
    ∀ (i : Nat) (s : Step ℚ), d'.steps.toList[i]? = some s →
      let w := wdist (valD (fun x : ℚ => x) 3 #[1, 9, 4])
        (clusterTree 3 d'.steps.toList s.c1) (clusterTree 3 d'.steps.toList s.c2)
      Near (1 / 1000 : ℚ) (2 * (s.size - 2)) w s.d := by
  obtain ⟨st', d', M', hrun, h⟩ := C02_primitive_weighted_rounded upNum_orderLaws
    upNum_model_ex
    (upNum_chainGe_weighted.on (fun _ => True)) true State.new (Dendrogram.new 0) #[1, 9, 4] 3
    (by decide) (by decide) (by decide) (dlo := 1) (dhi := 9) (by norm_num)
    example_data_pos rangeOkW_ex (fun _ _ _ _ => trivial)
  exact ⟨st', d', M', hrun, fun i s hi => (h i s hi).2.2.2⟩

end RoundUp

end Examples

end Kodama
