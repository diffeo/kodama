/-
C12 for `generic_with` under a RUN-DEPENDENT value hypothesis (no closure of the good set under the
Lance–Williams update; see the header of `Props/C03GenericRun.lean` for the motivation).

Two formulations of "the values that actually occur stay good":

(B) `Spec.RunGood G m n data` (`Lemmas/PrimGreedySpec.lean`) — SPECIFICATION level: every table value of
    every greedy-valid partial run of the label-based spec lies in `G`.  Needs the simulation, hence
    the hypotheses of the C03 theorems (`BeqLe`, `LwSymm`, `LBClosed` for the five sorted methods) —
    all theorems in exact arithmetic.
(A) `GenericRunGood G chk m n data` (`Lemmas/GenericRun.lean`) — MODEL level: the inputs are good and,
    in every state REACHED by the main loop (iterating the loop body `genericIter` from the start
    state `genericStart`), the values that the update of the picked pair writes are good.  Needs
    only `OrderLaws`, `GoodSet`, `max_value` not NaN — exactly the hypotheses of the closure-based
    `C12_generic_total/_ok` minus `UpdClosed`, which implies it (`genericRunGood_of_updClosed`): the
    closure-based theorems are corollaries (see the `example`s).

* `C12_generic_run_total`, `C12_generic_run_ok`              under (B)
* `C12_generic_run_model_total`, `C12_generic_run_model_ok`  under (A)
* `C12_generic_run_ok_exact`     exact arithmetic, all seven methods: `RunGood (· < max_value)` alone
* `C12_linkage_run_ok`, `C12_linkage_run_ok_exact`   centroid / median through `linkageWith`
* non-vacuity: Ward / centroid / median on NON-constant rational matrices.

"Total" = returns normally or stops in the sort's NaN panic: no index out of bounds, failed (debug)
assertion, `unwrap` on `None`, usize overflow or exhausted fuel.  "ok" = returns normally.
-/
import Kodama.Props.C03GenericRun
namespace Kodama
open Spec

section Run
variable {α : Type} [Num α] {G : α → Prop}

/-- `generic_with` returns normally under the specification-level run-dependent hypothesis (every
recorded height is a table value, hence not NaN). -/
theorem C12_generic_run_ok (L : OrderLaws α) (hbeq : BeqLe α) (gs : GoodSet G) (chk : Bool)
    (m : Method) (hlbc : l1Mode m = .fix → LBClosed G m) (hsym : LwSymm α m)
    (hmax : Num.isNaN (Num.maxValue : α) = false)
    (st : State α) (d : Dendrogram α) (data : Array α) (n : Nat) (h2 : 2 ≤ n)
    (hs : n < 2147483648) (hl : 2 * data.size = n * (n - 1))
    (hrun : RunGood G m n data) :
    ∃ r, genericWith chk m st d data n = .ok r :=
  (genericWith_sim_run L hbeq gs chk m hlbc hsym hmax st d data n h2 hs hl hrun).ok
    (fun _ _ _ h => ⟨h.1.res.obs, h.1.res.raw, fun s hs' => gs.notNaN _ (h.2 s hs')⟩) h2

/-- … in particular it is total. -/
theorem C12_generic_run_total (L : OrderLaws α) (hbeq : BeqLe α) (gs : GoodSet G) (chk : Bool)
    (m : Method) (hlbc : l1Mode m = .fix → LBClosed G m) (hsym : LwSymm α m)
    (hmax : Num.isNaN (Num.maxValue : α) = false)
    (st : State α) (d : Dendrogram α) (data : Array α) (n : Nat) (h2 : 2 ≤ n)
    (hs : n < 2147483648) (hl : 2 * data.size = n * (n - 1))
    (hrun : RunGood G m n data) :
    (∃ r, genericWith chk m st d data n = .ok r) ∨
      genericWith chk m st d data n = .error .nanInSort :=
  Or.inl (C12_generic_run_ok L hbeq gs chk m hlbc hsym hmax st d data n h2 hs hl hrun)

/-- `generic_with` returns normally under the model-level run-dependent hypothesis. -/
theorem C12_generic_run_model_ok (L : OrderLaws α) (gs : GoodSet G) (chk : Bool)
    (m : Method) (hmax : Num.isNaN (Num.maxValue : α) = false)
    (st : State α) (d : Dendrogram α) (data : Array α) (n : Nat) (h2 : 2 ≤ n)
    (hs : n < 2147483648) (hl : 2 * data.size = n * (n - 1))
    (hrun : GenericRunGood G chk m n data) :
    ∃ r, genericWith chk m st d data n = .ok r :=
  (genericWith_eq_run L gs chk m hmax st d data n h2 hs hl hrun).ok
    (fun _ _ _ h => ⟨h.1.obs, h.1.raw, fun s hs' => gs.notNaN _ (h.2 s hs')⟩) h2

theorem C12_generic_run_model_total (L : OrderLaws α) (gs : GoodSet G) (chk : Bool)
    (m : Method) (hmax : Num.isNaN (Num.maxValue : α) = false)
    (st : State α) (d : Dendrogram α) (data : Array α) (n : Nat) (h2 : 2 ≤ n)
    (hs : n < 2147483648) (hl : 2 * data.size = n * (n - 1))
    (hrun : GenericRunGood G chk m n data) :
    (∃ r, genericWith chk m st d data n = .ok r) ∨
      genericWith chk m st d data n = .error .nanInSort :=
  Or.inl (C12_generic_run_model_ok L gs chk m hmax st d data n h2 hs hl hrun)

/-- The closure-based `C12_generic_total` is a corollary. -/
example (L : OrderLaws α) (gs : GoodSet G) (chk : Bool)
    (m : Method) (hcl : UpdClosed G m) (hmax : Num.isNaN (Num.maxValue : α) = false)
    (st : State α) (d : Dendrogram α) (data : Array α) (n : Nat) (h2 : 2 ≤ n)
    (hs : n < 2147483648) (hl : 2 * data.size = n * (n - 1))
    (hin : ∀ i (h : i < (squareData m data).size), G (squareData m data)[i]) :
    (∃ r, genericWith chk m st d data n = .ok r) ∨
      genericWith chk m st d data n = .error .nanInSort :=
  C12_generic_run_model_total L gs chk m hmax st d data n h2 hs hl
    (genericRunGood_of_updClosed L gs chk m hcl hmax data n h2 hs hl hin)

/-- The closure-based `C12_generic_ok` is a corollary. -/
example (L : OrderLaws α) (gs : GoodSet G) (chk : Bool)
    (m : Method) (hcl : UpdClosed G m) (hmax : Num.isNaN (Num.maxValue : α) = false)
    (st : State α) (d : Dendrogram α) (data : Array α) (n : Nat) (h2 : 2 ≤ n)
    (hs : n < 2147483648) (hl : 2 * data.size = n * (n - 1))
    (hin : ∀ i (h : i < (squareData m data).size), G (squareData m data)[i]) :
    ∃ r, genericWith chk m st d data n = .ok r :=
  C12_generic_run_model_ok L gs chk m hmax st d data n h2 hs hl
    (genericRunGood_of_updClosed L gs chk m hcl hmax data n h2 hs hl hin)

/-- `linkage(.., Centroid | Median)` (routed to `generic_with`) returns normally under the
specification-level run-dependent hypothesis. -/
theorem C12_linkage_run_ok (L : OrderLaws α) (hbeq : BeqLe α) (gs : GoodSet G) (chk : Bool)
    (m : Method) (hm : m = .centroid ∨ m = .median) (hsym : LwSymm α m)
    (hmax : Num.isNaN (Num.maxValue : α) = false)
    (st : State α) (d : Dendrogram α) (data : Array α) (n : Nat) (h2 : 2 ≤ n)
    (hs : n < 2147483648) (hl : 2 * data.size = n * (n - 1))
    (hrun : RunGood G m n data) :
    ∃ r, linkageWith chk m st d data n = .ok r := by
  rw [linkageWith_generic chk m hm]
  exact C12_generic_run_ok L hbeq gs chk m (lbClosed_of_centroid_median hm) hsym hmax st d data n
    h2 hs hl hrun

end Run

section Exact
variable {K : Type} [Field K] [LinearOrder K] [IsStrictOrderedRing K] [Num K]

/-- Exact arithmetic, all seven methods: `generic_with` returns normally whenever every table value
of every greedy run of the specification is below `T::max_value()`. -/
theorem C12_generic_run_ok_exact (E : ExactLaws K) (B : BeqExact K) (chk : Bool) (m : Method)
    (st : State K) (d : Dendrogram K) (data : Array K) (n : Nat) (h2 : 2 ≤ n) (hs : n < 2147483648)
    (hl : 2 * data.size = n * (n - 1))
    (hrun : RunGood (fun v : K => v < (Num.maxValue : K)) m n data) :
    ∃ r, genericWith chk m st d data n = .ok r :=
  C12_generic_run_ok E.field.orderLaws (B.beqLe E) (goodSet_exact B E (fun _ h => h)) chk m
    (lbClosed_exact_of_fix E _ m) (E.field.lwSymm m) (E.noNaN _) st d data n h2 hs hl hrun

set_option linter.unusedSectionVars false in
theorem C12_linkage_run_ok_exact (E : ExactLaws K) (B : BeqExact K) (chk : Bool) (m : Method)
    (hm : m = .centroid ∨ m = .median)
    (st : State K) (d : Dendrogram K) (data : Array K) (n : Nat) (h2 : 2 ≤ n) (hs : n < 2147483648)
    (hl : 2 * data.size = n * (n - 1))
    (hrun : RunGood (fun v : K => v < (Num.maxValue : K)) m n data) :
    ∃ r, linkageWith chk m st d data n = .ok r :=
  C12_linkage_run_ok E.field.orderLaws (B.beqLe E) (goodSet_exact B E (fun _ h => h)) chk m hm
    (E.field.lwSymm m) (E.noNaN _) st d data n h2 hs hl hrun

end Exact

/-! ## Non-vacuity: Ward, centroid, median on NON-constant rational matrices -/
section Example
@[reducible] private def qNumRun12 : Num ℚ := ratNumMax 1000
attribute [local instance] qNumRun12

/-- Ward, `d01 = 1, d02 = 3, d12 = 2`: every hypothesis of `C12_generic_run_total` holds. -/
example : (∃ r, genericWith true .ward State.new (Dendrogram.new 0) (#[1, 3, 2] : Array ℚ) 3
      = .ok r) ∨
    genericWith true .ward State.new (Dendrogram.new 0) (#[1, 3, 2] : Array ℚ) 3
      = .error .nanInSort :=
  C12_generic_run_total (ratNumMax_exact 1000).field.orderLaws
    ((ratNumMax_beq 1000).beqLe (ratNumMax_exact 1000))
    (goodSet_exact (ratNumMax_beq 1000) (ratNumMax_exact 1000) (fun _ h => h)) true .ward
    (lbClosed_exact_of_fix (ratNumMax_exact 1000) _ .ward)
    ((ratNumMax_exact 1000).field.lwSymm .ward) rfl _ _ _ 3 (by decide) (by decide) (by decide)
    runGood_ward3

example : ∃ r, genericWith false .ward State.new (Dendrogram.new 0)
    (#[1, 3, 2, 4, 5, 7] : Array ℚ) 4 = .ok r :=
  C12_generic_run_ok_exact (ratNumMax_exact 1000) (ratNumMax_beq 1000) false .ward _ _ _ 4
    (by decide) (by decide) (by decide) runGood_ward4

example : ∃ r, genericWith true .centroid State.new (Dendrogram.new 0)
    (#[1, 3, 2, 4, 5, 7] : Array ℚ) 4 = .ok r :=
  C12_generic_run_ok_exact (ratNumMax_exact 1000) (ratNumMax_beq 1000) true .centroid _ _ _ 4
    (by decide) (by decide) (by decide) runGood_centroid4

example : ∃ r, linkageWith true .median State.new (Dendrogram.new 0)
    (#[1, 3, 2, 4, 5, 7] : Array ℚ) 4 = .ok r :=
  C12_linkage_run_ok_exact (ratNumMax_exact 1000) (ratNumMax_beq 1000) true .median (Or.inr rfl)
    _ _ _ 4 (by decide) (by decide) (by decide) runGood_median4

end Example

end Kodama
