/-
C11 for SINGLE and COMPLETE linkage over ANY ordered number type — no field, no rounding (the companion of
`Props/C06Order.lean`).

Single and complete linkage only select input entries, so renumbering invariance holds EXACTLY (heights
included) over every number type with `OrderLaws α` + `LtTrichotomy α`, NaN-free:

* `C11_single_complete_order`  `data'` is the matrix of the renumbered observations (`hperm`); on a tie-free
  input (`TieFreeFrom` along a greedy-valid reference run `steps₀` of `data`), `primitive_with` and
  `nnchain_with` applied to `data'` return steps `e'` with `steps₀ = e'.map (mapStep (σ π n))`: the same
  heights and sizes step by step, and the cluster created by step `i`, mapped back through `π`, is the
  cluster created by step `i` of the reference.

(Exact arithmetic, all methods: `Props/C11*.lean`; average / weighted under rounding: `C11Rounding*.lean`.)
-/
import Kodama.Props.C11
import Kodama.Lemmas.ExampleRuns
import Kodama.Props.C03SingleComplete
namespace Kodama
open Spec
variable {α : Type} [Num α]

/-- `C11_single_complete_order` for both entry points at once. -/
theorem renumber_order (L : OrderLaws α) (T : LtTrichotomy α)
    (hnan : ∀ x : α, Num.isNaN x = false) (m : Method) (hm : m = .single ∨ m = .complete)
    (data data' : Array α) (n : Nat) (h2 : 2 ≤ n) (hs : n < 2147483648)
    (hl' : 2 * data'.size = n * (n - 1))
    {π ρ : Nat → Nat} (hπ : IsPerm n π ρ)
    (hperm : ∀ i j, i < n → j < n →
      entry n data' Num.infinity i j = entry n data Num.infinity (π i) (π j))
    (steps₀ : List (Step α)) (h₀ : GreedyValid m n data steps₀)
    (ht : TieFreeFrom m (init m n data) steps₀)
    {alg : Alg} (ha : alg = .primitive ∨ alg = .nnchain) (chk : Bool) (st : State α)
    (d : Dendrogram α) :
    ∃ st' e' M', runWith chk alg m st d data' n = .ok (st', e', M') ∧
      steps₀ = e'.steps.toList.map (mapStep (σ π n)) ∧
      steps₀.map (·.d) = e'.steps.toList.map (·.d) ∧
      steps₀.map (·.size) = e'.steps.toList.map (·.size) ∧
      ∀ i, (leaves n steps₀ steps₀.length (n + i)).Perm
        ((leaves n e'.steps.toList e'.steps.toList.length (n + i)).map π) := by
  have hS : LwSymm α m := by
    rcases hm with rfl | rfl
    · exact lwSymm_single L T
    · exact lwSymm_complete L T
  obtain ⟨st', e', M', hr, hg⟩ :=
    greedyValid_single_complete L T hnan hm ha chk st d data' n h2 hs hl'
  exact ⟨st', e', M', hr, C11_spec_unique hπ hS hperm hg h₀ ht⟩

theorem C11_single_complete_order (L : OrderLaws α) (T : LtTrichotomy α)
    (hnan : ∀ x : α, Num.isNaN x = false) (m : Method) (hm : m = .single ∨ m = .complete)
    (data data' : Array α) (n : Nat) (h2 : 2 ≤ n) (hs : n < 2147483648)
    (hl' : 2 * data'.size = n * (n - 1))
    {π ρ : Nat → Nat} (hπ : IsPerm n π ρ)
    (hperm : ∀ i j, i < n → j < n →
      entry n data' Num.infinity i j = entry n data Num.infinity (π i) (π j))
    (steps₀ : List (Step α)) (h₀ : GreedyValid m n data steps₀)
    (ht : TieFreeFrom m (init m n data) steps₀) :
    (∀ (chk : Bool) (st : State α) (d : Dendrogram α),
      ∃ st' e' M', primitiveWith chk m st d data' n = .ok (st', e', M') ∧
        steps₀ = e'.steps.toList.map (mapStep (σ π n)) ∧
        steps₀.map (·.d) = e'.steps.toList.map (·.d) ∧
        steps₀.map (·.size) = e'.steps.toList.map (·.size) ∧
        ∀ i, (leaves n steps₀ steps₀.length (n + i)).Perm
          ((leaves n e'.steps.toList e'.steps.toList.length (n + i)).map π)) ∧
    (∀ mc : MethodChain, mc.intoMethod = m → ∀ (chk : Bool) (st : State α) (d : Dendrogram α),
      ∃ st' e' M', nnchainWith chk mc st d data' n = .ok (st', e', M') ∧
        steps₀ = e'.steps.toList.map (mapStep (σ π n)) ∧
        steps₀.map (·.d) = e'.steps.toList.map (·.d) ∧
        steps₀.map (·.size) = e'.steps.toList.map (·.size) ∧
        ∀ i, (leaves n steps₀ steps₀.length (n + i)).Perm
          ((leaves n e'.steps.toList e'.steps.toList.length (n + i)).map π)) :=
  ⟨renumber_order L T hnan m hm data data' n h2 hs hl' hπ hperm steps₀ h₀ ht (Or.inl rfl),
    fun mc e chk st d => runWith_nnchain (e ▸ mc.intoMethodChain_intoMethod) chk st d data' n ▸
      renumber_order L T hnan m hm data data' n h2 hs hl' hπ hperm steps₀ h₀ ht (Or.inr rfl)
        chk st d⟩

/-! ## Non-vacuity (toy exact numbers `Nat`; the 4-observation matrix of `Props/C06.lean`, observations
`0 ↔ 3` exchanged) -/

section Example
attribute [local instance] Toy.natNum

private def exπ (i : Nat) : Nat := if i = 0 then 3 else if i = 3 then 0 else i

private theorem exπ_perm : IsPerm 4 exπ exπ := by
  refine ⟨?_, ?_, ?_, ?_⟩ <;> decide

private theorem ex_hperm : ∀ i j, i < 4 → j < 4 →
    entry 4 (#[6, 1, 7, 8, 5, 9] : Array Nat) Num.infinity i j =
      entry 4 (#[5, 9, 7, 8, 6, 1] : Array Nat) Num.infinity (exπ i) (exπ j) :=
  forall_lt_pairs (by decide)

/-- Complete linkage on the renumbered matrix returns the reference run of the original one, mapped. -/
example : ∃ st' e' M',
    primitiveWith true .complete State.new (Dendrogram.new 0) (#[6, 1, 7, 8, 5, 9] : Array Nat) 4
      = .ok (st', e', M') ∧
    ([⟨2, 3, 1, 2⟩, ⟨0, 1, 5, 2⟩, ⟨4, 5, 9, 4⟩] : List (Step Nat)) =
      e'.steps.toList.map (mapStep (σ exπ 4)) := by
  obtain ⟨st', e', M', hr, he, _⟩ := (C11_single_complete_order Toy.natOrderLaws Toy.natTrichotomy
    (fun _ => rfl) .complete (Or.inr rfl) #[5, 9, 7, 8, 6, 1] #[6, 1, 7, 8, 5, 9] 4 (by decide)
    (by decide) (by decide) exπ_perm ex_hperm [⟨2, 3, 1, 2⟩, ⟨0, 1, 5, 2⟩, ⟨4, 5, 9, 4⟩]
    Toy.ex6_complete_valid Toy.ex6_complete_tieFree).1 true State.new (Dendrogram.new 0)
  exact ⟨st', e', M', hr, he⟩

end Example

end Kodama
