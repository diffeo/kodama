/-
C01 for WEIGHTED linkage through `nnchain_with` / `linkage_with`, for every ordered number type whose
`+` and `½·` satisfy `HalfAddLaws` on a domain `ok` that contains the input.

Background.  `nnchain_with` is only correct for REDUCIBLE updates; on the model side this is the
hypothesis `ChainReducible α mc` of `C01_nnchain` / `C12_nnchain_ok` / `C14_nnchain`
(`Lemmas/ChainIter.lean`), which quantifies over ALL non-NaN values.  For the weighted update
`½·(a + b)` (`Gen.weighted`, `Kodama/Generated/Method.lean`) the unrestricted statement is false for
IEEE floats, but NOT through rounding: the only failures are overflow (`a = b = t = −max_value`:
`a + b = −∞`) and `∞ + (−∞) = NaN`.  On finite values of moderate magnitude reducibility of the
midpoint follows from monotonicity of `+` and `½·` and exactness of doubling/halving
(`HalfAddLaws.mid_ge`, `Lemmas/WeightedMono.lean`).  The chain invariant applies reducibility to matrix entries between live
clusters only, so reducibility ON A DOMAIN closed under the update suffices (`ChainReducibleOn`,
`chainIter_ok_on` … `nnchainWith_eq_on`, `Lemmas/ChainOn.lean`).

Proved here, for every valid matrix (2 ≤ n < 2^31, 2·len = n(n−1)), both build modes, every prior state:

* `C01_nnchain_weighted`  `nnchainWith chk .weighted …` returning `(st', d', M')` implies
                          `d'.obs = n ∧ WellFormed n d'.steps`, under `HalfAddLaws α ok` (from
                          `C01_nnchain_on`, `Props/C01.lean`: any chain method, any domain, under
                          `ChainReducibleOn α ok mc`);
* `C01_linkage_weighted`  the same through `linkageWith chk .weighted` (routed to nnchain by the
                          generated dispatch table).

Hypotheses (explicit):
* `OrderLaws α`        `<` is a strict weak order on the non-NaN values (true of IEEE `<`);
* `NoNaNData data`     no NaN in the input (weighted does not square the input);
* `OkData ok data`     every input entry lies in the domain `ok`;
* `HalfAddLaws α ok`   on `ok` values: `+` monotone in each argument, `½·` monotone on sums,
                       `½·(t + t) ≥ t`, the midpoint is not NaN and is `ok` again.

TRUSTED, not proved: `HalfAddLaws` for IEEE `f32`/`f64` on `ok := moderate` (not NaN,
`0 ≤ v ≤ 2^(bias/2)`).  `Float` is opaque in Lean; the six laws are SAMPLED by `kodama-laws`
(`check_HalfAddLaws_*`, `Kodama/LawsSample.lean`: no counterexample on the guarded domain; without the
guard `half_double` / `mid_ge` fail exactly at `−max_value` and `mid_notNaN` at `∞ + (−∞)`).  Each law is
a textbook property of round-to-nearest.  PROVED: the laws for exact arithmetic
(`halfAddLaws_of_fieldLaws`, `Lemmas/WeightedExact.lean`), so the theorems are not vacuous (ℚ, below).
-/
import Kodama.Props.C01
import Kodama.Lemmas.OnSquares
import Kodama.Lemmas.WeightedExact
namespace Kodama
open Spec
variable {α : Type} [Num α]

theorem squareData_weighted (data : Array α) :
    squareData (MethodChain.intoMethod .weighted) data = data :=
  squareData_of_not_onSquares rfl data

theorem C01_nnchain_weighted (L : OrderLaws α) (ok : α → Prop) (H : HalfAddLaws α ok) (chk : Bool)
    (st st' : State α) (d d' : Dendrogram α) (data : Array α) (n : Nat) (M' : Mat α)
    (h2 : 2 ≤ n) (hs : n < 2147483648) (hl : 2 * data.size = n * (n - 1))
    (hnan : NoNaNData data) (hd : OkData ok data)
    (h : nnchainWith chk .weighted st d data n = .ok (st', d', M')) :
    d'.obs = n ∧ WellFormed n d'.steps.toList :=
  C01_nnchain_on L chk .weighted ok (chainReducibleOn_weighted L H) st st' d d' data n M' h2 hs hl
    (by rw [squareData_weighted]; exact hnan) (by rw [squareData_weighted]; exact hd) h

theorem C01_linkage_weighted (L : OrderLaws α) (ok : α → Prop) (H : HalfAddLaws α ok) (chk : Bool)
    (st st' : State α) (d d' : Dendrogram α) (data : Array α) (n : Nat) (M' : Mat α)
    (h2 : 2 ≤ n) (hs : n < 2147483648) (hl : 2 * data.size = n * (n - 1))
    (hnan : NoNaNData data) (hd : OkData ok data)
    (h : linkageWith chk .weighted st d data n = .ok (st', d', M')) :
    d'.obs = n ∧ WellFormed n d'.steps.toList := by
  rw [linkageWith_nnchain chk .weighted .weighted (by decide) rfl] at h
  exact C01_nnchain_weighted L ok H chk st st' d d' data n M' h2 hs hl hnan hd h

/-! ### Non-vacuity (ℚ with its field operations, a valid 4-point matrix, the domain `0 ≤ ·`) -/

section NonVacuity
attribute [local instance] fieldNum

theorem Toy.ratOrderLaws : OrderLaws ℚ := (fieldNum_laws ℚ).orderLaws
theorem Toy.ratHalfAddLaws : HalfAddLaws ℚ (fun x => 0 ≤ x) :=
  halfAddLaws_nonneg (fieldNum_laws ℚ) (fun _ => rfl)

theorem Toy.ratOkData : OkData (fun x : ℚ => 0 ≤ x) (#[5, 2, 9, 7, 4, 1] : Array ℚ) := by
  intro i h
  have h6 : i < 6 := h
  match i, h6 with
  | 0, _ | 1, _ | 2, _ | 3, _ | 4, _ | 5, _ => simp

example : OrderLaws ℚ ∧ HalfAddLaws ℚ (fun x => 0 ≤ x) ∧
    NoNaNData (#[5, 2, 9, 7, 4, 1] : Array ℚ) ∧
    OkData (fun x : ℚ => 0 ≤ x) (#[5, 2, 9, 7, 4, 1] : Array ℚ) :=
  ⟨Toy.ratOrderLaws, Toy.ratHalfAddLaws, fun _ _ => rfl, Toy.ratOkData⟩

example (st' : State ℚ) (d' : Dendrogram ℚ) (M' : Mat ℚ)
    (h : nnchainWith true .weighted State.new (Dendrogram.new 4)
      (#[5, 2, 9, 7, 4, 1] : Array ℚ) 4 = .ok (st', d', M')) :
    d'.obs = 4 ∧ WellFormed 4 d'.steps.toList :=
  C01_nnchain_weighted Toy.ratOrderLaws _ Toy.ratHalfAddLaws true _ st' _ d' _ 4 M'
    (by decide) (by decide) (by decide) (fun _ _ => rfl) Toy.ratOkData h

end NonVacuity

end Kodama
