/-
C12 (totality: no panic) for WEIGHTED linkage through `nnchain_with` / `linkage_with`, for every ordered
number type whose `+` and `½·` satisfy `HalfAddLaws` on a domain `ok` that contains the input.

`C12_nnchain_ok` / `C12_nnchain_total` need `ChainReducible α .weighted`, a statement about ALL non-NaN
values; it is false for IEEE floats — through overflow (`a = b = t = −max_value`) and `∞ + (−∞)` only,
NOT through rounding.  On a domain `ok` of values on which the textbook
laws `HalfAddLaws α ok` hold (`Lemmas/WeightedMono.lean`: `+` and `½·` monotone, `½·(t + t) ≥ t`, no
NaN, closure) the weighted update is reducible (`chainReducibleOn_weighted`), and the chain invariant
goes through with "every live matrix entry is `ok`" as an extra invariant (`Lemmas/ChainOn.lean`).

Proved here (from `C12_nnchain_ok_on`, `Props/C12.lean`: any chain method, any domain, under
`ChainReducibleOn α ok mc`), for every valid matrix (2 ≤ n < 2^31, 2·len = n(n−1)), both build modes,
every prior state:

* `C12_nnchain_weighted_ok`    `nnchainWith chk .weighted …` RETURNS NORMALLY: no index out of bounds, no
                               failed (debug) assertion, no `unwrap` on `None`, no overflow, the fuel of
                               the inner `loop` is never exhausted, no NaN reaches the sort;
* `C12_nnchain_weighted_total` the same in the "ok or nanInSort" form of the other C12 theorems;
* `C12_linkage_weighted_ok`    the same through `linkageWith chk .weighted`.

Hypotheses (explicit): `OrderLaws α` (true of IEEE `<`), `NoNaNData data`, `OkData ok data` (every
input entry in the domain), `HalfAddLaws α ok`.

TRUSTED, not proved: `HalfAddLaws` for IEEE `f32`/`f64` on `ok := moderate` (not NaN,
`0 ≤ v ≤ 2^(bias/2)`) — sampled by `kodama-laws` (`check_HalfAddLaws_*`), no counterexample; see the
header of `Props/C01Weighted.lean`.  PROVED for exact arithmetic (`halfAddLaws_of_fieldLaws`).

Ward (reducible from `OrderLaws` up to the NaN clause `WardNoNaN`): `Props/C12Ward.lean`.
-/
import Kodama.Props.C12
import Kodama.Props.C01Weighted
namespace Kodama
open Spec
variable {α : Type} [Num α]

/-- **C12, weighted linkage through `nnchain_with`**: returns normally. -/
theorem C12_nnchain_weighted_ok (L : OrderLaws α) (ok : α → Prop) (H : HalfAddLaws α ok) (chk : Bool)
    (st : State α) (d : Dendrogram α) (data : Array α) (n : Nat) (h2 : 2 ≤ n)
    (hs : n < 2147483648) (hl : 2 * data.size = n * (n - 1)) (hnan : NoNaNData data)
    (hd : OkData ok data) :
    ∃ r, nnchainWith chk .weighted st d data n = .ok r :=
  C12_nnchain_ok_on L chk .weighted ok (chainReducibleOn_weighted L H) st d data n h2 hs hl
    (by rw [squareData_weighted]; exact hnan) (by rw [squareData_weighted]; exact hd)

/-- The same in the form of `C12_nnchain_total` / `C12_mst_total` / `C12_primitive_total`. -/
theorem C12_nnchain_weighted_total (L : OrderLaws α) (ok : α → Prop) (H : HalfAddLaws α ok)
    (chk : Bool) (st : State α) (d : Dendrogram α) (data : Array α) (n : Nat) (h2 : 2 ≤ n)
    (hs : n < 2147483648) (hl : 2 * data.size = n * (n - 1)) (hnan : NoNaNData data)
    (hd : OkData ok data) :
    (∃ r, nnchainWith chk .weighted st d data n = .ok r) ∨
      nnchainWith chk .weighted st d data n = .error .nanInSort :=
  Or.inl (C12_nnchain_weighted_ok L ok H chk st d data n h2 hs hl hnan hd)

/-- Through `linkage_with` (dispatched to `nnchain_with`). -/
theorem C12_linkage_weighted_ok (L : OrderLaws α) (ok : α → Prop) (H : HalfAddLaws α ok) (chk : Bool)
    (st : State α) (d : Dendrogram α) (data : Array α) (n : Nat) (h2 : 2 ≤ n)
    (hs : n < 2147483648) (hl : 2 * data.size = n * (n - 1)) (hnan : NoNaNData data)
    (hd : OkData ok data) :
    ∃ r, linkageWith chk .weighted st d data n = .ok r := by
  rw [linkageWith_nnchain chk .weighted .weighted (by decide) rfl]
  exact C12_nnchain_weighted_ok L ok H chk st d data n h2 hs hl hnan hd

/-! ### Non-vacuity (ℚ with its field operations, a valid 4-point matrix, the domain `0 ≤ ·`) -/

section NonVacuity
attribute [local instance] fieldNum

example : ∃ r, nnchainWith true .weighted State.new (Dendrogram.new 4)
    (#[5, 2, 9, 7, 4, 1] : Array ℚ) 4 = .ok r :=
  C12_nnchain_weighted_ok Toy.ratOrderLaws _ Toy.ratHalfAddLaws true _ _ _ 4
    (by decide) (by decide) (by decide) (fun _ _ => rfl) Toy.ratOkData

example : ∃ r, linkageWith false .weighted State.new (Dendrogram.new 4)
    (#[5, 2, 9, 7, 4, 1] : Array ℚ) 4 = .ok r :=
  C12_linkage_weighted_ok Toy.ratOrderLaws _ Toy.ratHalfAddLaws false _ _ _ 4
    (by decide) (by decide) (by decide) (fun _ _ => rfl) Toy.ratOkData

end NonVacuity

end Kodama
