/-
C18 — `locations` prints exactly the library result, for every schedule.

Proved here about the model of `kodama-bin/src/locations.rs` (`Model/Locations.lean`), for ALL
record counts, ALL distance functions / number types, ALL method strings and ALL schedules:

* `C18_order`       for EVERY schedule — any binary split tree over the outer range `0..n`, any
                    split tree per row over the inner range `i+1..n`, every cut point — the fork–join
                    evaluation of `into_par_iter().flat_map(..).map(..).collect()` is the list
                    `(Spec.pairs n).map dist`: the row-major upper triangle of C07, the same for
                    every schedule (hence for every thread count).
* `C18_order_jobs`  the same for the job-list reading: the leaf jobs of the split trees executed in
                    ANY order (any list of job numbers that contains every job; repeats allowed),
                    results filed by job number and concatenated in job order.
* `C18_layout`      entry `Gen.idxN n r c` (the index expression *regenerated from
                    src/condensed.rs*) of the matrix built under any schedule is `dist r c`: the
                    tool fills exactly the slot `linkage` reads for the pair `(r, c)` (via C07).
* `C18_bytes`       the bytes written by `--save-dist-to` are the same for any two schedules.
* `C18_codec`       `decodeLE (encodeLE ws) = some ws` for all lists of 64-bit patterns; a byte
                    list is rejected iff its length is not a multiple of 8; an accepted one has
                    `len/8` words; re-encoding a decoded file gives the file back.
* `C18_method`      `Method.parse s = some m ↔ s` is the lower-case name of `m` (by cases over the
                    if-chain *regenerated from `impl FromStr for Method`*; the seven names are written
                    out here independently); no `--method` selects single; an unknown name gives
                    exit status 1, no row and no saved file, whatever the other arguments.
* `C18_output`      with a known method and no `--load-dist-from`, the outcome under any schedule is
                    the presentation of `linkage` (model of `kodama::linkage`, release build) on the
                    specification matrix: status 0 and one row `(cluster1, cluster2, dissimilarity,
                    size)` per step, in step order — or status 101 and no row if `linkage` panics.
* `C18_saved_bytes` with a known method, `--save-dist-to` writes the little-endian image of the
                    specification matrix (independent of method and schedule).
* `C18_save_load`   if a run with `--save-dist-to` wrote `bytes`, then a run with
                    `--load-dist-from` on those bytes — under any schedule, for any CSV with the same
                    number of records — has the same status and the same rows, and if it saves again
                    it writes the same bytes.  Hypotheses (named, not axioms): `from_bits (to_bits x)
                    = x` and `to_bits x < 2^64` for the number type.
* `C18_load_reject` a `--load-dist-from` file whose length is not a multiple of 8 gives status 1
                    and no row.

NOT verified — trusted or only observed by the correspondence run (`tools/run_loc.py`):
* rayon: that `collect` into a `Vec` after `into_par_iter().flat_map(..).map(..)` concatenates the
  per-split results in range order (its documented contract); the model *is* that contract, the
  theorems show the result then cannot depend on splits or execution order.  Observed: the saved
  matrix is byte-identical for RAYON_NUM_THREADS ∈ {1,2,3,8,16} and repeated runs.
* csv/serde (record and number parsing), ryu (shortest round-trip float printing), clap
  (`--method` absent vs. present; `--method=` gives the empty string), byteorder, the file system.
  The runner feeds the model the bit patterns of Python's correctly rounded `float(text)` and
  re-parses the printed heights with `float`; both are checked against the tool's own matrix file
  and against an independent Rust call of `kodama::linkage` on that file.
* glibc libm `sin`/`cos`/`atan` and the hardware `sqrt`: shared by the Rust binary and Lean's
  runtime, which is why the model's Haversine matrix can be (and is, on every run) compared bit for
  bit; nothing is proved about the accuracy of `haversine`.
* `Float`: the two `Word64` laws of `C18_save_load` are not provable for Lean's opaque `Float`;
  observed by the save → load runs (byte-identical stdout).
* That the model is the tool: correspondence run (matrix bytes, step rows, exit status).
-/
import Kodama.Lemmas.Loc
import Kodama.Lemmas.Layout
namespace Kodama
open Loc Spec

theorem C18_order {β : Type} (s : Sched) (n : Nat) (dist : Nat → Nat → β) :
    parMatrix s n dist = (pairs n).map (fun p => dist p.1 p.2) :=
  parMatrix_eq s n dist

theorem C18_order_jobs {β : Type} (s : Sched) (ord : List Nat) (n : Nat) (dist : Nat → Nat → β)
    (hall : ∀ i, i < (allJobs s n).length → i ∈ ord) :
    parMatrixOrd s ord n dist = (pairs n).map (fun p => dist p.1 p.2) := by
  unfold parMatrixOrd
  rw [runJobs_eq _ _ _ hall]
  exact allJobs_flatMap s n dist

theorem C18_layout {β : Type} (s : Sched) (n r c : Nat) (dist : Nat → Nat → β)
    (hrc : r < c) (hcn : c < n) :
    (parMatrix s n dist)[Gen.idxN n r c]? = some (dist r c) := by
  rw [C18_order, List.getElem?_map, pairs_idxN n r c hrc hcn]
  rfl

theorem C18_bytes {α : Type} [Word64 α] (s s' : Sched) (n : Nat) (dist : Nat → Nat → α) :
    encodeLE ((parMatrix s n dist).map Word64.toBits)
      = encodeLE ((parMatrix s' n dist).map Word64.toBits) := by
  rw [C18_order, C18_order]

theorem C18_codec :
    (∀ ws : List Nat, (∀ w, w ∈ ws → w < 2 ^ 64) → decodeLE (encodeLE ws) = some ws) ∧
    (∀ bs : List Nat, decodeLE bs = none ↔ bs.length % 8 ≠ 0) ∧
    (∀ bs ws : List Nat, decodeLE bs = some ws → 8 * ws.length = bs.length) ∧
    (∀ bs ws : List Nat, (∀ b, b ∈ bs → b < 256) → decodeLE bs = some ws → encodeLE ws = bs) := by
  refine ⟨?_, ?_, decodeLE_length, encodeLE_decodeLE⟩
  · intro ws h
    exact decodeLE_encodeLE ws (fun w hw => by have := h w hw; omega)
  · intro bs
    have := decodeLE_isSome_iff bs
    cases hd : decodeLE bs with
    | none => simp [hd] at this; simp [this]
    | some ws => simp [hd] at this; simp [this]

/-- The accepted spellings, written out independently of the source. -/
def methodName : Method → String
  | .single => "single" | .complete => "complete" | .average => "average"
  | .weighted => "weighted" | .ward => "ward" | .centroid => "centroid" | .median => "median"

theorem C18_method_parse (s : String) (m : Method) : Method.parse s = some m ↔ s = methodName m := by
  constructor
  · intro h
    unfold Method.parse at h
    -- one arm of the translated `if`-chain after the other
    rcases ite_some_cases h with ⟨e, rfl⟩ | h; · exact e
    rcases ite_some_cases h with ⟨e, rfl⟩ | h; · exact e
    rcases ite_some_cases h with ⟨e, rfl⟩ | h; · exact e
    rcases ite_some_cases h with ⟨e, rfl⟩ | h; · exact e
    rcases ite_some_cases h with ⟨e, rfl⟩ | h; · exact e
    rcases ite_some_cases h with ⟨e, rfl⟩ | h; · exact e
    rcases ite_some_cases h with ⟨e, rfl⟩ | h; · exact e
    cases h
  · rintro rfl
    cases m <;> rfl

theorem C18_method {α : Type} [Num α] [Word64 α] :
    -- no `--method`: single linkage
    selectMethod none = some Method.single ∧
    -- `--method s`: accepted iff `s` is one of the seven names, and then it is that method
    (∀ s m, selectMethod (some s) = some m ↔ s = methodName m) ∧
    -- anything else: exit status 1, nothing printed, nothing saved
    (∀ (sched : Sched) (s : String) (load : Option (List Nat)) (save : Bool) (n : Nat)
        (dist : Nat → Nat → α), (∀ m, s ≠ methodName m) →
        cliOn sched { method := some s, load := load, save := save } n dist = ⟨1, [], none⟩) := by
  refine ⟨rfl, fun s m => C18_method_parse s m, ?_⟩
  intro sched s load save n dist hs
  have : selectMethod (some s) = none := by
    cases h : selectMethod (some s) with
    | none => rfl
    | some m => exact absurd ((C18_method_parse s m).mp h) (hs m)
  simp only [cliOn, this]

theorem C18_output {α : Type} [Num α] [Word64 α] (sched : Sched) (meth : Option String)
    (m : Method) (save : Bool) (n : Nat) (dist : Nat → Nat → α)
    (hm : selectMethod meth = some m) :
    cliOn sched { method := meth, load := none, save := save } n dist
      = present (run false .linkage m (matrixSpec n dist).toArray n)
          (if save then some (encodeLE ((matrixSpec n dist).map Word64.toBits)) else none) := by
  simp only [cliOn, hm, C18_order]
  rfl

/-- With a known method and `--save-dist-to`, the file written is the little-endian image of the
specification matrix — whatever the method, the schedule, and whether `linkage` panics. -/
theorem C18_saved_bytes {α : Type} [Num α] [Word64 α] (sched : Sched) (meth : Option String)
    (m : Method) (n : Nat) (dist : Nat → Nat → α) (hm : selectMethod meth = some m) :
    (cliOn sched { method := meth, load := none, save := true } n dist).saved
      = some (encodeLE ((matrixSpec n dist).map Word64.toBits)) := by
  rw [C18_output sched meth m true n dist hm]
  cases run false .linkage m (matrixSpec n dist).toArray n <;> rfl

/-- Unfolded reading of `C18_output`: status and rows. -/
theorem C18_output_rows {α : Type} [Num α] [Word64 α] (sched : Sched) (meth : Option String)
    (m : Method) (save : Bool) (n : Nat) (dist : Nat → Nat → α)
    (hm : selectMethod meth = some m) :
    (∀ st d M, run false .linkage m (matrixSpec n dist).toArray n = .ok (st, d, M) →
      (cliOn sched { method := meth, load := none, save := save } n dist).exit = 0 ∧
      (cliOn sched { method := meth, load := none, save := save } n dist).rows
        = d.steps.toList.map (fun s => (s.c1, s.c2, s.d, s.size))) ∧
    (∀ p, run false .linkage m (matrixSpec n dist).toArray n = .error p →
      (cliOn sched { method := meth, load := none, save := save } n dist).exit = 101 ∧
      (cliOn sched { method := meth, load := none, save := save } n dist).rows = []) := by
  rw [C18_output sched meth m save n dist hm]
  constructor
  · intro st d M h; rw [h]; exact ⟨rfl, rfl⟩
  · intro p h; rw [h]; exact ⟨rfl, rfl⟩

/-- The tool on records: the matrix is the Haversine (or any other) distance of the records in
file order, row-major upper triangle. -/
theorem C18_output_records {ρ α : Type} [Inhabited ρ] [Num α] [Word64 α] (sched : Sched)
    (meth : Option String) (m : Method) (save : Bool) (records : Array ρ) (distance : ρ → ρ → α)
    (hm : selectMethod meth = some m) :
    cli sched { method := meth, load := none, save := save } records distance
      = present (run false .linkage m
          ((pairs records.size).map (fun p => distance records[p.1]! records[p.2]!)).toArray
          records.size)
          (if save then some (encodeLE (((pairs records.size).map
            (fun p => distance records[p.1]! records[p.2]!)).map Word64.toBits)) else none) :=
  C18_output sched meth m save records.size _ hm

theorem C18_save_load {α : Type} [Num α] [Word64 α]
    (hround : ∀ x : α, Word64.ofBits (Word64.toBits x) = x)
    (hword : ∀ x : α, Word64.toBits x < 2 ^ 64)
    (s s' : Sched) (meth : Option String) (n : Nat) (dist dist' : Nat → Nat → α) (save : Bool)
    (bytes : List Nat)
    (hsaved : (cliOn s { method := meth, load := none, save := true } n dist).saved = some bytes) :
    cliOn s' { method := meth, load := some bytes, save := save } n dist'
      = { cliOn s { method := meth, load := none, save := true } n dist with
          saved := if save then some bytes else none } := by
  cases hm : selectMethod meth with
  | none => simp [cliOn, hm] at hsaved
  | some m =>
    have hb : bytes = encodeLE ((matrixSpec n dist).map Word64.toBits) :=
      Option.some.inj (hsaved.symm.trans (C18_saved_bytes s meth m n dist hm))
    rw [C18_output s meth m true n dist hm]
    have hdec : decodeLE bytes = some ((matrixSpec n dist).map Word64.toBits) := by
      rw [hb]
      apply decodeLE_encodeLE
      intro w hw
      obtain ⟨x, _, rfl⟩ := List.mem_map.mp hw
      have := hword x
      omega
    have hback : ((matrixSpec n dist).map (Word64.toBits (α := α))).map Word64.ofBits
        = matrixSpec n dist := by
      rw [List.map_map]
      exact (List.map_congr_left fun x _ => hround x).trans (List.map_id _)
    simp only [cliOn, hm, hdec, Option.map_some, hback]
    rw [← hb]
    cases run false .linkage m (matrixSpec n dist).toArray n <;> cases save <;> rfl

/-- Consequence: same exit status, same rows. -/
theorem C18_save_load_rows {α : Type} [Num α] [Word64 α]
    (hround : ∀ x : α, Word64.ofBits (Word64.toBits x) = x)
    (hword : ∀ x : α, Word64.toBits x < 2 ^ 64)
    (s s' : Sched) (meth : Option String) (n : Nat) (dist dist' : Nat → Nat → α) (save : Bool)
    (bytes : List Nat)
    (hsaved : (cliOn s { method := meth, load := none, save := true } n dist).saved = some bytes) :
    (cliOn s' { method := meth, load := some bytes, save := save } n dist').exit
        = (cliOn s { method := meth, load := none, save := false } n dist).exit ∧
    (cliOn s' { method := meth, load := some bytes, save := save } n dist').rows
        = (cliOn s { method := meth, load := none, save := false } n dist).rows := by
  rw [C18_save_load hround hword s s' meth n dist dist' save bytes hsaved]
  cases hm : selectMethod meth with
  | none => simp [cliOn, hm]
  | some m =>
    rw [C18_output s meth m true n dist hm, C18_output s meth m false n dist hm]
    cases run false .linkage m (matrixSpec n dist).toArray n <;> exact ⟨rfl, rfl⟩

theorem C18_load_reject {α : Type} [Num α] [Word64 α] (sched : Sched) (meth : Option String)
    (save : Bool) (n : Nat) (dist : Nat → Nat → α) (bytes : List Nat)
    (hlen : bytes.length % 8 ≠ 0) :
    (cliOn sched { method := meth, load := some bytes, save := save } n dist).exit = 1 ∧
    (cliOn sched { method := meth, load := some bytes, save := save } n dist).rows = [] := by
  have hd : decodeLE bytes = none := (C18_codec.2.1 bytes).mpr hlen
  cases hm : selectMethod meth with
  | none => simp [cliOn, hm]
  | some m => simp [cliOn, hm, hd]

/-! ### Non-vacuity -/

/-- A concrete non-trivial schedule and execution order: hypotheses of `C18_order_jobs` hold and
the conclusion is the expected list. -/
example :
    let s : Sched := { outer := .node 2 .leaf (.node 1 .leaf .leaf),
                       inner := fun i => if i = 0 then .node 1 .leaf .leaf else .leaf }
    let ord := [4, 2, 0, 3, 1, 5, 2]
    (allJobs s 4).length = 5 ∧ (∀ i, i < (allJobs s 4).length → i ∈ ord) ∧
    parMatrixOrd s ord 4 (fun i j => 10 * i + j) = [1, 2, 3, 12, 13, 23] ∧
    parMatrix s 4 (fun i j => 10 * i + j) = [1, 2, 3, 12, 13, 23] := by
  decide +kernel

/-- Codec: a 64-bit pattern with all eight bytes distinct, and a 9-byte file. -/
example : encodeLE [0x0102030405060708, 2 ^ 64 - 1]
      = [8, 7, 6, 5, 4, 3, 2, 1, 255, 255, 255, 255, 255, 255, 255, 255] ∧
    decodeLE (encodeLE [0x0102030405060708, 2 ^ 64 - 1]) = some [0x0102030405060708, 2 ^ 64 - 1] ∧
    decodeLE [1, 2, 3, 4, 5, 6, 7, 8, 9] = none := by
  decide +kernel

/-- Method names: accepted, wrong case, near miss, empty. -/
example : selectMethod (some "ward") = some .ward ∧ selectMethod (some "Single") = none ∧
    selectMethod (some "wards") = none ∧ selectMethod (some "") = none ∧
    selectMethod none = some .single := by
  decide +kernel

/-- A number type on which the two `Word64` laws of `C18_save_load` hold (so its hypotheses are
satisfiable), with an order, used only for the examples below. -/
instance C18.numFin : Num (Fin 16) where
  lt a b := decide (a < b)
  beq a b := decide (a = b)
  add a b := a + b
  sub a b := a - b
  mul a b := a * b
  div a b := a / b
  ofNat n := Fin.ofNat 16 n
  half := 0
  quarter := 0
  sqrt a := a
  abs a := a
  maxValue := 15
  infinity := 15
  isNaN _ := false

instance C18.wordFin : Word64 (Fin 16) := ⟨fun x => x.val, fun n => Fin.ofNat 16 n⟩

example : (∀ x : Fin 16, Word64.ofBits (Word64.toBits x) = x) ∧
    (∀ x : Fin 16, Word64.toBits x < 2 ^ 64) := by
  decide +kernel

/-- The remaining hypothesis of `C18_save_load` (`hsaved`) is satisfiable: a run with a known method
and `--save-dist-to` does write a file, here 3 words = 24 bytes for 3 records. -/
example :
    (cliOn (α := Fin 16) { outer := .node 1 .leaf .leaf, inner := fun _ => .leaf }
      { method := some "complete", load := none, save := true } 3
      (fun i j => Fin.ofNat 16 (3 * i + 5 * j))).saved
    = some [5, 0, 0, 0, 0, 0, 0, 0, 10, 0, 0, 0, 0, 0, 0, 0, 13, 0, 0, 0, 0, 0, 0, 0] := by
  rw [C18_saved_bytes _ _ .complete _ _ (by decide +kernel)]
  decide +kernel

end Kodama
