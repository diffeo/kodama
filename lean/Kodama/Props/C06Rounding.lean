/-
C06 UNDER FLOATING-POINT ROUNDING (average linkage) — "whenever no two candidate cluster
dissimilarities arising during clustering are closer than a rounding-safe margin, all entry points
return the same labels and sizes in the same step order and dissimilarities equal up to rounding".

`Props/C06*.lean` prove C06 in exact arithmetic.  `Props/C03Rounding.lean` proves, under the standard
model of floating-point arithmetic, that every entry point returns a dendrogram that is greedy UP TO
the rounding factor `(1−u)^(−K)` with respect to the EXACT mean of the ORIGINAL matrix
(`AvgGreedyUpTo`).  From that, for average linkage, this file derives agreement under a margin:

## The margin (`AvgMarginAlong D u n steps`, a definition)

Along the run `steps`: at every step `i`, for every pair of present labels `p < q` OTHER than the
merged pair, with `A, B, X, Y` the observation sets of the merged pair and of `p, q`,

    mean(A,B)  <  mean(X,Y) · (1−u)^K ,      K = 4·(|A|+|B|−2) + 4·(|X|+|Y|−2)   (≤ 8n − 16).

This is the property's "rounding-safe margin", with the SAME `K` by which `AvgGreedyUpTo` is loose: the
best pair beats every other candidate by more than rounding can blur.  It is a condition on the INPUT
(exact means of the original matrix along one run); for `u = 0` it says that the merged pair is the STRICT
minimiser of the exact mean among the present pairs (tie-freeness read on exact means).

## What is proved

* `C06_average_rounded_labels_unique`  (entry-point independent, no number law): if `s₁`, `s₂` are
  well-formed step lists for `n` observations, `s₂` is greedy up to rounding (`AvgGreedyUpTo D u n s₂`)
  and the margin holds along `s₁`, then `s₁` and `s₂` merge THE SAME LABELS at every step.
* `C06_average_rounded_sizes_unique`   … and report the same sizes.
* `C06_average_rounded_unique`         both together: `(c1, c2, size)` agree at every position.
* `C06_average_rounded_heights`, `C06_average_rounded_agree`  and, when the heights of both lists are within
  rounding of the exact means (`AvgHeightsNear`: what the C02 rounding theorems state), they are within
  `2·4·(size−2)` rounding factors of each other.
* `C06_average_rounded_margin_of_labAgree`  the margin is a property of the input and of the LABEL sequence of a run:
  it transfers between well-formed lists that merge the same labels (so it can be certified on any one of them).
* `C06_average_margin_of_gap`, `_f64`, `_f32`  the margin in the property's words: a RELATIVE GAP `γ` between the exact
  mean of the merged pair and that of every other present pair is a rounding-safe margin as soon as `16·n·u ≤ c`,
  `1 ≤ (1+γ)(1−c)`; for `f64` (`u ≤ 2⁻⁵³`, `n ≤ 10⁶`) a gap of `2·10⁻⁹` suffices, for `f32` (`u ≤ 2⁻²⁴`, `n ≤ 2000`) `2·10⁻³`.
* `C06_average_rounded_reference`      the same against an EXACT-arithmetic greedy reference
  (`AvgGreedyUpTo D 0 n ref`: every step merges an exact minimiser of the mean — what an independently
  written naive clustering in exact arithmetic returns): exact-greedy implies greedy up to every `u`
  (`avgGreedyUpTo_mono`), so a float run with margin has the labels and sizes of the reference.
* `C06_primitive_nnchain_average_rounded`, `C06_primitive_linkage_average_rounded`,
  `C06_primitive_generic_average_rounded`  entry points: under exactly the hypotheses of the C03/C02
  rounding theorems (`OrderLaws`, `Round.Model`, valid matrix, entries finite and `0` or in
  `[dlo, dhi]`, `RangeOk`; for generic what `generic_with` needs to run), both calls (same build mode, same
  prior state and dendrogram) return, and IF the margin holds along the output of `primitive_with` THEN at
  every position the two outputs have the same labels and the same size and their heights are within
  `2·4·(size−2)` rounding factors of each other (`Round.Near`).  Each theorem relates ONE entry point to
  `primitive_with`; agreement between two of the others follows only through `primitive_with`, with the
  factors added.

## What is NOT proved

* Ward / centroid / median (no relative rounding bound, see `Props/C02Rounding.lean`); single /
  complete need no rounding analysis (their heights are input entries: `Props/C06Order.lean` over
  `OrderLaws` + `LtTrichotomy`).  Weighted linkage is in `Props/C06RoundingWeighted.lean`.
* That IEEE-754 arithmetic satisfies `Round.Model` (hypothesis; sampled on every run by `kodama-laws`).

Non-vacuity (`C06Ex`): the input `d01 = 1, d02 = 9, d12 = 4` has the margin along the explicit run
`[(0,1,size 2), (2,3,size 3)]` for `u = 1/1000`, and `C06_average_rounded_unique` predicts from it the labels and
sizes of what `nnchain_with` returns on the round-down toy type `downNum` (every operation rounded).
-/
import Kodama.Props.C03Rounding
import Kodama.Lemmas.LabelAgree
import Kodama.Lemmas.SpecDecide
set_option linter.unusedSectionVars false
namespace Kodama
open Spec Crit MTree Finset Round

variable {K : Type} [Field K] [LinearOrder K] [IsStrictOrderedRing K]
variable {α : Type} [Num α]

/-! ## The margin -/

/-- The rounding-safe margin along a run (file header). -/
def AvgMarginAlong (D : Nat → Nat → K) (u : K) (n : Nat) (steps : List (Step α)) : Prop :=
  ∀ (i : Nat) (s : Step α), steps[i]? = some s →
    ∀ p q : Nat, PresentBefore n steps i p → PresentBefore n steps i q → p < q →
      ¬ (p = s.c1 ∧ q = s.c2) →
      let A := (Spec.leaves n steps steps.length s.c1).toFinset
      let B := (Spec.leaves n steps steps.length s.c2).toFinset
      let X := (Spec.leaves n steps steps.length p).toFinset
      let Y := (Spec.leaves n steps steps.length q).toFinset
      avg D A B < avg D X Y * (1 - u) ^ (4 * (A.card + B.card - 2) + 4 * (X.card + Y.card - 2))

/-! ## Uniqueness of the labels -/

/-- Presence of a label transfers between two lists that agree on the labels of their first `i`
steps. -/
theorem presentBefore_lab {n i : Nat} {L L' : List (Step α)} (h : LabAgree i L L') (l : Nat)
    (hp : PresentBefore n L i l) : PresentBefore n L' i l :=
  ⟨hp.1, fun hu => hp.2 ((usedBefore_lab h (Nat.le_refl i) l).mpr hu)⟩

/-- If two well-formed lists agree on the labels of their first `j` steps, the pair that one of them
merges at step `j` is present in the other. -/
theorem present_of_labAgree {n j : Nat} {s₁ s₂ : List (Step α)} (wf₁ : WellFormed n s₁)
    (h : LabAgree j s₁ s₂) {a : Step α} (ha : s₁[j]? = some a) :
    PresentBefore n s₂ j a.c1 ∧ PresentBefore n s₂ j a.c2 ∧ a.c1 ≠ a.c2 := by
  obtain ⟨p1, p2, hne⟩ := C03_rounded_merged_present wf₁ j a ha
  exact ⟨presentBefore_lab h a.c1 p1, presentBefore_lab h a.c2 p2, hne⟩

/-- If the lists agree before step `j` but merge different
pairs `a`, `b` there, both pairs are present in both lists with the same observation sets, so the
margin along `s₁` (`a` beats `b` strictly) contradicts greediness of `s₂` (`b` beats `a` up to the same
factor). -/
theorem C06_average_rounded_labels_unique {D : Nat → Nat → K} {u : K} {n : Nat}
    {s₁ s₂ : List (Step α)} (wf₁ : WellFormed n s₁) (wf₂ : WellFormed n s₂)
    (m₁ : AvgMarginAlong D u n s₁) (g₂ : AvgGreedyUpTo D u n s₂) :
    ∀ i, LabAgree i s₁ s₂ := by
  refine labAgree_of_step wf₁ wf₂ (fun j a b ih ha hb => ?_)
  by_contra hne
  obtain ⟨pa1, pa2, hane⟩ := present_of_labAgree wf₁ ih ha
  obtain ⟨pb1, pb2, _⟩ := present_of_labAgree wf₂ ih.symm hb
  have oa := wf₁.ordered j a ha
  have ob := wf₂.ordered j b hb
  have hlv := leaves_lab_wf wf₁ wf₂ ih (List.getElem?_eq_some_iff.mp ha).1.le
  obtain ⟨_, _, _, _, _, _, g⟩ := g₂ j b hb a.c1 a.c2 pa1 pa2 hane
  have m := m₁ j a ha b.c1 b.c2 pb1 pb2 ob.1 (fun h => hne ⟨h.1.symm, h.2.symm⟩)
  simp only at m
  rw [← hlv a.c1 (by omega), ← hlv a.c2 (by omega)] at g
  rw [hlv b.c1 (by omega), hlv b.c2 (by omega), Nat.add_comm (4 * _) (4 * _)] at m
  exact lt_irrefl _ (lt_of_lt_of_le m g)

/-! ## Uniqueness of the sizes -/

/-- Uses only `WellFormed` and `LabAgree` (nothing about averages or rounding): the size of step
`j` is `sz` of the label `n + j` it creates, and `sz` follows the labels (`sz_lab`). -/
theorem C06_average_rounded_sizes_unique {n : Nat} {s₁ s₂ : List (Step α)}
    (wf₁ : WellFormed n s₁) (wf₂ : WellFormed n s₂) (hlab : ∀ i, LabAgree i s₁ s₂) :
    ∀ i j : Nat, j < i → (s₁[j]?).map (fun s : Step α => s.size) = (s₂[j]?).map (fun s : Step α => s.size) := by
  rintro - j -
  cases ha : s₁[j]? with
  | none => rw [(hlab (j + 1)).get_none (Nat.lt_succ_self j) ha]
  | some a =>
    obtain ⟨b, hb, -⟩ := (hlab (j + 1)).get (Nat.lt_succ_self j) ha
    have e := sz_lab (hlab (j + 1)) (labelsOrdered_of_wf wf₁) (List.getElem?_eq_some_iff.mp ha).1
      wf₁.size wf₂.size (n + j) (by omega)
    rw [hb, Option.map_some, Option.map_some, ← sz_node ha, e, sz_node hb]

/-- Two well-formed lists that merge the same labels agree, position by position, in labels and
size. -/
theorem step_eq_of_labAgree {n : Nat} {s₁ s₂ : List (Step α)} (wf₁ : WellFormed n s₁)
    (wf₂ : WellFormed n s₂) (hlab : ∀ i, LabAgree i s₁ s₂) {i : Nat} {a b : Step α}
    (ha : s₁[i]? = some a) (hb : s₂[i]? = some b) :
    a.c1 = b.c1 ∧ a.c2 = b.c2 ∧ a.size = b.size := by
  obtain ⟨b', hb', e1, e2⟩ := (hlab (i + 1)).get (Nat.lt_succ_self i) ha
  obtain rfl : b' = b := Option.some.inj (hb'.symm.trans hb)
  have hsz := C06_average_rounded_sizes_unique wf₁ wf₂ hlab (i + 1) i (Nat.lt_succ_self i)
  rw [ha, hb] at hsz
  exact ⟨e1.symm, e2.symm, Option.some.inj hsz⟩

theorem unique_of_labAgree {n : Nat} {s₁ s₂ : List (Step α)} (wf₁ : WellFormed n s₁)
    (wf₂ : WellFormed n s₂) (hlab : ∀ i, LabAgree i s₁ s₂) :
    ∀ i : Nat, (s₁[i]?).map (fun s : Step α => (s.c1, s.c2, s.size)) =
      (s₂[i]?).map (fun s : Step α => (s.c1, s.c2, s.size)) := by
  intro i
  cases ha : s₁[i]? with
  | none => rw [(hlab (i + 1)).get_none (Nat.lt_succ_self i) ha]
  | some a =>
    obtain ⟨b, hb, _⟩ := (hlab (i + 1)).get (Nat.lt_succ_self i) ha
    obtain ⟨e1, e2, e3⟩ := step_eq_of_labAgree wf₁ wf₂ hlab ha hb
    rw [hb, Option.map_some, Option.map_some, e1, e2, e3]

/-- A well-formed run with the rounding-safe margin and any
well-formed run that is greedy up to rounding have the same labels and sizes at every position. -/
theorem C06_average_rounded_unique {D : Nat → Nat → K} {u : K} {n : Nat}
    {s₁ s₂ : List (Step α)} (wf₁ : WellFormed n s₁) (wf₂ : WellFormed n s₂)
    (m₁ : AvgMarginAlong D u n s₁) (g₂ : AvgGreedyUpTo D u n s₂) :
    ∀ i : Nat, (s₁[i]?).map (fun s : Step α => (s.c1, s.c2, s.size)) =
      (s₂[i]?).map (fun s : Step α => (s.c1, s.c2, s.size)) :=
  unique_of_labAgree wf₁ wf₂ (C06_average_rounded_labels_unique wf₁ wf₂ m₁ g₂)

/-! ## Against an exact-arithmetic reference -/

omit [Num α] in
/-- Exact-greedy implies greedy up to every rounding unit `0 ≤ u ≤ 1`. -/
theorem avgGreedyUpTo_mono {D : Nat → Nat → K} {u : K} {n : Nat} {steps : List (Step α)}
    (hu0 : 0 ≤ u) (hu1 : u ≤ 1) (g : AvgGreedyUpTo D 0 n steps) : AvgGreedyUpTo D u n steps := by
  intro i s hi p q hp hq hpq
  obtain ⟨a, b, c, d, e, f, h⟩ := g i s hi p q hp hq hpq
  rw [sub_zero, one_pow, mul_one] at h
  exact ⟨a, b, c, d, e, f, (mul_le_of_le_one_right f
    (pow_le_one₀ (sub_nonneg.mpr hu1) (sub_le_self 1 hu0))).trans h⟩

/-- A run with the margin agrees, in labels and sizes, with every
well-formed run that merges an EXACT minimiser of the mean at every step. -/
theorem C06_average_rounded_reference {D : Nat → Nat → K} {u : K} {n : Nat}
    {s ref : List (Step α)} (hu0 : 0 ≤ u) (hu1 : u ≤ 1) (wf : WellFormed n s) (wfr : WellFormed n ref)
    (m : AvgMarginAlong D u n s) (g : AvgGreedyUpTo D 0 n ref) :
    ∀ i : Nat, (s[i]?).map (fun s : Step α => (s.c1, s.c2, s.size)) =
      (ref[i]?).map (fun s : Step α => (s.c1, s.c2, s.size)) :=
  C06_average_rounded_unique wf wfr m (avgGreedyUpTo_mono hu0 hu1 g)

/-- The margin is a property of the input and of the LABEL sequence of the run. -/
theorem C06_average_rounded_margin_of_labAgree {D : Nat → Nat → K} {u : K} {n : Nat} {s₁ s₂ : List (Step α)}
    (wf₁ : WellFormed n s₁) (wf₂ : WellFormed n s₂) (h : ∀ i, LabAgree i s₁ s₂)
    (m : AvgMarginAlong D u n s₁) : AvgMarginAlong D u n s₂ := by
  intro i b hb p q hp hq hpq hne
  obtain ⟨a, ha, e1, e2⟩ := (h (i + 1)).symm.get (Nat.lt_succ_self i) hb
  have hm := m i a ha p q (presentBefore_lab (h i).symm p hp) (presentBefore_lab (h i).symm q hq)
    hpq (by rw [e1, e2]; exact hne)
  have ob := wf₂.ordered i b hb
  have hlv := leaves_lab_wf wf₁ wf₂ (h i) (List.getElem?_eq_some_iff.mp ha).1.le
  simp only at hm ⊢
  rwa [e1, e2, hlv b.c1 (by omega), hlv b.c2 (by omega), hlv p hp.1, hlv q hq.1] at hm

/-! ## Heights -/

/-- What the C02 rounding theorems say about the heights of a returned list: each is within
`4·(size−2)` rounding factors of the exact mean over the cross pairs of the two merged clusters. -/
def AvgHeightsNear (D : Nat → Nat → K) (u : K) (n : Nat) (val : α → K) (steps : List (Step α)) : Prop :=
  ∀ (i : Nat) (s : Step α), steps[i]? = some s →
    Near u (4 * (s.size - 2))
      (avg D (Spec.leaves n steps steps.length s.c1).toFinset
        (Spec.leaves n steps steps.length s.c2).toFinset) (val s.d)

theorem C06_average_rounded_heights {D : Nat → Nat → K} {u : K} {n : Nat} {val : α → K}
    {s₁ s₂ : List (Step α)} (hu : u < 1) (wf₁ : WellFormed n s₁) (wf₂ : WellFormed n s₂)
    (hlab : ∀ i, LabAgree i s₁ s₂)
    (h₁ : AvgHeightsNear D u n val s₁) (h₂ : AvgHeightsNear D u n val s₂) :
    ∀ (i : Nat) (a b : Step α), s₁[i]? = some a → s₂[i]? = some b →
      a.c1 = b.c1 ∧ a.c2 = b.c2 ∧ a.size = b.size ∧
        Near u (2 * (4 * (a.size - 2))) (val a.d) (val b.d) := by
  intro i a b ha hb
  obtain ⟨e1, e2, hsz⟩ := step_eq_of_labAgree wf₁ wf₂ hlab ha hb
  have oa := wf₁.ordered i a ha
  have hlv := leaves_lab_wf wf₁ wf₂ (hlab i) (List.getElem?_eq_some_iff.mp ha).1.le
  have n2 := h₂ i b hb
  rw [← e1, ← e2, ← hlv a.c1 (by omega), ← hlv a.c2 (by omega), ← hsz] at n2
  exact ⟨e1, e2, hsz, (h₁ i a ha).agree hu n2⟩

/-- Entry-point independent form: two well-formed outputs that are both within
rounding of the exact means, one of them greedy up to rounding, the other with the rounding-safe
margin, agree in labels, sizes and — up to `2·4·(size−2)` rounding factors — heights. -/
theorem C06_average_rounded_agree {D : Nat → Nat → K} {u : K} {n : Nat} {val : α → K}
    {s₁ s₂ : List (Step α)} (hu : u < 1) (wf₁ : WellFormed n s₁) (wf₂ : WellFormed n s₂)
    (m₁ : AvgMarginAlong D u n s₁) (g₂ : AvgGreedyUpTo D u n s₂)
    (h₁ : AvgHeightsNear D u n val s₁) (h₂ : AvgHeightsNear D u n val s₂) :
    s₁.length = s₂.length ∧
    ∀ (i : Nat) (a b : Step α), s₁[i]? = some a → s₂[i]? = some b →
      a.c1 = b.c1 ∧ a.c2 = b.c2 ∧ a.size = b.size ∧
        Near u (2 * (4 * (a.size - 2))) (val a.d) (val b.d) :=
  ⟨by rw [wf₁.len, wf₂.len],
    C06_average_rounded_heights hu wf₁ wf₂ (C06_average_rounded_labels_unique wf₁ wf₂ m₁ g₂) h₁ h₂⟩

/-! ## Entry points -/

/-- What the theorems of this file and of `Props/C11Rounding.lean` use of a run that is greedy up to
`RAvg` (`Lemmas/RoundRuns.lean`): the output is well-formed, greedy up to rounding, and its heights are
within rounding of the exact means. -/
theorem avgRun_of_greedySw {val : α → K} {fin : α → Prop} {u lo hi dlo dhi : K} {N n : Nat}
    {D : Nat → Nat → K} (RM : Round.Model val fin u lo hi N) (B : BaseOk n D dlo dhi)
    {S C : Type} {r : R (S × Dendrogram α × C)}
    (h : ∃ st' d' M', r = .ok (st', d', M') ∧ WellFormed n d'.steps.toList ∧
      Rnn.GreedySw (RAvg val fin u n D) n d'.steps.toList) :
    ∃ st' d' M', r = .ok (st', d', M') ∧ WellFormed n d'.steps.toList ∧
      AvgGreedyUpTo D u n d'.steps.toList ∧ AvgHeightsNear D u n val d'.steps.toList :=
  exists_ok_imp h fun _ h => ⟨h.1, avgGreedyUpTo_of_sw RM B h.1 h.2,
    fun i s hi => (avgNear_of_sw B h.1 hi (h.2 i s hi).1).2.2.2.2.2⟩

section EntryPoints
variable {val : α → K} {fin : α → Prop} {u lo hi : K} {N : Nat}

/-- The conclusion shared by the entry-point theorems below: both calls return, and IF the margin holds
along the first output THEN the two outputs agree. -/
def AgreeIfMargin (D : Nat → Nat → K) (u : K) (n : Nat) (val : α → K) (d₁ d₂ : Dendrogram α) : Prop :=
  AvgMarginAlong D u n d₁.steps.toList →
    d₁.steps.toList.length = d₂.steps.toList.length ∧
    ∀ (i : Nat) (a b : Step α), d₁.steps.toList[i]? = some a → d₂.steps.toList[i]? = some b →
      a.c1 = b.c1 ∧ a.c2 = b.c2 ∧ a.size = b.size ∧
        Near u (2 * (4 * (a.size - 2))) (val a.d) (val b.d)

theorem C06_primitive_nnchain_average_rounded (L : OrderLaws α)
    (RM : Round.Model val fin u lo hi N)
    (chk : Bool) (st : State α) (d : Dendrogram α) (data : Array α) (n : Nat)
    (h2 : 2 ≤ n) (hs : n < 2147483648) (hl : 2 * data.size = n * (n - 1))
    {dlo dhi : K} (hdlo : 0 < dlo) (hdle : dlo ≤ dhi)
    (hdata : ∀ (k : Nat) (h : k < data.size), fin data[k] ∧ In0 dlo dhi (val data[k]))
    (Rg : RangeOk u lo hi N n dlo dhi) :
    ∃ st₁ d₁ M₁ st₂ d₂ M₂,
      primitiveWith chk .average st d data n = .ok (st₁, d₁, M₁) ∧
      nnchainWith chk .average st d data n = .ok (st₂, d₂, M₂) ∧
      AgreeIfMargin (valD val n data) u n val d₁ d₂ := by
  have B := baseOk_valD data n h2 hs hl hdlo hdle hdata
  exact exists_ok_pair
    (avgRun_of_greedySw RM B
      (primitive_average_greedySw L RM chk st d data n h2 hs hl hdlo hdle hdata Rg))
    (avgRun_of_greedySw RM B
      (nnchain_average_greedySw L RM chk st d data n h2 hs hl hdlo hdle hdata Rg))
    fun _ _ a b m₁ => C06_average_rounded_agree RM.u_lt_one a.1 b.1 m₁ b.2.1 a.2.2 b.2.2

theorem C06_primitive_linkage_average_rounded (L : OrderLaws α)
    (RM : Round.Model val fin u lo hi N)
    (chk : Bool) (st : State α) (d : Dendrogram α) (data : Array α) (n : Nat)
    (h2 : 2 ≤ n) (hs : n < 2147483648) (hl : 2 * data.size = n * (n - 1))
    {dlo dhi : K} (hdlo : 0 < dlo) (hdle : dlo ≤ dhi)
    (hdata : ∀ (k : Nat) (h : k < data.size), fin data[k] ∧ In0 dlo dhi (val data[k]))
    (Rg : RangeOk u lo hi N n dlo dhi) :
    ∃ st₁ d₁ M₁ st₂ d₂ M₂,
      primitiveWith chk .average st d data n = .ok (st₁, d₁, M₁) ∧
      linkageWith chk .average st d data n = .ok (st₂, d₂, M₂) ∧
      AgreeIfMargin (valD val n data) u n val d₁ d₂ := by
  have B := baseOk_valD data n h2 hs hl hdlo hdle hdata
  exact exists_ok_pair
    (avgRun_of_greedySw RM B
      (primitive_average_greedySw L RM chk st d data n h2 hs hl hdlo hdle hdata Rg))
    (avgRun_of_greedySw RM B
      (linkage_average_greedySw L RM chk st d data n h2 hs hl hdlo hdle hdata Rg))
    fun _ _ a b m₁ => C06_average_rounded_agree RM.u_lt_one a.1 b.1 m₁ b.2.1 a.2.2 b.2.2

/-- `hbeq`, `hmax`, `gs`, `hG`: what `generic_with` needs to run at all. -/
theorem C06_primitive_generic_average_rounded (L : OrderLaws α) (hbeq : BeqLe α)
    (RM : Round.Model val fin u lo hi N)
    (hmax : Num.isNaN (Num.maxValue : α) = false) {G : α → Prop} (gs : GoodSet G)
    (chk : Bool) (st : State α) (d : Dendrogram α) (data : Array α) (n : Nat)
    (h2 : 2 ≤ n) (hs : n < 2147483648) (hl : 2 * data.size = n * (n - 1))
    {dlo dhi : K} (hdlo : 0 < dlo) (hdle : dlo ≤ dhi)
    (hdata : ∀ (k : Nat) (h : k < data.size), fin data[k] ∧ In0 dlo dhi (val data[k]))
    (Rg : RangeOk u lo hi N n dlo dhi)
    (hG : ∀ v, fin v → In0 (vlo u n dlo) (vhi u n dhi) (val v) → G v) :
    ∃ st₁ d₁ M₁ st₂ d₂ M₂,
      primitiveWith chk .average st d data n = .ok (st₁, d₁, M₁) ∧
      genericWith chk .average st d data n = .ok (st₂, d₂, M₂) ∧
      AgreeIfMargin (valD val n data) u n val d₁ d₂ := by
  have B := baseOk_valD data n h2 hs hl hdlo hdle hdata
  exact exists_ok_pair
    (avgRun_of_greedySw RM B
      (primitive_average_greedySw L RM chk st d data n h2 hs hl hdlo hdle hdata Rg))
    (avgRun_of_greedySw RM B
      (generic_average_greedySw L RM chk st d data n h2 hs hl hdlo hdle hdata Rg hbeq hmax gs hG))
    fun _ _ a b m₁ => C06_average_rounded_agree RM.u_lt_one a.1 b.1 m₁ b.2.1 a.2.2 b.2.2

end EntryPoints

/-! ## The margin in numbers -/

/-- Observation sets have at most `n` elements. -/
theorem card_leaves_le (n : Nat) (steps : List (Step α)) (fuel l : Nat) :
    (Spec.leaves n steps fuel l).toFinset.card ≤ n :=
  card_le_of_lt fun x hx => leaves_lt n steps fuel l x (List.mem_toFinset.mp hx)

/-- A relative gap `γ` is a rounding-safe margin as soon as `γ` absorbs up to `16·n` rounding factors:
the exponent of the margin is at most `16·n` because observation sets have at most `n` elements. -/
theorem avgMarginAlong_of_gap {D : Nat → Nat → K} {u γ : K} {n : Nat} {steps : List (Step α)}
    (hu : u < 1) (hw : ∀ k, k ≤ 16 * n → 1 ≤ (1 + γ) * (1 - u) ^ k)
    (hgap : ∀ (i : Nat) (s : Step α), steps[i]? = some s →
      ∀ p q : Nat, PresentBefore n steps i p → PresentBefore n steps i q → p < q →
        ¬ (p = s.c1 ∧ q = s.c2) →
        0 ≤ avg D (Spec.leaves n steps steps.length s.c1).toFinset
              (Spec.leaves n steps steps.length s.c2).toFinset ∧
        avg D (Spec.leaves n steps steps.length s.c1).toFinset
            (Spec.leaves n steps steps.length s.c2).toFinset * (1 + γ) <
          avg D (Spec.leaves n steps steps.length p).toFinset
            (Spec.leaves n steps steps.length q).toFinset) :
    AvgMarginAlong D u n steps := by
  intro i s hi p q hp hq hpq hne
  obtain ⟨hnn, hlt⟩ := hgap i s hi p q hp hq hpq hne
  have cA := card_leaves_le n steps steps.length s.c1
  have cB := card_leaves_le n steps steps.length s.c2
  have cX := card_leaves_le n steps steps.length p
  have cY := card_leaves_le n steps steps.length q
  exact lt_mul_pow_of_gap hu (hw _ (by omega)) hnn hlt

/-- **The margin in the property's words**: if along the run the exact mean of the merged pair is
non-negative and every other present pair's exact mean exceeds it by the relative gap `γ`, where
`16·n·u ≤ c` and `1 ≤ (1+γ)(1−c)`, then the rounding-safe margin holds. -/
theorem C06_average_margin_of_gap {D : Nat → Nat → K} {u : K} {n : Nat} {steps : List (Step α)}
    (h0 : 0 ≤ u) (hu : u < 1) {c γ : K} (hc : 16 * (n : K) * u ≤ c) (hγ0 : 0 ≤ γ)
    (hγ : 1 ≤ (1 + γ) * (1 - c))
    (hgap : ∀ (i : Nat) (s : Step α), steps[i]? = some s →
      ∀ p q : Nat, PresentBefore n steps i p → PresentBefore n steps i q → p < q →
        ¬ (p = s.c1 ∧ q = s.c2) →
        0 ≤ avg D (Spec.leaves n steps steps.length s.c1).toFinset
              (Spec.leaves n steps steps.length s.c2).toFinset ∧
        avg D (Spec.leaves n steps steps.length s.c1).toFinset
            (Spec.leaves n steps steps.length s.c2).toFinset * (1 + γ) <
          avg D (Spec.leaves n steps steps.length p).toFinset
            (Spec.leaves n steps steps.length q).toFinset) :
    AvgMarginAlong D u n steps :=
  avgMarginAlong_of_gap hu (fun _ hk => one_le_mul_pow_w (m := 16 * n) h0 hu hk
    (by rwa [Nat.cast_mul, Nat.cast_ofNat]) hγ0 hγ) hgap

/-- **`f64`**: `u ≤ 2⁻⁵³`, `n ≤ 10⁶`: a relative gap of `2·10⁻⁹` between the best and every other
candidate pair (exact means of the input, along one run) is a rounding-safe margin. -/
theorem C06_average_margin_of_gap_f64 {D : Nat → Nat → K} {u : K} {n : Nat} {steps : List (Step α)}
    (h0 : 0 ≤ u) (hu : u ≤ 1 / 2 ^ 53) (hn : n ≤ 1000000)
    (hgap : ∀ (i : Nat) (s : Step α), steps[i]? = some s →
      ∀ p q : Nat, PresentBefore n steps i p → PresentBefore n steps i q → p < q →
        ¬ (p = s.c1 ∧ q = s.c2) →
        0 ≤ avg D (Spec.leaves n steps steps.length s.c1).toFinset
              (Spec.leaves n steps steps.length s.c2).toFinset ∧
        avg D (Spec.leaves n steps steps.length s.c1).toFinset
            (Spec.leaves n steps steps.length s.c2).toFinset * (1 + 2 / 1000000000) <
          avg D (Spec.leaves n steps steps.length p).toFinset
            (Spec.leaves n steps steps.length q).toFinset) :
    AvgMarginAlong D u n steps :=
  avgMarginAlong_of_gap (hu.trans_lt (by norm_num))
    (fun _ hk => f64_one_le_mul_pow_w16 h0 hu hn hk) hgap

/-- **`f32`**: `u ≤ 2⁻²⁴`, `n ≤ 2000`: a relative gap of `2·10⁻³` between the best and every other
candidate pair (exact means of the input, along one run) is a rounding-safe margin. -/
theorem C06_average_margin_of_gap_f32 {D : Nat → Nat → K} {u : K} {n : Nat} {steps : List (Step α)}
    (h0 : 0 ≤ u) (hu : u ≤ 1 / 2 ^ 24) (hn : n ≤ 2000)
    (hgap : ∀ (i : Nat) (s : Step α), steps[i]? = some s →
      ∀ p q : Nat, PresentBefore n steps i p → PresentBefore n steps i q → p < q →
        ¬ (p = s.c1 ∧ q = s.c2) →
        0 ≤ avg D (Spec.leaves n steps steps.length s.c1).toFinset
              (Spec.leaves n steps steps.length s.c2).toFinset ∧
        avg D (Spec.leaves n steps steps.length s.c1).toFinset
            (Spec.leaves n steps steps.length s.c2).toFinset * (1 + 2 / 1000) <
          avg D (Spec.leaves n steps steps.length p).toFinset
            (Spec.leaves n steps steps.length q).toFinset) :
    AvgMarginAlong D u n steps :=
  avgMarginAlong_of_gap (hu.trans_lt (by norm_num))
    (fun _ hk => f32_one_le_mul_pow_w16 h0 hu hn hk) hgap

/-! ## Non-vacuity: an input with the margin, and the theorem predicting a rounded run -/

namespace C06Ex
attribute [local instance] downNum

def exSteps : List (Step ℚ) := [⟨0, 1, 1, 2⟩, ⟨2, 3, 13 / 2, 3⟩]

theorem exD (i j : Nat) : valD (fun x : ℚ => x) 3 #[1, 9, 4] i j =
    (Spec.entry 3 (#[1, 9, 4] : Array ℚ) Num.infinity i j) := by
  simp [valD, Spec.init, Method.onSquares]

theorem e01 : Spec.entry 3 (#[1, 9, 4] : Array ℚ) Num.infinity 0 1 = 1 := rfl
theorem e02 : Spec.entry 3 (#[1, 9, 4] : Array ℚ) Num.infinity 0 2 = 9 := rfl
theorem e12 : Spec.entry 3 (#[1, 9, 4] : Array ℚ) Num.infinity 1 2 = 4 := rfl

theorem exSteps_margin :
    AvgMarginAlong (valD (fun x : ℚ => x) 3 #[1, 9, 4]) (1 / 1000 : ℚ) 3 exSteps := by
  intro i s hi p q hp hq hpq hne
  have hi2 : i < 2 := (List.getElem?_eq_some_iff.mp hi).1
  obtain rfl | rfl : i = 0 ∨ i = 1 := by omega
  · obtain rfl := Option.some.inj hi
    have hq3 : q < 3 := hq.1
    have : (p = 0 ∧ q = 2) ∨ (p = 1 ∧ q = 2) := by
      simp only at hne; omega
    rcases this with ⟨rfl, rfl⟩ | ⟨rfl, rfl⟩
    · simp only [exSteps, List.length_cons, List.length_nil]
      norm_num [Spec.leaves, avg, S, exD, e01, e02]
    · simp only [exSteps, List.length_cons, List.length_nil]
      norm_num [Spec.leaves, avg, S, exD, e01, e12]
  · obtain rfl := Option.some.inj hi
    exfalso
    have hq4 : q < 4 := hq.1
    have u0 : UsedBefore exSteps 1 0 := ⟨0, ⟨0, 1, 1, 2⟩, by omega, rfl, Or.inl rfl⟩
    have u1 : UsedBefore exSteps 1 1 := ⟨0, ⟨0, 1, 1, 2⟩, by omega, rfl, Or.inr rfl⟩
    have hp0 : p ≠ 0 := fun e => hp.2 (e ▸ u0)
    have hp1 : p ≠ 1 := fun e => hp.2 (e ▸ u1)
    have hq1 : q ≠ 1 := fun e => hq.2 (e ▸ u1)
    apply hne
    simp only
    omega

theorem exSteps_wf : WellFormed 3 exSteps := by decide

/-- The round-down toy type (`u = 1/1000`): the theorem predicts the labels and sizes of the output of
`nnchain_with` (computed with rounding) from the exact means of the input. -/
example : ∃ st' d' M',
    nnchainWith true .average State.new (Dendrogram.new 0) (#[1, 9, 4] : Array ℚ) 3
      = .ok (st', d', M') ∧
    ∀ i : Nat, (exSteps[i]?).map (fun s : Step ℚ => (s.c1, s.c2, s.size)) =
      (d'.steps.toList[i]?).map (fun s : Step ℚ => (s.c1, s.c2, s.size)) :=
  exists_ok_imp (C03_nnchain_average_rounded downNum_orderLaws downNum_model_ex true State.new
      (Dendrogram.new 0) #[1, 9, 4] 3 (by decide) (by decide) (by decide) (dlo := 1) (dhi := 9)
      (by norm_num) (by norm_num) example_data_ok rangeOk_ex)
    fun _ h => C06_average_rounded_unique exSteps_wf h.1 exSteps_margin h.2
end C06Ex

end Kodama
