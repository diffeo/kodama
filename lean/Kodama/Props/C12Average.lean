/-
C12 (totality: no panic) for AVERAGE linkage through `nnchain_with` / `linkage_with`, for EVERY
ordered number type.

`C12_nnchain_ok` / `C12_nnchain_total` take the hypothesis `ChainReducible α .average`.  For the plain mean
`(sa·a + sb·b)/(sa + sb)` it is FALSE for IEEE floats (`Props/C01Average.lean`): the chain then
revisits a cluster and a dead cluster is merged — release builds return an invalid dendrogram, debug
builds hit an assertion.  `method::average` clamps the mean from below by the smaller argument; for
that formula `ChainReducible α .average` is a THEOREM from `OrderLaws α` plus the no-NaN-generation
hypothesis (`chainReducible_average`, `Lemmas/ChainIter.lean`; `Gen.average_not_lt`,
`Lemmas/AverageClamp.lean`) — no field law, no exact arithmetic.

Proved here (by instantiating `C12_nnchain_ok` / `C12_nnchain_total` / `C12_linkage_ok`), for every
valid matrix (2 ≤ n < 2^31, 2·len = n(n−1)), both build modes, every prior state:

* `C12_nnchain_average_ok`     `nnchainWith chk .average …` RETURNS NORMALLY: no index out of bounds, no
                               failed (debug) assertion, no `unwrap` on `None`, no overflow, the fuel of
                               the inner `loop` is never exhausted, no NaN reaches the sort;
* `C12_nnchain_average_total`  the same in the "ok or nanInSort" form of the other C12 theorems;
* `C12_linkage_average_ok`     the same through `linkageWith chk .average`.

Hypotheses (explicit): `OrderLaws α` (true of IEEE `<`), `NoNaNData data` (no NaN in the input),
`AverageNoNaN α` (the update of two non-NaN values with positive sizes is not NaN; for floats: the
size-weighted sum does not overflow to `∞ − ∞`; hypothesis, not proved for floats).

Ward: `Props/C12Ward.lean`; weighted: `Props/C12Weighted.lean`.
-/
import Kodama.Props.C12
import Kodama.Props.C01Average
namespace Kodama
open Spec
variable {α : Type} [Num α]

/-- **C12, average linkage through `nnchain_with`, any ordered number type**: returns normally. -/
theorem C12_nnchain_average_ok (L : OrderLaws α) (hn : AverageNoNaN α) (chk : Bool)
    (st : State α) (d : Dendrogram α) (data : Array α) (n : Nat) (h2 : 2 ≤ n)
    (hs : n < 2147483648) (hl : 2 * data.size = n * (n - 1)) (hnan : NoNaNData data) :
    ∃ r, nnchainWith chk .average st d data n = .ok r :=
  C12_nnchain_ok L chk .average (chainReducible_average L hn) st d data n h2 hs hl
    (by rw [squareData_average]; exact hnan)

/-- The same in the form of `C12_nnchain_total` / `C12_mst_total` / `C12_primitive_total`. -/
theorem C12_nnchain_average_total (L : OrderLaws α) (hn : AverageNoNaN α) (chk : Bool)
    (st : State α) (d : Dendrogram α) (data : Array α) (n : Nat) (h2 : 2 ≤ n)
    (hs : n < 2147483648) (hl : 2 * data.size = n * (n - 1)) (hnan : NoNaNData data) :
    (∃ r, nnchainWith chk .average st d data n = .ok r) ∨
      nnchainWith chk .average st d data n = .error .nanInSort :=
  C12_nnchain_total L chk .average (chainReducible_average L hn) st d data n h2 hs hl
    (by rw [squareData_average]; exact hnan)

/-- Through `linkage_with` (dispatched to `nnchain_with`). -/
theorem C12_linkage_average_ok (L : OrderLaws α) (hn : AverageNoNaN α) (chk : Bool)
    (st : State α) (d : Dendrogram α) (data : Array α) (n : Nat) (h2 : 2 ≤ n)
    (hs : n < 2147483648) (hl : 2 * data.size = n * (n - 1)) (hnan : NoNaNData data) :
    ∃ r, linkageWith chk .average st d data n = .ok r :=
  C12_linkage_ok L chk .average .average (by decide) rfl (chainReducible_average L hn) st d data n
    h2 hs hl (by rw [squareData_average]; exact hnan)

/-! ### Non-vacuity (toy exact number type, a valid 4-point matrix) -/

section NonVacuity
attribute [local instance] Toy.natNum

example : ∃ r, nnchainWith true .average State.new (Dendrogram.new 4)
    (#[5, 2, 9, 7, 4, 1] : Array Nat) 4 = .ok r :=
  C12_nnchain_average_ok Toy.natOrderLaws (averageNoNaN_of_noNaN fun _ => rfl) true _ _ _ 4
    (by decide) (by decide) (by decide) (fun _ _ => rfl)

/-- … and on the rounding toy type on which the UNCLAMPED mean is not reducible
(`UnclampedDefect.unclamped_not_reducible`, `Props/C01Average.lean`). -/
example : ∃ r, @nnchainWith Nat UnclampedDefect.truncNum true .average State.new (Dendrogram.new 4)
    (#[5, 2, 9, 7, 4, 1] : Array Nat) 4 = .ok r :=
  @C12_nnchain_average_ok Nat UnclampedDefect.truncNum UnclampedDefect.truncNum_orderLaws
    (@averageNoNaN_of_noNaN _ UnclampedDefect.truncNum fun _ => rfl) true _ _ _ 4
    (by decide) (by decide) (by decide) (fun _ _ => rfl)

end NonVacuity

end Kodama
