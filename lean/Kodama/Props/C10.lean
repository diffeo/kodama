/-
C10 — single and complete linkage depend only on the ORDER of the dissimilarities.

Let `g : α → β` be any map that preserves every decision the code can take on values
(`OrdHom g`: `lt`, `beq`, `isNaN` — for floats: any strictly increasing map on the values that
occur, NaN to NaN; ties are preserved because `beq` is).  Nothing arithmetic is assumed of `g`.

Proved here, for the model (via the naturality theorem `runWith_natural_safe`):

* `C10_formulas`  `Gen.single` and `Gen.complete` (regenerated from `src/method.rs` on every run)
                  commute with every such `g`, because they only select one of their arguments
                  after one `<` test.  (The proof unfolds the generated definitions; if either
                  formula acquired any arithmetic this file would stop building.)
* `C10`           FULL statement for `m ∈ {single, complete}`, every entry point (`runWith`:
                  primitive, nnchain, generic, mst, linkage — for a pair the Rust API does not offer,
                  e.g. mst with complete, both sides are the same `unwrapNone` panic), both build
                  modes, every input and `n`, and ARBITRARY unrelated prior states/dendrograms on
                  the two sides: running on `data.map g` gives the same merges (labels, sizes, order
                  of steps) with every height mapped by `g`, leaves the matrix mapped by `g`, or
                  panics with the same class.  Holds under ties.
                  SENTINEL HYPOTHESES, explicit in the statement and only where the sentinel is
                  compared with data:
                    `hinf : usesInf alg m → g ∞ = ∞`         (mst; linkage/single),
                    `hmax : usesMax alg m → SentinelSafe g`  (generic only; `linkage` never routes
                            single/complete to `generic`): comparisons with `T::max_value()` agree,
                            `g x < MAX ↔ x < MAX`, `MAX < g x ↔ MAX < x`, `g x == MAX ↔ x == MAX`
                            — implied by `g MAX = MAX` (`SentinelSafe.of_fix`), and true of any
                            increasing float map whose values stay below `MAX`.
                  For primitive and nnchain there is no hypothesis besides `OrdHom g`.
* `C10_linkage_no_max`  `usesMax .linkage m = false` for both methods.
* `C10_ok`, `C10_panic`  the same in elementary terms.

Not proved: that a concrete float function is an `OrdHom` (that is a fact about the function, e.g.
`v ↦ v³ + 3` on the value range used by the oracle).
-/
import Kodama.Lemmas.NaturalitySafe
namespace Kodama
variable {α β : Type} [Num α] [Num β]

/-- The two methods that only select. -/
def Method.selectsOnly (m : Method) : Prop := m = .single ∨ m = .complete

theorem C10_formulas {g : α → β} (G : OrdHom g) {m : Method} (hm : m.selectsOnly) :
    UpdHom m g := by
  rcases hm with rfl | rfl
  · exact G.single
  · exact G.complete

theorem C10_hom {g : α → β} (G : OrdHom g) {m : Method} (hm : m.selectsOnly) : Hom m g g :=
  ⟨G, C10_formulas G hm, SqHom.refl m (by rcases hm with rfl | rfl <;> rfl) g⟩

theorem C10 {g : α → β} (G : OrdHom g) {m : Method} (hm : m.selectsOnly) (chk : Bool) (alg : Alg)
    (hmax : usesMax alg m = true → SentinelSafe g)
    (hinf : usesInf alg m = true → g Num.infinity = Num.infinity)
    (st : State α) (st' : State β) (d : Dendrogram α) (d' : Dendrogram β) (data : Array α)
    (n : Nat) :
    out <$> runWith chk alg m st' d' (data.map g) n
      = mapOut g g <$> (out <$> runWith chk alg m st d data n) :=
  runWith_natural_safe (C10_hom G hm) hmax hinf chk st st' d d' data n

theorem C10_linkage_no_max {m : Method} (hm : m.selectsOnly) : usesMax .linkage m = false := by
  rcases hm with rfl | rfl <;> rfl

theorem C10_ok {g : α → β} (G : OrdHom g) {m : Method} (hm : m.selectsOnly) (chk : Bool)
    (alg : Alg)
    (hmax : usesMax alg m = true → SentinelSafe g)
    (hinf : usesInf alg m = true → g Num.infinity = Num.infinity)
    (st : State α) (st' : State β) (d : Dendrogram α) (d' : Dendrogram β) (data : Array α)
    (n : Nat) (st1 : State α) (d1 : Dendrogram α) (M1 : Mat α)
    (h : runWith chk alg m st d data n = .ok (st1, d1, M1)) :
    ∃ st2, runWith chk alg m st' d' (data.map g) n = .ok (st2, mapDend g d1, mapMat g M1) :=
  mapOut_ok (C10 G hm chk alg hmax hinf st st' d d' data n) h

theorem C10_panic {g : α → β} (G : OrdHom g) {m : Method} (hm : m.selectsOnly) (chk : Bool)
    (alg : Alg)
    (hmax : usesMax alg m = true → SentinelSafe g)
    (hinf : usesInf alg m = true → g Num.infinity = Num.infinity)
    (st : State α) (st' : State β) (d : Dendrogram α) (d' : Dendrogram β) (data : Array α)
    (n : Nat) (p : Panic) (h : runWith chk alg m st d data n = .error p) :
    runWith chk alg m st' d' (data.map g) n = .error p :=
  mapOut_error (C10 G hm chk alg hmax hinf st st' d d' data n) h

/-! ### Transfer of a property of the returned steps along `g` -/

/-- The call on the image returns steps with `P` iff the call on the source returns steps whose
image has `P`. -/
theorem OrdHom.run_iff {g : α → β} (G : OrdHom g) {m : Method} (hm : m.selectsOnly)
    (chk : Bool) (alg : Alg) (hmax : usesMax alg m = true → SentinelSafe g)
    (hinf : usesInf alg m = true → g Num.infinity = Num.infinity)
    (st : State α) (st' : State β) (d : Dendrogram α) (d' : Dendrogram β) (data : Array α)
    (n : Nat) (P : List (Step β) → Prop) :
    (∃ st2 d2 M2, runWith chk alg m st' d' (data.map g) n = .ok (st2, d2, M2) ∧
        P d2.steps.toList) ↔
      ∃ st1 d1 M1, runWith chk alg m st d data n = .ok (st1, d1, M1) ∧
        P (d1.steps.toList.map (mapStep g)) := by
  rw [mapOut_ok_iff (C10 G hm chk alg hmax hinf st st' d d' data n) fun d2 _ => P d2.steps.toList]
  simp only [mapDend_steps, Array.toList_map]

/-- A property `Q` of the steps returned on the image gives every `P` that it implies on
preimages, for the steps returned on the source. -/
theorem OrdHom.run_pullback {g : α → β} (G : OrdHom g) {m : Method} (hm : m.selectsOnly)
    (chk : Bool) (alg : Alg) (hmax : usesMax alg m = true → SentinelSafe g)
    (hinf : usesInf alg m = true → g Num.infinity = Num.infinity)
    (st : State α) (st' : State β) (d : Dendrogram α) (d' : Dendrogram β) (data : Array α)
    (n : Nat) {P : List (Step α) → Prop} {Q : List (Step β) → Prop}
    (hPQ : ∀ l, Q (l.map (mapStep g)) → P l)
    (hq : ∃ st2 d2 M2, runWith chk alg m st' d' (data.map g) n = .ok (st2, d2, M2) ∧
      Q d2.steps.toList) :
    ∃ st1 d1 M1, runWith chk alg m st d data n = .ok (st1, d1, M1) ∧ P d1.steps.toList := by
  obtain ⟨st1, d1, M1, hr, hQ⟩ := (G.run_iff hm chk alg hmax hinf st st' d d' data n Q).mp hq
  exact ⟨st1, d1, M1, hr, hPQ _ hQ⟩

/-- A property `P` of the steps returned on the source gives every `Q` that it implies on images,
for the steps returned on the image. -/
theorem OrdHom.run_push {g : α → β} (G : OrdHom g) {m : Method} (hm : m.selectsOnly)
    (chk : Bool) (alg : Alg) (hmax : usesMax alg m = true → SentinelSafe g)
    (hinf : usesInf alg m = true → g Num.infinity = Num.infinity)
    (st : State α) (st' : State β) (d : Dendrogram α) (d' : Dendrogram β) (data : Array α)
    (n : Nat) {P : List (Step α) → Prop} {Q : List (Step β) → Prop}
    (hPQ : ∀ l, P l → Q (l.map (mapStep g)))
    (hq : ∃ st1 d1 M1, runWith chk alg m st d data n = .ok (st1, d1, M1) ∧ P d1.steps.toList) :
    ∃ st2 d2 M2, runWith chk alg m st' d' (data.map g) n = .ok (st2, d2, M2) ∧
      Q d2.steps.toList := by
  obtain ⟨st1, d1, M1, hr, hP⟩ := hq
  exact (G.run_iff hm chk alg hmax hinf st st' d d' data n Q).mpr ⟨st1, d1, M1, hr, hPQ _ hP⟩

/-! ### Non-vacuity

A strictly increasing map between two different finite chains that sends top to top (so both
sentinel hypotheses hold) and is not surjective: `0 ↦ 0, 1 ↦ 2, 2 ↦ 4`.
(C09.lean has an example where `SentinelSafe` holds although the sentinel is not fixed.) -/

namespace C10Example

@[reducible] def numFin (k : Nat) : Num (Fin (k + 1)) where
  lt a b := decide (a < b)
  beq a b := decide (a = b)
  add a _ := a
  sub a _ := a
  mul a _ := a
  div a _ := a
  ofNat _ := 0
  half := 0
  quarter := 0
  sqrt a := a
  abs a := a
  maxValue := Fin.last k
  infinity := Fin.last k
  isNaN _ := false

attribute [local instance] numFin

def g : Fin 3 → Fin 5 := fun i => ⟨2 * i.val, by omega⟩

theorem g_ord : OrdHom g := ⟨by decide, by decide, by decide⟩

example : OrdHom g ∧ SentinelSafe g ∧ g Num.infinity = Num.infinity :=
  ⟨g_ord, SentinelSafe.of_fix g_ord (by decide), by decide⟩

end C10Example

end Kodama
