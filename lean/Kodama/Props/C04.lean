/-
C04 — single linkage is exact.

## Specification level

Proved here, against the label-based specification `Kodama/Spec/Naive.lean` with `m = .single`
(no algorithm model is mentioned), for every `n`, every input array `data` whose off-diagonal
entries are not NaN (`NoNaN n data`; ±0, ±∞ and ties are allowed), every number type satisfying
`OrderLaws`, and EVERY `GreedyValid .single n data steps` (the proofs, `Lemmas/SpecSingle.lean`, are
for every `GreedyValidUpTo` run none of whose heights is NaN, of which these are the exact case):

* `C04_min_invariant`  (a) before every step `i` of the replay, for any two distinct live labels
        `x`, `y`, the table entry `D x y` is a lower bound of `entry u v` over
        `leaves x × leaves y` and is attained there: `D x y = min` over cross pairs.
* `C04_heights_sorted` heights never decrease along the run (`¬ d_k < d_j` for `j ≤ k`), because
        `Gen.single` returns one of its arguments and so never creates a value below the current
        minimum; none of them is NaN (`C04_heights_notNaN`) and each is an entry of the matrix
        between the two merged clusters (`C04_height_is_entry`).
* `C04_of_greedy`      (b) threshold theorem, for EVERY level `h : α` (not only the heights that
        occur; `h` may even be NaN or ±∞): two observations `u, v < n` are joined by the steps of
        height `≤ h` (`SameCluster`: `u = v`, or some step `k` with `¬ h < d_k` has both among the
        `Spec.leaves` of its new label `n+k`) iff they are connected in the threshold graph
        `entry u v ≤ h` (`Reach` = `Relation.ReflTransGen` of `Thr`: `u ≠ v`, both `< n`,
        `¬ h < entry u v`).  In particular `SameCluster … h` is an equivalence relation and its
        classes are the connected components.
* `C04_count`          (c) the number of steps of height `≤ h` is `n −` the number of connected
        components of the threshold graph at `h`; the number of components is given concretely by
        a list of pairwise non-connected representatives to which every observation is connected.

Number laws used (hypotheses, never axioms): `OrderLaws α` — `asymm` and `cotrans` (through
non-NaN middle elements), both true of IEEE `f32`/`f64` including NaN, ±0, ±∞.  No arithmetic law,
no totality/antisymmetry law (`-0.0` and `+0.0` may both occur), no `MonoSqrt` (single linkage does
not work on squares: `Method.onSquares .single = false` is read from the generated table by `rfl`).
The input hypothesis `NoNaN` is needed: with a NaN entry `Gen.single` is not a minimum
(`single NaN x = x` but `single x NaN = NaN`).

That an algorithm of the crate returns a `GreedyValid .single` list is C03 (`C03_primitive_single`, used by
`C04_primitive` below; `C03_nnchain_single_laws` / `C03_generic_single`, used in `Props/C04Single.lean`).
For `mst` the output is `GreedyValidUpTo` with no NaN height (`mstWith_greedyValidUpTo`, the content of
`C03_mst_upTo`; no trichotomy), and `C04_mst`, `C04_mst_sorted`, `C04_mst_count` are the same
specification-level theorems applied to it.  NOT proved: the "MST weight multiset" reading of `C04_count` beyond
the counting statement itself.
Trusted: the definitions in `Spec/Naive.lean`, `Spec/WellFormed.lean` (`leaves`), `Spec/Pairs.lean`.

## `mst_with` (section `Mst`)

For the executable model `mstWith` (Prim over the condensed matrix, then `relabel .single`), every
valid shape `2 ≤ n < 2^31`, `2·len = n(n-1)`, both build modes, every prior state, every number type
with `OrderLaws`, every input without NaN (`NoNaN`) for which the sentinel `T::infinity()` is not
NaN and not strictly below an entry (`InfTop`; true of IEEE floats, ±∞ entries allowed):

* `C04_mst_weights`  value invariant of the loop: the raw steps are a Hamiltonian path in the order
        `ord` in which Prim adds the vertices; the step recorded when `ord[t+1]` is added joins
        `ord[t]` and `ord[t+1]` and its weight is a minimum (lower bound, reached up to
        order-equivalence at the new vertex, not NaN) of the entries crossing the cut
        `(ord[0..t], rest)` (`PrimRun`, `IsMinCross`).
* `C04_mst_interval` Prim interval lemma: at every level `h` the path edges of weight `≤ h` connect
        exactly the connected components of the threshold graph (`Reach ↔ LightConn`).
* `C04_mst_total`    under these hypotheses `mstWith` returns (the sort meets no NaN).
* `C04_mst`          the threshold theorem for the OUTPUT: for every level `h` and observations
        `u, v < n`, `SameCluster n d'.steps.toList h u v ↔ Reach n data h u v`.
* `C04_mst_sorted`, `C04_mst_count`  heights are non-decreasing; the number of output steps of
        height `≤ h` is `n −` the number of threshold components at `h` (same formulation as
        `C04_count`).
* `C04_linkage_single`, `C04_linkage_single_count`  the same through `linkage_with` with
        `Method::Single` (generated dispatch table).
-/
import Kodama.Lemmas.SpecSingle
import Kodama.Lemmas.SpecDecide
import Kodama.Lemmas.ExampleRuns
import Kodama.Lemmas.MstGreedyRun
import Kodama.Model.Linkage
import Kodama.Lemmas.FieldInstances
import Kodama.Props.C03
namespace Kodama
open Spec
variable {α : Type} [Num α]

/-! ## Specification level -/

/-- The relation "joined by the steps of height `≤ h`" on observations, read off the step list
alone: equal, or both beneath the label created by one step whose height is not above `h`. -/
def SameCluster (n : Nat) (steps : List (Step α)) (h : α) (u v : Nat) : Prop :=
  u = v ∨ ∃ (k : Nat) (st : Step α), steps[k]? = some st ∧ Num.lt h st.d = false ∧
    u ∈ leaves n steps steps.length (n + k) ∧ v ∈ leaves n steps steps.length (n + k)

/-- (a) `D x y` is the minimum of the matrix over the cross pairs of the two clusters. -/
theorem C04_min_invariant (L : OrderLaws α) (n : Nat) (data : Array α) (steps : List (Step α))
    (hnan : NoNaN n data) (hv : GreedyValid .single n data steps) (i : Nat)
    (hi : i ≤ steps.length) (x y : Nat)
    (hx : x ∈ (stateAt .single (init .single n data) steps i).live)
    (hy : y ∈ (stateAt .single (init .single n data) steps i).live) (hxy : x ≠ y) :
    (∀ u ∈ leaves n steps steps.length x, ∀ v ∈ leaves n steps steps.length y,
      Num.lt (entry n data Num.infinity u v)
        ((stateAt .single (init .single n data) steps i).D x y) = false) ∧
    (∃ u ∈ leaves n steps steps.length x, ∃ v ∈ leaves n steps steps.length y,
      (stateAt .single (init .single n data) steps i).D x y = entry n data Num.infinity u v) := by
  have hs := stateAt_SInv L hnan hv.2.merges i hi
  have hinv := (hv.2.merges.good i hi).st
  have hord := hv.2.merges.ordered
  have hxl : x < n + steps.length := by have := hinv.lt x hx; have := hinv.next; omega
  have hyl : y < n + steps.length := by have := hinv.lt y hy; have := hinv.next; omega
  constructor
  · intro u hu v hv'
    exact hs.lb x hx y hy hxy u v ((mem_leaves_iff hord _ x hxl).1 hu)
      ((mem_leaves_iff hord _ y hyl).1 hv')
  · obtain ⟨u, v, hu, hv', e⟩ := hs.att x hx y hy hxy
    exact ⟨u, (mem_leaves_iff hord _ x hxl).2 hu, v, (mem_leaves_iff hord _ y hyl).2 hv', e⟩

/-- Every height is an entry of the matrix between a leaf of each of the two merged clusters. -/
theorem C04_height_is_entry (L : OrderLaws α) (n : Nat) (data : Array α) (steps : List (Step α))
    (hnan : NoNaN n data) (hv : GreedyValid .single n data steps) (k : Nat) (st : Step α)
    (hst : steps[k]? = some st) :
    ∃ u ∈ leaves n steps steps.length st.c1, ∃ v ∈ leaves n steps steps.length st.c2,
      u ≠ v ∧ st.d = entry n data Num.infinity u v := by
  have hord := hv.2.merges.ordered
  have ho := hord k st hst
  have hk := getElem?_lt hst
  obtain ⟨u, v, hu, hv', huv, e⟩ := single_height_attained L hnan hv.2 hst
  exact ⟨u, (mem_leaves_iff hord _ _ (by omega)).2 hu, v,
    (mem_leaves_iff hord _ _ (by omega)).2 hv', huv, e⟩

theorem C04_heights_notNaN (L : OrderLaws α) (n : Nat) (data : Array α) (steps : List (Step α))
    (hnan : NoNaN n data) (hv : GreedyValid .single n data steps) (k : Nat) (st : Step α)
    (hst : steps[k]? = some st) : Num.isNaN st.d = false :=
  single_height_notNaN L hnan hv.2 st (List.mem_of_getElem? hst)

theorem C04_heights_sorted (L : OrderLaws α) (n : Nat) (data : Array α) (steps : List (Step α))
    (hnan : NoNaN n data) (hv : GreedyValid .single n data steps) :
    steps.Pairwise (fun s t => Num.lt t.d s.d = false) :=
  (hv.upTo L).heights_sorted L hnan

/-- (b) Threshold theorem: the clusters formed by the steps of height `≤ h` are the connected
components of the threshold graph at `h`. -/
theorem C04_of_greedy (L : OrderLaws α) (n : Nat) (data : Array α) (steps : List (Step α))
    (hnan : NoNaN n data) (hv : GreedyValid .single n data steps) (h : α) (u v : Nat)
    (hu : u < n) : SameCluster n steps h u v ↔ Reach n data h u v :=
  (hv.upTo L).threshold L hnan (single_height_notNaN L hnan hv.2) h u v hu

/-- A relation on observations that coincides with connectedness in the threshold graph is an
equivalence relation. -/
theorem sameCluster_equiv_of_reach {n : Nat} {data : Array α} {steps : List (Step α)} {h : α}
    (key : ∀ u v, u < n → (SameCluster n steps h u v ↔ Reach n data h u v)) :
    (∀ u, SameCluster n steps h u u) ∧
    (∀ u v, u < n → v < n → SameCluster n steps h u v → SameCluster n steps h v u) ∧
    (∀ u v w, u < n → v < n → SameCluster n steps h u v → SameCluster n steps h v w →
      SameCluster n steps h u w) :=
  ⟨fun _ => Or.inl rfl, fun u v hu hv huv => (key v u hv).2 ((key u v hu).1 huv).symm,
    fun u v w hu hv huv hvw => (key u w hu).2 (((key u v hu).1 huv).trans ((key v w hv).1 hvw))⟩

/-- Consequently "joined by the steps of height `≤ h`" is an equivalence relation on observations
(its classes are the threshold components). -/
theorem C04_sameCluster_equiv (L : OrderLaws α) (n : Nat) (data : Array α)
    (steps : List (Step α)) (hnan : NoNaN n data) (hv : GreedyValid .single n data steps) (h : α) :
    (∀ u, SameCluster n steps h u u) ∧
    (∀ u v, u < n → v < n → SameCluster n steps h u v → SameCluster n steps h v u) ∧
    (∀ u v w, u < n → v < n → SameCluster n steps h u v → SameCluster n steps h v w →
      SameCluster n steps h u w) :=
  sameCluster_equiv_of_reach (C04_of_greedy L n data steps hnan hv h)

/-- (c) The number of steps of height `≤ h` is `n` minus the number of connected components of the
threshold graph at `h` — the components being counted by a list of pairwise non-connected
representatives to which every observation is connected. -/
theorem C04_count (L : OrderLaws α) (n : Nat) (data : Array α) (steps : List (Step α))
    (hnan : NoNaN n data) (hv : GreedyValid .single n data steps) (h : α) :
    ∃ reps : List Nat,
      (steps.filter (fun st => !Num.lt h st.d)).length + reps.length = n ∧
      (∀ r ∈ reps, r < n) ∧
      reps.Pairwise (fun r r' => ¬ Reach n data h r r') ∧
      (∀ u, u < n → ∃ r ∈ reps, Reach n data h u r) :=
  (hv.upTo L).count L hnan (single_height_notNaN L hnan hv.2) h

/-! ### Non-vacuity: a concrete instance (4 observations, exact toy numbers) -/

section NonVacuity
attribute [local instance] Toy.natNum

/-- Condensed matrix `d01=5 d02=9 d03=7 d12=8 d13=6 d23=1`. -/
private def exData : Array Nat := #[5, 9, 7, 8, 6, 1]
private def exSteps : List (Step Nat) := [⟨2, 3, 1, 2⟩, ⟨0, 1, 5, 2⟩, ⟨4, 5, 6, 4⟩]

private theorem exNoNaN : NoNaN 4 exData := fun _ _ _ _ _ => rfl
private theorem exValid : GreedyValid .single 4 exData exSteps := Toy.ex6_single_valid

/-- All hypotheses of the section are satisfiable together. -/
example : OrderLaws Nat ∧ NoNaN 4 exData ∧ GreedyValid .single 4 exData exSteps :=
  ⟨Toy.natOrderLaws, exNoNaN, exValid⟩

/-- At level 5 observations 0 and 1 are in one component (step 1, height 5, leaves `[0, 1]`) … -/
example : Reach 4 exData 5 0 1 :=
  (C04_of_greedy Toy.natOrderLaws 4 exData exSteps exNoNaN exValid 5 0 1 (by decide)).1
    (Or.inr ⟨1, ⟨0, 1, 5, 2⟩, rfl, by decide, by decide, by decide⟩)

/-- … and 0 and 2 are not: the only step joining them has height 6. -/
example : ¬ Reach 4 exData 5 0 2 := by
  intro hr
  rcases (C04_of_greedy Toy.natOrderLaws 4 exData exSteps exNoNaN exValid 5 0 2 (by decide)).2 hr
    with h | ⟨k, st, hst, hle, hu, hv⟩
  · cases h
  · match k, hst with
    | 0, hst => cases hst; revert hu; decide
    | 1, hst => cases hst; revert hv; decide
    | 2, hst => cases hst; revert hle; decide
    | k + 3, hst => simp [exSteps] at hst

end NonVacuity

/-! ## mst_with -/

section Mst

/-- Value invariant of the Prim loop: on a valid NaN-free matrix `mstWith` is its
main loop followed by `relabel .single`, and the loop leaves a Prim path: the raw steps join
consecutive vertices of the order `ord` in which the vertices were added, with minimum crossing
weights (`PrimRun`, whose field `steps : PathSteps` says so through `IsMinCross`). -/
theorem C04_mst_weights (L : OrderLaws α) (chk : Bool) (st : State α) (d : Dendrogram α)
    (data : Array α) (n : Nat) (h2 : 2 ≤ n) (hs : n < 2147483648)
    (hl : 2 * data.size = n * (n - 1)) (hnan : NoNaN n data) (hinf : InfTop n data) :
    ∃ st1 dend1 M1 ord, MstLoopResult n data st1 dend1 M1 ∧
      PrimRun n data ord dend1.steps.toList ∧
      mstWith chk st d data n =
        (relabel .single st1.set dend1 >>= fun r => pure ({ st1 with set := r.1 }, r.2, M1)) :=
  mstWith_prim L chk st d data n h2 hs hl hnan hinf

/-- Prim interval lemma: for a Prim path and every level `h`, two observations are
connected in the threshold graph iff they are connected by path edges of weight `≤ h`. -/
theorem C04_mst_interval (L : OrderLaws α) (n : Nat) (data : Array α) (hnan : NoNaN n data)
    (ord : List Nat) (rs : List (Step α)) (run : PrimRun n data ord rs) (h : α) (u v : Nat)
    (hu : u < n) (hv : v < n) : Reach n data h u v ↔ LightConn rs h u v :=
  prim_interval L hnan run h u v hu hv

/-- Under the hypotheses of this section `mstWith` returns: the only possible panic of `relabel`,
the NaN panic of the sort, cannot happen because every recorded weight is not NaN. -/
theorem C04_mst_total (L : OrderLaws α) (chk : Bool) (st : State α) (d : Dendrogram α)
    (data : Array α) (n : Nat) (h2 : 2 ≤ n) (hs : n < 2147483648)
    (hl : 2 * data.size = n * (n - 1)) (hnan : NoNaN n data) (hinf : InfTop n data) :
    ∃ r, mstWith chk st d data n = .ok r := by
  obtain ⟨st1, dend1, M1, ord, hres, hprim, heq⟩ :=
    mstWith_prim L chk st d data n h2 hs hl hnan hinf
  obtain ⟨r, hr⟩ := relabel_total .single st1.set dend1 n h2 hres.obs hres.raw
    (Or.inr (Or.inr fun s hs' => hprim.nn hs'))
  exact ⟨_, by rw [heq, hr]; rfl⟩

/-- C04 for `mst_with`: the partition obtained by applying all output steps of height
`≤ h` is the partition into connected components of the threshold graph at `h`, for EVERY level
`h` (including levels that are not heights, ±∞, NaN). -/
theorem C04_mst (L : OrderLaws α) (chk : Bool) (st st' : State α) (d d' : Dendrogram α)
    (data : Array α) (n : Nat) (M' : Mat α) (h2 : 2 ≤ n) (hs : n < 2147483648)
    (hl : 2 * data.size = n * (n - 1)) (hnan : NoNaN n data) (hinf : InfTop n data)
    (hrun : mstWith chk st d data n = .ok (st', d', M')) (h : α) (u v : Nat) (hu : u < n) :
    SameCluster n d'.steps.toList h u v ↔ Reach n data h u v :=
  have ⟨hg, hnn⟩ := mstWith_greedyValidUpTo L chk st st' d d' data n M' h2 hs hl hnan hinf hrun
  hg.threshold L hnan hnn h u v hu

/-- Heights of the output of `mst_with` are non-decreasing (and the dendrogram is well formed:
`C01_mst`). -/
theorem C04_mst_sorted (L : OrderLaws α) (chk : Bool) (st st' : State α) (d d' : Dendrogram α)
    (data : Array α) (n : Nat) (M' : Mat α) (h2 : 2 ≤ n) (hs : n < 2147483648)
    (hl : 2 * data.size = n * (n - 1)) (hnan : NoNaN n data) (hinf : InfTop n data)
    (hrun : mstWith chk st d data n = .ok (st', d', M')) :
    d'.steps.toList.Pairwise (fun s t => Num.lt t.d s.d = false) :=
  have ⟨hg, _⟩ := mstWith_greedyValidUpTo L chk st st' d d' data n M' h2 hs hl hnan hinf hrun
  hg.heights_sorted L hnan

/-- The number of output steps of height `≤ h` is `n` minus the number of connected components of
the threshold graph at `h` (components counted by pairwise non-connected representatives to which
every observation is connected), for every `h`. -/
theorem C04_mst_count (L : OrderLaws α) (chk : Bool) (st st' : State α) (d d' : Dendrogram α)
    (data : Array α) (n : Nat) (M' : Mat α) (h2 : 2 ≤ n) (hs : n < 2147483648)
    (hl : 2 * data.size = n * (n - 1)) (hnan : NoNaN n data) (hinf : InfTop n data)
    (hrun : mstWith chk st d data n = .ok (st', d', M')) (h : α) :
    ∃ reps : List Nat,
      (d'.steps.toList.filter (fun st => !Num.lt h st.d)).length + reps.length = n ∧
      (∀ r ∈ reps, r < n) ∧
      reps.Pairwise (fun r r' => ¬ Reach n data h r r') ∧
      (∀ u, u < n → ∃ r ∈ reps, Reach n data h u r) :=
  have ⟨hg, hnn⟩ := mstWith_greedyValidUpTo L chk st st' d d' data n M' h2 hs hl hnan hinf hrun
  hg.count L hnan hnn h

/-- Consequently "joined by the output steps of height `≤ h`" is an equivalence relation. -/
theorem C04_mst_sameCluster_equiv (L : OrderLaws α) (chk : Bool) (st st' : State α)
    (d d' : Dendrogram α) (data : Array α) (n : Nat) (M' : Mat α) (h2 : 2 ≤ n)
    (hs : n < 2147483648) (hl : 2 * data.size = n * (n - 1)) (hnan : NoNaN n data)
    (hinf : InfTop n data) (hrun : mstWith chk st d data n = .ok (st', d', M')) (h : α) :
    (∀ u, SameCluster n d'.steps.toList h u u) ∧
    (∀ u v, u < n → v < n → SameCluster n d'.steps.toList h u v →
      SameCluster n d'.steps.toList h v u) ∧
    (∀ u v w, u < n → v < n → SameCluster n d'.steps.toList h u v →
      SameCluster n d'.steps.toList h v w → SameCluster n d'.steps.toList h u w) :=
  sameCluster_equiv_of_reach (C04_mst L chk st st' d d' data n M' h2 hs hl hnan hinf hrun h)

theorem C04_linkage_single (L : OrderLaws α) (chk : Bool) (st st' : State α) (d d' : Dendrogram α)
    (data : Array α) (n : Nat) (M' : Mat α) (h2 : 2 ≤ n) (hs : n < 2147483648)
    (hl : 2 * data.size = n * (n - 1)) (hnan : NoNaN n data) (hinf : InfTop n data)
    (hrun : linkageWith chk .single st d data n = .ok (st', d', M')) (h : α) (u v : Nat)
    (hu : u < n) : SameCluster n d'.steps.toList h u v ↔ Reach n data h u v := by
  rw [linkage_single_eq] at hrun
  exact C04_mst L chk st st' d d' data n M' h2 hs hl hnan hinf hrun h u v hu

theorem C04_linkage_single_count (L : OrderLaws α) (chk : Bool) (st st' : State α)
    (d d' : Dendrogram α) (data : Array α) (n : Nat) (M' : Mat α) (h2 : 2 ≤ n)
    (hs : n < 2147483648) (hl : 2 * data.size = n * (n - 1)) (hnan : NoNaN n data)
    (hinf : InfTop n data) (hrun : linkageWith chk .single st d data n = .ok (st', d', M'))
    (h : α) :
    d'.steps.toList.Pairwise (fun s t => Num.lt t.d s.d = false) ∧
    ∃ reps : List Nat,
      (d'.steps.toList.filter (fun st => !Num.lt h st.d)).length + reps.length = n ∧
      (∀ r ∈ reps, r < n) ∧
      reps.Pairwise (fun r r' => ¬ Reach n data h r r') ∧
      (∀ u, u < n → ∃ r ∈ reps, Reach n data h u r) := by
  rw [linkage_single_eq] at hrun
  exact ⟨C04_mst_sorted L chk st st' d d' data n M' h2 hs hl hnan hinf hrun,
    C04_mst_count L chk st st' d d' data n M' h2 hs hl hnan hinf hrun h⟩

/-! ### Non-vacuity for `mst_with` (the 4-observation matrix of the previous section) -/

section NonVacuityMst
attribute [local instance] Toy.natNum

private def exData' : Array Nat := #[5, 9, 7, 8, 6, 1]

private theorem exNoNaN' : NoNaN 4 exData' := fun _ _ _ _ _ => rfl

private theorem exInfTop' : InfTop 4 exData' := Toy.ex6_infTop

/-- All hypotheses of the section are satisfiable together (toy numbers, 4 observations), the run
returns, and the conclusion holds for it: at level 5 observations 0 and 1 are joined by the output
steps, 0 and 2 are not. -/
example : OrderLaws Nat ∧ NoNaN 4 exData' ∧ InfTop 4 exData' ∧
    ∃ st' d' M', mstWith true State.new (Dendrogram.new 4) exData' 4 = .ok (st', d', M') ∧
      SameCluster 4 d'.steps.toList 5 0 1 ∧ ¬ SameCluster 4 d'.steps.toList 5 0 2 := by
  refine ⟨Toy.natOrderLaws, exNoNaN', exInfTop', ?_⟩
  obtain ⟨⟨st', d', M'⟩, hr⟩ := C04_mst_total Toy.natOrderLaws true State.new (Dendrogram.new 4)
    exData' 4 (by decide) (by decide) (by decide) exNoNaN' exInfTop'
  have key := fun u v hu => C04_mst Toy.natOrderLaws true State.new st' (Dendrogram.new 4) d'
    exData' 4 M' (by decide) (by decide) (by decide) exNoNaN' exInfTop' hr 5 u v hu
  refine ⟨st', d', M', hr, (key 0 1 (by decide)).2 ?_, fun hsc => ?_⟩
  · exact Relation.ReflTransGen.single ⟨by decide, by decide, by decide, by decide⟩
  · have hreach := (key 0 2 (by decide)).1 hsc
    -- at level 5 the threshold graph has the edges 0–1 and 2–3 only
    have inv : ∀ x, Reach 4 exData' 5 0 x → x = 0 ∨ x = 1 := by
      intro x hx
      induction hx with
      | refl => exact Or.inl rfl
      | @tail y z _ h2 ih =>
        obtain ⟨hy, hz, hne, hle⟩ := h2
        have hall : ∀ y, y < 4 → ∀ z, z < 4 → (y = 0 ∨ y = 1) →
            Num.lt (5 : Nat) (entry 4 exData' Num.infinity y z) = false → (z = 0 ∨ z = 1) := by
          decide
        exact hall y hy z hz ih hle
    rcases inv 2 hreach with h | h <;> cases h

end NonVacuityMst

end Mst

/-! ## `primitive_with` with `Method::Single`, and `primitive_with` vs `mst_with`

Entry points: `primitive_with(.., Method::Single, ..)` (model `primitiveWith … .single`) and
`mst_with` (model `mstWith`); both build modes, every prior state, every valid matrix
`2 ≤ n < 2^31`, `2·len = n(n-1)`.

Any number type `α` — hypotheses (all explicit):
  `OrderLaws α`, `LtTrichotomy α` (incomparable ⇒ equal; FALSE for IEEE floats because of `±0` and
  NaN — so these are exact-order statements; needed by `C03_primitive_single` for the symmetry of
  `min`), `NoNaN n data`; for the comparison with `mst_with` additionally `InfTop n data` (the
  sentinel `T::infinity()` is not NaN and not strictly below an entry — needed by `C04_mst`).

* `C04_primitive`        `primitiveWith … .single` returns, and for EVERY level `h` the returned steps
      of height `≤ h` join exactly the connected components of the threshold graph:
      `SameCluster … h u v ↔ Reach n data h u v`.  (`C03_primitive_single` + `C04_of_greedy`.)
* `C04_primitive_count`  the counting form (`C04_count`) and sortedness for the returned steps.
* `C04_primitive_mst_same_cuts`  both calls return and at every level `h` their outputs induce the
      SAME partition of the observations (`SameCluster` equivalent), whatever the build modes and
      prior states.  (`C04_primitive` + `C04_mst_total` + `C04_mst`.)  Equality of the step LISTS on
      tie-free input is `C06_mst_primitive_agree` (`Props/C06Mst.lean`), through `GreedyValid` of
      `mstWith`'s output (`C03_mst_total`).

EXACT ARITHMETIC corollaries (`K` a linearly ordered field with `ExactLaws K`: `fieldNum K`,
`fieldNumWith K sq`, or any exact run instance; IEEE floats are not a field — for them the statements
are the ones above): `C04_primitive_exact` (no hypothesis left besides the shape),
`C04_primitive_mst_same_cuts_exact` (hypothesis: every entry is `≤` the `infinity` sentinel of the
instance — for `fieldNum K`, whose sentinel is `0`, that restricts the input to non-positive
entries; use an exact instance with a large sentinel, as in the example).
-/

section Primitive

theorem C04_primitive (L : OrderLaws α) (T : LtTrichotomy α) (chk : Bool) (st : State α)
    (d : Dendrogram α) (data : Array α) (n : Nat) (h2 : 2 ≤ n) (hs : n < 2147483648)
    (hl : 2 * data.size = n * (n - 1)) (hnan : NoNaN n data) :
    ∃ st' d' M', primitiveWith chk .single st d data n = .ok (st', d', M') ∧
      ∀ (h : α) (u v : Nat), u < n →
        (SameCluster n d'.steps.toList h u v ↔ Reach n data h u v) :=
  exists_ok_imp
    (C03_primitive_single L T chk st d data n h2 hs hl (initNoNaN_single_of_noNaN hnan))
    fun _ hg h u v hu => C04_of_greedy L n data _ hnan hg h u v hu

/-- Sortedness and the counting form for the steps returned by `primitive_with(Method::Single)`. -/
theorem C04_primitive_count (L : OrderLaws α) (T : LtTrichotomy α) (chk : Bool) (st : State α)
    (d : Dendrogram α) (data : Array α) (n : Nat) (h2 : 2 ≤ n) (hs : n < 2147483648)
    (hl : 2 * data.size = n * (n - 1)) (hnan : NoNaN n data) :
    ∃ st' d' M', primitiveWith chk .single st d data n = .ok (st', d', M') ∧
      d'.steps.toList.Pairwise (fun s t => Num.lt t.d s.d = false) ∧
      ∀ h : α, ∃ reps : List Nat,
        (d'.steps.toList.filter (fun st => !Num.lt h st.d)).length + reps.length = n ∧
        (∀ r ∈ reps, r < n) ∧
        reps.Pairwise (fun r r' => ¬ Reach n data h r r') ∧
        (∀ u, u < n → ∃ r ∈ reps, Reach n data h u r) :=
  exists_ok_imp
    (C03_primitive_single L T chk st d data n h2 hs hl (initNoNaN_single_of_noNaN hnan))
    fun _ hg => ⟨C04_heights_sorted L n data _ hnan hg, fun h => C04_count L n data _ hnan hg h⟩

theorem C04_primitive_mst_same_cuts (L : OrderLaws α) (T : LtTrichotomy α) (chk₁ chk₂ : Bool)
    (st₁ st₂ : State α) (d₁ d₂ : Dendrogram α) (data : Array α) (n : Nat) (h2 : 2 ≤ n)
    (hs : n < 2147483648) (hl : 2 * data.size = n * (n - 1)) (hnan : NoNaN n data)
    (hinf : InfTop n data) :
    ∃ sp dp Mp sm dm Mm,
      primitiveWith chk₁ .single st₁ d₁ data n = .ok (sp, dp, Mp) ∧
      mstWith chk₂ st₂ d₂ data n = .ok (sm, dm, Mm) ∧
      ∀ (h : α) (u v : Nat), u < n →
        (SameCluster n dp.steps.toList h u v ↔ SameCluster n dm.steps.toList h u v) := by
  obtain ⟨sp, dp, Mp, hp, hcp⟩ := C04_primitive L T chk₁ st₁ d₁ data n h2 hs hl hnan
  obtain ⟨⟨sm, dm, Mm⟩, hm⟩ := C04_mst_total L chk₂ st₂ d₂ data n h2 hs hl hnan hinf
  refine ⟨sp, dp, Mp, sm, dm, Mm, hp, hm, fun h u v hu => ?_⟩
  exact (hcp h u v hu).trans
    (C04_mst L chk₂ st₂ sm d₂ dm data n Mm h2 hs hl hnan hinf hm h u v hu).symm

/-- The same for given successful runs. -/
theorem C04_primitive_mst_same_cuts_of_runs (L : OrderLaws α) (T : LtTrichotomy α)
    (chk₁ chk₂ : Bool) (st₁ st₂ sp sm : State α) (d₁ d₂ dp dm : Dendrogram α) (data : Array α)
    (n : Nat) (Mp Mm : Mat α) (h2 : 2 ≤ n) (hs : n < 2147483648)
    (hl : 2 * data.size = n * (n - 1)) (hnan : NoNaN n data) (hinf : InfTop n data)
    (hp : primitiveWith chk₁ .single st₁ d₁ data n = .ok (sp, dp, Mp))
    (hm : mstWith chk₂ st₂ d₂ data n = .ok (sm, dm, Mm)) (h : α) (u v : Nat) (hu : u < n) :
    SameCluster n dp.steps.toList h u v ↔ SameCluster n dm.steps.toList h u v := by
  have hcp := of_exists_ok (C04_primitive L T chk₁ st₁ d₁ data n h2 hs hl hnan) hp
  exact (hcp h u v hu).trans
    (C04_mst L chk₂ st₂ sm d₂ dm data n Mm h2 hs hl hnan hinf hm h u v hu).symm

end Primitive

section PrimitiveExact
variable {K : Type} [Field K] [LinearOrder K] [Num K]

/-- `C04_primitive` in exact arithmetic: no hypothesis besides the shape of the input. -/
theorem C04_primitive_exact (E : ExactLaws K) (chk : Bool) (st : State K) (d : Dendrogram K)
    (data : Array K) (n : Nat) (h2 : 2 ≤ n) (hs : n < 2147483648)
    (hl : 2 * data.size = n * (n - 1)) :
    ∃ st' d' M', primitiveWith chk .single st d data n = .ok (st', d', M') ∧
      ∀ (h : K) (u v : Nat), u < n →
        (SameCluster n d'.steps.toList h u v ↔ Reach n data h u v) :=
  C04_primitive E.field.orderLaws E.field.ltTrichotomy chk st d data n h2 hs hl (E.noNaN_data n data)

/-- `C04_primitive_mst_same_cuts` in exact arithmetic; `hinf`: no entry exceeds the sentinel. -/
theorem C04_primitive_mst_same_cuts_exact (E : ExactLaws K) (chk₁ chk₂ : Bool)
    (st₁ st₂ : State K) (d₁ d₂ : Dendrogram K) (data : Array K) (n : Nat) (h2 : 2 ≤ n)
    (hs : n < 2147483648) (hl : 2 * data.size = n * (n - 1))
    (hinf : ∀ u v, u < n → v < n → u ≠ v →
      entry n data Num.infinity u v ≤ (Num.infinity : K)) :
    ∃ sp dp Mp sm dm Mm,
      primitiveWith chk₁ .single st₁ d₁ data n = .ok (sp, dp, Mp) ∧
      mstWith chk₂ st₂ d₂ data n = .ok (sm, dm, Mm) ∧
      ∀ (h : K) (u v : Nat), u < n →
        (SameCluster n dp.steps.toList h u v ↔ SameCluster n dm.steps.toList h u v) :=
  C04_primitive_mst_same_cuts E.field.orderLaws E.field.ltTrichotomy chk₁ chk₂ st₁ st₂ d₁ d₂ data n
    h2 hs hl (E.noNaN_data n data)
    ⟨E.noNaN _, fun u v hu hv huv => E.field.lt_false.2 (hinf u v hu hv huv)⟩

end PrimitiveExact

/-! ### Non-vacuity over `ℚ` (an exact instance with sentinel `1000`) -/

section PrimitiveExample

/-- `fieldNum ℚ` with the sentinels set to `1000`. -/
@[reducible] private def qNumInf : Num ℚ := { fieldNum ℚ with maxValue := 1000, infinity := 1000 }

private theorem qNumInf_exact : @ExactLaws ℚ _ _ qNumInf := ratNumMax_exact 1000

attribute [local instance] qNumInf

/-- `d01 = 5, d02 = 2, d12 = 9`. -/
private def exQ : Array ℚ := #[5, 2, 9]

private theorem exQ_inf : ∀ u v, u < 3 → v < 3 → u ≠ v →
    entry 3 exQ Num.infinity u v ≤ (Num.infinity : ℚ) := exQ_entry_le_1000

/-- All hypotheses of the exact corollaries are satisfiable together; both algorithms return and
cut identically at every rational level. -/
example : ∃ sp dp Mp sm dm Mm,
    primitiveWith true .single State.new (Dendrogram.new 0) exQ 3 = .ok (sp, dp, Mp) ∧
    mstWith false State.new (Dendrogram.new 3) exQ 3 = .ok (sm, dm, Mm) ∧
    ∀ (h : ℚ) (u v : Nat), u < 3 →
      (SameCluster 3 dp.steps.toList h u v ↔ SameCluster 3 dm.steps.toList h u v) :=
  C04_primitive_mst_same_cuts_exact qNumInf_exact true false _ _ _ _ exQ 3 (by decide) (by decide)
    (by decide) exQ_inf

end PrimitiveExample

end Kodama
