/-
C02 for `nnchain_with`: the matrix the algorithm works on holds, at every time, the DOCUMENTED
linkage criterion of the two clusters (computed from the original matrix), and every height of the
returned dendrogram is the documented criterion of the two clusters it merges.

Scope.  EXACT ARITHMETIC ONLY: `K` a linearly ordered field whose `Num K` instance computes the field
operations and has no NaN (`ExactLaws K`).  IEEE floats are not a field (the closed forms of the
update formulas need associativity/distributivity); average and weighted linkage under rounding:
`Props/C02Rounding.lean`.
Entry point `nnchain_with` (model `nnchainWith`), both build modes, every prior state, every valid
matrix `2 ≤ n < 2^31`, `2·len = n(n−1)`, all five chain methods.

* `C02_nnchain_matrix_init`, `C02_nnchain_matrix`  the loop invariant `ChainTreeInv`
      with `R = Crit.Criterion m d`, `d = (Spec.init m n data).D` (the input, squared iff the method
      works on squares): for all live indices `x ≠ y`, `M[x,y]` is the criterion between the merge
      tree of the cluster living at `x` and the one living at `y` (`σ.tree`, trees in execution order:
      `Rnn.IState`), recorded sizes are cluster cardinalities; it holds initially and every outer
      iteration preserves it (reusing `updateRows_dval` through `chainIter_ok_ext`, and
      `C02_lw_criterion`).
* `C02_nnchain_raw_heights`  every RAW recorded height (before the sort) is the criterion of the two
      merged trees, computed from the original matrix.
* `C02_nnchain`  the call returns and every returned step's height is the documented criterion of the
      two clusters it merges (the `Spec.leaves` of its two labels in the returned dendrogram):
      min / max / mean over cross pairs, the tree recursion for weighted, `Num.sqrt` of the Ward
      criterion.  (`C03_nnchain_exact` + `C02_greedy_heights_closed`.)
* `C02_nnchain_of_run`, `C02_linkage_nnchain`  for a given successful run / through `linkage_with`.
* `DocCriterion mc dm A B T₁ T₂ v`  the conclusion of these three theorems: the documented criterion of the
      chain method `mc` in closed form (the five chain cases of the `match` in `C02_primitive`).
-/
import Kodama.Props.C03Nnchain
namespace Kodama
open Spec Crit MTree Finset
variable {K : Type} [Field K] [LinearOrder K] [IsStrictOrderedRing K] [Num K]

theorem C02_nnchain_matrix_init (E : ExactLaws K) (mc : MethodChain) (data : Array K) (n : Nat)
    (h2 : 2 ≤ n) (hs : n < 2147483648) (hl : 2 * data.size = n * (n - 1)) :
    ChainTreeInv (Criterion mc.intoMethod (init mc.intoMethod n data).D) n 0 (List.range n)
      ({ (State.fresh n : State K) with chain := #[] }) (Dendrogram.new n)
      ({ data := squareData mc.intoMethod data, n := n, acc := 0 } : Mat K) (Rnn.IState.init n) :=
  chainTreeInv_init mc data n h2 hs hl (fun _ _ => E.noNaN _)
    (fun i j _ => Criterion.leaf mc.intoMethod i j)

/-- That the matrix holds the criteria is the clause `table` of the invariant:
`∀ x y live, x ≠ y → Criterion m d (σ.tree x) (σ.tree y) (M.dval x y)`. -/
theorem C02_nnchain_matrix (E : ExactLaws K) (chk : Bool) (mc : MethodChain) (data : Array K)
    (n k : Nat) (live : List Nat) (st : State K) (dend : Dendrogram K) (M : Mat K)
    (σ : Rnn.IState) (hk : k + 1 < n)
    (inv : ChainTreeInv (Criterion mc.intoMethod (init mc.intoMethod n data).D) n k live st dend M σ) :
    ∃ st' dend' M' a b, chainIter chk mc ⟨st, dend, M⟩ = .ok ⟨st', dend', M'⟩ ∧
      ChainStepFacts mc n live st dend M st' dend' M' a b ∧
      ChainTreeInv (Criterion mc.intoMethod (init mc.intoMethod n data).D) n (k + 1)
        (live.filter (· ≠ a)) st' dend' M' (σ.merge a b) :=
  chainTreeInv_step E.field.orderLaws chk mc (chainReducible_exact E.field E.noNaN mc)
    (C02_lw_criterion E.field mc.intoMethod _ (init_DSymm mc.intoMethod n data))
    (fun s t v w => Criterion.unique mc.intoMethod s t v w) n k live st dend M σ hk inv

/-- The merge trees are those of the execution order (`Rnn.IState.replay` of the steps recorded before);
the recorded size is the merged size. -/
theorem C02_nnchain_raw_heights (E : ExactLaws K) (chk : Bool) (mc : MethodChain) (data : Array K)
    (n : Nat) (h2 : 2 ≤ n) (hs : n < 2147483648) (hl : 2 * data.size = n * (n - 1)) :
    ∃ s1 : ChainSt K,
      iterM (chainIter chk mc) (n - 1)
        ⟨{ (State.fresh n : State K) with chain := #[] }, Dendrogram.new n,
          { data := squareData mc.intoMethod data, n := n, acc := 0 }⟩ = .ok s1 ∧
      ∀ (i : Nat) (s : Step K), s1.dend.steps.toList[i]? = some s →
        let σ := Rnn.IState.replay (Rnn.IState.init n) (s1.dend.steps.toList.take i)
        Criterion mc.intoMethod (init mc.intoMethod n data).D (σ.tree s.c1) (σ.tree s.c2) s.d ∧
        s.size = (σ.tree s.c1).leaves.card + (σ.tree s.c2).leaves.card := by
  obtain ⟨s1, e, _, hrun⟩ := C03_nnchain_partial E.field.orderLaws chk mc
    (chainReducible_exact E.field E.noNaN mc)
    (C02_lw_criterion E.field mc.intoMethod _ (init_DSymm mc.intoMethod n data))
    (fun s t v w => Criterion.unique mc.intoMethod s t v w) data n h2 hs hl
    (fun _ _ => E.noNaN _) (fun i j _ => Criterion.leaf mc.intoMethod i j)
  refine ⟨s1, e, fun i s hi => ?_⟩
  have ok := Rnn.rnnFrom_get _ _ i s hrun hi
  exact ⟨ok.height, ok.size⟩

/-- The documented criterion of each chain method in closed form: `v` is the recorded height of a
step merging the clusters with observation sets `A`, `B` (merge trees `T₁`, `T₂`), `dm` the base
matrix (squared for Ward). -/
def DocCriterion (mc : MethodChain) (dm : Nat → Nat → K) (A B : Finset Nat) (T₁ T₂ : MTree Nat)
    (v : K) : Prop :=
  match mc with
  | .single => IsMinOver dm A B v
  | .complete => IsMaxOver dm A B v
  | .average => v = avg dm A B
  | .weighted => v = wdist dm T₁ T₂
  | .ward => v = Num.sqrt (wardc dm A B)

theorem C02_nnchain_of_run (E : ExactLaws K) (chk : Bool) (mc : MethodChain) (st st' : State K)
    (d d' : Dendrogram K) (data : Array K) (n : Nat) (M' : Mat K) (h2 : 2 ≤ n)
    (hs : n < 2147483648) (hl : 2 * data.size = n * (n - 1))
    (hrun : nnchainWith chk mc st d data n = .ok (st', d', M'))
    (i : Nat) (s : Step K) (hi : d'.steps.toList[i]? = some s) :
    let steps := d'.steps.toList
    let dm := (Spec.init mc.intoMethod n data).D
    let A := (Spec.leaves n steps steps.length s.c1).toFinset
    let B := (Spec.leaves n steps steps.length s.c2).toFinset
    let T₁ := clusterTree n steps s.c1
    let T₂ := clusterTree n steps s.c2
    DocCriterion mc dm A B T₁ T₂ s.d := by
  have hg := C03_nnchain E chk mc st st' d d' M' data n h2 hs hl hrun
  have h := C02_greedy_heights_closed E.field mc.intoMethod n data d'.steps.toList hg i s hi
  unfold DocCriterion
  cases mc <;> exact h

theorem C02_nnchain (E : ExactLaws K) (chk : Bool) (mc : MethodChain) (st : State K)
    (d : Dendrogram K) (data : Array K) (n : Nat) (h2 : 2 ≤ n) (hs : n < 2147483648)
    (hl : 2 * data.size = n * (n - 1)) :
    ∃ st' d' M', nnchainWith chk mc st d data n = .ok (st', d', M') ∧
      ∀ (i : Nat) (s : Step K), d'.steps.toList[i]? = some s →
        let steps := d'.steps.toList
        let dm := (Spec.init mc.intoMethod n data).D
        let A := (Spec.leaves n steps steps.length s.c1).toFinset
        let B := (Spec.leaves n steps steps.length s.c2).toFinset
        let T₁ := clusterTree n steps s.c1
        let T₂ := clusterTree n steps s.c2
        DocCriterion mc dm A B T₁ T₂ s.d := by
  obtain ⟨st', d', M', hrun, -⟩ := C03_nnchain_exact E chk mc st d data n h2 hs hl
  exact ⟨st', d', M', hrun, C02_nnchain_of_run E chk mc st st' d d' data n M' h2 hs hl hrun⟩

theorem C02_linkage_nnchain (E : ExactLaws K) (chk : Bool) (mc : MethodChain) (hm : mc ≠ .single)
    (st : State K) (d : Dendrogram K) (data : Array K) (n : Nat) (h2 : 2 ≤ n)
    (hs : n < 2147483648) (hl : 2 * data.size = n * (n - 1)) :
    ∃ st' d' M', linkageWith chk mc.intoMethod st d data n = .ok (st', d', M') ∧
      ∀ (i : Nat) (s : Step K), d'.steps.toList[i]? = some s →
        let steps := d'.steps.toList
        let dm := (Spec.init mc.intoMethod n data).D
        let A := (Spec.leaves n steps steps.length s.c1).toFinset
        let B := (Spec.leaves n steps steps.length s.c2).toFinset
        let T₁ := clusterTree n steps s.c1
        let T₂ := clusterTree n steps s.c2
        DocCriterion mc dm A B T₁ T₂ s.d := by
  rw [linkageWith_eq_nnchainWith chk mc hm]
  exact exists_ok_imp (C02_nnchain E chk mc st d data n h2 hs hl) fun _ h i s hi => h i s hi

/-! ### Non-vacuity over `ℚ` -/

section Example

/-- Average linkage over `fieldNum ℚ` on `d01=1 d02=9 d12=4`: every returned height is the mean over
the cross pairs of the two merged clusters. -/
example : ∃ st' d' M',
    @nnchainWith ℚ (fieldNum ℚ) true .average State.new (Dendrogram.new 0) #[1, 9, 4] 3
      = .ok (st', d', M') ∧
    ∀ (i : Nat) (s : Step ℚ), d'.steps.toList[i]? = some s →
      s.d = avg (@Spec.init ℚ (fieldNum ℚ) .average 3 #[1, 9, 4]).D
        (Spec.leaves 3 d'.steps.toList d'.steps.toList.length s.c1).toFinset
        (Spec.leaves 3 d'.steps.toList d'.steps.toList.length s.c2).toFinset :=
  exists_ok_imp (@C02_nnchain ℚ _ _ _ (fieldNum ℚ) (exactLaws_fieldNum ℚ) true .average State.new
    (Dendrogram.new 0) #[1, 9, 4] 3 (by decide) (by decide) (by decide)) fun _ h i s hi => h i s hi

end Example

end Kodama
