/-
C06 for SINGLE and COMPLETE linkage under hypotheses an IEEE float type satisfies (companion of
`Props/C03NaNFree.lean`, `Props/C04NaNFree.lean`).

* `C06_single_complete_float`   on a matrix WITHOUT NaN ENTRIES that is tie-free — read over the non-NaN
  subtype modulo order-equivalence: `TieFreeFrom` along a greedy-valid reference run `steps₀` there —
  `primitive_with` and `nnchain_with` (hence `linkage_with(Complete)`) return steps that are the images of
  steps `l` over `NonNaN α` whose projection IS `steps₀`: same labels, same sizes, same order, order-equivalent
  non-NaN heights.  Hypotheses: `OrderLaws α`, `BeqOrdOn α`, non-NaN sentinels — no type-level "no NaN", no
  trichotomy.
-/
import Kodama.Props.C03NaNFree
import Kodama.Props.C06Quotient
namespace Kodama
open Spec
variable {α : Type} [Num α]

theorem C06_single_complete_float (L : OrderLaws α) (B : BeqOrdOn α)
    (hmax : Num.isNaN (Num.maxValue : α) = false) (hinf : Num.isNaN (Num.infinity : α) = false)
    {m : Method} (hm : m.selectsOnly) (data : Array α) (n : Nat) (h2 : 2 ≤ n) (hs : n < 2147483648)
    (hl : 2 * data.size = n * (n - 1)) (hdata : ∀ x ∈ data, Num.isNaN x = false) :
    letI : Num (NonNaN α) := nnNum hmax hinf
    let Ls := nn_orderLaws hmax hinf L
    let hn := nn_noNaN hmax hinf (α := α)
    ∀ (steps₀ : List (Step (OrdQ Ls hn))),
      @GreedyValid _ (ordQNum Ls hn) m n ((nnData data hdata).map (OrdQ.mk Ls hn)) steps₀ →
      @TieFreeFrom _ (ordQNum Ls hn) m
        (@init _ (ordQNum Ls hn) m n ((nnData data hdata).map (OrdQ.mk Ls hn))) steps₀ →
      (∀ (chk : Bool) (st : State α) (d : Dendrogram α),
        ∃ st' d' M', primitiveWith chk m st d data n = .ok (st', d', M') ∧
          ∃ l : List (Step (NonNaN α)), d'.steps.toList = l.map (mapStep Subtype.val) ∧
            l.map (mapStep (OrdQ.mk Ls hn)) = steps₀) ∧
      (∀ mc : MethodChain, m.intoMethodChain = some mc →
        ∀ (chk : Bool) (st : State α) (d : Dendrogram α),
          ∃ st' d' M', nnchainWith chk mc st d data n = .ok (st', d', M') ∧
            ∃ l : List (Step (NonNaN α)), d'.steps.toList = l.map (mapStep Subtype.val) ∧
              l.map (mapStep (OrdQ.mk Ls hn)) = steps₀) := by
  intro Ls hn steps₀ h₀ htf
  let : Num (NonNaN α) := nnNum hmax hinf
  have pair := fun (chk : Bool) (st : State α) (d : Dendrogram α) =>
    nonNaN_transfer_pair hmax hinf hm chk st d data n hdata
      (fun l => l.map (mapStep (OrdQ.mk Ls hn)) = steps₀)
      fun alg ha => agree_upTo Ls hn (nn_beqOrd hmax hinf B) hm (nnData data hdata) n h2 hs
        (by rw [nnData_size]; exact hl) steps₀ h₀ htf ha chk State.new (Dendrogram.new 0)
  exact ⟨fun chk st d => (pair chk st d).1, fun mc hmc chk st d => (pair chk st d).2 mc hmc⟩

end Kodama
