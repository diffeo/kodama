/-
`greedyValid_single_complete`: single and complete linkage through `primitive_with` and `nnchain_with`
over an ordered number type (`OrderLaws`, `LtTrichotomy`, no NaN), as ONE statement about `runWith`
(from `C03_primitive_single`, `C03_primitive_complete`, `C03_nnchain_single_laws`,
`C03_nnchain_complete_laws`): the call returns and the returned steps are `GreedyValid`.  The equations
that take a statement about `runWith` back to the two entry points are `runWith_primitive`,
`runWith_nnchain` (`Lemmas/Entry.lean`).
-/
import Kodama.Props.C03Nnchain
namespace Kodama
open Spec
variable {α : Type} [Num α]

theorem greedyValid_single_complete (L : OrderLaws α) (T : LtTrichotomy α)
    (hnan : ∀ x : α, Num.isNaN x = false) {m : Method} (hm : m = .single ∨ m = .complete)
    {alg : Alg} (ha : alg = .primitive ∨ alg = .nnchain) (chk : Bool) (st : State α)
    (d : Dendrogram α) (data : Array α) (n : Nat) (h2 : 2 ≤ n) (hs : n < 2147483648)
    (hl : 2 * data.size = n * (n - 1)) :
    ∃ st' d' M', runWith chk alg m st d data n = .ok (st', d', M') ∧
      GreedyValid m n data d'.steps.toList := by
  have h0 : InitNoNaN m n data := fun _ _ _ _ _ => hnan _
  rcases hm with rfl | rfl <;> rcases ha with rfl | rfl
  · exact C03_primitive_single L T chk st d data n h2 hs hl h0
  · exact C03_nnchain_single_laws L T hnan chk st d data n h2 hs hl
  · exact C03_primitive_complete L T chk st d data n h2 hs hl h0
  · exact C03_nnchain_complete_laws L T hnan chk st d data n h2 hs hl

end Kodama
