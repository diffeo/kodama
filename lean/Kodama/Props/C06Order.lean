/-
C06 for SINGLE and COMPLETE linkage over ANY ordered number type — no field, no rounding.

Single and complete linkage only compare and select input entries (`Gen.single`, `Gen.complete`), so
their C03 theorems hold over every number type with the order laws `OrderLaws α` + `LtTrichotomy α`
(true of IEEE floats on inputs that do not contain both `+0` and `−0`; NaN-free carrier).  `C06_unique`
uses no number law at all.  Composing them gives the property's statement for these two methods with
EXACT equality of the returned steps (heights included — they are input entries), for the float widths as
for every other ordered type:

* `C06_single_complete_agree`  on a tie-free input (`TieFreeFrom` along the greedy-valid reference
  `steps₀`), `primitive_with`, `nnchain_with`, `generic_with` (under what it needs to run: `BeqLe`,
  `GoodSet` containing the data, non-NaN `max_value`), for single linkage `mst_with` (non-NaN data not
  above the `+∞` sentinel), and `linkage_with` return EXACTLY `steps₀`, in every build mode, from every
  prior state.

Average / weighted under rounding: `Props/C06Rounding.lean`, `C06RoundingWeighted.lean`.  All seven methods
in exact arithmetic: `Props/C06All.lean`.
-/
import Kodama.Lemmas.ComposeExact
import Kodama.Props.C03Mst
import Kodama.Props.C03SingleComplete
import Kodama.Lemmas.ExampleRuns
namespace Kodama
open Spec
variable {α : Type} [Num α]

theorem C06_single_complete_agree (L : OrderLaws α) (T : LtTrichotomy α)
    (hnan : ∀ x : α, Num.isNaN x = false)
    (m : Method) (hm : m = .single ∨ m = .complete) (data : Array α) (n : Nat) (h2 : 2 ≤ n)
    (hs : n < 2147483648) (hl : 2 * data.size = n * (n - 1)) (steps₀ : List (Step α))
    (h₀ : GreedyValid m n data steps₀) (htf : TieFreeFrom m (init m n data) steps₀) :
    (∀ (chk : Bool) (st : State α) (d : Dendrogram α),
      ReturnsSteps (primitiveWith chk m st d data n) steps₀) ∧
    (∀ mc : MethodChain, mc.intoMethod = m → ∀ (chk : Bool) (st : State α) (d : Dendrogram α),
      ReturnsSteps (nnchainWith chk mc st d data n) steps₀) ∧
    (∀ {G : α → Prop}, BeqLe α → GoodSet G → Num.isNaN (Num.maxValue : α) = false →
      (∀ i (h : i < (squareData m data).size), G (squareData m data)[i]) →
      ∀ (chk : Bool) (st : State α) (d : Dendrogram α),
        ReturnsSteps (genericWith chk m st d data n) steps₀) ∧
    (m = .single → NoNaN n data → InfTop n data → ∀ (chk : Bool) (st : State α) (d : Dendrogram α),
      ReturnsSteps (mstWith chk st d data n) steps₀ ∧
      ReturnsSteps (linkageWith chk .single st d data n) steps₀) ∧
    (m = .complete → ∀ (chk : Bool) (st : State α) (d : Dendrogram α),
      ReturnsSteps (linkageWith chk .complete st d data n) steps₀) := by
  have key : ∀ alg, alg = .primitive ∨ alg = .nnchain → ∀ (chk : Bool) (st : State α)
      (d : Dendrogram α), ReturnsSteps (runWith chk alg m st d data n) steps₀ :=
    fun alg ha chk st d =>
      ReturnsGreedy.steps_eq (greedyValid_single_complete L T hnan hm ha chk st d data n h2 hs hl)
        h₀ htf
  refine ⟨key .primitive (Or.inl rfl), ?_, ?_, ?_, ?_⟩
  · intro mc e chk st d
    rw [← runWith_nnchain (e ▸ mc.intoMethodChain_intoMethod)]
    exact key .nnchain (Or.inr rfl) chk st d
  · intro G hbeq gs hmax hin chk st d
    rcases hm with rfl | rfl
    · exact ReturnsGreedy.steps_eq
        (C03_generic_single L T hbeq gs chk hmax st d data n h2 hs hl hin) h₀ htf
    · exact ReturnsGreedy.steps_eq
        (C03_generic_complete L T hbeq gs chk hmax st d data n h2 hs hl hin) h₀ htf
  · intro e hn hinf chk st d
    subst e
    exact ⟨ReturnsGreedy.steps_eq (C03_mst_total L T chk st d data n h2 hs hl hn hinf) h₀ htf,
      ReturnsGreedy.steps_eq (C03_linkage_single_total L T chk st d data n h2 hs hl hn hinf) h₀ htf⟩
  · intro e chk st d
    subst e
    exact ReturnsGreedy.steps_eq (r := nnchainWith chk .complete st d data n)
      (C03_nnchain_complete_laws L T hnan chk st d data n h2 hs hl) h₀ htf

/-! ## Non-vacuity (toy exact numbers `Nat`; the 4-observation matrix of `Props/C06.lean`) -/

section Example
attribute [local instance] Toy.natNum

/-- `d01=5 d02=9 d03=7 d12=8 d13=6 d23=1` is tie-free for complete linkage; all hypotheses hold, so
`primitive_with`, `nnchain_with` and `linkage_with` return exactly the reference run. -/
example :
    (∀ (chk : Bool) (st : State Nat) (d : Dendrogram Nat),
      ReturnsSteps (primitiveWith chk .complete st d #[5, 9, 7, 8, 6, 1] 4)
        [⟨2, 3, 1, 2⟩, ⟨0, 1, 5, 2⟩, ⟨4, 5, 9, 4⟩]) ∧
    (∀ (chk : Bool) (st : State Nat) (d : Dendrogram Nat),
      ReturnsSteps (linkageWith chk .complete st d #[5, 9, 7, 8, 6, 1] 4)
        [⟨2, 3, 1, 2⟩, ⟨0, 1, 5, 2⟩, ⟨4, 5, 9, 4⟩]) := by
  have h := C06_single_complete_agree Toy.natOrderLaws Toy.natTrichotomy (fun _ => rfl) .complete
    (Or.inr rfl) #[5, 9, 7, 8, 6, 1] 4 (by decide) (by decide) (by decide)
    [⟨2, 3, 1, 2⟩, ⟨0, 1, 5, 2⟩, ⟨4, 5, 9, 4⟩] Toy.ex6_complete_valid Toy.ex6_complete_tieFree
  exact ⟨h.1, h.2.2.2.2 rfl⟩

end Example

end Kodama
