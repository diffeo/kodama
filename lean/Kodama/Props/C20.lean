/-
C20 — auxiliary memory is linear in n; the matrix is never copied; `_with` amortises.

What is PROVED here is about the MODEL `Kodama/Model/Alloc.lean`: an executable replay of the
capacity-relevant `Vec` operations of a clustering call (`with_capacity`, `clear`, `resize`, `push`,
the sort's scratch buffer, `drop`) under std's growth policy, producing the list of allocator
calls.  All statements are for EVERY n (no bound), every algorithm, method, width, entry form and
every prior capacity assignment of the 12 buffers.

* `C20_peak`      the peak of the bytes live beyond what the objects held on entry (and beyond the
                  caller's matrix, which the model never allocates) is ≤ 512n + 4096 — for the
                  allocating wrappers and for `_with` on objects in ANY prior condition
                  (`C20_total`: even the sum of all requests of the call is).
* `C20_no_matrix_sized_request`  every single request is ≤ 64n + 1024 bytes, hence for n ≥ 64
                  strictly smaller than the n(n-1)/2-entry matrix of either width: no copy of the
                  matrix is ever made.
* `C20_in_place`  in the clustering model (`Model/*.lean`), for every entry point, method, build
                  mode, prior state and input: a successful run hands back a matrix whose `data`
                  array has the length of the input.  Only the length is stated.  (By inspection of
                  the model, not as a theorem: the only functions that produce a `Mat` are `Mat.new`,
                  which wraps the caller's array, `Mat.tick` and `Mat.set`, one `Array.set`, plus the
                  in-place squaring.)
                  `C20_in_place_mst`: `mst_with` hands back the caller's array itself, unwritten.
* `C20_warm`      if every capacity is at least what n needs (`Warm c n`), the `_with` call leaves
                  all capacities unchanged and its events are either none or exactly one
                  allocation (freed again) of ≤ 32(n-1) ≤ 64n + 1024 bytes: the sort's scratch.
* `C20_warm_after_use`  after ANY history of `_with` calls one of which was for ≥ n observations,
                  the objects are `Warm` for n (capacities never shrink: `C20_capacity_monotone`;
                  a call for n' leaves room for n': `C20_call_makes_warm`).  Together with
                  `C20_warm`: repeated clustering of small matrices does not allocate scratch space
                  per call.
* `C20_value_independent`  `Alloc.call` does not take the matrix: by construction its events are a
                  function of (n, capacities, algorithm, method, width, form) only.  The theorem
                  makes the one data-dependent `Vec` traffic explicit: for every script of
                  `chain.push / pop / clear` operations (whatever the matrix values make
                  `nnchain_with` do) that keeps the chain within n entries, the call has exactly
                  the events and final capacities of `Alloc.callWith`.  The other candidate, the
                  sort's scratch, is a function of the number of steps only (`sortScratch s len`).
* `C20_buffers_match_reset`  the buffer table of the cost model is tied to the reset bodies
                  TRANSLATED FROM THE SOURCE on every run: destructuring `State`, `Active`, `UF`,
                  `Heap` exhaustively (a new field breaks the build), the length of every array
                  after `Gen.stateReset st m` is `Buf.needObs m` of the corresponding table entry,
                  in the same order; `LinkageState::new()` holds only empty vectors;
                  `Gen.dendrogramReset` leaves 0 steps (pushes start at length 0).

Why the chain is within n entries.  `state.reset(n)` leaves `chain` with capacity ≥ n
(`C20_call_makes_warm`), so `chain.push` reallocates only if the chain holds more than n entries.
Consecutive chain entries have strictly decreasing dissimilarities (a push happens only after a
strict `<` test), and entries below the top three are untouched by a merge, so as long as every
chain entry is a distinct live cluster the length is ≤ n.  Distinctness is the nearest-neighbour
chain invariant; it is a theorem for reducible update formulas in exact arithmetic and is NOT
proved here for rounded arithmetic (for the clamped average / Ward of the crate it follows
from `OrderLaws`: `chainReducible_average`, `chainReducible_ward`, `Lemmas/ChainIter.lean`).  The
correspondence run compares the allocation count of every nnchain call exactly, so a chain that
outgrew n would be reported.

NOT verified (modelled from measurements, re-validated by every correspondence run, which compares
count / peak / largest / total / frees of every call exactly with this model): std's `Vec` growth
policy (`RawVec::grow_amortized`, `MIN_NON_ZERO_CAP`), `Vec::with_capacity` allocating exactly,
`clear`/`pop` keeping the allocation, the stable sort's scratch size and its 4 KiB stack buffer
(toolchain-specific; pinned to rustc 1.95), `size_of::<Step<T>>() = 32`; the system allocator's own
overhead and rounding; that the hand-written sequence of `Vec` operations in `Alloc.callWith`
is the sequence the Rust code performs (tied by the correspondence run and, for the buffer list
and lengths, by `C20_buffers_match_reset`).
-/
import Kodama.Lemmas.Alloc
import Kodama.Lemmas.Reset
import Kodama.Lemmas.Tail
import Kodama.Lemmas.Loop
import Kodama.Lemmas.GenericInvUpdate
import Kodama.Lemmas.ChainIter
import Kodama.Lemmas.PrimRun
namespace Kodama
open Alloc

/-! ### the buffer table against the translated reset bodies -/

/-- Length of every array of the scratch state, by exhaustive destructuring (anonymous
constructors: adding a field to `State`, `Active`, `UF` or `Heap` makes this ill-typed). -/
def Alloc.stateBufLens {α : Type} : State α → List (Buf × Nat)
  | ⟨sizes, ⟨_, prev, next⟩, minDists, ⟨parents, _⟩, chain, ⟨heap, obs, prio, removed⟩, nearest⟩ =>
    [(.sizes, sizes.size), (.activePrev, prev.size), (.activeNext, next.size),
     (.minDists, minDists.size), (.setParents, parents.size), (.chain, chain.size),
     (.queueHeap, heap.size), (.queueObservations, obs.size), (.queuePriorities, prio.size),
     (.queueRemoved, removed.size), (.nearest, nearest.size)]

theorem C20_buffers_match_reset {α : Type} [Num α] (st : State α) (h : Heap α) (u : UF)
    (d : Dendrogram α) (m : Nat) :
    stateBufLens (Gen.stateReset st m) = Buf.stateBufs.map (fun b => (b, b.needObs m)) ∧
    stateBufLens (State.new : State α) = Buf.stateBufs.map (fun b => (b, 0)) ∧
    (let h' := Gen.heapReset h m
     [h'.heap.size, h'.obs.size, h'.prio.size, h'.removed.size] = Buf.heapBufs.map (·.needObs m)) ∧
    (Gen.ufReset u m).parents.size = Buf.setParents.needObs m ∧
    (Gen.dendrogramReset d m).steps.size = 0 ∧
    Buf.all.length = 12 ∧ Buf.all.Nodup ∧ (∀ b : Buf, b ∈ Buf.all) := by
  refine ⟨?_, rfl, ?_, ?_, rfl, by decide, by decide, fun b => by cases b <;> decide⟩
  · have := State.reset_eq_fresh st m
    unfold State.reset at this
    rw [this]
    simp only [stateBufLens, State.fresh, Active.fresh, UF.fresh, UF.sizeFor, Heap.fresh,
      Array.size_replicate, Array.size_ofFn, Array.size_range, Buf.needObs, Buf.stateBufs,
      List.map_cons, List.map_nil]
  · rw [heapReset_eq_fresh]
    simp only [Heap.fresh, Array.size_range, Array.size_replicate, Buf.needObs, Buf.heapBufs,
      List.map_cons, List.map_nil]
  · rw [ufReset_eq_fresh]
    simp only [UF.fresh, UF.sizeFor, Array.size_range, Buf.needObs]

/-! ### bounds on the events of a call -/

theorem Alloc.callWith_zero {n : Nat} (hm : normObs n = 0) (c : Caps) (alg : Alg) (meth : Method)
    (w : Width) : callWith c alg meth w n = (c, []) :=
  if_pos hm

theorem Alloc.callWith_total_le (c : Caps) (alg : Alg) (meth : Method) (w : Width) (n : Nat) :
    total (callWith c alg meth w n).2 ≤ 420 * n + 1232 := by
  by_cases hm : normObs n = 0
  · rw [callWith_zero hm]; exact Nat.zero_le _
  · obtain ⟨b1, b2, b4⟩ := boundSum_le w hm
    have hn := normObs_le n
    rw [callWith_eq_phases c alg meth w hm]
    -- the growth phases, then the sort
    refine Nat.le_trans (total_append_le ((callPhases_phase alg meth w (normObs n)).total c)
      (tb := 32 * (normObs n - 1)) ?_) (by omega)
    split
    · rw [sortScratch_total, elem_steps]; exact sortScratchBytes_le _
    · exact Nat.zero_le _

theorem Alloc.callWith_largest_le (c : Caps) (alg : Alg) (meth : Method) (w : Width) (n : Nat) :
    largest (callWith c alg meth w n).2 ≤ 64 * n + 192 := by
  by_cases hm : normObs n = 0
  · rw [callWith_zero hm]; exact Nat.zero_le _
  · have hn := normObs_le n
    rw [callWith_eq_phases c alg meth w hm]
    refine largest_append_le
      (Nat.le_trans ((callPhases_phase alg meth w (normObs n)).largest c) (by omega)) ?_
    split
    · rw [sortScratch_largest, elem_steps]
      exact Nat.le_trans (sortScratchBytes_le _) (by omega)
    · exact Nat.zero_le _

/-- The events of either form: those of a `_with` call, for the wrapper between the allocation of
the steps and the frees of the state. -/
theorem Alloc.call_events (wrapper : Bool) (c : Caps) (alg : Alg) (meth : Method) (w : Width)
    (n : Nat) : ∃ c' pre post,
      (call wrapper c alg meth w n).2 = pre ++ (callWith c' alg meth w n).2 ++ post ∧
      total pre ≤ 32 * n ∧ total post = 0 := by
  cases wrapper
  · exact ⟨c, [], [], (List.append_nil _).symm, Nat.zero_le _, rfl⟩
  · exact ⟨_, _, _, rfl, by rw [withCapacity_total, elem_steps]; exact Nat.le_of_eq (Nat.mul_comm ..),
      dropState_total ..⟩

/-- The sum of all requests of a call — either form, any prior capacities. -/
theorem C20_total (wrapper : Bool) (c : Caps) (alg : Alg) (meth : Method) (w : Width) (n : Nat) :
    total (call wrapper c alg meth w n).2 ≤ 512 * n + 4096 := by
  obtain ⟨c', pre, post, he, h1, h2⟩ := call_events wrapper c alg meth w n
  have := callWith_total_le c' alg meth w n
  rw [he, total_append, total_append, h2]
  omega

/-- Peak auxiliary memory of a call is linear in n. -/
theorem C20_peak (wrapper : Bool) (c : Caps) (alg : Alg) (meth : Method) (w : Width) (n : Nat) :
    peakAux wrapper c alg meth w n ≤ 512 * n + 4096 := by
  unfold peakAux
  have h1 := peakFrom_le (baseBytes wrapper c w) (call wrapper c alg meth w n).2
  have h2 := C20_total wrapper c alg meth w n
  omega

/-- No single request comes near the size of the matrix. -/
theorem C20_no_matrix_sized_request (wrapper : Bool) (c : Caps) (alg : Alg) (meth : Method)
    (w : Width) (n : Nat) :
    largest (call wrapper c alg meth w n).2 ≤ 64 * n + 1024 ∧
    (64 ≤ n → largest (call wrapper c alg meth w n).2 < n * (n - 1) / 2 * w.bytes) := by
  have hl : largest (call wrapper c alg meth w n).2 ≤ 64 * n + 1024 := by
    obtain ⟨c', pre, post, he, h1, h2⟩ := call_events wrapper c alg meth w n
    have := callWith_largest_le c' alg meth w n
    have := largest_le_total pre
    have := largest_le_total post
    rw [he]
    exact largest_append_le (largest_append_le (by omega) (by omega)) (by omega)
  refine ⟨hl, fun hn => ?_⟩
  have h63 : n * 63 ≤ n * (n - 1) := Nat.mul_le_mul_left n (by omega)
  have hw : 4 ≤ w.bytes := by cases w <;> decide
  have h4 : n * (n - 1) / 2 * 4 ≤ n * (n - 1) / 2 * w.bytes := Nat.mul_le_mul_left _ hw
  omega

/-! ### warm calls -/

/-- Every buffer already has the capacity a call for `n` observations needs. -/
def Alloc.Warm (c : Caps) (n : Nat) : Prop := ∀ b : Buf, b.need n ≤ c b

instance (c : Caps) (n : Nat) : Decidable (Warm c n) :=
  decidable_of_iff (∀ b ∈ Buf.all, b.need n ≤ c b)
    ⟨fun h b => h b (by cases b <;> decide), fun h b _ => h b⟩

/-- On warm objects nothing but the sort can allocate. -/
theorem Alloc.callWith_warm {c : Caps} {n : Nat} (h : Warm c n) (alg : Alg) (meth : Method)
    (w : Width) :
    callWith c alg meth w n = (c, if (relabelMethod alg meth).requiresSorting
      then sortScratch (Buf.steps.elem w) (normObs n - 1) else []) := by
  by_cases hm : normObs n = 0
  · rw [callWith_zero hm, hm]
    split <;> rfl
  · rw [callWith_eq_phases c alg meth w hm, (callPhases_phase alg meth w (normObs n)).warm c h]
    rfl

theorem C20_warm (c : Caps) (alg : Alg) (meth : Method) (w : Width) (n : Nat) (h : Warm c n) :
    (callWith c alg meth w n).1 = c ∧
    ((callWith c alg meth w n).2 = [] ∨
      ∃ bytes, (callWith c alg meth w n).2 = [.alloc bytes, .free bytes] ∧
        bytes ≤ 32 * (n - 1)) ∧
    count (callWith c alg meth w n).2 ≤ 1 ∧
    largest (callWith c alg meth w n).2 ≤ 64 * n + 1024 ∧
    total (callWith c alg meth w n).2 ≤ 64 * n + 1024 := by
  have hb : sortScratchBytes 32 (normObs n - 1) ≤ 32 * (n - 1) :=
    Nat.le_trans (sortScratchBytes_le _) (by have := normObs_le n; omega)
  rw [callWith_warm h, elem_steps]
  refine ⟨rfl, ?_⟩
  cases (relabelMethod alg meth).requiresSorting
  · exact ⟨.inl rfl, Nat.zero_le _, Nat.zero_le _, Nat.zero_le _⟩
  · simp only [if_true, sortScratch_largest, sortScratch_total]
    exact ⟨(sortScratch_cases 32 _).imp_right fun h => ⟨_, h, hb⟩, sortScratch_count .., by omega,
      by omega⟩

/-- After a call every buffer holds at least what it held before and what the call needs. -/
theorem Alloc.callWith_cap_ge (c : Caps) (alg : Alg) (meth : Method) (w : Width) (n : Nat) (b : Buf) :
    c b ≤ (callWith c alg meth w n).1 b ∧ b.need n ≤ (callWith c alg meth w n).1 b := by
  by_cases hm : normObs n = 0
  · rw [callWith_zero hm, Buf.need, hm]
    exact ⟨Nat.le_refl _, Nat.le_trans (Buf.needObs_le 0 b) (Nat.zero_le _)⟩
  · rw [callWith_eq_phases c alg meth w hm]
    exact ⟨(callPhases_phase alg meth w (normObs n)).mono c b,
      (callPhases_phase alg meth w (normObs n)).need c b trivial⟩

/-- Capacities never shrink. -/
theorem C20_capacity_monotone (c : Caps) (alg : Alg) (meth : Method) (w : Width) (n : Nat) (b : Buf) :
    c b ≤ (callWith c alg meth w n).1 b :=
  (callWith_cap_ge c alg meth w n b).1

/-- A call for `n` observations leaves objects that are warm for `n`. -/
theorem C20_call_makes_warm (c : Caps) (alg : Alg) (meth : Method) (w : Width) (n : Nat) :
    Warm (callWith c alg meth w n).1 n :=
  fun b => (callWith_cap_ge c alg meth w n b).2

/-- One `_with` request of a history (the width is that of the objects). -/
structure Alloc.ACall where
  alg : Alg
  meth : Method
  n : Nat

/-- Capacities after a history of `_with` calls. -/
def Alloc.afterCalls (w : Width) (c : Caps) (hist : List ACall) : Caps :=
  hist.foldl (fun c k => (callWith c k.alg k.meth w k.n).1) c

theorem Alloc.warm_preserved (w : Width) (hist : List ACall) (c : Caps) (n : Nat) (h : Warm c n) :
    Warm (afterCalls w c hist) n := by
  induction hist generalizing c with
  | nil => exact h
  | cons k ks ih =>
    apply ih
    intro b
    exact Nat.le_trans (h b) (C20_capacity_monotone c k.alg k.meth w k.n b)

/-- Objects that were used for at least `n` observations at some point of their history — whatever
came before and after — are warm for `n`. -/
theorem C20_warm_after_use (w : Width) (c : Caps) (hist : List ACall) (n : Nat)
    (h : ∃ k ∈ hist, n ≤ k.n) : Warm (afterCalls w c hist) n := by
  induction hist generalizing c with
  | nil => obtain ⟨k, hk, _⟩ := h; cases hk
  | cons k ks ih =>
    obtain ⟨k', hk', hn⟩ := h
    rcases List.mem_cons.mp hk' with heq | hmem
    · subst heq
      show Warm (afterCalls w (callWith c k'.alg k'.meth w k'.n).1 ks) n
      apply warm_preserved
      intro b
      exact Nat.le_trans (need_mono hn b) (C20_call_makes_warm c k'.alg k'.meth w k'.n b)
    · exact ih _ ⟨k', hmem, hn⟩

/-! ### value independence -/

theorem C20_value_independent (c : Caps) (alg : Alg) (meth : Method) (w : Width) (n : Nat)
    (script : List ChainOp) (h : chainMaxLen 0 script ≤ normObs n) :
    callWithScript c alg meth w n script = callWith c alg meth w n := by
  unfold callWithScript callWith
  by_cases hm : normObs n = 0
  · simp [hm]
  · simp only [hm, if_false]
    by_cases hn : route alg meth = .nnchain
    · -- the chain's capacity after `state.reset` is at least n
      have hcap : normObs n ≤ (ensureAll w (normObs n) Buf.stateBufs c).1 .chain := by
        simpa only [Buf.needObs] using
          (Phase.ensureAll w (normObs n) Buf.stateBufs (by decide)).need c .chain (by decide)
      simp only [hn, reduceCtorEq, ↓reduceIte]
      have hf := chainScript_free _ 0 script (Nat.le_trans h hcap)
      rw [hf.1, hf.2, Caps.set_self]
      simp
    · simp only [hn, ↓reduceIte, Caps.set_self]
      simp

/-! ### the matrix is updated in place

(helper lemmas live in the namespace `Kodama.C20`) -/

section InPlace
variable {α : Type} [Num α]

omit [Num α] in
theorem C20.Mat.new_data {chk : Bool} {data : Array α} {n : Nat} {M : Mat α}
    (h : Mat.new chk data n = .ok M) : M.data = data := by
  simp only [Mat.new, bind_ok, pure_ok] at h
  obtain ⟨_, _, h⟩ := h
  rw [← h]

open C20

/-- A framed call hands back, as far as `g` can tell, the array it was given if its body does. -/
theorem C20.withFrame_data {γ : Type} (g : Array α → γ)
    {body : State α → Dendrogram α → Mat α → R (State α × Dendrogram α × Mat α)}
    (hb : ∀ st d M r, body st d M = .ok r → g r.2.2.data = g M.data)
    {chk : Bool} {st : State α} {d : Dendrogram α} {data : Array α} {n : Nat}
    {r : State α × Dendrogram α × Mat α} (h : withFrame chk st d data n body = .ok r) :
    g r.2.2.data = g data := by
  obtain ⟨M, hM, rfl | h⟩ := withFrame_ok h
  · rw [Mat.new_data hM]
  · rw [hb _ _ _ _ h, Mat.new_data hM]

theorem C20.mstScanStep_data {chk : Bool} {cluster : Nat} {lower : Bool} {s s' : MstScan α} {x : Nat}
    (h : mstScanStep chk cluster lower s x = .ok s') : s'.M.data = s.M.data := by
  cases lower <;>
  · simp only [mstScanStep, bind_ok, Bool.false_eq_true, if_false, if_true] at h
    obtain ⟨_, _, _, _, _, _, h⟩ := h
    split at h <;> (simp only [pure_ok] at h; rw [← h]; rfl)

theorem C20.mstIter_data {chk : Bool} {s s' : State α × Dendrogram α × Mat α × Nat}
    (h : mstIter chk s = .ok s') : s'.2.2.1.data = s.2.2.1.data := by
  obtain ⟨st, dend, M, cluster⟩ := s
  simp only [mstIter, bind_ok, pure_ok] at h
  obtain ⟨_, _, _, _, _, _, _, _, sc1, h1, _, _, sc2, h2, ⟨_, _⟩, _, rfl⟩ := h
  exact (foldlM_const (·.M.data) (fun _ _ _ => mstScanStep_data) h2).trans
    (foldlM_const (·.M.data) (fun _ _ _ => mstScanStep_data) h1)

theorem C20.mstBody_data {chk : Bool} {st : State α} {d : Dendrogram α} {M : Mat α}
    {r : State α × Dendrogram α × Mat α} (h : mstBody chk st d M = .ok r) :
    r.2.2.data = M.data := by
  simp only [mstBody, bind_ok, pure_ok] at h
  obtain ⟨_, _, ⟨st1, d1, M1, c1⟩, hit, _, _, rfl⟩ := h
  exact iterM_const (·.2.2.1.data) (fun _ _ => mstIter_data) hit

/-- `mst_with` never writes to the matrix: the array it returns is the array it was given. -/
theorem C20_in_place_mst (chk : Bool) (st st' : State α) (d d' : Dendrogram α) (data : Array α)
    (n : Nat) (M : Mat α) (h : mstWith chk st d data n = .ok (st', d', M)) :
    M.data = data ∧ M.data.size = data.size := by
  rw [mstWith_frame] at h
  have : M.data = data := withFrame_data id (fun _ _ _ _ => mstBody_data) h
  exact ⟨this, by rw [this]⟩

theorem C20.primitiveIter_size {chk : Bool} {m : Method} {s s' : State α × Dendrogram α × Mat α}
    (h : primitiveIter chk m s = .ok s') : s'.2.2.data.size = s.2.2.data.size := by
  obtain ⟨st, dend, M⟩ := s
  simp only [primitiveIter, bind_ok, pure_ok] at h
  obtain ⟨_, _, ⟨a, b, dist⟩, _, _, _, _, _, M1, h1, ⟨_, _⟩, _, h⟩ := h
  rw [← h]; exact updateRows_size h1

theorem C20.primitiveBody_size {chk : Bool} {m : Method} {st : State α} {d : Dendrogram α}
    {M : Mat α} {r : State α × Dendrogram α × Mat α} (h : primitiveBody chk m st d M = .ok r) :
    r.2.2.data.size = M.data.size := by
  simp only [primitiveBody, bind_ok, pure_ok] at h
  obtain ⟨⟨st1, d1, M1⟩, hit, _, _, rfl⟩ := h
  exact iterM_const (·.2.2.data.size) (fun _ _ => primitiveIter_size) hit

theorem C20_in_place_primitive (chk : Bool) (m : Method) (st st' : State α) (d d' : Dendrogram α)
    (data : Array α) (n : Nat) (M : Mat α) (h : primitiveWith chk m st d data n = .ok (st', d', M)) :
    M.data.size = data.size := by
  rw [primitiveWith_frame] at h
  exact (withFrame_data Array.size (fun _ _ _ _ => primitiveBody_size) h).trans (squareData_size ..)

/-! generic: the matrix component of each range body is one `Mat.update` (`rangeBody_mat`) -/

theorem C20.genericUpdate_size {chk : Bool} {m : Method} {st : State α} {a b : Nat} {M : Mat α}
    {r : State α × Mat α} (h : genericUpdate chk m st a b M = .ok r) :
    r.2.data.size = M.data.size := by
  rw [genericUpdate_eq] at h
  simp only [bind_ok, pure_ok] at h
  obtain ⟨_, _, _, _, _, _, _, _, ⟨st1, M1⟩, h1, _, _, ⟨st2, M2⟩, h2, _, _, _, _, ⟨st3, M3, mn⟩, h3,
    rfl⟩ := h
  have e1 : M1.data.size = M.data.size :=
    foldlM_const (·.2.data.size)
      (fun s x s' hx => Mat.update_size (rangeBody_mat (genericL1_body _ _ _ _ _ s x ▸ hx))) h1
  have e2 : M2.data.size = M1.data.size :=
    foldlM_const (·.2.data.size)
      (fun s x s' hx => Mat.update_size (rangeBody_mat (genericL2_body _ _ _ _ _ s x ▸ hx))) h2
  have e3 : M3.data.size = M2.data.size :=
    foldlM_const (·.2.1.data.size)
      (fun s x s' hx => Mat.update_size (genericL3_mat hx)) h3
  exact (e3.trans e2).trans e1

theorem C20.genericIter_size {chk : Bool} {m : Method} {s s' : State α × Dendrogram α × Mat α}
    (h : genericIter chk m s = .ok s') : s'.2.2.data.size = s.2.2.data.size := by
  obtain ⟨st, dend, M⟩ := s
  simp only [genericIter, bind_ok, pure_ok] at h
  obtain ⟨_, _, ⟨oa, q⟩, _, _, _, _, _, _, _, ⟨st1, M1⟩, h1, ⟨_, _⟩, _, h⟩ := h
  rw [← h]; exact genericUpdate_size h1

theorem C20.genericBody_size {chk : Bool} {m : Method} {st : State α} {d : Dendrogram α}
    {M : Mat α} {r : State α × Dendrogram α × Mat α} (h : genericBody chk m st d M = .ok r) :
    r.2.2.data.size = M.data.size := by
  simp only [genericBody, bind_ok, pure_ok] at h
  obtain ⟨_, _, _, _, ⟨st1, d1, M1⟩, hit, _, _, rfl⟩ := h
  exact iterM_const (·.2.2.data.size) (fun _ _ => genericIter_size) hit

theorem C20_in_place_generic (chk : Bool) (m : Method) (st st' : State α) (d d' : Dendrogram α)
    (data : Array α) (n : Nat) (M : Mat α) (h : genericWith chk m st d data n = .ok (st', d', M)) :
    M.data.size = data.size := by
  rw [genericWith_frame] at h
  exact (withFrame_data Array.size (fun _ _ _ _ => genericBody_size) h).trans (squareData_size ..)

/-! nnchain -/

theorem C20.nnStep_data {chk : Bool} {fixed : Nat} {ff : Bool} {s s' : NN α} {x : Nat}
    (h : nnStep chk fixed ff s x = .ok s') : s'.M.data = s.M.data := by
  cases ff <;>
  · simp only [nnStep, bind_ok, Bool.false_eq_true, if_false, if_true] at h
    obtain ⟨_, _, h⟩ := h
    split at h <;> (simp only [pure_ok] at h; rw [← h]; rfl)

theorem C20.nnFold_data {chk : Bool} {fixed : Nat} {ff : Bool} {l : List Nat} {s s' : NN α}
    (h : l.foldlM (nnStep chk fixed ff) s = .ok s') : s'.M.data = s.M.data :=
  foldlM_const (·.M.data) (fun _ _ _ => nnStep_data) h

theorem C20.chainStart_data {chk : Bool} {st : State α} {M : Mat α}
    {r : Array Nat × Nat × Nat × α × Mat α} (h : chainStart chk st M = .ok r) :
    r.2.2.2.2.data = M.data := by
  unfold chainStart at h
  split at h <;> simp only [bind_ok, pure_ok] at h
  · obtain ⟨_, _, _, _, _, _, _, _, _, _, sc, hsc, rfl⟩ := h
    exact nnFold_data hsc
  · obtain ⟨_, _, _, _, h⟩ := h
    split at h <;> simp only [bind_ok, pure_ok] at h <;> obtain ⟨_, _, rfl⟩ := h <;> rfl

theorem C20.chainGrow_data {chk : Bool} {act : Active} :
    ∀ (fuel : Nat) (chain : Array Nat) (a b : Nat) (mn : α) (M : Mat α)
      (r : Nat × Nat × α × Array Nat × Mat α),
      chainGrow chk act fuel chain a b mn M = .ok r → r.2.2.2.2.data = M.data := by
  intro fuel
  induction fuel with
  | zero => intro chain a b mn M r h; simp [chainGrow] at h
  | succ fuel ih =>
    intro chain a b mn M r h
    simp only [chainGrow, bind_ok] at h
    obtain ⟨_, _, s1, h1, _, _, s2, h2, _, _, _, _, h⟩ := h
    have e1 := nnFold_data h1
    have e2 := nnFold_data h2
    split at h
    · simp only [pure_ok] at h
      rw [← h]; simp only []; rw [e2, e1]
    · rw [ih _ _ _ _ _ _ h, e2, e1]

theorem C20.chainIter_size {chk : Bool} {m : MethodChain} {s s' : ChainSt α}
    (h : chainIter chk m s = .ok s') : s'.M.data.size = s.M.data.size := by
  rw [chainIter_eq] at h
  simp only [bind_ok] at h
  obtain ⟨⟨chain, a, b, mn, M1⟩, h0, ⟨a', b', mn', chain', M2⟩, h2, h⟩ := h
  generalize (if a' > b' then (b', a') else (a', b')) = p at h
  simp only [pure_ok] at h
  obtain ⟨M3, h3, _, _, rfl⟩ := h
  rw [chainUpdate_size h3, chainGrow_data _ _ _ _ _ _ _ h2, chainStart_data h0]

theorem C20.nnchainBody_size {chk : Bool} {mc : MethodChain} {st : State α} {d : Dendrogram α}
    {M : Mat α} {r : State α × Dendrogram α × Mat α} (h : nnchainBody chk mc st d M = .ok r) :
    r.2.2.data.size = M.data.size := by
  simp only [nnchainBody, bind_ok, pure_ok] at h
  obtain ⟨s, hit, _, _, rfl⟩ := h
  exact iterM_const (·.M.data.size) (fun _ _ => chainIter_size) hit

theorem C20_in_place_nnchain (chk : Bool) (m : MethodChain) (st st' : State α) (d d' : Dendrogram α)
    (data : Array α) (n : Nat) (M : Mat α) (h : nnchainWith chk m st d data n = .ok (st', d', M)) :
    M.data.size = data.size := by
  rw [nnchainWith_frame] at h
  exact (withFrame_data Array.size (fun _ _ _ _ => nnchainBody_size) h).trans (squareData_size ..)

/-- Every entry point (the `_with` forms on any prior objects, hence also the wrappers, which are
`runWith` on fresh ones): the matrix handed back is an array of the input's length. -/
theorem C20_in_place (chk : Bool) (alg : Alg) (m : Method) (st st' : State α) (d d' : Dendrogram α)
    (data : Array α) (n : Nat) (M : Mat α) (h : runWith chk alg m st d data n = .ok (st', d', M)) :
    M.data.size = data.size := by
  revert h
  exact runWith_cases (P := fun f => f st d data n = .ok (st', d', M) → M.data.size = data.size)
    chk alg m
    (C20_in_place_primitive _ _ _ _ _ _ _ _ _) (C20_in_place_generic _ _ _ _ _ _ _ _ _)
    (fun _ h => (C20_in_place_mst _ _ _ _ _ _ _ _ h).2)
    (fun _ _ => C20_in_place_nnchain _ _ _ _ _ _ _ _ _) (fun _ h => nomatch h)

end InPlace

/-! ### non-vacuity: the model on concrete calls (numbers as measured on the real crate) -/

/-- A cold `linkage(.., 130, Average)` in f64: 13 allocations, 19 850 bytes at the peak
(`121 n - 8` for kodama's buffers plus the sort's `32 (n - 1)`), largest request 4160. -/
example :
    let es := (call true Caps.empty .linkage .average .f64 130).2
    (count es, peakFrom 0 es, largest es, total es, frees es) = (13, 19850, 4160, 19850, 12) := by
  decide +kernel

/-- Centroid does not sort: 12 allocations of `121 n - 8` bytes. -/
example : total (call true Caps.empty .generic .centroid .f64 130).2 = 121 * 130 - 8 := by decide +kernel

/-- The bound of `C20_peak` is not vacuous and not tight: n = 130 uses 19 850 of 70 656 bytes. -/
example : peakAux true Caps.empty .linkage .average .f64 130 = 19850 := by decide +kernel

/-- A history 200, 150, 200 on fresh objects: the first call allocates, the second and third are
warm and make exactly one allocation (the sort's scratch). -/
example :
    let c1 := (callWith Caps.empty .linkage .average .f64 200).1
    Warm c1 150 ∧ Warm c1 200 ∧ ¬ Warm c1 300 ∧
    (callWith c1 .linkage .average .f64 150).2 = [.alloc 4768, .free 4768] ∧
    (callWith c1 .generic .median .f64 150).2 = [] := by
  decide +kernel

/-- `Warm` is satisfiable and `C20_warm_after_use` applies to a concrete history. -/
example : Warm (afterCalls .f32 Caps.empty [⟨.mst, .single, 7⟩, ⟨.nnchain, .ward, 40⟩, ⟨.generic, .median, 3⟩]) 33 :=
  C20_warm_after_use _ _ _ _ ⟨⟨.nnchain, .ward, 40⟩, by simp, by decide⟩

/-- A chain script within the bound exists, and one outside it does allocate (so the hypothesis of
`C20_value_independent` is needed). -/
example : chainMaxLen 0 [.push, .push, .push, .pop, .pop, .clear, .push] ≤ normObs 3 := by decide +kernel
example : (chainScript 2 0 [.push, .push, .push]).2.2 ≠ [] := by decide +kernel

end Kodama
