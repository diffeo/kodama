/-
C03 UNDER FLOATING-POINT ROUNDING — "each step merges a closest pair of the clusters then existing",
for AVERAGE (and weighted) linkage with an explicit rounding tolerance, for ALL entry points that accept
these methods: `primitive_with`, `generic_with`, `nnchain_with`, `linkage_with`.

`Props/C03*.lean` prove C03 (`Spec.GreedyValid`) in exact arithmetic (and, for single / complete, over
any linear order).  For average linkage the computed matrix entries are NOT the exact means, so the
merged pair need not be an exact minimiser of the documented criterion; what is true — and proved here —
is that it is a minimiser UP TO THE ROUNDING FACTOR `(1−u)^(−K)`, stated about the EXACT criterion of the
ORIGINAL matrix and about the RETURNED (stably sorted, relabelled) list of steps.

## The statement (`AvgGreedyUpTo D u n steps`, a definition)

For every step `s = (c1, c2, h, size)` at position `i` of the returned list `steps`, and for every two
DISTINCT labels `p ≠ q` naming clusters that are present after steps `0..i−1`
(`PresentBefore n steps i l  :=  l < n + i ∧ ¬ Spec.UsedBefore steps i l`: a singleton or a cluster created
by an earlier step, not consumed by an earlier step — by `C03_rounded_merged_present` the two merged
labels `c1`, `c2` are themselves such labels), with `A`, `B`, `X`, `Y` the observation sets
(`Spec.leaves`) of `c1`, `c2`, `p`, `q` and `mean` the EXACT mean of `D` over the cross pairs
(`Crit.avg`; in the theorems `D = valD val n data`, the values of the input entries):

    mean(A,B) · (1−u)^K ≤ mean(X,Y),      K = 4·(|A|+|B|−2) + 4·(|X|+|Y|−2)   (≤ 8n − 16)

(and `X`, `Y` are non-empty and disjoint, `|A|+|B| ≤ n`, `|X|+|Y| ≤ n`, `0 ≤ mean(A,B)`).  With `u = 0`
this is exactly "the merged pair minimises the mean over all pairs of clusters present".

## What is proved

* `C03_primitive_average_rounded`   under EXACTLY the hypotheses of `C02_primitive_average_rounded`
      (`OrderLaws α`; the standard model `Round.Model val fin u lo hi N`; valid matrix `2 ≤ n < 2³¹`,
      `2·len = n(n−1)`; every entry finite and `0` or in `[dlo, dhi]`; `Round.RangeOk`) the call
      `primitiveWith chk .average st d data n` returns a well-formed dendrogram `d'` with
      `AvgGreedyUpTo (valD val n data) u n d'.steps.toList`.
* `C03_generic_average_rounded`     the same for `genericWith`, under exactly the hypotheses of
      `C02_generic_average_rounded` (in addition: `BeqLe α`, `max_value` not NaN, `GoodSet G`, `hG` —
      what `generic_with` needs to run at all; see `Props/C02RoundingGeneric.lean`).
* `C03_average_rounded_uniform`     `AvgGreedyUpTo` ⇒ the same inequality with the uniform `K = 8n`.
* `C03_average_rounded_gamma`, `_1e9`, `_1e3`   numeric corollaries of `AvgGreedyUpTo`
      (entry-point independent): if `8·n·u ≤ c` and `1 ≤ (1+γ)(1−c)` then
      `mean(A,B) ≤ (1+γ)·mean(X,Y)`; with `u ≤ 2⁻⁵³`, `n ≤ 10⁶`: `mean(A,B) ≤ (1 + 10⁻⁹)·mean(X,Y)`;
      with `u ≤ 2⁻²⁴`, `n ≤ 2000`: `≤ (1 + 10⁻³)·mean(X,Y)`.
* `C03_nnchain_average_rounded`, `C03_linkage_average_rounded`   the same for the nearest-neighbour chain
      (`nnchainWith`, and `linkageWith` which dispatches to it), under exactly the hypotheses of
      `C02_nnchain_average_rounded`, WITH THE SAME CONSTANT `K` — although there the raw order is not the
      returned order and the raw steps are not global minima (see "Proof" below).
* `C03_primitive_average_rounded_1e9`, `C03_generic_average_rounded_1e9`,
  `C03_linkage_average_rounded_1e9`   entry point + numeric corollary combined.
* WEIGHTED linkage (`WgtGreedyUpTo`: the same statement for the recursively halved mean `Crit.wdist`
  over the merge trees `Crit.clusterTree` of the labels, `K = 2·(|A|+|B|−2) + 2·(|X|+|Y|−2)`):
  `C03_primitive_weighted_rounded`, `C03_generic_weighted_rounded`, `C03_nnchain_weighted_rounded`,
  `C03_linkage_weighted_rounded`, under the hypotheses of the corresponding C02 theorems (strictly positive
  entries, `RangeOkW`, reducibility of the midpoint on a domain `ChainGeOn ok .weighted`), and
  `C03_weighted_rounded_uniform` (`K = 4n`).
* Non-vacuity: exact `ℚ` (`u = 0`: the merged pair is an exact minimiser of the mean), the round-down toy
  type `downNum` (`u = 1/1000`), for primitive, generic and nnchain/linkage.

## Why the hypotheses

Those of the C02 rounding theorems, for the same reasons (non-negative entries for relative bounds;
`RangeOk` so that the model's laws apply to every intermediate result; finiteness of all values of the
run is DERIVED).  No further hypothesis is needed for C03.

## Proof

Common part (`Lemmas/RoundGreedy.lean`, `greedy_sw_core`): if the list `S` in which `relabel` processes the
raw steps is a legal replay in which every step is a global minimum of `R`-VALUES of the pairs then live
(`Rnn.GMinRun`: for every live pair `{x,y}` there EXISTS `v` with `R (tree x) (tree y) v` and
`¬ v < height`), then — `relabel`'s labels being the merge-order labels of `S` (`relabel_mergeorder_proc`) and
the labels not yet consumed being exactly the labels of the live indices (`Rnn.replay_labels`) — the
returned list has that property in terms of labels: `Rnn.GreedySw R n D` (every step carries an `R`-value
of its two cluster trees, and every two labels present have cluster trees with an `R`-value not below the
step's height), which is what `avgGreedyUpTo_of_sw` below and the C02 / C06 / C11 / C12 rounding theorems
read off.  With `R = RAvg` ("finite and within
`4(|s|+|t|−2)` factors of the exact mean", `Lemmas/RoundTree.lean`):
`mean(A,B)·(1−u)^{k(A,B)} ≤ height ≤ v ≤ mean(X,Y)·(1−u)^{−k(X,Y)}` (`Round.Near.chain_le`).

* `primitive_with`, `generic_with`: the merged pair is a global minimum of the COMPUTED live entries
  (`argmin_min`; `generic_pop_min`; `MergeFacts.min`), in particular a pair of reciprocal nearest
  neighbours (`MergeFacts.toRnn`), and the argument for `nnchain_with` applies.
* `nnchain_with` / `linkage_with`: the raw steps merge reciprocal nearest neighbours of the computed matrix,
  each entry an `RAvg`-value of its two clusters (`ChainStepFacts.nn`, `RoundCore.table` ⇒ `Rnn.NnRun`); `S` is
  the insertion sort of the raw list (`Rnn.run_isort`; `greedyCore_isort`, `Lemmas/RoundGreedy.lean`).  `Rnn.run_swap`: exchanging two adjacent steps `x, y` with
  `y.d < x.d` keeps "reciprocal nearest neighbours up to `R`" — for `x` against the cluster newly created
  by `y` the witness is the value the update formula WOULD compute from `x`'s two witnesses and `y.d`
  (`LWCompat.step`: an `RAvg`-value of the right trees, within the SAME `4(|s|+|t|−2)` factors; `LwGeOn`:
  not below `x.d`) — this is where the existential form of `GMinRun` is essential, the pair need never
  have been a matrix entry of the actual run.  `Rnn.gmin_of_sorted`: in a SORTED complete run of
  reciprocal nearest neighbours every step is a global minimum (a live pair untouched by the current step
  is still live, unchanged, at the next step, which is at least as high).

## What is NOT proved

* That IEEE-754 arithmetic satisfies `Round.Model` (textbook; hypothesis), `BeqLe`, `ChainGeOn ok
  .weighted` (monotone rounding; sampled) — as in the C02 rounding files.
* Ward / centroid / median (cancellation); single / complete need no rounding analysis (`Props/C03.lean`,
  `C03Generic.lean`).  `mst_with` accepts only single linkage.
* Which of several near-minimal pairs is merged, and that two entry points return the same clusters
  (under rounding they need not; neither is part of the property).
* The statement is about the exact criterion (`Crit.avg` / `Crit.wdist` of the input values), not about
  `Spec.GreedyValid` (which replays the COMPUTED Lance–Williams table of `Spec/Naive.lean`).
-/
import Kodama.Lemmas.RoundRuns
import Kodama.Lemmas.RoundExamples
import Kodama.Lemmas.RoundBound
namespace Kodama
open Spec Crit MTree Finset Round

variable {K : Type} [Field K] [LinearOrder K] [IsStrictOrderedRing K]
variable {α : Type} [Num α]

/-! ## The statement -/

/-- Label `l` names a cluster that is present after steps `0..i−1` of `steps`: an observation or a
cluster created by an earlier step (`l < n + i`) that no earlier step has consumed. -/
def PresentBefore (n : Nat) (steps : List (Step α)) (i l : Nat) : Prop :=
  l < n + i ∧ ¬ Spec.UsedBefore steps i l

/-- **Greedy up to rounding, average linkage** (see the file header): at every step the exact mean of
the merged pair is minimal among all pairs of distinct clusters then present, up to the factor
`(1−u)^(−K)`, `K = 4·(|A|+|B|−2) + 4·(|X|+|Y|−2)`. -/
def AvgGreedyUpTo (D : Nat → Nat → K) (u : K) (n : Nat) (steps : List (Step α)) : Prop :=
  ∀ (i : Nat) (s : Step α), steps[i]? = some s →
    ∀ p q : Nat, PresentBefore n steps i p → PresentBefore n steps i q → p ≠ q →
      let A := (Spec.leaves n steps steps.length s.c1).toFinset
      let B := (Spec.leaves n steps steps.length s.c2).toFinset
      let X := (Spec.leaves n steps steps.length p).toFinset
      let Y := (Spec.leaves n steps steps.length q).toFinset
      X.Nonempty ∧ Y.Nonempty ∧ Disjoint X Y ∧ A.card + B.card ≤ n ∧ X.card + Y.card ≤ n ∧
        0 ≤ avg D A B ∧
        avg D A B * (1 - u) ^ (4 * (A.card + B.card - 2) + 4 * (X.card + Y.card - 2)) ≤ avg D X Y

/-- **Greedy up to rounding, weighted linkage**: the same for the recursively halved mean `Crit.wdist`
over the merge trees of the labels, `K = 2·(|A|+|B|−2) + 2·(|X|+|Y|−2)`. -/
def WgtGreedyUpTo (D : Nat → Nat → K) (u : K) (n : Nat) (steps : List (Step α)) : Prop :=
  ∀ (i : Nat) (s : Step α), steps[i]? = some s →
    ∀ p q : Nat, PresentBefore n steps i p → PresentBefore n steps i q → p ≠ q →
      let TA := clusterTree n steps s.c1
      let TB := clusterTree n steps s.c2
      let TX := clusterTree n steps p
      let TY := clusterTree n steps q
      Disjoint TX.leaves TY.leaves ∧ TA.leaves.card + TB.leaves.card ≤ n ∧
        TX.leaves.card + TY.leaves.card ≤ n ∧ 0 ≤ wdist D TA TB ∧
        wdist D TA TB *
            (1 - u) ^ (2 * (TA.leaves.card + TB.leaves.card - 2)
              + 2 * (TX.leaves.card + TY.leaves.card - 2)) ≤ wdist D TX TY

omit [Num α] in
/-- The quantification over present pairs is not vacuous: in a well-formed dendrogram the two labels a
step merges are distinct and present when it happens. -/
theorem C03_rounded_merged_present {n : Nat} {steps : List (Step α)} (hwf : WellFormed n steps)
    (i : Nat) (s : Step α) (hi : steps[i]? = some s) :
    PresentBefore n steps i s.c1 ∧ PresentBefore n steps i s.c2 ∧ s.c1 ≠ s.c2 := by
  have ho := hwf.ordered i s hi
  have hf := hwf.fresh i s hi
  exact ⟨⟨by omega, hf.1⟩, ⟨by omega, hf.2⟩, by omega⟩

/-! ## From "computed minimum" to "exact minimum up to rounding" -/

/-- A list of steps that is greedy up to `RAvg` (`Rnn.GreedySw`) satisfies `AvgGreedyUpTo`. -/
theorem avgGreedyUpTo_of_sw {val : α → K} {fin : α → Prop} {u lo hi dlo dhi : K} {N n : Nat}
    {D : Nat → Nat → K} (RM : Round.Model val fin u lo hi N) (B : BaseOk n D dlo dhi)
    {steps : List (Step α)} (hwf : WellFormed n steps)
    (hall : Rnn.GreedySw (RAvg val fin u n D) n steps) :
    AvgGreedyUpTo D u n steps := by
  intro i s hi p q hp hq hpq
  have hiD : i < steps.length := (List.getElem?_eq_some_iff.mp hi).1
  have ho := hwf.ordered i s hi
  obtain ⟨hsw, hmin⟩ := hall i s hi
  obtain ⟨T₁, T₂, hR, hdisj, a, b, _⟩ := hsw.ordered fun h => h.symm B
  obtain ⟨U, V, v, hUV, hdUV, swp, swq, hlt⟩ := hmin p q hp.1 hq.1 hpq hp.2 hq.2
  have hle : val s.d ≤ val v := (RM.lt_false hUV.fin hR.fin).mp hlt
  simp only [obs_eq_clusterTree_leaves hwf s.c1 (by omega),
    obs_eq_clusterTree_leaves hwf s.c2 (by omega),
    obs_eq_clusterTree_leaves hwf p (by have := hp.1; omega),
    obs_eq_clusterTree_leaves hwf q (by have := hq.1; omega),
    a.leaves_eq, b.leaves_eq, swp.leaves_eq, swq.leaves_eq]
  exact ⟨U.leaves_nonempty, V.leaves_nonempty, hdUV, card_add_le_of_lt hR.ls hR.lt hdisj,
    card_add_le_of_lt hUV.ls hUV.lt hdUV,
    B.avg_nonneg hR.ls hR.lt hdisj T₁.leaves_nonempty T₂.leaves_nonempty,
    Round.Near.chain_le RM.u_lt_one hR.near hUV.near hle⟩

/-! ## `primitive_with`, `generic_with` -/

/-- The call returns a well-formed dendrogram whose every step merges a pair that minimises
the EXACT mean over all pairs of clusters then present, up to the factor `(1−u)^(−K)`,
`K = 4·(|A|+|B|−2) + 4·(|X|+|Y|−2)`.  Hypotheses: those of `C02_primitive_average_rounded`. -/
theorem C03_primitive_average_rounded (L : OrderLaws α) {val : α → K} {fin : α → Prop}
    {u lo hi : K} {N : Nat} (RM : Round.Model val fin u lo hi N)
    (chk : Bool) (st : State α) (d : Dendrogram α) (data : Array α) (n : Nat)
    (h2 : 2 ≤ n) (hs : n < 2147483648) (hl : 2 * data.size = n * (n - 1))
    {dlo dhi : K} (hdlo : 0 < dlo) (hdle : dlo ≤ dhi)
    (hdata : ∀ (k : Nat) (h : k < data.size), fin data[k] ∧ In0 dlo dhi (val data[k]))
    (Rg : RangeOk u lo hi N n dlo dhi) :
    ∃ st' d' M', primitiveWith chk .average st d data n = .ok (st', d', M') ∧
      WellFormed n d'.steps.toList ∧ AvgGreedyUpTo (valD val n data) u n d'.steps.toList :=
  exists_ok_imp (primitive_average_greedySw L RM chk st d data n h2 hs hl hdlo hdle hdata Rg)
    fun _ h => ⟨h.1, avgGreedyUpTo_of_sw RM (baseOk_valD data n h2 hs hl hdlo hdle hdata) h.1 h.2⟩

/-- **C03 for average linkage through `generic_with`, under the standard model of floating-point
arithmetic**: as `C03_primitive_average_rounded`.  Hypotheses: those of `C02_generic_average_rounded`. -/
theorem C03_generic_average_rounded (L : OrderLaws α) (hbeq : BeqLe α) {val : α → K}
    {fin : α → Prop} {u lo hi : K} {N : Nat} (RM : Round.Model val fin u lo hi N)
    (hmax : Num.isNaN (Num.maxValue : α) = false) {G : α → Prop} (gs : GoodSet G)
    (chk : Bool) (st : State α) (d : Dendrogram α) (data : Array α) (n : Nat)
    (h2 : 2 ≤ n) (hs : n < 2147483648) (hl : 2 * data.size = n * (n - 1))
    {dlo dhi : K} (hdlo : 0 < dlo) (hdle : dlo ≤ dhi)
    (hdata : ∀ (k : Nat) (h : k < data.size), fin data[k] ∧ In0 dlo dhi (val data[k]))
    (Rg : RangeOk u lo hi N n dlo dhi)
    (hG : ∀ v, fin v → In0 (vlo u n dlo) (vhi u n dhi) (val v) → G v) :
    ∃ st' d' M', genericWith chk .average st d data n = .ok (st', d', M') ∧
      WellFormed n d'.steps.toList ∧ AvgGreedyUpTo (valD val n data) u n d'.steps.toList :=
  exists_ok_imp (generic_average_greedySw L RM chk st d data n h2 hs hl hdlo hdle hdata Rg hbeq hmax gs hG)
    fun _ h => ⟨h.1, avgGreedyUpTo_of_sw RM (baseOk_valD data n h2 hs hl hdlo hdle hdata) h.1 h.2⟩

/-! ## Uniform exponent and numeric corollaries (entry-point independent) -/

omit [Num α] in
/-- `AvgGreedyUpTo` with the uniform exponent `K = 8n`. -/
theorem C03_average_rounded_uniform {D : Nat → Nat → K} {u : K} {n : Nat} {steps : List (Step α)}
    (h0 : 0 ≤ u) (hu : u < 1) (h : AvgGreedyUpTo D u n steps)
    (i : Nat) (s : Step α) (hi : steps[i]? = some s) (p q : Nat)
    (hp : PresentBefore n steps i p) (hq : PresentBefore n steps i q) (hpq : p ≠ q) :
    0 ≤ avg D (Spec.leaves n steps steps.length s.c1).toFinset
        (Spec.leaves n steps steps.length s.c2).toFinset ∧
    avg D (Spec.leaves n steps steps.length s.c1).toFinset
        (Spec.leaves n steps steps.length s.c2).toFinset * (1 - u) ^ (8 * n)
      ≤ avg D (Spec.leaves n steps steps.length p).toFinset
          (Spec.leaves n steps steps.length q).toFinset := by
  obtain ⟨_, _, _, hAB, hXY, hnn, hle⟩ := h i s hi p q hp hq hpq
  refine ⟨hnn, le_trans (mul_le_mul_of_nonneg_left (pow_w_anti h0 hu ?_) hnn) hle⟩
  omega

omit [Num α] in
/-- **Relative form**: if `8·n·u ≤ c` and `1 ≤ (1+γ)(1−c)` then the exact mean of the merged pair is at
most `(1+γ)` times the exact mean of every pair of clusters then present. -/
theorem C03_average_rounded_gamma {D : Nat → Nat → K} {u : K} {n : Nat} {steps : List (Step α)}
    (h0 : 0 ≤ u) (hu : u < 1) (h : AvgGreedyUpTo D u n steps)
    {c γ : K} (hc : 8 * (n : K) * u ≤ c) (hγ0 : 0 ≤ γ) (hγ : 1 ≤ (1 + γ) * (1 - c))
    (i : Nat) (s : Step α) (hi : steps[i]? = some s) (p q : Nat)
    (hp : PresentBefore n steps i p) (hq : PresentBefore n steps i q) (hpq : p ≠ q) :
    avg D (Spec.leaves n steps steps.length s.c1).toFinset
        (Spec.leaves n steps steps.length s.c2).toFinset
      ≤ (1 + γ) * avg D (Spec.leaves n steps steps.length p).toFinset
          (Spec.leaves n steps steps.length q).toFinset := by
  obtain ⟨hnn, hle⟩ := C03_average_rounded_uniform h0 hu h i s hi p q hp hq hpq
  exact le_mul_of_mul_pow_le (one_le_mul_pow_w (m := 8 * n) h0 hu le_rfl
    (by rwa [Nat.cast_mul, Nat.cast_ofNat]) hγ0 hγ) hγ0 hnn hle

omit [Num α] in
/-- **The tolerance of the property for `f64`**: `u ≤ 2⁻⁵³`, `n ≤ 10⁶` ⇒ the exact mean of the merged
pair is at most `(1 + 10⁻⁹)` times the exact mean of every pair of clusters then present. -/
theorem C03_average_rounded_1e9 {D : Nat → Nat → K} {u : K} {n : Nat} {steps : List (Step α)}
    (h0 : 0 ≤ u) (hu : u ≤ 1 / 2 ^ 53) (hn : n ≤ 1000000) (h : AvgGreedyUpTo D u n steps)
    (i : Nat) (s : Step α) (hi : steps[i]? = some s) (p q : Nat)
    (hp : PresentBefore n steps i p) (hq : PresentBefore n steps i q) (hpq : p ≠ q) :
    avg D (Spec.leaves n steps steps.length s.c1).toFinset
        (Spec.leaves n steps steps.length s.c2).toFinset
      ≤ (1 + 1 / 1000000000) * avg D (Spec.leaves n steps steps.length p).toFinset
          (Spec.leaves n steps steps.length q).toFinset := by
  obtain ⟨hnn, hle⟩ :=
    C03_average_rounded_uniform h0 (hu.trans_lt (by norm_num)) h i s hi p q hp hq hpq
  exact le_mul_of_mul_pow_le (f64_one_le_mul_pow_w h0 hu hn le_rfl) (by norm_num) hnn hle

omit [Num α] in
/-- **The tolerance of the property for `f32`**: `u ≤ 2⁻²⁴`, `n ≤ 2000` ⇒ factor `(1 + 10⁻³)`. -/
theorem C03_average_rounded_1e3 {D : Nat → Nat → K} {u : K} {n : Nat} {steps : List (Step α)}
    (h0 : 0 ≤ u) (hu : u ≤ 1 / 2 ^ 24) (hn : n ≤ 2000) (h : AvgGreedyUpTo D u n steps)
    (i : Nat) (s : Step α) (hi : steps[i]? = some s) (p q : Nat)
    (hp : PresentBefore n steps i p) (hq : PresentBefore n steps i q) (hpq : p ≠ q) :
    avg D (Spec.leaves n steps steps.length s.c1).toFinset
        (Spec.leaves n steps steps.length s.c2).toFinset
      ≤ (1 + 1 / 1000) * avg D (Spec.leaves n steps steps.length p).toFinset
          (Spec.leaves n steps steps.length q).toFinset := by
  obtain ⟨hnn, hle⟩ :=
    C03_average_rounded_uniform h0 (hu.trans_lt (by norm_num)) h i s hi p q hp hq hpq
  exact le_mul_of_mul_pow_le (f32_one_le_mul_pow_w h0 hu hn le_rfl) (by norm_num) hnn hle

/-- **C03 for `f64` average linkage through `primitive_with`, tolerance `10⁻⁹`**: `u ≤ 2⁻⁵³`, `n ≤ 10⁶`
⇒ the call returns, and at every returned step the exact mean of the merged pair is at most
`(1 + 10⁻⁹)` times the exact mean of every pair of distinct clusters then present. -/
theorem C03_primitive_average_rounded_1e9 (L : OrderLaws α) {val : α → K} {fin : α → Prop}
    {u lo hi : K} {N : Nat} (RM : Round.Model val fin u lo hi N)
    (chk : Bool) (st : State α) (d : Dendrogram α) (data : Array α) (n : Nat)
    (h2 : 2 ≤ n) (hs : n < 2147483648) (hl : 2 * data.size = n * (n - 1))
    {dlo dhi : K} (hdlo : 0 < dlo) (hdle : dlo ≤ dhi)
    (hdata : ∀ (k : Nat) (h : k < data.size), fin data[k] ∧ In0 dlo dhi (val data[k]))
    (Rg : RangeOk u lo hi N n dlo dhi) (hu : u ≤ 1 / 2 ^ 53) (hn : n ≤ 1000000) :
    ∃ st' d' M', primitiveWith chk .average st d data n = .ok (st', d', M') ∧
      ∀ (i : Nat) (s : Step α), d'.steps.toList[i]? = some s →
        ∀ p q : Nat, PresentBefore n d'.steps.toList i p → PresentBefore n d'.steps.toList i q →
          p ≠ q →
          let steps := d'.steps.toList
          avg (valD val n data) (Spec.leaves n steps steps.length s.c1).toFinset
              (Spec.leaves n steps steps.length s.c2).toFinset
            ≤ (1 + 1 / 1000000000) *
              avg (valD val n data) (Spec.leaves n steps steps.length p).toFinset
                (Spec.leaves n steps steps.length q).toFinset :=
  exists_ok_imp (C03_primitive_average_rounded L RM chk st d data n h2 hs hl hdlo hdle hdata Rg)
    fun _ h => C03_average_rounded_1e9 RM.u_nonneg hu hn h.2

theorem C03_generic_average_rounded_1e9 (L : OrderLaws α) (hbeq : BeqLe α) {val : α → K}
    {fin : α → Prop} {u lo hi : K} {N : Nat} (RM : Round.Model val fin u lo hi N)
    (hmax : Num.isNaN (Num.maxValue : α) = false) {G : α → Prop} (gs : GoodSet G)
    (chk : Bool) (st : State α) (d : Dendrogram α) (data : Array α) (n : Nat)
    (h2 : 2 ≤ n) (hs : n < 2147483648) (hl : 2 * data.size = n * (n - 1))
    {dlo dhi : K} (hdlo : 0 < dlo) (hdle : dlo ≤ dhi)
    (hdata : ∀ (k : Nat) (h : k < data.size), fin data[k] ∧ In0 dlo dhi (val data[k]))
    (Rg : RangeOk u lo hi N n dlo dhi)
    (hG : ∀ v, fin v → In0 (vlo u n dlo) (vhi u n dhi) (val v) → G v)
    (hu : u ≤ 1 / 2 ^ 53) (hn : n ≤ 1000000) :
    ∃ st' d' M', genericWith chk .average st d data n = .ok (st', d', M') ∧
      ∀ (i : Nat) (s : Step α), d'.steps.toList[i]? = some s →
        ∀ p q : Nat, PresentBefore n d'.steps.toList i p → PresentBefore n d'.steps.toList i q →
          p ≠ q →
          let steps := d'.steps.toList
          avg (valD val n data) (Spec.leaves n steps steps.length s.c1).toFinset
              (Spec.leaves n steps steps.length s.c2).toFinset
            ≤ (1 + 1 / 1000000000) *
              avg (valD val n data) (Spec.leaves n steps steps.length p).toFinset
                (Spec.leaves n steps steps.length q).toFinset :=
  exists_ok_imp (C03_generic_average_rounded L hbeq RM hmax gs chk st d data n h2 hs hl hdlo hdle hdata Rg hG)
    fun _ h => C03_average_rounded_1e9 RM.u_nonneg hu hn h.2

/-! ## Weighted linkage -/

/-- A list of steps that is greedy up to `RWgt` (`Rnn.GreedySw`) satisfies `WgtGreedyUpTo`. -/
theorem wgtGreedyUpTo_of_sw {val : α → K} {fin : α → Prop} {u lo hi dlo dhi : K} {N n : Nat}
    {D : Nat → Nat → K} (RM : Round.Model val fin u lo hi N) (B : BaseOkW n D dlo dhi)
    {steps : List (Step α)}
    (hall : Rnn.GreedySw (RWgt val fin u n D) n steps) :
    WgtGreedyUpTo D u n steps := by
  intro i s hi p q hp hq hpq
  obtain ⟨hsw, hmin⟩ := hall i s hi
  obtain ⟨T₁, T₂, hR, hdisj, a, b, _⟩ := hsw.ordered fun h => h.symm B
  obtain ⟨U, V, v, hUV, hdUV, swp, swq, hlt⟩ := hmin p q hp.1 hq.1 hpq hp.2 hq.2
  have hle : val s.d ≤ val v := (RM.lt_false hUV.fin hR.fin).mp hlt
  simp only [a.wdist_left, b.wdist_right, swp.wdist_left, swq.wdist_right,
    a.leaves_eq, b.leaves_eq, swp.leaves_eq, swq.leaves_eq]
  exact ⟨hdUV, card_add_le_of_lt hR.ls hR.lt hdisj, card_add_le_of_lt hUV.ls hUV.lt hdUV,
    le_trans B.dlo_pos.le (B.wdist_mem T₁ T₂ hR.ls hR.lt hdisj).1,
    Round.Near.chain_le RM.u_lt_one hR.near hUV.near hle⟩

/-- **C03 for weighted linkage through `primitive_with`, under the standard model and reducibility of
the midpoint on a domain**: the call returns a well-formed dendrogram whose every step merges a pair
that minimises the recursively halved mean `Crit.wdist` of the original entries over all pairs of
clusters then present, up to `(1−u)^(−K)`, `K = 2·(|A|+|B|−2) + 2·(|X|+|Y|−2)`.  Hypotheses: those of
`C02_primitive_weighted_rounded`. -/
theorem C03_primitive_weighted_rounded (L : OrderLaws α) {val : α → K} {fin : α → Prop}
    {u lo hi : K} {N : Nat} (RM : Round.Model val fin u lo hi N)
    {ok : α → Prop} (hge : ChainGeOn ok .weighted)
    (chk : Bool) (st : State α) (d : Dendrogram α) (data : Array α) (n : Nat)
    (h2 : 2 ≤ n) (hs : n < 2147483648) (hl : 2 * data.size = n * (n - 1))
    {dlo dhi : K} (hdlo : 0 < dlo)
    (hdata : ∀ (k : Nat) (h : k < data.size),
      fin data[k] ∧ dlo ≤ val data[k] ∧ val data[k] ≤ dhi)
    (Rg : RangeOkW u lo hi n dlo dhi)
    (hok : ∀ v, fin v → dlo * (1 - u) ^ (2 * n) ≤ val v → val v ≤ dhi / (1 - u) ^ (2 * n) → ok v) :
    ∃ st' d' M', primitiveWith chk .weighted st d data n = .ok (st', d', M') ∧
      WellFormed n d'.steps.toList ∧ WgtGreedyUpTo (valD val n data) u n d'.steps.toList :=
  exists_ok_imp (primitive_weighted_greedySw L RM hge chk st d data n h2 hs hl hdlo hdata Rg hok)
    fun _ h => ⟨h.1, wgtGreedyUpTo_of_sw RM (baseOkW_valD data n hs hl hdlo hdata) h.2⟩

/-- **C03 for weighted linkage through `generic_with`**: as `C03_primitive_weighted_rounded`.
Hypotheses: those of `C02_generic_weighted_rounded`. -/
theorem C03_generic_weighted_rounded (L : OrderLaws α) (hbeq : BeqLe α) {val : α → K}
    {fin : α → Prop} {u lo hi : K} {N : Nat} (RM : Round.Model val fin u lo hi N)
    (hmax : Num.isNaN (Num.maxValue : α) = false) {G : α → Prop} (gs : GoodSet G)
    (hge : ChainGeOn G .weighted)
    (chk : Bool) (st : State α) (d : Dendrogram α) (data : Array α) (n : Nat)
    (h2 : 2 ≤ n) (hs : n < 2147483648) (hl : 2 * data.size = n * (n - 1))
    {dlo dhi : K} (hdlo : 0 < dlo)
    (hdata : ∀ (k : Nat) (h : k < data.size),
      fin data[k] ∧ dlo ≤ val data[k] ∧ val data[k] ≤ dhi)
    (Rg : RangeOkW u lo hi n dlo dhi)
    (hG : ∀ v, fin v → dlo * (1 - u) ^ (2 * n) ≤ val v → val v ≤ dhi / (1 - u) ^ (2 * n) → G v) :
    ∃ st' d' M', genericWith chk .weighted st d data n = .ok (st', d', M') ∧
      WellFormed n d'.steps.toList ∧ WgtGreedyUpTo (valD val n data) u n d'.steps.toList :=
  exists_ok_imp (generic_weighted_greedySw L RM hge chk st d data n h2 hs hl hdlo hdata Rg hG hbeq hmax gs)
    fun _ h => ⟨h.1, wgtGreedyUpTo_of_sw RM (baseOkW_valD data n hs hl hdlo hdata) h.2⟩

omit [Num α] in
/-- `WgtGreedyUpTo` with the uniform exponent `K = 4n`. -/
theorem C03_weighted_rounded_uniform {D : Nat → Nat → K} {u : K} {n : Nat} {steps : List (Step α)}
    (h0 : 0 ≤ u) (hu : u < 1) (h : WgtGreedyUpTo D u n steps)
    (i : Nat) (s : Step α) (hi : steps[i]? = some s) (p q : Nat)
    (hp : PresentBefore n steps i p) (hq : PresentBefore n steps i q) (hpq : p ≠ q) :
    wdist D (clusterTree n steps s.c1) (clusterTree n steps s.c2) * (1 - u) ^ (4 * n)
      ≤ wdist D (clusterTree n steps p) (clusterTree n steps q) := by
  obtain ⟨_, hAB, hXY, hnn, hle⟩ := h i s hi p q hp hq hpq
  refine le_trans (mul_le_mul_of_nonneg_left (pow_w_anti h0 hu ?_) hnn) hle
  omega

/-! ## The nearest-neighbour chain: `nnchain_with`, `linkage_with` -/

/-- **C03 for average linkage through `nnchain_with`, under the standard model of floating-point
arithmetic**: the call returns a well-formed dendrogram whose every step — in the RETURNED, stably sorted
order — merges a pair that minimises the EXACT mean over all pairs of clusters then present, up to the
factor `(1−u)^(−K)`, `K = 4·(|A|+|B|−2) + 4·(|X|+|Y|−2)`.  Hypotheses: those of
`C02_nnchain_average_rounded`. -/
theorem C03_nnchain_average_rounded (L : OrderLaws α) {val : α → K} {fin : α → Prop}
    {u lo hi : K} {N : Nat} (RM : Round.Model val fin u lo hi N)
    (chk : Bool) (st : State α) (d : Dendrogram α) (data : Array α) (n : Nat)
    (h2 : 2 ≤ n) (hs : n < 2147483648) (hl : 2 * data.size = n * (n - 1))
    {dlo dhi : K} (hdlo : 0 < dlo) (hdle : dlo ≤ dhi)
    (hdata : ∀ (k : Nat) (h : k < data.size), fin data[k] ∧ In0 dlo dhi (val data[k]))
    (Rg : RangeOk u lo hi N n dlo dhi) :
    ∃ st' d' M', nnchainWith chk .average st d data n = .ok (st', d', M') ∧
      WellFormed n d'.steps.toList ∧ AvgGreedyUpTo (valD val n data) u n d'.steps.toList :=
  exists_ok_imp (nnchain_average_greedySw L RM chk st d data n h2 hs hl hdlo hdle hdata Rg)
    fun _ h => ⟨h.1, avgGreedyUpTo_of_sw RM (baseOk_valD data n h2 hs hl hdlo hdle hdata) h.1 h.2⟩

/-- The same through `linkage_with(Method::Average)` (which dispatches to `nnchain_with`). -/
theorem C03_linkage_average_rounded (L : OrderLaws α) {val : α → K} {fin : α → Prop}
    {u lo hi : K} {N : Nat} (RM : Round.Model val fin u lo hi N)
    (chk : Bool) (st : State α) (d : Dendrogram α) (data : Array α) (n : Nat)
    (h2 : 2 ≤ n) (hs : n < 2147483648) (hl : 2 * data.size = n * (n - 1))
    {dlo dhi : K} (hdlo : 0 < dlo) (hdle : dlo ≤ dhi)
    (hdata : ∀ (k : Nat) (h : k < data.size), fin data[k] ∧ In0 dlo dhi (val data[k]))
    (Rg : RangeOk u lo hi N n dlo dhi) :
    ∃ st' d' M', linkageWith chk .average st d data n = .ok (st', d', M') ∧
      WellFormed n d'.steps.toList ∧ AvgGreedyUpTo (valD val n data) u n d'.steps.toList :=
  exists_ok_imp (linkage_average_greedySw L RM chk st d data n h2 hs hl hdlo hdle hdata Rg)
    fun _ h => ⟨h.1, avgGreedyUpTo_of_sw RM (baseOk_valD data n h2 hs hl hdlo hdle hdata) h.1 h.2⟩

/-- **C03 for `f64` average linkage through `linkage_with`, tolerance `10⁻⁹`**: `u ≤ 2⁻⁵³`, `n ≤ 10⁶` ⇒
the call returns, and at every returned step the exact mean of the merged pair is at most `(1 + 10⁻⁹)`
times the exact mean of every pair of distinct clusters then present. -/
theorem C03_linkage_average_rounded_1e9 (L : OrderLaws α) {val : α → K} {fin : α → Prop}
    {u lo hi : K} {N : Nat} (RM : Round.Model val fin u lo hi N)
    (chk : Bool) (st : State α) (d : Dendrogram α) (data : Array α) (n : Nat)
    (h2 : 2 ≤ n) (hs : n < 2147483648) (hl : 2 * data.size = n * (n - 1))
    {dlo dhi : K} (hdlo : 0 < dlo) (hdle : dlo ≤ dhi)
    (hdata : ∀ (k : Nat) (h : k < data.size), fin data[k] ∧ In0 dlo dhi (val data[k]))
    (Rg : RangeOk u lo hi N n dlo dhi) (hu : u ≤ 1 / 2 ^ 53) (hn : n ≤ 1000000) :
    ∃ st' d' M', linkageWith chk .average st d data n = .ok (st', d', M') ∧
      ∀ (i : Nat) (s : Step α), d'.steps.toList[i]? = some s →
        ∀ p q : Nat, PresentBefore n d'.steps.toList i p → PresentBefore n d'.steps.toList i q →
          p ≠ q →
          let steps := d'.steps.toList
          avg (valD val n data) (Spec.leaves n steps steps.length s.c1).toFinset
              (Spec.leaves n steps steps.length s.c2).toFinset
            ≤ (1 + 1 / 1000000000) *
              avg (valD val n data) (Spec.leaves n steps steps.length p).toFinset
                (Spec.leaves n steps steps.length q).toFinset :=
  exists_ok_imp (C03_linkage_average_rounded L RM chk st d data n h2 hs hl hdlo hdle hdata Rg)
    fun _ h => C03_average_rounded_1e9 RM.u_nonneg hu hn h.2

/-- **C03 for weighted linkage through `nnchain_with`**, under the hypotheses of
`C02_nnchain_weighted_rounded`: as `C03_primitive_weighted_rounded`. -/
theorem C03_nnchain_weighted_rounded (L : OrderLaws α) {val : α → K} {fin : α → Prop}
    {u lo hi : K} {N : Nat} (RM : Round.Model val fin u lo hi N)
    {ok : α → Prop} (hge : ChainGeOn ok .weighted)
    (chk : Bool) (st : State α) (d : Dendrogram α) (data : Array α) (n : Nat)
    (h2 : 2 ≤ n) (hs : n < 2147483648) (hl : 2 * data.size = n * (n - 1))
    {dlo dhi : K} (hdlo : 0 < dlo)
    (hdata : ∀ (k : Nat) (h : k < data.size),
      fin data[k] ∧ dlo ≤ val data[k] ∧ val data[k] ≤ dhi)
    (Rg : RangeOkW u lo hi n dlo dhi)
    (hok : ∀ v, fin v → dlo * (1 - u) ^ (2 * n) ≤ val v → val v ≤ dhi / (1 - u) ^ (2 * n) → ok v) :
    ∃ st' d' M', nnchainWith chk .weighted st d data n = .ok (st', d', M') ∧
      WellFormed n d'.steps.toList ∧ WgtGreedyUpTo (valD val n data) u n d'.steps.toList :=
  exists_ok_imp (nnchain_weighted_greedySw L RM hge chk st d data n h2 hs hl hdlo hdata Rg hok)
    fun _ h => ⟨h.1, wgtGreedyUpTo_of_sw RM (baseOkW_valD data n hs hl hdlo hdata) h.2⟩

/-- The same through `linkage_with(Method::Weighted)`. -/
theorem C03_linkage_weighted_rounded (L : OrderLaws α) {val : α → K} {fin : α → Prop}
    {u lo hi : K} {N : Nat} (RM : Round.Model val fin u lo hi N)
    {ok : α → Prop} (hge : ChainGeOn ok .weighted)
    (chk : Bool) (st : State α) (d : Dendrogram α) (data : Array α) (n : Nat)
    (h2 : 2 ≤ n) (hs : n < 2147483648) (hl : 2 * data.size = n * (n - 1))
    {dlo dhi : K} (hdlo : 0 < dlo)
    (hdata : ∀ (k : Nat) (h : k < data.size),
      fin data[k] ∧ dlo ≤ val data[k] ∧ val data[k] ≤ dhi)
    (Rg : RangeOkW u lo hi n dlo dhi)
    (hok : ∀ v, fin v → dlo * (1 - u) ^ (2 * n) ≤ val v → val v ≤ dhi / (1 - u) ^ (2 * n) → ok v) :
    ∃ st' d' M', linkageWith chk .weighted st d data n = .ok (st', d', M') ∧
      WellFormed n d'.steps.toList ∧ WgtGreedyUpTo (valD val n data) u n d'.steps.toList :=
  exists_ok_imp (linkage_weighted_greedySw L RM hge chk st d data n h2 hs hl hdlo hdata Rg hok)
    fun _ h => ⟨h.1, wgtGreedyUpTo_of_sw RM (baseOkW_valD data n hs hl hdlo hdata) h.2⟩

/-! ## Non-vacuity (the number types and the data of `Lemmas/RoundExamples.lean`: `d01 = 1, d02 = 9, d12 = 4`) -/

section Examples

section ExactRat
attribute [local instance] ratNum

/-- Exact `ℚ`, `primitive_with`: all hypotheses hold, and (with `u = 0`) at every returned step the
merged pair is an EXACT minimiser of the mean over the cross pairs among all pairs of clusters then
present. -/
example : ∃ st' d' M',
    primitiveWith true .average State.new (Dendrogram.new 0) (#[1, 9, 4] : Array ℚ) 3
      = .ok (st', d', M') ∧
    ∀ (i : Nat) (s : Step ℚ), d'.steps.toList[i]? = some s →
      ∀ p q : Nat, PresentBefore 3 d'.steps.toList i p → PresentBefore 3 d'.steps.toList i q →
        p ≠ q →
        avg (valD (fun x : ℚ => x) 3 #[1, 9, 4])
            (Spec.leaves 3 d'.steps.toList d'.steps.toList.length s.c1).toFinset
            (Spec.leaves 3 d'.steps.toList d'.steps.toList.length s.c2).toFinset
          ≤ avg (valD (fun x : ℚ => x) 3 #[1, 9, 4])
            (Spec.leaves 3 d'.steps.toList d'.steps.toList.length p).toFinset
            (Spec.leaves 3 d'.steps.toList d'.steps.toList.length q).toFinset := by
  have RM := ratNum_model_ex
  obtain ⟨st', d', M', hrun, _, h⟩ := C03_primitive_average_rounded
    (exactLaws_fieldNum ℚ).field.orderLaws RM true State.new (Dendrogram.new 0) #[1, 9, 4] 3
    (by decide) (by decide) (by decide) (dlo := 1) (dhi := 9) (by norm_num) (by norm_num)
    example_data_ok rangeOk_ex_exact
  refine ⟨st', d', M', hrun, fun i s hi p q hp hq hpq => ?_⟩
  have := (h i s hi p q hp hq hpq).2.2.2.2.2.2
  simpa only [sub_zero, one_pow, mul_one] using this

/-- Exact `ℚ`, weighted linkage through `primitive_with`: the merged pair is an exact minimiser of the
recursively halved mean. -/
example : ∃ st' d' M',
    primitiveWith true .weighted State.new (Dendrogram.new 0) (#[1, 9, 4] : Array ℚ) 3
      = .ok (st', d', M') ∧
    ∀ (i : Nat) (s : Step ℚ), d'.steps.toList[i]? = some s →
      ∀ p q : Nat, PresentBefore 3 d'.steps.toList i p → PresentBefore 3 d'.steps.toList i q →
        p ≠ q →
        wdist (valD (fun x : ℚ => x) 3 #[1, 9, 4])
            (clusterTree 3 d'.steps.toList s.c1) (clusterTree 3 d'.steps.toList s.c2)
          ≤ wdist (valD (fun x : ℚ => x) 3 #[1, 9, 4])
            (clusterTree 3 d'.steps.toList p) (clusterTree 3 d'.steps.toList q) := by
  have E := exactLaws_fieldNum ℚ
  have RM := ratNum_model_ex
  obtain ⟨st', d', M', hrun, _, h⟩ := C03_primitive_weighted_rounded E.field.orderLaws RM
    (ratNum_chainGeOn_weighted fun _ => True) true State.new
    (Dendrogram.new 0) #[1, 9, 4] 3 (by decide) (by decide) (by decide) (dlo := 1) (dhi := 9)
    (by norm_num) example_data_pos rangeOkW_ex_exact (fun _ _ _ _ => trivial)
  refine ⟨st', d', M', hrun, fun i s hi p q hp hq hpq => ?_⟩
  have := (h i s hi p q hp hq hpq).2.2.2.2
  simpa only [sub_zero, one_pow, mul_one] using this

/-- Exact `ℚ`, `linkage_with` (nearest-neighbour chain + stable sort): at every returned step the merged
pair is an EXACT minimiser of the mean among all pairs of clusters then present. -/
example : ∃ st' d' M',
    linkageWith true .average State.new (Dendrogram.new 0) (#[1, 9, 4] : Array ℚ) 3
      = .ok (st', d', M') ∧
    ∀ (i : Nat) (s : Step ℚ), d'.steps.toList[i]? = some s →
      ∀ p q : Nat, PresentBefore 3 d'.steps.toList i p → PresentBefore 3 d'.steps.toList i q →
        p ≠ q →
        avg (valD (fun x : ℚ => x) 3 #[1, 9, 4])
            (Spec.leaves 3 d'.steps.toList d'.steps.toList.length s.c1).toFinset
            (Spec.leaves 3 d'.steps.toList d'.steps.toList.length s.c2).toFinset
          ≤ avg (valD (fun x : ℚ => x) 3 #[1, 9, 4])
            (Spec.leaves 3 d'.steps.toList d'.steps.toList.length p).toFinset
            (Spec.leaves 3 d'.steps.toList d'.steps.toList.length q).toFinset := by
  have RM := ratNum_model_ex
  obtain ⟨st', d', M', hrun, _, h⟩ := C03_linkage_average_rounded
    (exactLaws_fieldNum ℚ).field.orderLaws RM true State.new (Dendrogram.new 0) #[1, 9, 4] 3
    (by decide) (by decide) (by decide) (dlo := 1) (dhi := 9) (by norm_num) (by norm_num)
    example_data_ok rangeOk_ex_exact
  refine ⟨st', d', M', hrun, fun i s hi p q hp hq hpq => ?_⟩
  have := (h i s hi p q hp hq hpq).2.2.2.2.2.2
  simpa only [sub_zero, one_pow, mul_one] using this

end ExactRat

section RoundDown
attribute [local instance] downNum

/-- The round-down toy type (`u = 1/1000`; the clamp does fire on it), `primitive_with`: all hypotheses
hold, so the returned dendrogram is well formed and greedy up to the factor `(1 − 1/1000)^(−K)`. -/
example : ∃ st' d' M',
    primitiveWith true .average State.new (Dendrogram.new 0) (#[1, 9, 4] : Array ℚ) 3
      = .ok (st', d', M') ∧
    WellFormed 3 d'.steps.toList ∧
    AvgGreedyUpTo (valD (fun x : ℚ => x) 3 #[1, 9, 4]) (1 / 1000 : ℚ) 3 d'.steps.toList :=
  C03_primitive_average_rounded downNum_orderLaws
    downNum_model_ex
    true State.new (Dendrogram.new 0) #[1, 9, 4] 3 (by decide) (by decide) (by decide)
    (dlo := 1) (dhi := 9) (by norm_num) (by norm_num)
    example_data_ok rangeOk_ex

/-- The round-down toy type, `nnchain_with`: all hypotheses hold, so the returned (sorted) dendrogram is
well formed and greedy up to the factor `(1 − 1/1000)^(−K)`. -/
example : ∃ st' d' M',
    nnchainWith true .average State.new (Dendrogram.new 0) (#[1, 9, 4] : Array ℚ) 3
      = .ok (st', d', M') ∧
    WellFormed 3 d'.steps.toList ∧
    AvgGreedyUpTo (valD (fun x : ℚ => x) 3 #[1, 9, 4]) (1 / 1000 : ℚ) 3 d'.steps.toList :=
  C03_nnchain_average_rounded downNum_orderLaws
    downNum_model_ex
    true State.new (Dendrogram.new 0) #[1, 9, 4] 3 (by decide) (by decide) (by decide)
    (dlo := 1) (dhi := 9) (by norm_num) (by norm_num)
    example_data_ok rangeOk_ex

end RoundDown

section ExactRat1000
attribute [local instance] ratNum1000

/-- Exact `ℚ` (sentinel `1000`), `generic_with`: the merged pair is an exact minimiser of the mean. -/
example : ∃ st' d' M',
    genericWith true .average State.new (Dendrogram.new 0) (#[1, 9, 4] : Array ℚ) 3
      = .ok (st', d', M') ∧
    ∀ (i : Nat) (s : Step ℚ), d'.steps.toList[i]? = some s →
      ∀ p q : Nat, PresentBefore 3 d'.steps.toList i p → PresentBefore 3 d'.steps.toList i q →
        p ≠ q →
        avg (valD (fun x : ℚ => x) 3 #[1, 9, 4])
            (Spec.leaves 3 d'.steps.toList d'.steps.toList.length s.c1).toFinset
            (Spec.leaves 3 d'.steps.toList d'.steps.toList.length s.c2).toFinset
          ≤ avg (valD (fun x : ℚ => x) 3 #[1, 9, 4])
            (Spec.leaves 3 d'.steps.toList d'.steps.toList.length p).toFinset
            (Spec.leaves 3 d'.steps.toList d'.steps.toList.length q).toFinset := by
  have E := ratNumMax_exact 1000
  obtain ⟨st', d', M', hrun, _, h⟩ := C03_generic_average_rounded E.field.orderLaws
    ratNum1000_beqLe ratNum1000_model_ex (E.noNaN _) ratNum1000_goodSet
    true State.new (Dendrogram.new 0) #[1, 9, 4] 3
    (by decide) (by decide) (by decide) (dlo := 1) (dhi := 9) (by norm_num) (by norm_num)
    example_data_ok rangeOk_ex_exact run_range_lt_1000_exact
  refine ⟨st', d', M', hrun, fun i s hi p q hp hq hpq => ?_⟩
  have := (h i s hi p q hp hq hpq).2.2.2.2.2.2
  simpa only [sub_zero, one_pow, mul_one] using this

end ExactRat1000

section RoundDown1000
attribute [local instance] downNum1000

/-- The round-down toy type with sentinel `1000`, `generic_with`: all hypotheses hold, so the returned
dendrogram is well formed and greedy up to the factor `(1 − 1/1000)^(−K)`. -/
example : ∃ st' d' M',
    genericWith true .average State.new (Dendrogram.new 0) (#[1, 9, 4] : Array ℚ) 3
      = .ok (st', d', M') ∧
    WellFormed 3 d'.steps.toList ∧
    AvgGreedyUpTo (valD (fun x : ℚ => x) 3 #[1, 9, 4]) (1 / 1000 : ℚ) 3 d'.steps.toList :=
  C03_generic_average_rounded downNum1000_orderLaws downNum1000_beqLe
    downNum1000_model_ex rfl downNum1000_goodSet
    true State.new (Dendrogram.new 0) #[1, 9, 4] 3 (by decide) (by decide) (by decide)
    (dlo := 1) (dhi := 9) (by norm_num) (by norm_num)
    example_data_ok rangeOk_ex run_range_lt_1000

end RoundDown1000

end Examples

end Kodama
