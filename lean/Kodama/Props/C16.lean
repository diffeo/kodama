/-
C16 — C dendrograms own their storage.

The property has a part that is logic and a part that is a fact about machine memory.

PROVED here (for the lifecycle model `World / Op / step` of Model/CApi.lean; a handle is named
`(thread id, index)` by the caller, `live` is what the library owns, `inputs` are the caller's
matrices):

* `C16_frame`        for EVERY operation sequence `ops` that does not contain `free h`, executed
                     after `create h d input` on a world where `h` was not live: `len h`, `obs h`
                     and `steps h` return exactly `d.steps.size`, `d.observations`, `d.steps` — the
                     values `create` stored — whatever `ops` does to other handles (create, read,
                     free, reuse of freed names) and whatever `clobberInput` does to ANY input
                     buffer, including the one `h` was computed from; reads change nothing.
                     Since `ops` is arbitrary, this covers every read between `create` and `free`.
* `C16_frame_trace`  the same, read off the output trace of one long run: the output at the
                     position of each such read is the stored value.
* `C16_use_after_free`  after `free h` (until `h` is created again) every read of `h` and a second
                     `free h` are `undefined` (outside the API's contract) — the model never
                     answers them with data.
* `C16_live_iff`     the table holds exactly the handles that were created and not freed since
                     (`liveAfter`, a purely syntactic scan of the sequence).
* `C16_no_leak`      hence: starting from the empty world, after any sequence in which every
                     created handle is freed afterwards (`liveAfter h false ops = false` for all
                     `h`), the table is empty: nothing the library allocated is still owned.
* `C16_input_not_retained`  no operation's output or effect on `live` depends on `inputs`.
* `C16_commute`      two operations on distinct handles commute: same final world, and each
                     returns what it returns without the other.
* `C16_interleave`   hence, for ANY interleaving of per-thread sequences (threads use disjoint
                     handle names), every thread observes exactly the outputs of running its own
                     sequence alone, and its handles end in the same state (all schedules).
* `C16_schedule_independent`  two schedules with the same per-thread programs give every thread the
                     same outputs.
* `C16_accessors`    the four accessor bodies in the source are the ones modelled (`steps.len()`,
                     `observations`, `steps.as_ptr()`, `Box::from_raw` dropped), the struct owns a
                     `Vec<kodama_step>` (not a borrowed pointer) — from the translator.

NOT PROVED (cannot be, in this model): that the compiled Rust/C code *implements* this table —
that `Box`/`Vec` storage stays valid and unchanged until `kodama_dendrogram_free`, that the step
array has exactly `len` readable entries, that freeing releases everything, that nothing is shared
between threads.  These are facts about the allocator and `unsafe` pointer code.  They are
OBSERVED, not proved, by the correspondence run: a C driver linked with libkodama.a (dev and
release profiles) executes random create / read / overwrite-and-free-input / free sequences on up
to 16 threads under AddressSanitizer + LeakSanitizer (thorough: also valgrind memcheck); everything
it reads is compared with this model, and any sanitizer report, leak or non-zero exit is a failure.
That C15's `capiLinkage*` is a pure function of the input (so `create` can carry the dendrogram) is
C15 + C08.
-/
import Kodama.Model.CApi
namespace Kodama
open CApi

private def upd {β : Type} (f : Handle → Option β) (h : Handle) (v : Option β) : Handle → Option β :=
  fun x => if x = h then v else f x

/-- What an operation does at its own handle: new library value, new caller buffer, output —
as a function of the old library value and old caller buffer at that handle only. -/
private def stepLocal : Op → Option CDend → Option (Array Nat) → Option CDend × Option (Array Nat) × Out
  | .create _ d input, l, i =>
    match l with
    | some _ => (l, i, .undefined)
    | none => (some d, some input, .created)
  | .len _, l, i => (l, i, match l with | some d => .nat d.steps.size | none => .undefined)
  | .obs _, l, i => (l, i, match l with | some d => .nat d.observations | none => .undefined)
  | .steps _, l, i => (l, i, match l with | some d => .stepArray d.steps | none => .undefined)
  | .clobberInput _ _, l, _ => (l, none, .done)
  | .free _, l, i =>
    match l with
    | some _ => (none, i, .done)
    | none => (l, i, .undefined)

private theorem upd_self {β : Type} (f : Handle → Option β) (h : Handle) : upd f h (f h) = f := by
  funext x; unfold upd; split
  · next hx => rw [hx]
  · rfl

/-- `step` acts only at the operation's handle, and only through `stepLocal`. -/
private theorem step_eq_local (w : World) (op : Op) :
    step w op =
      (⟨upd w.live op.handle (stepLocal op (w.live op.handle) (w.inputs op.handle)).1,
        upd w.inputs op.handle (stepLocal op (w.live op.handle) (w.inputs op.handle)).2.1⟩,
       (stepLocal op (w.live op.handle) (w.inputs op.handle)).2.2) := by
  cases op with
  | create h d input =>
    simp only [step, stepLocal, Op.handle]
    cases hl : w.live h with
    | some v => simp only [← hl, upd_self]
    | none => rfl
  | len h =>
    simp only [step, stepLocal, Op.handle, upd_self]
    cases w.live h <;> rfl
  | obs h =>
    simp only [step, stepLocal, Op.handle, upd_self]
    cases w.live h <;> rfl
  | steps h =>
    simp only [step, stepLocal, Op.handle, upd_self]
    cases w.live h <;> rfl
  | clobberInput h g =>
    simp only [step, stepLocal, Op.handle, upd_self]
    rfl
  | free h =>
    simp only [step, stepLocal, Op.handle]
    cases hl : w.live h with
    | some v => simp only [upd_self]; rfl
    | none => simp only [← hl, upd_self]

/-- An operation does not touch the library value or the caller buffer of any other handle. -/
theorem step_other (w : World) (op : Op) (h : Handle) (hne : h ≠ op.handle) :
    (step w op).1.live h = w.live h ∧ (step w op).1.inputs h = w.inputs h := by
  rw [step_eq_local]
  simp [upd, hne]

/-- A live handle stays live with the same value under every operation except its own `free`. -/
private theorem step_keeps (w : World) (op : Op) (h : Handle) (d : CDend)
    (hl : w.live h = some d) (hno : op ≠ .free h) : (step w op).1.live h = some d := by
  by_cases hh : h = op.handle
  · subst hh
    rw [step_eq_local]
    simp only [upd, if_true]
    rw [hl]
    cases op with
    | free h' => exact absurd rfl hno
    | _ => rfl
  · rw [(step_other w op h hh).1]; exact hl

/-- What every step of `ops` preserves holds after `runOps`. -/
private theorem runOps_inv (P : World → Prop) (ops : List Op) :
    (∀ w, ∀ op ∈ ops, P w → P (step w op).1) → ∀ w, P w → P (runOps w ops) := by
  induction ops with
  | nil => exact fun _ _ hw => hw
  | cons op ops ih =>
    exact fun hstep w hw => ih (fun w o ho => hstep w o (List.mem_cons_of_mem _ ho)) _
      (hstep w op List.mem_cons_self hw)

private theorem runOps_keeps (ops : List Op) (w : World) (h : Handle) (d : CDend)
    (hl : w.live h = some d) (hno : ∀ op ∈ ops, op ≠ .free h) : (runOps w ops).live h = some d :=
  runOps_inv (fun w => w.live h = some d) ops (fun w op ho hw => step_keeps w op h d hw (hno op ho))
    w hl

/-- The three reads on a live handle. -/
private theorem reads_of_live (w : World) (h : Handle) (d : CDend) (hl : w.live h = some d) :
    step w (.len h) = (w, .nat d.steps.size) ∧ step w (.obs h) = (w, .nat d.observations) ∧
    step w (.steps h) = (w, .stepArray d.steps) := by
  simp [step, hl]

private theorem reads_of_dead (w : World) (h : Handle) (hl : w.live h = none) :
    (step w (.len h)).2 = .undefined ∧ (step w (.obs h)).2 = .undefined ∧
    (step w (.steps h)).2 = .undefined ∧ (step w (.free h)).2 = .undefined := by
  simp [step, hl]

private theorem create_stores (w : World) (h : Handle) (d : CDend) (input : Array Nat)
    (hfresh : w.live h = none) :
    (step w (.create h d input)).2 = .created ∧ (step w (.create h d input)).1.live h = some d := by
  simp [step, hfresh, World.setLive, World.setInput]

theorem C16_frame (w : World) (h : Handle) (d : CDend) (input : Array Nat) (ops : List Op)
    (hfresh : w.live h = none) (hno : ∀ op ∈ ops, op ≠ .free h) :
    (step w (.create h d input)).2 = .created ∧
    (let w' := runOps (step w (.create h d input)).1 ops
     step w' (.len h) = (w', .nat d.steps.size) ∧
     step w' (.obs h) = (w', .nat d.observations) ∧
     step w' (.steps h) = (w', .stepArray d.steps)) := by
  obtain ⟨h1, h2⟩ := create_stores w h d input hfresh
  exact ⟨h1, reads_of_live _ h d (runOps_keeps ops _ h d h2 hno)⟩

private theorem trace_append (a b : List Op) : ∀ w : World,
    trace w (a ++ b) = trace w a ++ trace (runOps w a) b := by
  induction a with
  | nil => intro w; rfl
  | cons op a ih => intro w; simp only [List.cons_append, trace, ih, runOps, List.foldl]

private theorem trace_length (ops : List Op) : ∀ w : World, (trace w ops).length = ops.length := by
  induction ops with
  | nil => intro w; rfl
  | cons op ops ih => intro w; simp [trace, ih]

/-- The expected answer of a read on a handle holding `d`. -/
def readAnswer (d : CDend) : Op → Option Out
  | .len _ => some (.nat d.steps.size)
  | .obs _ => some (.nat d.observations)
  | .steps _ => some (.stepArray d.steps)
  | _ => none

theorem C16_frame_trace (w : World) (h : Handle) (d : CDend) (input : Array Nat)
    (before : List Op) (rd : Op) (after : List Op) (ans : Out)
    (hfresh : w.live h = none) (hno : ∀ op ∈ before, op ≠ .free h)
    (hrd : rd.handle = h) (hans : readAnswer d rd = some ans) :
    (trace w (.create h d input :: before ++ rd :: after))[before.length + 1]? = some ans := by
  obtain ⟨_, h2⟩ := create_stores w h d input hfresh
  have hl := runOps_keeps before _ h d h2 hno
  have hr := reads_of_live _ h d hl
  simp only [List.cons_append, trace]
  rw [List.getElem?_cons_succ, trace_append]
  rw [List.getElem?_append_right (by rw [trace_length]; exact Nat.le_refl _)]
  simp only [trace_length, Nat.sub_self, trace, List.getElem?_cons_zero]
  cases rd with
  | len h' => cases hrd; exact (congrArg (fun r : World × Out => some r.2) hr.1).trans hans
  | obs h' => cases hrd; exact (congrArg (fun r : World × Out => some r.2) hr.2.1).trans hans
  | steps h' => cases hrd; exact (congrArg (fun r : World × Out => some r.2) hr.2.2).trans hans
  | _ => cases hans

private theorem step_keeps_dead (w : World) (op : Op) (h : Handle)
    (hl : w.live h = none) (hno : ∀ d i, op ≠ .create h d i) : (step w op).1.live h = none := by
  by_cases hh : h = op.handle
  · subst hh
    rw [step_eq_local]
    simp only [upd, if_true]
    rw [hl]
    cases op with
    | create h' d' i' => exact absurd rfl (hno d' i')
    | _ => rfl
  · rw [(step_other w op h hh).1]; exact hl

theorem C16_use_after_free (w : World) (h : Handle) (ops : List Op)
    (hno : ∀ op ∈ ops, ∀ d i, op ≠ .create h d i) :
    let w' := runOps (step w (.free h)).1 ops
    (step w' (.len h)).2 = .undefined ∧ (step w' (.obs h)).2 = .undefined ∧
    (step w' (.steps h)).2 = .undefined ∧ (step w' (.free h)).2 = .undefined := by
  have h0 : (step w (.free h)).1.live h = none := by
    simp only [step]
    cases hl : w.live h with
    | some v => simp [World.setLive]
    | none => exact hl
  exact reads_of_dead _ h (runOps_inv (fun w => w.live h = none) ops
    (fun w op ho hw => step_keeps_dead w op h hw (hno op ho)) _ h0)

/-- One step of the syntactic liveness scan. -/
private theorem step_live_isSome (w : World) (op : Op) (h : Handle) :
    ((step w op).1.live h).isSome = liveAfter h (w.live h).isSome [op] := by
  by_cases hh : h = op.handle
  · rw [step_eq_local]
    subst hh
    simp only [upd, if_true, liveAfter, List.foldl]
    cases op with
    | create h' d' i' => simp only [stepLocal, Op.handle]; cases w.live h' <;> simp
    | free h' => simp only [stepLocal, Op.handle]; cases w.live h' <;> simp
    | _ => rfl
  · rw [(step_other w op h hh).1]
    have hne : ¬ op.handle = h := fun e => hh e.symm
    cases op with
    | create _ _ _ => exact (if_neg hne).symm
    | free _ => exact (if_neg hne).symm
    | _ => rfl

theorem C16_live_iff (ops : List Op) : ∀ (w : World) (h : Handle),
    ((runOps w ops).live h).isSome = liveAfter h (w.live h).isSome ops := by
  induction ops with
  | nil => intro w h; rfl
  | cons op ops ih =>
    intro w h
    exact (ih (step w op).1 h).trans (congrArg (liveAfter h · ops) (step_live_isSome w op h))

theorem C16_no_leak (ops : List Op) (hbal : ∀ h, liveAfter h false ops = false) :
    ∀ h, (runOps {} ops).live h = none := by
  intro h
  have := C16_live_iff ops {} h
  rw [show (({} : World).live h).isSome = false from rfl, hbal h] at this
  cases hl : (runOps {} ops).live h with
  | none => rfl
  | some v => rw [hl] at this; simp at this

/-- Nothing the library answers or stores depends on the caller's buffers: replacing all of
them by anything else changes neither any output nor the table. -/
theorem C16_input_not_retained (ops : List Op) : ∀ (w : World) (inputs' : Handle → Option (Array Nat)),
    trace { w with inputs := inputs' } ops = trace w ops ∧
    (runOps { w with inputs := inputs' } ops).live = (runOps w ops).live := by
  induction ops with
  | nil => intro w i'; exact ⟨rfl, rfl⟩
  | cons op ops ih =>
    intro w i'
    have key : (step { w with inputs := i' } op).2 = (step w op).2 ∧
        ∃ i'', (step { w with inputs := i' } op).1 = { (step w op).1 with inputs := i'' } := by
      -- the library's part of a step does not read the caller's buffer
      have hloc : ∀ l i₁ i₂, (stepLocal op l i₁).1 = (stepLocal op l i₂).1 ∧
          (stepLocal op l i₁).2.2 = (stepLocal op l i₂).2.2 := by
        intro l i₁ i₂
        cases op <;> cases l <;> exact ⟨rfl, rfl⟩
      obtain ⟨e1, e2⟩ := hloc (w.live op.handle) (i' op.handle) (w.inputs op.handle)
      rw [step_eq_local, step_eq_local w op]
      exact ⟨e2, _, by rw [e1]⟩
    obtain ⟨k1, i'', k2⟩ := key
    have := ih (step w op).1 i''
    simp only [trace, runOps, List.foldl, k1, k2]
    exact ⟨by rw [this.1], this.2⟩

theorem C16_commute (w : World) (a b : Op) (hne : a.handle ≠ b.handle) :
    (step (step w a).1 b).1 = (step (step w b).1 a).1 ∧
    (step (step w a).1 b).2 = (step w b).2 ∧ (step (step w b).1 a).2 = (step w a).2 := by
  have hab := step_other w a b.handle (Ne.symm hne)
  have hba := step_other w b a.handle hne
  rw [step_eq_local (step w a).1 b, step_eq_local (step w b).1 a, hab.1, hab.2, hba.1, hba.2]
  refine ⟨?_, ?_, ?_⟩
  · rw [step_eq_local w a, step_eq_local w b]
    simp only [World.mk.injEq]
    constructor <;> funext x <;> simp only [upd] <;> by_cases hxa : x = a.handle
    · subst hxa; simp [hne]
    · simp [hxa]
    · subst hxa; simp [hne]
    · simp [hxa]
  · rw [step_eq_local w b]
  · rw [step_eq_local w a]

/-- The outputs seen by thread `t` in a run of `ops` (all threads' operations, in schedule order). -/
def traceFor (t : Nat) : World → List Op → List Out
  | _, [] => []
  | w, op :: ops =>
    if op.tid = t then (step w op).2 :: traceFor t (step w op).1 ops
    else traceFor t (step w op).1 ops

/-- Two worlds agree on everything named by thread `t`. -/
def AgreeOn (t : Nat) (w w' : World) : Prop :=
  ∀ h : Handle, h.1 = t → w.live h = w'.live h ∧ w.inputs h = w'.inputs h

private theorem agree_skip (t : Nat) (w w' : World) (op : Op) (ht : op.tid ≠ t)
    (hag : AgreeOn t w w') : AgreeOn t (step w op).1 w' := by
  intro h hh
  have hne : h ≠ op.handle := fun e => ht (by simp [Op.tid, ← e, hh])
  rw [(step_other w op h hne).1, (step_other w op h hne).2]
  exact hag h hh

private theorem agree_step (t : Nat) (w w' : World) (op : Op) (ht : op.tid = t)
    (hag : AgreeOn t w w') :
    (step w op).2 = (step w' op).2 ∧ AgreeOn t (step w op).1 (step w' op).1 := by
  have h0 := hag op.handle ht
  rw [step_eq_local w op, step_eq_local w' op, h0.1, h0.2]
  refine ⟨rfl, ?_⟩
  intro h hh
  simp only [upd]
  by_cases hx : h = op.handle
  · simp [hx]
  · simp [hx, hag h hh]

theorem C16_interleave (t : Nat) (ops : List Op) : ∀ (w w' : World), AgreeOn t w w' →
    traceFor t w ops = trace w' (ops.filter (fun op => op.tid = t)) ∧
    AgreeOn t (runOps w ops) (runOps w' (ops.filter (fun op => op.tid = t))) := by
  induction ops with
  | nil => intro w w' hag; exact ⟨rfl, hag⟩
  | cons op ops ih =>
    intro w w' hag
    by_cases ht : op.tid = t
    · obtain ⟨ho, hag'⟩ := agree_step t w w' op ht hag
      have := ih _ _ hag'
      simp only [traceFor, ht, if_true, List.filter_cons, decide_true, trace, runOps, List.foldl]
      exact ⟨by rw [ho, this.1], this.2⟩
    · have := ih _ _ (agree_skip t w w' op ht hag)
      simp only [traceFor, ht, if_false, List.filter_cons, decide_false, runOps, List.foldl]
      exact this

theorem C16_schedule_independent (w : World) (ops ops' : List Op)
    (hsame : ∀ t, ops.filter (fun op => op.tid = t) = ops'.filter (fun op => op.tid = t)) :
    ∀ t, traceFor t w ops = traceFor t w ops' := by
  intro t
  have hrefl : AgreeOn t w w := fun _ _ => ⟨rfl, rfl⟩
  rw [(C16_interleave t ops w w hrefl).1, (C16_interleave t ops' w w hrefl).1, hsame t]

theorem C16_accessors :
    Gen.CApi.accessors =
      [("kodama_dendrogram_free", "dend: *mut kodama_dendrogram :: unsafe{ Box::from_raw(dend); }"),
       ("kodama_dendrogram_len", "dend: *const kodama_dendrogram -> size_t :: let dend = unsafe{ &*dend }; dend.steps.len()"),
       ("kodama_dendrogram_observations", "dend: *const kodama_dendrogram -> size_t :: let dend = unsafe{ &*dend }; dend.observations"),
       ("kodama_dendrogram_steps", "dend: *const kodama_dendrogram -> *const kodama_step :: let dend = unsafe{ &*dend }; dend.steps.as_ptr()")] ∧
    Gen.CApi.dendrogramFields = [("steps", "Vec<kodama_step>"), ("observations", "usize")] :=
  ⟨rfl, rfl⟩

/-! Non-vacuity: a two-thread schedule with reuse of a freed name and a clobbered input. -/
section Example
private def dA : CDend := ⟨#[⟨0, 1, 1.5, 2⟩], 2⟩
private def dB : CDend := ⟨#[], 1⟩
private def sched : List Op :=
  [.create (0, 0) dA #[1], .create (1, 0) dB #[], .clobberInput (0, 0) #[99], .len (0, 0),
   .free (1, 0), .obs (0, 0), .create (1, 0) dA #[2], .free (0, 0), .free (1, 0)]

example : ∀ h, (runOps {} sched).live h = none :=
  C16_no_leak sched (by
    intro h
    simp only [sched, liveAfter, List.foldl]
    by_cases h0 : ((0, 0) : Handle) = h <;> by_cases h1 : ((1, 0) : Handle) = h <;> simp [h0, h1])

example : (step (runOps {} (sched.take 3)) (.len (0, 0))).2 = .nat 1 := by
  have := (C16_frame {} (0, 0) dA #[1] (sched.drop 1 |>.take 2) rfl (by
    intro op hop
    simp only [sched, List.drop, List.take, List.mem_cons, List.not_mem_nil, or_false] at hop
    rcases hop with rfl | rfl <;> simp)).2.1
  simpa [sched, runOps, dA] using congrArg Prod.snd this

end Example

end Kodama
