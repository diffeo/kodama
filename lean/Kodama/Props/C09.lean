/-
C09 — scale equivariance: multiplying every input dissimilarity by 2ᵏ multiplies every output
height by 2ᵏ and changes nothing else.

`s : α → α` is the scaling map ("multiply by 2ᵏ").  What is assumed of it is the bundle
`ScaleLaws s` — HYPOTHESES, not axioms:

  order      `lt`, `beq`, `isNaN` are preserved,
  arithmetic `s (a+b) = s a + s b`, `s (a-b) = s a - s b`, `s (c*x) = c * s x`,
             `s (x*c) = s x * c`, `s (x/c) = s x / c`,
  roots      `sqrt (s (s x)) = s (sqrt x)`.

All of them are true of IEEE f32/f64 and `s = (· × 2ᵏ)` as long as no intermediate result
overflows or becomes subnormal (multiplication by a power of two is exact and commutes with
correctly rounded `+ - * / sqrt`); they are false at the edges of the exponent range, which is why
the run-time oracle keeps to the safe range.  They are assumed for ALL values; the intended reading
for floats is "for all values that occur in the run".

THE SENTINELS.  `×2ᵏ` fixes `T::infinity()` but NOT `T::max_value()`.  The model (like the Rust
code) uses
  * `T::infinity()` as the initial `min_dists` entry of `mst`  — hypothesis `s ∞ = ∞`, needed only
    for the calls that reach `mst` (`usesInf`), true of IEEE floats for every k;
  * `T::max_value()` in `generic` only (`usesMax`): initial minimum of the repair loop, priority of
    the last row, and the priority given to a row whose scan finds nothing.  These values are only
    ever COMPARED (`<`, `==`) with matrix cells and with each other — never fed into a formula,
    never output.  So instead of `s MAX = MAX` (false for floats) the theorem assumes
    `SentinelSafe s`:
        `s x < MAX ↔ x < MAX`,   `MAX < s x ↔ MAX < x`,   `s x == MAX ↔ x == MAX`
    which is true of IEEE floats for every `x` whose scaling does not overflow AND with `x ≠ MAX`,
    `s x ≠ MAX` (and for ±∞, NaN).  (The exclusion is needed: the law sampler `kodama-laws` finds the
    counterexamples `x = MAX, k < 0` (`s x < MAX` but not `x < MAX`) and `x = MAX/2, k = 1`
    (`s x == MAX` but not `x == MAX`).  An entry equal to `T::max_value()` or mapped onto it is outside
    the property's safe magnitude range anyway — its square overflows — and is excluded by `GoodSet`'s
    `ltMax` in every generic theorem; sampled as `SentinelSafe.*[scale,guard=strict]`.)  `s MAX = MAX` is the special case
    `SentinelSafe.of_fix`.  The proof (`Lemmas/NaturalityGenericRel.lean`) relates the heap
    priorities of the two runs by "image under `s`, or both are `MAX`".
  primitive, nnchain, mst and `linkage` for single/complete/average/weighted/Ward need no
  hypothesis about `MAX` at all (`C09_usesMax_false`).

Proved here, for the model, from these hypotheses (via `runWith_natural_safe`):

* `C09_formulas`     every generated update formula (`Gen.single … Gen.median`, regenerated from
                     `src/method.rs` on every run) commutes with `s`; hence also with `s ∘ s`, the map
                     on squared dissimilarities that Ward / centroid / median work with.
* `C09`              FULL statement for every entry point (`runWith`: primitive, nnchain, generic, mst,
                     linkage), every method, both build modes, every input and `n`, and ARBITRARY,
                     unrelated prior states/dendrograms on the two sides:  the call on `data.map s`
                     returns the dendrogram with the same labels and sizes and every height mapped
                     by `s`, leaves the matrix mapped by `s` (by `s ∘ s` for the methods that square
                     it), or panics with the same class.
* `C09_ok`, `C09_panic`  the same in elementary terms.
* `C09_rescaled_sentinels`  a variant with NO sentinel hypothesis at all: scaling the data by `s`
                     *and* replacing the two sentinel constants by their images gives the scaled
                     result (the naturality theorem relates two different `Num` instances).
* `C09_no_constants` the generated formulas read nothing of the number interface except
                     `lt add sub mul div ofNat half quarter`: two `Num` instances that agree on these
                     give the same seven formulas (so no sentinel, no `sqrt`/`abs`, no other literal
                     can occur in them).  Why this is the whole story: the translator's grammar for
                     `src/method.rs` has productions only for `+ - * /`, `<`, `from_usize(size)`,
                     `from_float(0.5)` and `from_float(0.25)`; any other literal would be emitted as
                     the undefined identifier `Gen.literal`, `Generated/Method.lean` would not compile,
                     and this file (which unfolds all seven definitions) would not build.

Not proved: that floats satisfy `ScaleLaws` / `SentinelSafe` on the safe range (trusted; tested
bit-for-bit by the C09 oracle on every drawn case).  The hypotheses quantify over all values, so
for floats they are idealisations (as every law bundle here that mentions arithmetic).
-/
import Kodama.Lemmas.NaturalitySafe
import Kodama.Lemmas.AverageClamp
import Kodama.Lemmas.WardClamp
namespace Kodama
variable {α : Type} [Num α]

/-- What is assumed of "multiply by 2ᵏ". -/
structure ScaleLaws (s : α → α) : Prop where
  ord : OrdHom s
  add : ∀ a b, s (Num.add a b) = Num.add (s a) (s b)
  sub : ∀ a b, s (Num.sub a b) = Num.sub (s a) (s b)
  mul_left : ∀ c x, s (Num.mul c x) = Num.mul c (s x)
  mul_right : ∀ x c, s (Num.mul x c) = Num.mul (s x) c
  div : ∀ x c, s (Num.div x c) = Num.div (s x) c
  sqrt : ∀ x, Num.sqrt (s (s x)) = s (Num.sqrt x)

/-- The map on the values the main loop works with: `s` itself, or `s ∘ s` on squares. -/
def scale₂ (m : Method) (s : α → α) : α → α := if m.onSquares then s ∘ s else s

theorem C09_formulas {s : α → α} (L : ScaleLaws s) (m : Method) : UpdHom m s := by
  cases m
  · exact L.ord.single
  · exact L.ord.complete
  · intro a b sa sb
    -- the mean commutes with `s` (arithmetic laws); the clamp only compares and selects (`ord.lt`)
    refine Gen.average_hom L.ord.lt a b sa sb ?_
    simp only [Gen.averageMean, ← L.add, ← L.mul_left, ← L.div]
  · intro a b
    simp only [Gen.weighted, ← L.add, ← L.mul_left]
  · intro a b d sa sb sx
    -- the quotient commutes with `s` (arithmetic laws); guard and clamp only compare and select
    refine Gen.ward_hom L.ord.lt a b d sa sb sx ?_
    simp only [Gen.wardValue, ← L.add, ← L.sub, ← L.mul_left, ← L.div]
  · intro a b d sa sb
    simp only [Gen.centroid, ← L.add, ← L.sub, ← L.mul_left, ← L.div]
  · intro a b d
    simp only [Gen.median, ← L.add, ← L.sub, ← L.mul_left, ← L.mul_right]

/-- `s` on inputs/outputs and `scale₂ m s` inside the loop form a homomorphism for method `m`. -/
theorem ScaleLaws.hom {s : α → α} (L : ScaleLaws s) (m : Method) : Hom m s (scale₂ m s) := by
  unfold scale₂
  cases ho : m.onSquares
  · exact ⟨L.ord, C09_formulas L m, SqHom.refl m ho s⟩
  · refine ⟨L.ord.comp L.ord, (C09_formulas L m).comp (C09_formulas L m), ?_, ?_, ?_⟩
    · intro _ x
      show s (s (Num.mul x x)) = Num.mul (s x) (s x)
      rw [L.mul_left, L.mul_right]
    · intro _ x
      exact L.sqrt x
    · intro e; rw [ho] at e; cases e

omit [Num α] in
theorem scale₂_fix {s : α → α} (m : Method) {c : α} (h : s c = c) : scale₂ m s c = c := by
  unfold scale₂; split
  · simp only [Function.comp, h]
  · exact h

theorem scale₂_safe {s : α → α} (m : Method) (h : SentinelSafe s) : SentinelSafe (scale₂ m s) := by
  unfold scale₂; split
  · exact h.comp h
  · exact h

/-- **C09.**  Labels and sizes identical, every height mapped by `s`, the matrix left behind mapped
by `scale₂ m s`, same panic class; for any prior objects on either side. -/
theorem C09 {s : α → α} (L : ScaleLaws s) (chk : Bool) (alg : Alg) (m : Method)
    (hmax : usesMax alg m = true → SentinelSafe s)
    (hinf : usesInf alg m = true → s Num.infinity = Num.infinity)
    (st st' : State α) (d d' : Dendrogram α) (data : Array α) (n : Nat) :
    out <$> runWith chk alg m st' d' (data.map s) n
      = mapOut s (scale₂ m s) <$> (out <$> runWith chk alg m st d data n) :=
  runWith_natural_safe (L.hom m) (fun e => scale₂_safe m (hmax e))
    (fun e => scale₂_fix m (hinf e)) chk st st' d d' data n

/-- No `max_value` hypothesis for the entry points that do not go through `generic`. -/
theorem C09_usesMax_false (alg : Alg) (m : Method)
    (h : alg = .primitive ∨ alg = .nnchain ∨ alg = .mst ∨
      (alg = .linkage ∧ m ≠ .centroid ∧ m ≠ .median)) : usesMax alg m = false := by
  rcases h with rfl | rfl | rfl | ⟨rfl, h1, h2⟩
  · rfl
  · rfl
  · rfl
  · cases m <;> simp [usesMax, dispatch, Method.intoMethodChain] at h1 h2 ⊢

/-- A successful call stays successful, with the mapped dendrogram. -/
theorem C09_ok {s : α → α} (L : ScaleLaws s) (chk : Bool) (alg : Alg) (m : Method)
    (hmax : usesMax alg m = true → SentinelSafe s)
    (hinf : usesInf alg m = true → s Num.infinity = Num.infinity)
    (st st' : State α) (d d' : Dendrogram α) (data : Array α) (n : Nat)
    (st1 : State α) (d1 : Dendrogram α) (M1 : Mat α)
    (h : runWith chk alg m st d data n = .ok (st1, d1, M1)) :
    ∃ st2, runWith chk alg m st' d' (data.map s) n
      = .ok (st2, mapDend s d1, mapMat (scale₂ m s) M1) :=
  mapOut_ok (C09 L chk alg m hmax hinf st st' d d' data n) h

/-- A panicking call panics with the same class. -/
theorem C09_panic {s : α → α} (L : ScaleLaws s) (chk : Bool) (alg : Alg) (m : Method)
    (hmax : usesMax alg m = true → SentinelSafe s)
    (hinf : usesInf alg m = true → s Num.infinity = Num.infinity)
    (st st' : State α) (d d' : Dendrogram α) (data : Array α) (n : Nat) (p : Panic)
    (h : runWith chk alg m st d data n = .error p) :
    runWith chk alg m st' d' (data.map s) n = .error p :=
  mapOut_error (C09 L chk alg m hmax hinf st st' d d' data n) h

/-! ### Without sentinel hypotheses: rescale the sentinels too -/

/-- The same number interface with the two sentinel constants replaced. -/
@[reducible] def withSentinels (I : Num α) (mx inf : α) : Num α :=
  { I with maxValue := mx, infinity := inf }

omit [Num α] in
theorem C09_rescaled_sentinels {I : Num α} {s : α → α} (L : @ScaleLaws α I s) (chk : Bool)
    (alg : Alg) (m : Method) (st st' : State α) (d d' : Dendrogram α) (data : Array α) (n : Nat) :
    out <$>
        @runWith α (withSentinels I (scale₂ m s I.maxValue) (scale₂ m s I.infinity))
          chk alg m st' d' (data.map s) n
      = @mapOut α α s (scale₂ m s) <$> (out <$> @runWith α I chk alg m st d data n) := by
  have A := @ScaleLaws.hom α I s L m
  let J : Num α := withSentinels I (scale₂ m s I.maxValue) (scale₂ m s I.infinity)
  have A1 : @OrdHom α α I I (scale₂ m s) := @Hom.ord α α I I m s _ A
  have A2 : @UpdHom α α I I m (scale₂ m s) := @Hom.upd α α I I m s _ A
  have A3 : @SqHom α α I I m s (scale₂ m s) := @Hom.sq α α I I m s _ A
  have ord : @OrdHom α α I J (scale₂ m s) :=
    @OrdHom.mk α α I J _ (@OrdHom.lt α α I I _ A1) (@OrdHom.beq α α I I _ A1)
      (@OrdHom.isNaN α α I I _ A1)
  have upd : @UpdHom α α I J m (scale₂ m s) := A2
  have sq : @SqHom α α I J m s (scale₂ m s) :=
    @SqHom.mk α α I J m s _ (@SqHom.sq α α I I m s _ A3) (@SqHom.sqrt α α I I m s _ A3)
      (@SqHom.same α α I I m s _ A3)
  exact @runWith_natural_safe α α I J m s _ (@Hom.mk α α I J m s _ ord upd sq) alg
    (fun _ => @SentinelSafe.of_fix α α I J _ ord rfl) (fun _ => rfl) chk st st' d d' data n

/-! ### The formulas read only `lt add sub mul div ofNat half quarter` -/

omit [Num α] in
theorem C09_no_constants (I J : Num α) (hlt : I.lt = J.lt) (hadd : I.add = J.add)
    (hsub : I.sub = J.sub) (hmul : I.mul = J.mul) (hdiv : I.div = J.div)
    (hofNat : I.ofNat = J.ofNat) (hhalf : I.half = J.half) (hquarter : I.quarter = J.quarter) :
    @Gen.single α I = @Gen.single α J ∧ @Gen.complete α I = @Gen.complete α J ∧
    @Gen.average α I = @Gen.average α J ∧ @Gen.weighted α I = @Gen.weighted α J ∧
    @Gen.ward α I = @Gen.ward α J ∧ @Gen.centroid α I = @Gen.centroid α J ∧
    @Gen.median α I = @Gen.median α J := by
  refine ⟨?_, ?_, ?_, ?_, ?_, ?_, ?_⟩
  · funext a b; simp only [Gen.single, hlt]
  · funext a b; simp only [Gen.complete, hlt]
  · funext a b sa sb; simp only [Gen.average, hlt, hadd, hmul, hdiv, hofNat]
  · funext a b; simp only [Gen.weighted, hadd, hmul, hhalf]
  · funext a b d sa sb sx; simp only [Gen.ward, hlt, hadd, hsub, hmul, hdiv, hofNat]
  · funext a b d sa sb; simp only [Gen.centroid, hadd, hsub, hmul, hdiv, hofNat]
  · funext a b d; simp only [Gen.median, hadd, hsub, hmul, hhalf, hquarter]

/-! ### Non-vacuity

(1) The law bundle and the sentinel hypotheses are jointly satisfiable by a map that is not the
identity: exact rationals with a top element (both sentinels), `s = (2 * ·)`.
(2) `SentinelSafe` is strictly weaker than `s MAX = MAX`: the same model with an (unobservable) tag
that `s` sets; there `s MAX ≠ MAX`, yet `ScaleLaws` and `SentinelSafe` hold. -/

namespace C09Example

/-- Exact rationals with a top element `none` that serves as both sentinels. -/
def lift₂ (f : Rat → Rat → Rat) : Option Rat → Option Rat → Option Rat
  | some x, some y => some (f x y)
  | _, _ => none

@[reducible] def numOptRat : Num (Option Rat) where
  lt a b := match a, b with
    | some x, some y => decide (x < y)
    | some _, none => true
    | none, _ => false
  beq a b := decide (a = b)
  add := lift₂ (· + ·)
  sub := lift₂ (· - ·)
  mul := lift₂ (· * ·)
  div := lift₂ (· / ·)
  ofNat n := some n
  half := some (1 / 2)
  quarter := some (1 / 4)
  sqrt a := a.map (fun _ => 0)
  abs a := a
  maxValue := none
  infinity := none
  isNaN _ := false

attribute [local instance] numOptRat

/-- "multiply by 2" -/
def dbl : Option Rat → Option Rat := Option.map (2 * ·)

/-- Where an argument is the top element both sides are the top element, by computation (the
first three cases of each law); where both are numbers the law is a fact about `2 * ·` on `Rat`. -/
theorem dbl_laws : ScaleLaws dbl := by
  refine ⟨⟨?_, ?_, ?_⟩, ?_, ?_, ?_, ?_, ?_, ?_⟩
  · rintro (_ | a) (_ | b)
    iterate 3 rfl
    exact decide_eq_decide.mpr (Rat.mul_lt_mul_left rfl)
  · rintro (_ | a) (_ | b)
    iterate 3 rfl
    simp [dbl, Num.beq]; grind
  · intro a; rfl
  · rintro (_ | a) (_ | b)
    iterate 3 rfl
    exact congrArg some (Rat.mul_add 2 a b)
  · rintro (_ | a) (_ | b)
    iterate 3 rfl
    show some (2 * (a - b)) = some (2 * a - 2 * b)
    rw [Rat.sub_eq_add_neg, Rat.mul_add, Rat.mul_neg, ← Rat.sub_eq_add_neg]
  · rintro (_ | a) (_ | b)
    iterate 3 rfl
    show some (2 * (a * b)) = some (a * (2 * b))
    rw [← Rat.mul_assoc, Rat.mul_comm 2 a, Rat.mul_assoc]
  · rintro (_ | a) (_ | b)
    iterate 3 rfl
    exact congrArg some (Rat.mul_assoc 2 a b).symm
  · rintro (_ | a) (_ | b)
    iterate 3 rfl
    show some (2 * (a / b)) = some (2 * a / b)
    rw [Rat.div_def, Rat.div_def, Rat.mul_assoc]
  · rintro (_ | a)
    · rfl
    · exact congrArg some (Rat.mul_zero 2).symm

example : ScaleLaws dbl ∧ dbl ≠ id ∧ SentinelSafe dbl ∧ dbl Num.infinity = Num.infinity := by
  refine ⟨dbl_laws, ?_, SentinelSafe.of_fix dbl_laws.ord rfl, rfl⟩
  intro h
  have := congrFun h (some 1)
  simp [dbl] at this

/-- The same numbers with a tag that no comparison looks at. -/
@[reducible] def numTag : Num (Option Rat × Bool) where
  lt a b := Num.lt a.1 b.1
  beq a b := Num.beq a.1 b.1
  add a b := (Num.add a.1 b.1, a.2 || b.2)
  sub a b := (Num.sub a.1 b.1, a.2 || b.2)
  mul a b := (Num.mul a.1 b.1, a.2 || b.2)
  div a b := (Num.div a.1 b.1, a.2 || b.2)
  ofNat n := (Num.ofNat n, false)
  half := (Num.half, false)
  quarter := (Num.quarter, false)
  sqrt a := (Num.sqrt a.1, a.2)
  abs a := a
  maxValue := (Num.maxValue, false)
  infinity := (Num.infinity, false)
  isNaN _ := false

attribute [local instance] numTag

def dblT (a : Option Rat × Bool) : Option Rat × Bool := (dbl a.1, true)

example : ScaleLaws dblT ∧ SentinelSafe dblT ∧ dblT Num.maxValue ≠ Num.maxValue := by
  have L := dbl_laws
  refine ⟨⟨⟨?_, ?_, ?_⟩, ?_, ?_, ?_, ?_, ?_, ?_⟩, ⟨?_, ?_, ?_, rfl⟩, ?_⟩
  · intro a b; exact L.ord.lt a.1 b.1
  · intro a b; exact L.ord.beq a.1 b.1
  · intro a; rfl
  · intro a b; simp only [dblT, Num.add, Bool.or_self]; rw [Prod.mk.injEq]; exact ⟨L.add a.1 b.1, rfl⟩
  · intro a b; simp only [dblT, Num.sub, Bool.or_self]; rw [Prod.mk.injEq]; exact ⟨L.sub a.1 b.1, rfl⟩
  · intro a b; simp only [dblT, Num.mul, Bool.or_true]; rw [Prod.mk.injEq]
    exact ⟨L.mul_left a.1 b.1, rfl⟩
  · intro a b; simp only [dblT, Num.mul, Bool.true_or]; rw [Prod.mk.injEq]
    exact ⟨L.mul_right a.1 b.1, rfl⟩
  · intro a b; simp only [dblT, Num.div, Bool.true_or]; rw [Prod.mk.injEq]
    exact ⟨L.div a.1 b.1, rfl⟩
  · intro a; simp only [dblT, Num.sqrt]; rw [Prod.mk.injEq]; exact ⟨L.sqrt a.1, rfl⟩
  · intro x; exact L.ord.lt x.1 none
  · intro x; exact L.ord.lt none x.1
  · intro x; exact L.ord.beq x.1 none
  · intro h; cases h

end C09Example

end Kodama
