/-
C13 — malformed shapes are rejected.

Proved here against the shape guard *regenerated from `CondensedMatrix::new`* (`Gen.shapeM`, with
the `usize` arithmetic of the build mode made explicit):

* `C13_exact`     for every `len` and every `n < 2^32`, in checked and unchecked builds alike, the
                  guard accepts iff `(n ≤ 1 ∧ len = 0) ∨ (2 ≤ n ∧ len = n(n-1)/2)`; when it accepts it
                  returns the normalised observation count (0 for n ≤ 1, else n); when it rejects,
                  the result is `Panic.shape`.
* `C13_checked_all_n` in a checked build, for ALL n: a shape that is not `ShapeOk` is never accepted (the
                  result is SOME panic — `shape`, or the overflow panic of the product `n(n-1)`, not
                  necessarily `Panic.shape`); a `ShapeOk` shape is accepted provided `n(n-1) < 2^64`.
* `C13_wrap`      in an unchecked build, for arbitrary n the guard accepts a non-empty `len` iff
                  `n ≥ 2 ∧ (n(n-1) mod 2^64)/2 = len` — the exact acceptance condition of the
                  wrapping arithmetic; `C13_extremes` evaluates it at `2^63` and `2^64-1`.
* `C13_first`     in every `_with` entry point of the model, for every method the entry point accepts, a
                  shape rejected by the guard makes the whole call return that panic (nothing is
                  clustered, whatever the prior state).  Only the rejection direction is stated.

NOT proved: for 2^32 ≤ n the unchecked build accepts any `len` with `n(n-1) mod 2^64 = 2·len (+1)`;
`C13_wrap` characterises these but does not exclude them (they are outside the property's stated
quantifier: n ≤ 64 plus the two extremes; a dendrogram for such n cannot be allocated).
That the Rust entry points call the guard before touching state is hand-modelled (order of
statements in each `_with`) and covered by the correspondence run.
-/
import Kodama.Model.Linkage
import Kodama.Lemmas.Tail
import Kodama.Lemmas.OnSquares
namespace Kodama

def ShapeOk (len n : Nat) : Prop := (n ≤ 1 ∧ len = 0) ∨ (2 ≤ n ∧ len = n * (n - 1) / 2)

instance (len n : Nat) : Decidable (ShapeOk len n) := by unfold ShapeOk; infer_instance

def normObs (n : Nat) : Nat := if n ≤ 1 then 0 else n

/-- When the product does not overflow the guard decides `ShapeOk`, in either build mode. -/
theorem shapeM_of_shapeOk (chk : Bool) {len n : Nat} (hmul : n * (n - 1) < usizeMod)
    (h : ShapeOk len n) : Gen.shapeM chk len n = .ok (normObs n) := by
  rw [shapeM_eq chk len n hmul]
  unfold normObs
  rcases h with ⟨h1, rfl⟩ | ⟨h2, rfl⟩
  · rw [if_pos rfl, if_pos h1, if_pos h1]
  · have := two_le_mul_pred h2
    rw [if_neg (by omega), if_pos ⟨h2, rfl⟩, if_neg (by omega)]

theorem shapeM_of_not_shapeOk (chk : Bool) {len n : Nat} (hmul : n * (n - 1) < usizeMod)
    (h : ¬ ShapeOk len n) : Gen.shapeM chk len n = .error .shape := by
  rw [shapeM_eq chk len n hmul]
  by_cases hl : len = 0
  · rw [if_pos hl, if_neg fun h1 => h (Or.inl ⟨h1, hl⟩)]
  · rw [if_neg hl, if_neg fun h2 => h (Or.inr ⟨h2.1, h2.2.symm⟩)]

theorem C13_exact (chk : Bool) (len n : Nat) (hn : n < 4294967296) :
    (ShapeOk len n → Gen.shapeM chk len n = .ok (normObs n)) ∧
    (¬ ShapeOk len n → Gen.shapeM chk len n = .error .shape) :=
  ⟨shapeM_of_shapeOk chk (mul_pred_lt hn), shapeM_of_not_shapeOk chk (mul_pred_lt hn)⟩

theorem C13_checked_all_n (len n : Nat) :
    (ShapeOk len n ∧ n * (n - 1) < usizeMod → Gen.shapeM true len n = .ok (normObs n)) ∧
    (¬ ShapeOk len n → ∃ p, Gen.shapeM true len n = .error p) := by
  refine ⟨fun h => shapeM_of_shapeOk true h.2 h.1, fun hno => ?_⟩
  by_cases hmul : n * (n - 1) < usizeMod
  · exact ⟨.shape, shapeM_of_not_shapeOk true hmul hno⟩
  · -- an overflowing product needs `2 ≤ n`; it panics unless the empty matrix is rejected first
    have h2 : 2 ≤ n := by
      rcases (by omega : n = 0 ∨ n = 1 ∨ 2 ≤ n) with rfl | rfl | h
      · exact absurd (by decide) hmul
      · exact absurd (by decide) hmul
      · exact h
    by_cases hl : len = 0
    · exact ⟨.shape, by rw [shapeM_eq_umul, if_pos hl, if_neg (by omega)]⟩
    · exact ⟨.arith, shapeM_overflow len n hl h2 hmul⟩

set_option linter.unusedVariables false in
/-- Exact acceptance condition of the unchecked (wrapping) build, for arbitrary `n < 2^64`. -/
theorem C13_wrap (len n : Nat) (hl : len ≠ 0) (hn : 1 ≤ n) :
    (∃ k, Gen.shapeM false len n = .ok k) ↔ (2 ≤ n ∧ (n * (n - 1) % usizeMod) / 2 = len) := by
  rw [shapeM_wrap len n hl]
  by_cases h : 2 ≤ n ∧ n * (n - 1) % usizeMod / 2 = len
  · rw [if_pos h]; exact ⟨fun _ => h, fun _ => ⟨n, rfl⟩⟩
  · rw [if_neg h]; exact ⟨fun ⟨_, hk⟩ => (nomatch hk), fun h' => absurd h' h⟩

/-- The two extremes named by the property. -/
theorem C13_extremes :
    -- n = 2^63: unchecked accepts exactly len = 2^62; checked panics (overflow)
    (∀ len, len ≠ 0 → ((∃ k, Gen.shapeM false len 9223372036854775808 = .ok k) ↔ len = 4611686018427387904)) ∧
    (∀ len, len ≠ 0 → Gen.shapeM true len 9223372036854775808 = .error .arith) ∧
    -- n = 2^64 - 1: unchecked accepts exactly len = 1; checked panics
    (∀ len, len ≠ 0 → ((∃ k, Gen.shapeM false len 18446744073709551615 = .ok k) ↔ len = 1)) ∧
    (∀ len, len ≠ 0 → Gen.shapeM true len 18446744073709551615 = .error .arith) ∧
    -- an empty matrix is rejected for both
    Gen.shapeM false 0 9223372036854775808 = .error .shape ∧
    Gen.shapeM true 0 18446744073709551615 = .error .shape := by
  -- the unchecked build accepts exactly the wrapped product halved; the checked one overflows
  have wrap : ∀ n q, 2 ≤ n → n * (n - 1) % usizeMod / 2 = q → ∀ len, len ≠ 0 →
      ((∃ k, Gen.shapeM false len n = .ok k) ↔ len = q) := by
    intro n q h2 hq len hl
    rw [C13_wrap len n hl (by omega), hq]
    exact ⟨fun h => h.2.symm, fun h => ⟨h2, h.symm⟩⟩
  have empty : ∀ chk n, ¬ n ≤ 1 → Gen.shapeM chk 0 n = .error .shape := by
    intro chk n hn
    rw [shapeM_eq_umul, if_pos rfl, if_neg hn]
  exact ⟨wrap _ _ (by decide) (by decide),
    fun len hl => shapeM_overflow len _ hl (by decide) (by decide),
    wrap _ _ (by decide) (by decide),
    fun len hl => shapeM_overflow len _ hl (by decide) (by decide),
    empty _ _ (by decide), empty _ _ (by decide)⟩

/-- In every `_with` entry point a rejected shape is the result of the whole call, for every
method, prior state and prior dendrogram (squaring the matrix first does not change its length). -/
theorem C13_first {α : Type} [Num α] (chk : Bool) (alg : Alg) (m : Method) (st : State α)
    (d : Dendrogram α) (data : Array α) (n : Nat) (p : Panic)
    (hacc : alg.accepts m = true) (h : Gen.shapeM chk data.size n = .error p) :
    runWith chk alg m st d data n = .error p := by
  obtain ⟨body, -, e⟩ | ⟨hf, -⟩ := runWith_frame (α := α) chk alg m
  · rw [e, withFrame_of_shape, squareData_size, h]
  · rw [hacc] at hf; cases hf

/-- Non-vacuity: a malformed and a well-formed shape. -/
example : Gen.shapeM true 5 4 = .error .shape ∧ Gen.shapeM false 6 4 = .ok 4 ∧ ShapeOk 6 4 ∧ ¬ ShapeOk 5 4 :=
  ⟨rfl, rfl, by decide, by decide⟩

end Kodama
