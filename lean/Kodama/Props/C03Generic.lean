/-
C03 for `generic_with` and for `linkage_with` in EXACT ARITHMETIC, all seven methods: the returned
dendrogram is a greedy run of the label-based specification (`Spec.GreedyValid`, `Spec/Naive.lean`),
ties included.  Pure composition of `Props/C03.lean` (section `Generic`), `Props/C03Mst.lean`,
`Props/C03Nnchain.lean` with the exact-arithmetic law instances of `Lemmas/FieldInstances.lean` and
`Lemmas/ComposeExact.lean`.

## Scope
`K` a linearly ordered field (`[Field K] [LinearOrder K] [IsStrictOrderedRing K]`) whose `Num K`
instance computes the field operations and has no NaN (`ExactLaws K`).  IEEE floats are NOT a field;
nothing here is a statement about `f32`/`f64` (average and weighted linkage under rounding:
`Props/C03Rounding.lean`).  Both build
modes `chk`, every prior `LinkageState`/`Dendrogram`, every valid matrix `2 ≤ n < 2^31`,
`2·len = n(n−1)`.

## Hypotheses that `ExactLaws K` does NOT give (explicit, never axioms)
`ExactLaws` leaves `==` and the sentinels `T::max_value()`, `T::infinity()` unconstrained, but
`generic_with` leaves its repair loop on `==` and starts every row scan from `T::max_value()`, and
`mst_with` starts from `T::infinity()`.  (With `fieldNum K`, whose sentinels are `0`, `generic_with`
really does fail on a matrix with a positive entry.)  Hence:
* `BeqExact K`          `Num.beq a b = decide (a = b)`  (true of `fieldNum K`, `fieldNumWith K sq`).
* `GenericSafe m data`  `∃ G`, every member of `G` is `< max_value`, `G` is closed under the update of
                        `m` (`UpdClosed G m`), and the (squared, for Ward/centroid/median) input
                        entries are in `G`.
* `InfSafe n data`      no off-diagonal entry exceeds `T::infinity()` (only for `mst_with`, i.e.
                        `linkage_with` with `Method::Single`).
Everything else the abstract theorems ask for — `OrderLaws`, `BeqLe`, `GoodSet`, `LwSymm`, `LBClosed`
(lower-bound closure, all five sorted methods, every `G`), reducibility on positive sizes, absence of
NaN, `InfTop` — is DERIVED from `ExactLaws K` (+ the three hypotheses above).

## Theorems
* `C03_generic_exact`        ALL SEVEN methods: under `BeqExact K` and `GenericSafe m data`,
                             `genericWith chk m st d data n` returns `.ok` and the returned steps are
                             `GreedyValid m n data`.  (A special case of `C03_generic_run_exact`:
                             centroid/median through `C03_generic_run_unsorted`, the five sorted
                             methods through `C03_generic_run_of_monotone` with
                             `Spec.greedy_heights_mono`: `Spec.Reducible` itself is false for
                             average/Ward in a field at size `0`, so `C03_generic_run_reducible` is
                             not applicable.)
* `C03_generic`              run form: whatever `genericWith` returns is greedy-valid.
* `C03_generic_exact_noDist` single / complete / average / weighted (the four methods whose update does
                             not read the merged distance; it is then a convex combination): the
                             sentinel hypothesis reduces to "every input entry is `< max_value`".
* `C03_runWith_generic`      the `C03_statement` instance for the entry point `generic`.
* `C03_linkage_exact`        ALL SEVEN methods through `linkageWith` (generated `dispatch` table:
                             single → mst, complete/average/weighted/Ward → nnchain, centroid/median →
                             generic).  Hypotheses beyond the shape: `InfSafe n data` if the call is
                             routed to mst, `BeqExact K ∧ GenericSafe m data` if it is routed to generic;
                             NONE for complete / average / weighted / Ward.
* `C03_linkage`              run form.

## NOT proved / limitation (precise)
`GenericSafe m data` for WARD / CENTROID / MEDIAN cannot be obtained from a bound on the input:
`UpdClosed G m` (the hypothesis of `C03_generic_unsorted` / `_of_monotone`) demands closure of `G`
under the formula for ALL arguments in `G`, and in an Archimedean field the closure of a non-constant
(Ward) resp. non-zero (centroid, median) set under these formulas is unbounded (median:
`(a,a,d) ↦ a − d/4`).  So over `ℚ`/`ℝ` the hypothesis `GenericSafe` is satisfiable for these three
methods only by constant / all-zero matrices (it is satisfiable non-trivially in a non-Archimedean
field with an infinite `max_value`), and `C03_generic_exact` / `C03_linkage_exact` for centroid and
median are, over `ℚ`/`ℝ`, statements about such matrices only.  The run-dependent statement —
      "if every table value reached by the greedy run is `< max_value` then `genericWith` returns a
       `GreedyValid` dendrogram" —
is `Props/C03GenericRun.lean` (`C03_generic_run_exact`, `C03_linkage_run_exact`, hypothesis
`Spec.RunGood (· < max_value) m n data`, with NON-constant Ward / centroid / median examples over
`ℚ`); the theorems of this file are its special cases (`runGood_of_genericSafe`).  For single /
complete / average / weighted there is no such gap (`C03_generic_exact_noDist`).  `primitive_with`
and `nnchain_with` have no sentinel hypothesis at all (`C03_primitive_exact`, `C03_nnchain_exact`).

## Trusted
`Spec/Naive.lean`, `Spec/Pairs.lean` (the specification); that the models are the Rust functions
(translator + bit-exact correspondence run); std's `sort_by` being a stable sort; Lean kernel +
Mathlib (`propext`, `Classical.choice`, `Quot.sound`).
-/
import Kodama.Props.C03GenericRun
namespace Kodama
open Spec

section Exact
variable {K : Type} [Field K] [LinearOrder K] [IsStrictOrderedRing K] [Num K]

theorem C03_generic_exact (E : ExactLaws K) (B : BeqExact K) (chk : Bool) (m : Method)
    (st : State K) (d : Dendrogram K) (data : Array K) (n : Nat) (h2 : 2 ≤ n) (hs : n < 2147483648)
    (hl : 2 * data.size = n * (n - 1)) (S : GenericSafe m data) :
    ∃ st' d' M', genericWith chk m st d data n = .ok (st', d', M') ∧
      GreedyValid m n data d'.steps.toList :=
  C03_generic_run_exact E B chk m st d data n h2 hs hl (runGood_of_genericSafe h2 hs hl S)

theorem C03_generic (E : ExactLaws K) (B : BeqExact K) (chk : Bool) (m : Method)
    (st st' : State K) (d d' : Dendrogram K) (M' : Mat K) (data : Array K) (n : Nat) (h2 : 2 ≤ n)
    (hs : n < 2147483648) (hl : 2 * data.size = n * (n - 1)) (S : GenericSafe m data)
    (hrun : genericWith chk m st d data n = .ok (st', d', M')) :
    GreedyValid m n data d'.steps.toList := by
  exact of_exists_ok (C03_generic_exact E B chk m st d data n h2 hs hl S) hrun

/-- Single / complete / average / weighted through `generic_with`: the only sentinel hypothesis left
is that every input entry is strictly below `T::max_value()`. -/
theorem C03_generic_exact_noDist (E : ExactLaws K) (B : BeqExact K) (chk : Bool) (m : Method)
    (hm : usesDist m = false) (st : State K) (d : Dendrogram K) (data : Array K) (n : Nat)
    (h2 : 2 ≤ n) (hs : n < 2147483648) (hl : 2 * data.size = n * (n - 1))
    (hin : ∀ v ∈ data.toList, v < (Num.maxValue : K)) :
    ∃ st' d' M', genericWith chk m st d data n = .ok (st', d', M') ∧
      GreedyValid m n data d'.steps.toList :=
  C03_generic_exact E B chk m st d data n h2 hs hl (genericSafe_of_lt_max E m hm data hin)

/-- The `C03_statement` instance for the entry point `generic` (`runWith .generic`). -/
theorem C03_runWith_generic (E : ExactLaws K) (B : BeqExact K) (chk : Bool) (m : Method)
    (st : State K) (d : Dendrogram K) (data : Array K) (n : Nat) (h2 : 2 ≤ n) (hs : n < 2147483648)
    (hl : 2 * data.size = n * (n - 1)) (S : GenericSafe m data) :
    ∃ st' d' M', runWith chk .generic m st d data n = .ok (st', d', M') ∧
      GreedyValid m n data d'.steps.toList :=
  C03_generic_exact E B chk m st d data n h2 hs hl S

/-- **C03 for `linkage_with` in exact arithmetic, all seven methods.**  `hinf` is needed only when
the call is routed to `mst_with` (single), `hgen` only when it is routed to `generic_with`
(centroid, median). -/
theorem C03_linkage_exact (E : ExactLaws K) (chk : Bool) (m : Method) (st : State K)
    (d : Dendrogram K) (data : Array K) (n : Nat) (h2 : 2 ≤ n) (hs : n < 2147483648)
    (hl : 2 * data.size = n * (n - 1))
    (hinf : dispatch m = .mst → InfSafe n data)
    (hgen : dispatch m = .generic → BeqExact K ∧ GenericSafe m data) :
    ∃ st' d' M', linkageWith chk m st d data n = .ok (st', d', M') ∧
      GreedyValid m n data d'.steps.toList :=
  C03_linkage_run_exact E chk m st d data n h2 hs hl hinf
    (fun h => ⟨(hgen h).1, runGood_of_genericSafe h2 hs hl (hgen h).2⟩)

theorem C03_linkage (E : ExactLaws K) (chk : Bool) (m : Method) (st st' : State K)
    (d d' : Dendrogram K) (M' : Mat K) (data : Array K) (n : Nat) (h2 : 2 ≤ n)
    (hs : n < 2147483648) (hl : 2 * data.size = n * (n - 1))
    (hinf : dispatch m = .mst → InfSafe n data)
    (hgen : dispatch m = .generic → BeqExact K ∧ GenericSafe m data)
    (hrun : linkageWith chk m st d data n = .ok (st', d', M')) :
    GreedyValid m n data d'.steps.toList := by
  exact of_exists_ok (C03_linkage_exact E chk m st d data n h2 hs hl hinf hgen) hrun

end Exact

/-! ## Non-vacuity over `ℚ` (`ratNumMax 1000`: `fieldNum ℚ` with both sentinels `1000`) -/

section Example

/-- Single / complete / average / weighted through `generic_with` on `d01=1 d02=9 d12=4`: all
hypotheses of `C03_generic_exact_noDist` hold. -/
example (m : Method) (hm : usesDist m = false) : ∃ st' d' M',
    @genericWith ℚ (ratNumMax 1000) true m State.new (Dendrogram.new 0) #[1, 9, 4] 3
      = .ok (st', d', M') ∧
    @GreedyValid ℚ (ratNumMax 1000) m 3 #[1, 9, 4] d'.steps.toList :=
  @C03_generic_exact_noDist ℚ _ _ _ (ratNumMax 1000) (ratNumMax_exact 1000) (ratNumMax_beq 1000)
    true m hm _ _ _ 3 (by decide) (by decide) (by decide) (by decide)

/-- The five methods that `linkage_with` does not route to `generic_with`, on the same matrix:
for single the sentinel hypothesis `InfSafe` holds (`1, 9, 4 ≤ 1000`), for the other four there is
no hypothesis. -/
example (m : Method) (hm : dispatch m ≠ .generic) : ∃ st' d' M',
    @linkageWith ℚ (ratNumMax 1000) false m State.new (Dendrogram.new 0) #[1, 9, 4] 3
      = .ok (st', d', M') ∧
    @GreedyValid ℚ (ratNumMax 1000) m 3 #[1, 9, 4] d'.steps.toList :=
  @C03_linkage_exact ℚ _ _ _ (ratNumMax 1000) (ratNumMax_exact 1000) false m _ _ _ 3
    (by decide) (by decide) (by decide)
    (fun _ => forall_lt_pairs (by decide)) (fun h => absurd h hm)

section
@[reducible] private def qNum : Num ℚ := ratNumMax 1000
attribute [local instance] qNum

/-- Centroid and median through `linkage_with` (routed to `generic_with`): the hypotheses are
satisfiable — by the all-zero matrix with `G = {0}` (see the limitation in the header: over `ℚ` no
other matrix has a bounded closed `G` for these two methods). -/
example (m : Method) (hm : m = .centroid ∨ m = .median) : ∃ st' d' M',
    linkageWith true m State.new (Dendrogram.new 0) (#[0, 0, 0] : Array ℚ) 3
      = .ok (st', d', M') ∧
    GreedyValid m 3 (#[0, 0, 0] : Array ℚ) d'.steps.toList := by
  refine C03_linkage_exact (ratNumMax_exact 1000) true m _ _ _ 3 (by decide) (by decide)
    (by decide) (fun h => by rcases hm with rfl | rfl <;> cases h) (fun _ => ⟨ratNumMax_beq 1000, ?_⟩)
  refine ⟨fun v => v = 0, ?_, ?_, ?_⟩
  · intro v hv; subst hv; show (0 : ℚ) < 1000; norm_num
  · intro sizes sa sb dist x va vb v _ _ hd ha hb h
    have hm' : usesDist m = true := by rcases hm with rfl | rfl <;> rfl
    have hd' : dist = 0 := hd hm'
    have ha' : va = 0 := ha
    have hb' : vb = 0 := hb
    subst hd' ha' hb'
    rcases hm with rfl | rfl <;>
      simp only [updFn, pure, Except.pure, Except.ok.injEq] at h <;> subst h <;>
      simp [Gen.centroid, Gen.median, Num.add, Num.sub, Num.mul, Num.div]
  · refine squareData_good (G := fun v : ℚ => v = 0) m _ ?_
    intro v hv
    have : v = 0 := by simpa using hv
    subst this
    split
    · show (0 : ℚ) * 0 = 0; norm_num
    · rfl

end

end Example

end Kodama
