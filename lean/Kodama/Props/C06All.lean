/-
C06 — ALL algorithms agree with each other and with any reference on tie-free input: the
exact-arithmetic statement of the property, for all five entry points at once.

## Scope
EXACT ARITHMETIC ONLY: `K` a linearly ordered field whose `Num K` instance computes the field
operations and has no NaN (`ExactLaws K`).  IEEE floats are not a field, and tie-freeness is not
stable under rounding: under rounding the hypothesis is a margin (`Props/C06Rounding.lean` for
average, `Props/C06RoundingWeighted.lean` for weighted linkage); single / complete over any ordered
number type: `Props/C06Order.lean`.  Every build mode, every prior
`LinkageState`/`Dendrogram`, every valid matrix `2 ≤ n < 2^31`, `2·len = n(n−1)`.

## Main theorem
`C06_all_agree`: let `steps₀` be ANY greedy-valid dendrogram of the matrix for method `m`
(`Spec.GreedyValid m n data steps₀`, e.g. the output of an independently written naive clustering)
whose run meets no tie (`Spec.TieFreeFrom m (init m n data) steps₀`: at every state of the replay the
merged pair is the STRICT minimum over the live pairs).  Then, for all build modes and prior states
(`ReturnsSteps r steps₀` := `r` is `.ok` and its dendrogram's step list is exactly `steps₀` — labels,
heights and sizes):
  1. `primitiveWith chk m …`  returns `steps₀`                         — no further hypothesis;
  2. `nnchainWith chk mc …`   returns `steps₀` for the chain method `mc` with `mc.intoMethod = m`
                              (single, complete, average, weighted, Ward)  — no further hypothesis;
  3. `mstWith chk …`          returns `steps₀` when `m = single`           — hypothesis `InfSafe n data`;
  4. `genericWith chk m …`    returns `steps₀`          — hypotheses `BeqExact K`, `GenericSafe m data`;
  5. `linkageWith chk m …`    returns `steps₀`          — `InfSafe n data` if routed to mst (single),
                              `BeqExact K ∧ GenericSafe m data` if routed to generic (centroid, median),
                              nothing for complete / average / weighted / Ward.
Hence any two of these calls return the same steps.  With ties two greedy runs may legitimately
differ, so nothing is claimed without the tie-freeness hypothesis.

The three extra hypotheses are exactly what `ExactLaws` leaves unconstrained (`Lemmas/ComposeExact.lean`):
`BeqExact K` (`==` is equality), `GenericSafe m data` (a set of values below `T::max_value()`, closed
under the update of `m`, containing the (squared) input — for single/complete/average/weighted it
follows from "all entries `< max_value`", `genericSafe_of_lt_max`), `InfSafe n data` (no entry above
`T::infinity()`).  LIMITATION: for Ward / centroid / median `GenericSafe m data` is, over an Archimedean
field, satisfiable only by constant / all-zero matrices (`Props/C03Generic.lean`), so items 4 and 5 say
nothing about other inputs for these three methods; the run-dependent hypothesis of
`C03_generic_run_exact` (`Props/C03GenericRun.lean`) is not used here.

## Other theorems
* `C06_generic`, `C06_generic_unique`   `generic_with` against a tie-free reference / tie-freeness on
                                        the run of the output itself.
* `C06_generic_agree`                   `genericWith` and `primitiveWith` both return greedy-valid
                                        dendrograms, equal as soon as the run of either is tie-free.
* `C06_generic_modes`                   on tie-free input the result of `generic_with` depends neither
                                        on the build mode nor on the prior state.
* `C06_linkage`, `C06_linkage_modes`    the same through `linkage_with`, all seven methods.
All are `C03_*_exact` (`Props/C03*.lean`) + `C06_unique` (`Props/C06.lean`).

## NOT proved
Anything about inputs with ties; anything about floats; `GenericSafe` for Ward/centroid/median from a
bound on the input (see `Props/C03Generic.lean`).
Trusted: `Spec/Naive.lean`, `Spec/Pairs.lean`; model = Rust (translator + correspondence runs).
-/
import Kodama.Props.C03Generic
import Kodama.Props.C06
import Kodama.Props.C06Nnchain
import Kodama.Lemmas.ExampleRuns
namespace Kodama
open Spec
variable {K : Type} [Field K] [LinearOrder K] [IsStrictOrderedRing K] [Num K]

/-- **C06 for `generic_with`, exact arithmetic.**  On tie-free input the returned steps are the steps
of any greedy-valid dendrogram of the same matrix. -/
theorem C06_generic (E : ExactLaws K) (B : BeqExact K) (chk : Bool) (m : Method) (st : State K)
    (d : Dendrogram K) (data : Array K) (n : Nat) (h2 : 2 ≤ n) (hs : n < 2147483648)
    (hl : 2 * data.size = n * (n - 1)) (S : GenericSafe m data) (steps₀ : List (Step K))
    (h₀ : GreedyValid m n data steps₀) (htf : TieFreeFrom m (init m n data) steps₀) :
    ∃ st' d' M', genericWith chk m st d data n = .ok (st', d', M') ∧
      d'.steps.toList = steps₀ :=
  ReturnsGreedy.steps_eq (C03_generic_exact E B chk m st d data n h2 hs hl S) h₀ htf

/-- The same with the tie-freeness hypothesis on the run of the returned steps. -/
theorem C06_generic_unique (E : ExactLaws K) (B : BeqExact K) (chk : Bool) (m : Method)
    (st : State K) (d : Dendrogram K) (data : Array K) (n : Nat) (h2 : 2 ≤ n) (hs : n < 2147483648)
    (hl : 2 * data.size = n * (n - 1)) (S : GenericSafe m data) :
    ∃ st' d' M', genericWith chk m st d data n = .ok (st', d', M') ∧
      GreedyValid m n data d'.steps.toList ∧
      (TieFreeFrom m (init m n data) d'.steps.toList →
        ∀ steps₂ : List (Step K), GreedyValid m n data steps₂ → steps₂ = d'.steps.toList) :=
  ReturnsGreedy.unique (C03_generic_exact E B chk m st d data n h2 hs hl S)

/-- **`generic_with` and `primitive_with` agree on tie-free input** (exact arithmetic): both return
greedy-valid dendrograms, and when the run of either one meets no tie the two step lists are equal. -/
theorem C06_generic_agree (E : ExactLaws K) (B : BeqExact K) (chk₁ chk₂ : Bool) (m : Method)
    (st₁ st₂ : State K) (d₁ d₂ : Dendrogram K) (data : Array K) (n : Nat) (h2 : 2 ≤ n)
    (hs : n < 2147483648) (hl : 2 * data.size = n * (n - 1)) (S : GenericSafe m data) :
    ∃ s₁ e₁ M₁ s₂ e₂ M₂,
      genericWith chk₁ m st₁ d₁ data n = .ok (s₁, e₁, M₁) ∧
      primitiveWith chk₂ m st₂ d₂ data n = .ok (s₂, e₂, M₂) ∧
      GreedyValid m n data e₁.steps.toList ∧
      GreedyValid m n data e₂.steps.toList ∧
      (TieFreeFrom m (init m n data) e₁.steps.toList ∨
        TieFreeFrom m (init m n data) e₂.steps.toList →
        e₁.steps.toList = e₂.steps.toList) :=
  ReturnsGreedy.agree (C03_generic_exact E B chk₁ m st₁ d₁ data n h2 hs hl S)
    (C03_primitive_exact E chk₂ m st₂ d₂ data n h2 hs hl)

theorem C06_generic_modes (E : ExactLaws K) (B : BeqExact K) (chk₁ chk₂ : Bool) (m : Method)
    (st₁ st₂ : State K) (d₁ d₂ : Dendrogram K) (data : Array K) (n : Nat) (h2 : 2 ≤ n)
    (hs : n < 2147483648) (hl : 2 * data.size = n * (n - 1)) (S : GenericSafe m data)
    (steps₀ : List (Step K)) (h₀ : GreedyValid m n data steps₀)
    (htf : TieFreeFrom m (init m n data) steps₀) :
    ∃ r₁ r₂, genericWith chk₁ m st₁ d₁ data n = .ok r₁ ∧
      genericWith chk₂ m st₂ d₂ data n = .ok r₂ ∧
      r₁.2.1.steps.toList = r₂.2.1.steps.toList :=
  ReturnsGreedy.modes (C03_generic_exact E B chk₁ m st₁ d₁ data n h2 hs hl S)
    (C03_generic_exact E B chk₂ m st₂ d₂ data n h2 hs hl S) h₀ htf

theorem C06_linkage (E : ExactLaws K) (chk : Bool) (m : Method) (st : State K)
    (d : Dendrogram K) (data : Array K) (n : Nat) (h2 : 2 ≤ n) (hs : n < 2147483648)
    (hl : 2 * data.size = n * (n - 1))
    (hinf : dispatch m = .mst → InfSafe n data)
    (hgen : dispatch m = .generic → BeqExact K ∧ GenericSafe m data)
    (steps₀ : List (Step K)) (h₀ : GreedyValid m n data steps₀)
    (htf : TieFreeFrom m (init m n data) steps₀) :
    ∃ st' d' M', linkageWith chk m st d data n = .ok (st', d', M') ∧
      d'.steps.toList = steps₀ :=
  ReturnsGreedy.steps_eq (C03_linkage_exact E chk m st d data n h2 hs hl hinf hgen) h₀ htf

theorem C06_linkage_modes (E : ExactLaws K) (chk₁ chk₂ : Bool) (m : Method)
    (st₁ st₂ : State K) (d₁ d₂ : Dendrogram K) (data : Array K) (n : Nat) (h2 : 2 ≤ n)
    (hs : n < 2147483648) (hl : 2 * data.size = n * (n - 1))
    (hinf : dispatch m = .mst → InfSafe n data)
    (hgen : dispatch m = .generic → BeqExact K ∧ GenericSafe m data)
    (steps₀ : List (Step K)) (h₀ : GreedyValid m n data steps₀)
    (htf : TieFreeFrom m (init m n data) steps₀) :
    ∃ r₁ r₂, linkageWith chk₁ m st₁ d₁ data n = .ok r₁ ∧
      linkageWith chk₂ m st₂ d₂ data n = .ok r₂ ∧
      r₁.2.1.steps.toList = r₂.2.1.steps.toList :=
  ReturnsGreedy.modes (C03_linkage_exact E chk₁ m st₁ d₁ data n h2 hs hl hinf hgen)
    (C03_linkage_exact E chk₂ m st₂ d₂ data n h2 hs hl hinf hgen) h₀ htf

theorem C06_all_agree (E : ExactLaws K) (m : Method) (data : Array K) (n : Nat) (h2 : 2 ≤ n)
    (hs : n < 2147483648) (hl : 2 * data.size = n * (n - 1)) (steps₀ : List (Step K))
    (h₀ : GreedyValid m n data steps₀) (htf : TieFreeFrom m (init m n data) steps₀) :
    (∀ (chk : Bool) (st : State K) (d : Dendrogram K),
      ReturnsSteps (primitiveWith chk m st d data n) steps₀) ∧
    (∀ mc : MethodChain, mc.intoMethod = m → ∀ (chk : Bool) (st : State K) (d : Dendrogram K),
      ReturnsSteps (nnchainWith chk mc st d data n) steps₀) ∧
    (m = .single → InfSafe n data → ∀ (chk : Bool) (st : State K) (d : Dendrogram K),
      ReturnsSteps (mstWith chk st d data n) steps₀) ∧
    (BeqExact K → GenericSafe m data → ∀ (chk : Bool) (st : State K) (d : Dendrogram K),
      ReturnsSteps (genericWith chk m st d data n) steps₀) ∧
    ((dispatch m = .mst → InfSafe n data) →
      (dispatch m = .generic → BeqExact K ∧ GenericSafe m data) →
      ∀ (chk : Bool) (st : State K) (d : Dendrogram K),
        ReturnsSteps (linkageWith chk m st d data n) steps₀) := by
  refine ⟨?_, ?_, ?_, ?_, ?_⟩
  · intro chk st d
    exact C06_primitive E chk m st d data n h2 hs hl steps₀ h₀ htf
  · intro mc e chk st d
    subst e
    exact C06_nnchain E chk mc st d data n h2 hs hl steps₀ h₀ htf
  · intro e hinf chk st d
    subst e
    exact ReturnsGreedy.steps_eq (C03_mst_total E.field.orderLaws E.field.ltTrichotomy chk st d
      data n h2 hs hl (E.noNaN_data n data) (infSafe_infTop E hinf)) h₀ htf
  · intro B S chk st d
    exact C06_generic E B chk m st d data n h2 hs hl S steps₀ h₀ htf
  · intro hinf hgen chk st d
    exact C06_linkage E chk m st d data n h2 hs hl hinf hgen steps₀ h₀ htf

/-- Consequence: under the hypotheses of `C06_all_agree`, any two entry points that accept `m`
return the same steps — here spelled out for `linkage_with` against `primitive_with`. -/
theorem C06_linkage_primitive_agree (E : ExactLaws K) (chk₁ chk₂ : Bool) (m : Method)
    (st₁ st₂ : State K) (d₁ d₂ : Dendrogram K) (data : Array K) (n : Nat) (h2 : 2 ≤ n)
    (hs : n < 2147483648) (hl : 2 * data.size = n * (n - 1))
    (hinf : dispatch m = .mst → InfSafe n data)
    (hgen : dispatch m = .generic → BeqExact K ∧ GenericSafe m data) :
    ∃ s₁ e₁ M₁ s₂ e₂ M₂,
      linkageWith chk₁ m st₁ d₁ data n = .ok (s₁, e₁, M₁) ∧
      primitiveWith chk₂ m st₂ d₂ data n = .ok (s₂, e₂, M₂) ∧
      GreedyValid m n data e₁.steps.toList ∧
      GreedyValid m n data e₂.steps.toList ∧
      (TieFreeFrom m (init m n data) e₁.steps.toList ∨
        TieFreeFrom m (init m n data) e₂.steps.toList →
        e₁.steps.toList = e₂.steps.toList) :=
  ReturnsGreedy.agree (C03_linkage_exact E chk₁ m st₁ d₁ data n h2 hs hl hinf hgen)
    (C03_primitive_exact E chk₂ m st₂ d₂ data n h2 hs hl)

/-! ### Non-vacuity over `ℚ` (`ratNumMax 1000`: `fieldNum ℚ` with both sentinels `1000`) -/

section Example
@[reducible] private def qNum : Num ℚ := ratNumMax 1000
attribute [local instance] qNum

/-- `d01 = 5, d02 = 2, d12 = 9` (tie-free for single and average linkage). -/
private def exQ : Array ℚ := #[5, 2, 9]
private def exSingle : List (Step ℚ) := [⟨0, 2, 2, 2⟩, ⟨1, 3, 5, 3⟩]
private def exAverage : List (Step ℚ) := [⟨0, 2, 2, 2⟩, ⟨1, 3, 7, 3⟩]

private theorem exQ_inf : InfSafe 3 exQ := exQ_entry_le_1000

private theorem exQ_lt : ∀ v ∈ exQ.toList, v < (Num.maxValue : ℚ) := by decide

/-- Single linkage: ALL hypotheses of `C06_all_agree`, including the three sentinel hypotheses, hold
of a concrete rational instance; so all five entry points return the hand-written reference run,
for every build mode and every prior state. -/
example :
    (∀ chk st d, ReturnsSteps (primitiveWith chk .single st d exQ 3) exSingle) ∧
    (∀ chk st d, ReturnsSteps (nnchainWith chk .single st d exQ 3) exSingle) ∧
    (∀ chk st d, ReturnsSteps (mstWith chk st d exQ 3) exSingle) ∧
    (∀ chk st d, ReturnsSteps (genericWith chk .single st d exQ 3) exSingle) ∧
    (∀ chk st d, ReturnsSteps (linkageWith chk .single st d exQ 3) exSingle) := by
  obtain ⟨h1, h2, h3, h4, h5⟩ := C06_all_agree (ratNumMax_exact 1000) .single exQ 3 (by decide)
    (by decide) (by decide) exSingle exQ_single_valid1000 exQ_single_tieFree1000
  exact ⟨h1, h2 .single rfl, h3 rfl exQ_inf,
    h4 (ratNumMax_beq 1000) (genericSafe_of_lt_max (ratNumMax_exact 1000) .single rfl exQ exQ_lt),
    h5 (fun _ => exQ_inf) (fun h => by cases h)⟩

/-- Average linkage (an arithmetic method): primitive, nnchain, generic and linkage all return the
reference `[(0,2,2,2), (1,3,7,3)]` (`(5 + 9)/2 = 7`). -/
example :
    (∀ chk st d, ReturnsSteps (primitiveWith chk .average st d exQ 3) exAverage) ∧
    (∀ chk st d, ReturnsSteps (nnchainWith chk .average st d exQ 3) exAverage) ∧
    (∀ chk st d, ReturnsSteps (genericWith chk .average st d exQ 3) exAverage) ∧
    (∀ chk st d, ReturnsSteps (linkageWith chk .average st d exQ 3) exAverage) := by
  obtain ⟨h1, h2, -, h4, h5⟩ := C06_all_agree (ratNumMax_exact 1000) .average exQ 3 (by decide)
    (by decide) (by decide) exAverage (by decide +kernel) (by decide +kernel)
  exact ⟨h1, h2 .average rfl,
    h4 (ratNumMax_beq 1000) (genericSafe_of_lt_max (ratNumMax_exact 1000) .average rfl exQ exQ_lt),
    h5 (fun h => by cases h) (fun h => by cases h)⟩

end Example

end Kodama
