/-
C03 for `generic_with` under a RUN-DEPENDENT value hypothesis (instead of a fixed set closed under the
Lance–Williams update).

## Why
The closure-based theorems (`C03_generic_*` in `Props/C03.lean`, `C03_generic_exact`,
`C03_linkage_exact` in `Props/C03Generic.lean`) assume a FIXED set `G` of good values (`GoodSet G`:
non-NaN, strictly below `T::max_value()`, `v == v`) that is CLOSED under the update of the method
(`UpdClosed G m`).  For Ward / centroid / median — whose formulas subtract — the closure of a
non-constant set is unbounded in every Archimedean field, so over `ℚ`/`ℝ` those theorems speak about
constant / all-zero matrices only (see the limitation paragraphs of those files).

## The hypothesis (`Lemmas/PrimGreedySpec.lean`; its checker `runGoodB`: `Lemmas/SpecRunGood.lean`)
`Spec.RunGood G m n data`:  for EVERY greedy-valid partial run `l` of the label-based specification
(`Spec/Naive.lean`: `GreedyFrom m (init m n data) l`), every table value `D x y` (`x ≠ y` live) of
the state `replay m (init m n data) l` reached by it lies in `G`.
It mentions neither the algorithm nor its data structures; for a tie-free input there is exactly
one maximal greedy run, and the hypothesis says "the input and the `n − 2` updated tables of that run
stay below the sentinel".  `UpdClosed G m` + inputs in `G` imply it (`runGood_of_updClosed`), so every
closure-based theorem is a special case of its `_run` version (see the `example`s below).

How it enters the proof: the simulation invariant of `generic_with` (`GenSim`,
`Lemmas/GenericGreedySim.lean`) says that the working matrix IS the specification table of the greedy
run performed so far; the pair popped from the heap is a global minimum, hence an admissible next
step; so the table of the NEXT specification state — whose new entries are exactly the values the
update is about to write — is good by `RunGood` (`GenSim.updGoodAt_of_runGood`).  The per-update lemma
(`genericUpdate_spec`) does not ask for closure but only for "the values this update writes are
good" (`UpdGoodAt`), tracked through the three ranges by a frame invariant.

## Theorems (all: both build modes, every prior state / dendrogram, every valid matrix)
* `C03_generic_run_mergeorder`   (stage 3) `genericWith` is a total loop followed by `relabel`,
                                 `sqrt`; the raw dendrogram of the loop relabelled in merge order is
                                 `GreedyValid`; its heights are the spec's table values and lie in `G`.
* `C03_generic_run_of_monotone`  any method: returned steps greedy-valid if greedy runs of the SPEC
                                 have non-decreasing heights.
* `C03_generic_run_reducible`    … from `Spec.Reducible α m`.
* `C03_generic_run_unsorted`     centroid / median (no sort, no `LBClosed`, no `Reducible`): the call
                                 returns normally and the RETURNED steps are `GreedyValid`.
* `C03_linkage_centroid_median_run`  the same through `linkageWith`.
* `C03_generic_run_exact`        EXACT ARITHMETIC (`ExactLaws K`, `BeqExact K`), ALL SEVEN methods:
                                 hypothesis `RunGood (· < max_value) m n data` instead of `GenericSafe`.
* `C03_generic_run`              run form of the previous.
* `C03_linkage_run_exact`        all seven methods through `linkageWith` in exact arithmetic
                                 (`InfSafe` for single, `BeqExact ∧ RunGood (· < max_value)` for
                                 centroid / median, nothing for the other four).

## Non-vacuity (the point): NON-constant matrices over `ℚ` for Ward, centroid and median
`ratNumMax 1000` = `fieldNum ℚ` with both sentinels `1000`.  The hypothesis `RunGood (· < 1000)` is
discharged by the checker `Spec.runGoodB` (exhaustive exploration of all greedy runs, `decide +kernel`).

## Trusted
As `Props/C03Generic.lean`.
-/
import Kodama.Props.C03Mst
import Kodama.Props.C03Nnchain
import Kodama.Lemmas.ComposeExact
import Kodama.Lemmas.ComposeExample
namespace Kodama
open Spec

section Run
variable {α : Type} [Num α] {G : α → Prop}

/-- Stage 3 under `Spec.RunGood`: the loop of `generic_with`, relabelled in merge order, is a greedy
run of the spec. -/
theorem C03_generic_run_mergeorder (L : OrderLaws α) (hbeq : BeqLe α) (gs : GoodSet G)
    (chk : Bool) (m : Method) (hlbc : l1Mode m = .fix → LBClosed G m)
    (hsym : LwSymm α m) (hmax : Num.isNaN (Num.maxValue : α) = false)
    (st : State α) (d : Dendrogram α) (data : Array α) (n : Nat) (h2 : 2 ≤ n)
    (hs : n < 2147483648) (hl : 2 * data.size = n * (n - 1))
    (hrun : RunGood G m n data) :
    ∃ (st1 : State α) (dend1 : Dendrogram α) (M1 : Mat α),
      genericWith chk m st d data n =
        (relabel m st1.set dend1 >>= fun r =>
          pure ({ st1 with set := r.1 }, sqrtSteps m r.2, M1)) ∧
      GreedyValid m n data (mergeOrder m n dend1.steps.toList) ∧
      dend1.steps.toList.map (·.d)
        = rawHeights m (init m n data) (mergeOrder m n dend1.steps.toList) ∧
      (∀ s ∈ dend1.steps.toList, G s.d) := by
  obtain ⟨st1, dend1, M1, ⟨hres, hdg⟩, heq⟩ :=
    genericWith_sim_run L hbeq gs chk m hlbc hsym hmax st d data n h2 hs hl hrun
  exact ⟨st1, dend1, M1, heq, hres.valid, hres.hts, hdg⟩

/-- Stage 4 under `Spec.RunGood`, any method: the returned steps are greedy-valid whenever every
greedy run of the SPECIFICATION has non-decreasing raw heights. -/
theorem C03_generic_run_of_monotone (L : OrderLaws α) (hbeq : BeqLe α) (gs : GoodSet G)
    (chk : Bool) (m : Method) (hlbc : l1Mode m = .fix → LBClosed G m)
    (hsym : LwSymm α m) (hmax : Num.isNaN (Num.maxValue : α) = false)
    (st : State α) (d : Dendrogram α) (data : Array α) (n : Nat) (h2 : 2 ≤ n)
    (hs : n < 2147483648) (hl : 2 * data.size = n * (n - 1))
    (hrun : RunGood G m n data)
    (hmono : ∀ l, GreedyValid m n data l →
      (rawHeights m (init m n data) l).Pairwise (fun a b => Num.lt b a = false)) :
    ∃ st' dend' M', genericWith chk m st d data n = .ok (st', dend', M') ∧
      GreedyValid m n data dend'.steps.toList := by
  obtain ⟨st1, dend1, M1, ⟨hres, hdg⟩, heq⟩ :=
    genericWith_sim_run L hbeq gs chk m hlbc hsym hmax st d data n h2 hs hl hrun
  exact greedyValid_of_sim hres (fun s hs' => gs.notNaN _ (hdg s hs')) h2 heq
    (.inr (hmono _ hres.valid))

theorem C03_generic_run_reducible (L : OrderLaws α) (hbeq : BeqLe α) (gs : GoodSet G)
    (chk : Bool) (m : Method) (hlbc : l1Mode m = .fix → LBClosed G m)
    (hsym : LwSymm α m) (hred : Reducible α m) (hmax : Num.isNaN (Num.maxValue : α) = false)
    (st : State α) (d : Dendrogram α) (data : Array α) (n : Nat) (h2 : 2 ≤ n)
    (hs : n < 2147483648) (hl : 2 * data.size = n * (n - 1))
    (hrun : RunGood G m n data) :
    ∃ st' dend' M', genericWith chk m st d data n = .ok (st', dend', M') ∧
      GreedyValid m n data dend'.steps.toList :=
  C03_generic_run_of_monotone L hbeq gs chk m hlbc hsym hmax st d data n h2 hs hl hrun fun _ hl' =>
    greedy_heights_mono L (reduciblePos_of_reducible hred) (hrun.noNaNRun gs.notNaN) hl'.2

/-- **Stage 4 under `Spec.RunGood`, centroid and median** (no sort; no `LBClosed`, no `Reducible`):
the call returns normally and the returned steps are greedy-valid. -/
theorem C03_generic_run_unsorted (L : OrderLaws α) (hbeq : BeqLe α) (gs : GoodSet G)
    (chk : Bool) (m : Method) (hm : m.requiresSorting = false)
    (hsym : LwSymm α m) (hmax : Num.isNaN (Num.maxValue : α) = false)
    (st : State α) (d : Dendrogram α) (data : Array α) (n : Nat) (h2 : 2 ≤ n)
    (hs : n < 2147483648) (hl : 2 * data.size = n * (n - 1))
    (hrun : RunGood G m n data) :
    ∃ st' dend' M', genericWith chk m st d data n = .ok (st', dend', M') ∧
      GreedyValid m n data dend'.steps.toList := by
  have hlbc : l1Mode m = .fix → LBClosed G m := by
    intro h; cases m <;> simp [Method.requiresSorting] at hm <;> simp [l1Mode] at h
  obtain ⟨st1, dend1, M1, ⟨hres, hdg⟩, heq⟩ :=
    genericWith_sim_run L hbeq gs chk m hlbc hsym hmax st d data n h2 hs hl hrun
  exact greedyValid_of_sim hres (fun s hs' => gs.notNaN _ (hdg s hs')) h2 heq (.inl hm)

/-- **`linkage(.., Centroid | Median)` under `Spec.RunGood`**: routed to `generic_with`; the call
returns normally and the returned steps are greedy-valid. -/
theorem C03_linkage_centroid_median_run (L : OrderLaws α) (hbeq : BeqLe α) (gs : GoodSet G)
    (chk : Bool) (m : Method) (hm : m = .centroid ∨ m = .median)
    (hsym : LwSymm α m) (hmax : Num.isNaN (Num.maxValue : α) = false)
    (st : State α) (d : Dendrogram α) (data : Array α) (n : Nat) (h2 : 2 ≤ n)
    (hs : n < 2147483648) (hl : 2 * data.size = n * (n - 1))
    (hrun : RunGood G m n data) :
    dispatch m = .generic ∧
    ∃ st' dend' M', linkageWith chk m st d data n = .ok (st', dend', M') ∧
      GreedyValid m n data dend'.steps.toList := by
  have hd : dispatch m = .generic := by rcases hm with rfl | rfl <;> rfl
  have hr : m.requiresSorting = false := by rcases hm with rfl | rfl <;> rfl
  rw [linkageWith_generic chk m hm]
  exact ⟨hd, C03_generic_run_unsorted L hbeq gs chk m hr hsym hmax st d data n h2 hs hl hrun⟩

/-- The closure-based theorem is the special case `runGood_of_updClosed` of the run-dependent one. -/
example (L : OrderLaws α) (hbeq : BeqLe α) (gs : GoodSet G)
    (chk : Bool) (m : Method) (hm : m.requiresSorting = false) (hcl : UpdClosed G m)
    (hsym : LwSymm α m) (hmax : Num.isNaN (Num.maxValue : α) = false)
    (st : State α) (d : Dendrogram α) (data : Array α) (n : Nat) (h2 : 2 ≤ n)
    (hs : n < 2147483648) (hl : 2 * data.size = n * (n - 1))
    (hin : ∀ i (h : i < (squareData m data).size), G (squareData m data)[i]) :
    ∃ st' dend' M', genericWith chk m st d data n = .ok (st', dend', M') ∧
      GreedyValid m n data dend'.steps.toList :=
  C03_generic_run_unsorted L hbeq gs chk m hm hsym hmax st d data n h2 hs hl
    (runGood_of_updClosed hcl (init_TableGood m data n h2 hs hl hin))

end Run

section Exact
variable {K : Type} [Field K] [LinearOrder K] [IsStrictOrderedRing K] [Num K]

/-- **C03 for `generic_with` in exact arithmetic, all seven methods, RUN-DEPENDENT hypothesis**: if
every table value of every greedy run of the specification is strictly below `T::max_value()`, then
`genericWith` returns normally and the returned steps are `GreedyValid`. -/
theorem C03_generic_run_exact (E : ExactLaws K) (B : BeqExact K) (chk : Bool) (m : Method)
    (st : State K) (d : Dendrogram K) (data : Array K) (n : Nat) (h2 : 2 ≤ n) (hs : n < 2147483648)
    (hl : 2 * data.size = n * (n - 1))
    (hrun : RunGood (fun v : K => v < (Num.maxValue : K)) m n data) :
    ∃ st' d' M', genericWith chk m st d data n = .ok (st', d', M') ∧
      GreedyValid m n data d'.steps.toList := by
  have L := E.field.orderLaws
  have gs : GoodSet (fun v : K => v < (Num.maxValue : K)) := goodSet_exact B E (fun _ h => h)
  cases hm : m.requiresSorting with
  | true =>
    refine C03_generic_run_of_monotone L (B.beqLe E) gs chk m (lbClosed_exact_of_fix E _ m)
      (E.field.lwSymm m) (E.noNaN _) st d data n h2 hs hl hrun fun _ hl' =>
        greedy_heights_mono L (E.field.reduciblePos m hm) (E.noNaNRun m n data) hl'.2
  | false =>
    exact C03_generic_run_unsorted L (B.beqLe E) gs chk m hm (E.field.lwSymm m) (E.noNaN _) st d
      data n h2 hs hl hrun

theorem C03_generic_run (E : ExactLaws K) (B : BeqExact K) (chk : Bool) (m : Method)
    (st st' : State K) (d d' : Dendrogram K) (M' : Mat K) (data : Array K) (n : Nat) (h2 : 2 ≤ n)
    (hs : n < 2147483648) (hl : 2 * data.size = n * (n - 1))
    (hrun : RunGood (fun v : K => v < (Num.maxValue : K)) m n data)
    (hret : genericWith chk m st d data n = .ok (st', d', M')) :
    GreedyValid m n data d'.steps.toList :=
  of_exists_ok (C03_generic_run_exact E B chk m st d data n h2 hs hl hrun) hret

set_option linter.unusedSectionVars false in
/-- `GenericSafe` (the closure-based sentinel hypothesis) implies the run-dependent one. -/
theorem runGood_of_genericSafe {m : Method} {data : Array K} {n : Nat} (h2 : 2 ≤ n)
    (hs : n < 2147483648) (hl : 2 * data.size = n * (n - 1)) (S : GenericSafe m data) :
    RunGood (fun v : K => v < (Num.maxValue : K)) m n data := by
  obtain ⟨G, hG, hcl, hin⟩ := S
  exact (runGood_of_updClosed hcl (init_TableGood m data n h2 hs hl hin)).mono hG

/-- **C03 for `linkage_with` in exact arithmetic, all seven methods, run-dependent hypothesis for the
two methods routed to `generic_with`.** -/
theorem C03_linkage_run_exact (E : ExactLaws K) (chk : Bool) (m : Method) (st : State K)
    (d : Dendrogram K) (data : Array K) (n : Nat) (h2 : 2 ≤ n) (hs : n < 2147483648)
    (hl : 2 * data.size = n * (n - 1))
    (hinf : dispatch m = .mst → InfSafe n data)
    (hgen : dispatch m = .generic →
      BeqExact K ∧ RunGood (fun v : K => v < (Num.maxValue : K)) m n data) :
    ∃ st' d' M', linkageWith chk m st d data n = .ok (st', d', M') ∧
      GreedyValid m n data d'.steps.toList := by
  refine linkageWith_cases (P := fun f => ∃ st' d' M', f st d data n = .ok (st', d', M') ∧
    GreedyValid m n data d'.steps.toList) chk m ?_ ?_ ?_
  · rintro rfl
    exact C03_mst_total E.field.orderLaws E.field.ltTrichotomy chk st d data n h2 hs hl
      (E.noNaN_data n data) (infSafe_infTop E (hinf rfl))
  · rintro mc - - rfl
    exact C03_nnchain_exact E chk mc st d data n h2 hs hl
  · intro hm
    obtain ⟨B, hrun⟩ := hgen (by rcases hm with rfl | rfl <;> rfl)
    exact C03_generic_run_exact E B chk m st d data n h2 hs hl hrun

/-- `C03_generic_exact` (closure-based) is a corollary of `C03_generic_run_exact`. -/
example (E : ExactLaws K) (B : BeqExact K) (chk : Bool) (m : Method)
    (st : State K) (d : Dendrogram K) (data : Array K) (n : Nat) (h2 : 2 ≤ n) (hs : n < 2147483648)
    (hl : 2 * data.size = n * (n - 1)) (S : GenericSafe m data) :
    ∃ st' d' M', genericWith chk m st d data n = .ok (st', d', M') ∧
      GreedyValid m n data d'.steps.toList :=
  C03_generic_run_exact E B chk m st d data n h2 hs hl (runGood_of_genericSafe h2 hs hl S)

end Exact

/-! ## Non-vacuity over `ℚ`: NON-constant matrices for Ward, centroid and median

`ratNumMax 1000` is `fieldNum ℚ` with both sentinels `1000`.  The run-dependent hypothesis
`RunGood (· < 1000) m n data` is discharged by the checker `Spec.runGoodB` (exhaustive exploration of
all greedy runs of the specification; `decide +kernel` evaluates the rational arithmetic). -/

section Example
@[reducible] private def qNumRun : Num ℚ := ratNumMax 1000
attribute [local instance] qNumRun

/-- The checker's verdict as the hypothesis of the theorems (`G v ↔ v < 1000`). -/
theorem runGood_lt_of_check (m : Method) (n : Nat) (data : Array ℚ) (k : Nat)
    (h : runGoodB (fun v : ℚ => decide (v < 1000)) m k (init m n data) = true) :
    RunGood (fun v : ℚ => v < (Num.maxValue : ℚ)) m n data :=
  (runGood_of_check _ m n data k h).mono (fun v hv => by
    have h' : v < (1000 : ℚ) := by simpa using hv
    exact h')

/-- WARD on the 3-point matrix `d01 = 1, d02 = 3, d12 = 2` (squared: `1, 9, 4`; after merging
`{0,1}` the table holds `25/3`): the run-dependent hypothesis holds. -/
theorem runGood_ward3 :
    RunGood (fun v : ℚ => v < (Num.maxValue : ℚ)) .ward 3 (#[1, 3, 2] : Array ℚ) :=
  runGood_lt_of_check .ward 3 _ 2 (by decide +kernel)

/-- WARD on a 4-point matrix. -/
theorem runGood_ward4 :
    RunGood (fun v : ℚ => v < (Num.maxValue : ℚ)) .ward 4 (#[1, 3, 2, 4, 5, 7] : Array ℚ) :=
  runGood_lt_of_check .ward 4 _ 3 (by decide +kernel)

/-- CENTROID on a 4-point matrix. -/
theorem runGood_centroid4 :
    RunGood (fun v : ℚ => v < (Num.maxValue : ℚ)) .centroid 4 (#[1, 3, 2, 4, 5, 7] : Array ℚ) :=
  runGood_lt_of_check .centroid 4 _ 3 (by decide +kernel)

/-- MEDIAN on a 4-point matrix. -/
theorem runGood_median4 :
    RunGood (fun v : ℚ => v < (Num.maxValue : ℚ)) .median 4 (#[1, 3, 2, 4, 5, 7] : Array ℚ) :=
  runGood_lt_of_check .median 4 _ 3 (by decide +kernel)

/-- **Ward through `generic_with`, non-constant 3-point matrix**: `C03_generic_run_exact` applies. -/
example : ∃ st' d' M',
    genericWith true .ward State.new (Dendrogram.new 0) (#[1, 3, 2] : Array ℚ) 3
      = .ok (st', d', M') ∧
    GreedyValid .ward 3 (#[1, 3, 2] : Array ℚ) d'.steps.toList :=
  C03_generic_run_exact (ratNumMax_exact 1000) (ratNumMax_beq 1000) true .ward _ _ _ 3
    (by decide) (by decide) (by decide) runGood_ward3

/-- Ward, 4 points. -/
example : ∃ st' d' M',
    genericWith false .ward State.new (Dendrogram.new 0) (#[1, 3, 2, 4, 5, 7] : Array ℚ) 4
      = .ok (st', d', M') ∧
    GreedyValid .ward 4 (#[1, 3, 2, 4, 5, 7] : Array ℚ) d'.steps.toList :=
  C03_generic_run_exact (ratNumMax_exact 1000) (ratNumMax_beq 1000) false .ward _ _ _ 4
    (by decide) (by decide) (by decide) runGood_ward4

example : ∃ st' d' M',
    genericWith true .centroid State.new (Dendrogram.new 0) (#[1, 3, 2, 4, 5, 7] : Array ℚ) 4
      = .ok (st', d', M') ∧
    GreedyValid .centroid 4 (#[1, 3, 2, 4, 5, 7] : Array ℚ) d'.steps.toList :=
  C03_generic_run_exact (ratNumMax_exact 1000) (ratNumMax_beq 1000) true .centroid _ _ _ 4
    (by decide) (by decide) (by decide) runGood_centroid4

example : ∃ st' d' M',
    genericWith true .median State.new (Dendrogram.new 0) (#[1, 3, 2, 4, 5, 7] : Array ℚ) 4
      = .ok (st', d', M') ∧
    GreedyValid .median 4 (#[1, 3, 2, 4, 5, 7] : Array ℚ) d'.steps.toList :=
  C03_generic_run_exact (ratNumMax_exact 1000) (ratNumMax_beq 1000) true .median _ _ _ 4
    (by decide) (by decide) (by decide) runGood_median4

/-- **Centroid and median through `linkage_with`** (routed to `generic_with`) on the same non-constant
matrix: `C03_linkage_run_exact` applies (compare the all-zero example of `Props/C03Generic.lean`). -/
example (m : Method) (hm : m = .centroid ∨ m = .median) : ∃ st' d' M',
    linkageWith true m State.new (Dendrogram.new 0) (#[1, 3, 2, 4, 5, 7] : Array ℚ) 4
      = .ok (st', d', M') ∧
    GreedyValid m 4 (#[1, 3, 2, 4, 5, 7] : Array ℚ) d'.steps.toList := by
  refine C03_linkage_run_exact (ratNumMax_exact 1000) true m _ _ _ 4 (by decide) (by decide)
    (by decide) (fun h => by rcases hm with rfl | rfl <;> cases h)
    (fun _ => ⟨ratNumMax_beq 1000, ?_⟩)
  rcases hm with rfl | rfl
  · exact runGood_centroid4
  · exact runGood_median4

end Example

end Kodama
