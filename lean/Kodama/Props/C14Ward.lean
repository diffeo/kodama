/-
C14 (work bound: number of condensed-index computations) for WARD linkage through `nnchain_with` /
`linkage_with`, for EVERY ordered number type.

`C14_nnchain` / `C14_linkage` take the hypothesis `ChainReducible α .ward`, FALSE for IEEE floats for the
plain quotient `((sx+sa)·a + (sx+sb)·b − sx·c)/(sa+sb+sx)` (`Props/C01Ward.lean`): the chain entries are
then not pairwise distinct live clusters, which is what the potential argument of `C14_nnchain_tight`
charges against.
`method::ward` clamps the quotient from below by the smaller argument whenever the merged distance is
not above it; for that formula `ChainReducible α .ward` is a THEOREM from `OrderLaws α` plus the
no-NaN-generation hypothesis (`chainReducible_ward`, `Lemmas/ChainIter.lean`) — no field law, no exact
arithmetic.

Proved here (by instantiating `C14_nnchain_tight` / `C14_nnchain` / `C14_linkage`), for every valid
matrix (2 ≤ n < 2^31, 2·len = n(n−1)), both build modes, every prior state, whenever the call returns
`(st', d', M')` (it does: `C12_nnchain_ward_ok`):

* `C14_nnchain_ward_tight`  at most `7·n(n+1) − 10` index computations;
* `C14_nnchain_ward`        hence `≤ 10 n² + 50 n`;
* `C14_linkage_ward`        the same through `linkageWith chk .ward`.

Hypotheses (explicit): `OrderLaws α` (true of IEEE `<`), `hsq` (no SQUARED input entry is NaN),
`WardNoNaN α` (the update of non-NaN values with `d(a,b) ≤ d(x,a), d(x,b)` and positive sizes is not
NaN; hypothesis, not proved for floats).

NOT proved: `WardNoNaN` for floats.
-/
import Kodama.Props.C14
import Kodama.Props.C01Ward
namespace Kodama
open Spec
variable {α : Type} [Num α]

theorem C14_nnchain_ward_tight (L : OrderLaws α) (hn : WardNoNaN α) (chk : Bool)
    (st st' : State α) (d d' : Dendrogram α) (data : Array α) (n : Nat) (M' : Mat α)
    (h2 : 2 ≤ n) (hs : n < 2147483648) (hl : 2 * data.size = n * (n - 1))
    (hsq : ∀ (i : Nat) (h : i < data.size), Num.isNaN (Num.mul data[i] data[i]) = false)
    (h : nnchainWith chk .ward st d data n = .ok (st', d', M')) :
    M'.acc + 10 ≤ 7 * (n * (n + 1)) :=
  C14_nnchain_tight L chk .ward (chainReducible_ward L hn) st st' d d' data n M' h2 hs hl
    (noNaNData_squareData_ward hsq) h

theorem C14_nnchain_ward (L : OrderLaws α) (hn : WardNoNaN α) (chk : Bool)
    (st st' : State α) (d d' : Dendrogram α) (data : Array α) (n : Nat) (M' : Mat α)
    (h2 : 2 ≤ n) (hs : n < 2147483648) (hl : 2 * data.size = n * (n - 1))
    (hsq : ∀ (i : Nat) (h : i < data.size), Num.isNaN (Num.mul data[i] data[i]) = false)
    (h : nnchainWith chk .ward st d data n = .ok (st', d', M')) :
    M'.acc ≤ 10 * (n * n) + 50 * n :=
  C14_nnchain L chk .ward (chainReducible_ward L hn) st st' d d' data n M' h2 hs hl
    (noNaNData_squareData_ward hsq) h

theorem C14_linkage_ward (L : OrderLaws α) (hn : WardNoNaN α) (chk : Bool)
    (st st' : State α) (d d' : Dendrogram α) (data : Array α) (n : Nat) (M' : Mat α)
    (h2 : 2 ≤ n) (hs : n < 2147483648) (hl : 2 * data.size = n * (n - 1))
    (hsq : ∀ (i : Nat) (h : i < data.size), Num.isNaN (Num.mul data[i] data[i]) = false)
    (h : linkageWith chk .ward st d data n = .ok (st', d', M')) :
    M'.acc ≤ 10 * (n * n) + 50 * n := by
  rw [linkageWith_nnchain chk .ward .ward (by decide) rfl] at h
  exact C14_nnchain_ward L hn chk st st' d d' data n M' h2 hs hl hsq h

/-! ### Non-vacuity (toy exact number type, a valid 4-point matrix) -/

section NonVacuity
attribute [local instance] Toy.natNum

example (st' : State Nat) (d' : Dendrogram Nat) (M' : Mat Nat)
    (h : nnchainWith true .ward State.new (Dendrogram.new 4)
      (#[5, 2, 9, 7, 4, 1] : Array Nat) 4 = .ok (st', d', M')) :
    M'.acc ≤ 10 * (4 * 4) + 50 * 4 :=
  C14_nnchain_ward Toy.natOrderLaws (wardNoNaN_of_noNaN fun _ => rfl) true _ st' _ d'
    _ 4 M' (by decide) (by decide) (by decide) (fun _ _ => rfl) h

end NonVacuity

end Kodama
