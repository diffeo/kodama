/-
C19 — the `Dendrogram` / `Step` container contract (src/dendrogram.rs).

Proved here (FULL statement, for the hand-written container model `Model/Dendrogram.lean` and the
op language `Model/DendrogramOps.lean` — the same `Dendrogram.apply` the driver executes):

* `C19_push_inv`  the invariant `len ≤ observations - 1` (truncated subtraction) holds in every
                  state reachable from `new n` (or from `reset n` of any value, or from any value
                  satisfying it) by ANY sequence of ops (`new / reset / push /
                  set_clusters / read-only`), each op run under `catch_unwind` (`Dendrogram.step`:
                  a panicking op leaves the value unchanged).
* `C19_push`      starting from `Dendrogram.new n`, or from `reset n` applied to ANY dendrogram,
                  after any sequence `pre` of pushes, `set_clusters` calls (in or out of range) and
                  read-only ops containing `k` pushes: `observations = n`, `len = min k (n-1)`, and the
                  next push succeeds (appending the step) iff `k < n-1`, otherwise it is
                  `Panic.assertFail`.  Hence exactly `n-1` pushes succeed, the `n`-th and all later
                  ones panic, and for `n ≤ 1` the very first push panics (`C19_push_small`).
* `C19_reset`     `reset n` — the body TRANSLATED from the source (`Gen.dendrogramReset`) — yields
                  `Dendrogram.new n` from ANY state: `len = 0`, `is_empty`, `observations = n`.
* `C19_norm`      `Step.new a b x size = ⟨min a b, max a b, x, size⟩` and
                  `s.setClusters a b = ⟨min a b, max a b, s.d, s.size⟩`.
* `C19_size`      `cluster_size l = 1` for `l < observations`; `= steps[l - observations].size` when
                  that step exists; `Panic.indexOOB` when it does not; and for every dendrogram whose
                  step list is `Spec.WellFormed` and every label `l < n + len`,
                  `cluster_size l = (Spec.leaves n steps steps.length l).length`, where that leaf
                  list has no duplicates and consists of observations `< n` — i.e. the value is the
                  number of distinct observations beneath the label.
* `C19_eq`        over any linearly ordered additive commutative group (`Num` ops instantiated by
                  the group's `-`, `|·|`, `<`, `=`; `groupNum`), for `ε ≥ 0`:
                  `eq_with_epsilon d e ε = true ↔ len d = len e ∧ ∀ i, c1, c2, size equal ∧
                  |dᵢ - eᵢ| ≤ ε` (`C19_eq_step` is the per-step statement).  The `self == other`
                  shortcut is consistent because `|h - h| = 0 ≤ ε`; `observations` is NOT compared
                  (neither does the code).

NOT proved here: that the dendrograms returned by the clustering functions are `Spec.WellFormed`
(that is C01; `C19_size` takes it as a hypothesis).  `C19_eq` is a statement about exact group
arithmetic: for IEEE floats "differ by at most ε" is evaluated as the code does, on the rounded
difference `fl(a - b)` (the oracle sweeps ε ∈ {pred δ, δ, succ δ} around the computed δ), and a step
pair with equal labels and size but a NaN dissimilarity compares as equal in the code (and in the
model) whatever ε — outside the property's domain (non-NaN).

Trusted/modelled: `Model/Dendrogram.lean` is a hand model of `new / push / len / is_empty /
cluster_size / Step::new / set_clusters / eq_with_epsilon` (derived `PartialEq` of `Step` = fieldwise
`==` in declaration order); `set_clusters` reached through `IndexMut` panics before writing.  Tied to
the code by the bit-exact op-sequence correspondence run (`harness/src/container.rs`).
-/
import Kodama.Lemmas.Container
import Kodama.Lemmas.SpecDecide
import Mathlib.Algebra.Order.Group.Abs
import Mathlib.Algebra.Order.Group.Int
namespace Kodama
open Dendrogram

section
variable {α : Type} [Num α]

theorem C19_push_inv (n : Nat) (d0 d : Dendrogram α) (ops : List (DOp α)) :
    (ops.foldl step (Dendrogram.new n : Dendrogram α)).Inv ∧
    (ops.foldl step (d0.reset n)).Inv ∧
    (d.Inv → (ops.foldl step d).Inv) :=
  ⟨foldl_step_inv ops _ (inv_new n),
   foldl_step_inv ops _ (by rw [dendrogramReset_eq]; exact inv_new n),
   foldl_step_inv ops d⟩

theorem C19_push (n : Nat) (d0 : Dendrogram α) (pre : List (DOp α))
    (hpre : ∀ op ∈ pre, op.keepsObs = true) (s : Step α) :
    let k := pre.countP DOp.isPush
    (∀ start : Dendrogram α, (start = Dendrogram.new n ∨ start = d0.reset n) →
      let d := pre.foldl step start
      d.obs = n ∧ d.len = min k (n - 1) ∧
      (k < n - 1 → d.apply (.push s) = .ok ⟨d.steps.push s, n⟩) ∧
      (n - 1 ≤ k → d.apply (.push s) = .error .assertFail)) := by
  intro k start hstart
  have hs : start = Dendrogram.new n := by
    rcases hstart with h | h
    · exact h
    · rw [h, dendrogramReset_eq]
  subst hs
  have ⟨h1, h2⟩ := foldl_step_count pre (Dendrogram.new n) (inv_new n) hpre
  have h1' : (pre.foldl step (Dendrogram.new n : Dendrogram α)).obs = n := h1
  have h2' : (pre.foldl step (Dendrogram.new n : Dendrogram α)).len = min k (n - 1) := by
    rw [h2]; simp [Dendrogram.new, len, k]
  refine ⟨h1', h2', ?_, ?_⟩
  · intro hk
    have := push_ok (pre.foldl step (Dendrogram.new n : Dendrogram α)) s (by rw [h1', h2']; omega)
    simp only [apply, this, h1']
  · intro hk
    exact push_full _ s (by rw [h1', h2']; omega)

theorem C19_push_small (n : Nat) (hn : n ≤ 1) (d0 : Dendrogram α) (s : Step α) :
    (Dendrogram.new n : Dendrogram α).apply (.push s) = .error .assertFail ∧
    (d0.reset n).apply (.push s) = .error .assertFail := by
  have h := C19_push n d0 [] (by simp) s
  simp only [List.countP_nil, List.foldl_nil] at h
  exact ⟨(h _ (Or.inl rfl)).2.2.2 (by omega), (h _ (Or.inr rfl)).2.2.2 (by omega)⟩

end

theorem C19_reset {α : Type} [Num α] (d : Dendrogram α) (n : Nat) :
    d.apply (.reset n) = .ok (d.reset n) ∧
    d.reset n = Dendrogram.new n ∧ (d.reset n).len = 0 ∧ (d.reset n).isEmpty = true ∧
    (d.reset n).obs = n := by
  refine ⟨rfl, dendrogramReset_eq d n, ?_, ?_, ?_⟩ <;>
  simp [dendrogramReset_eq, Dendrogram.new, len, isEmpty]

theorem C19_norm {α : Type} (a b : Nat) (x : α) (size : Nat) (s : Step α) :
    Step.new a b x size = ⟨min a b, max a b, x, size⟩ ∧
    s.setClusters a b = ⟨min a b, max a b, s.d, s.size⟩ :=
  ⟨Step.new_eq a b x size, Step.setClusters_eq s a b⟩

theorem C19_size {α : Type} (d : Dendrogram α) (l : Nat) :
    (l < d.obs → d.clusterSize l = .ok 1) ∧
    (∀ (_ : d.obs ≤ l) (h : l - d.obs < d.steps.size),
      d.clusterSize l = .ok d.steps[l - d.obs].size) ∧
    (d.obs ≤ l → d.steps.size ≤ l - d.obs → d.clusterSize l = .error .indexOOB) ∧
    (Spec.WellFormed d.obs d.steps.toList → l < d.obs + d.steps.toList.length →
      d.clusterSize l = .ok (Spec.leaves d.obs d.steps.toList d.steps.toList.length l).length ∧
      (Spec.leaves d.obs d.steps.toList d.steps.toList.length l).Nodup ∧
      ∀ x ∈ Spec.leaves d.obs d.steps.toList d.steps.toList.length l, x < d.obs) := by
  refine ⟨?_, ?_, ?_, ?_⟩
  · intro h
    simp [clusterSize, clusterSizeOf, h, pure, Except.pure]
  · intro h1 h2
    have : ¬ l < d.obs := by omega
    simp [clusterSize, clusterSizeOf, this, aget, h2, bind, Except.bind, pure, Except.pure]
  · intro h1 h2
    have h3 : ¬ l < d.obs := by omega
    have : d.steps[l - d.obs]? = none := by simp; omega
    simp [clusterSize, clusterSizeOf, h3, aget, this, bind, Except.bind]
  · intro W hl
    refine ⟨?_, Spec.leaves_nodup _ _ W l hl, Spec.leaves_lt _ _ _ l⟩
    rw [← Spec.sz_eq_length_leaves d.obs d.steps.toList W _ l hl (by omega)]
    exact clusterSizeOf_eq d.obs d.steps l (by simpa using hl)

/-- The `Num` operations of a linearly ordered additive commutative group: `sub`, `abs`, `<`, `=`
are the group's; the remaining fields are not used by `eq_with_epsilon` and are dummies. -/
@[reducible] def groupNum (α : Type) [AddCommGroup α] [LinearOrder α] : Num α where
  lt a b := decide (a < b)
  beq a b := decide (a = b)
  add a b := a + b
  sub a b := a - b
  mul a _ := a
  div a _ := a
  ofNat _ := 0
  half := 0
  quarter := 0
  sqrt a := a
  abs a := |a|
  maxValue := 0
  infinity := 0
  isNaN _ := false

section
variable {α : Type} [AddCommGroup α] [LinearOrder α] [IsOrderedAddMonoid α]

theorem C19_eq_step (s t : Step α) (ε : α) (hε : 0 ≤ ε) :
    @Dendrogram.Step.eqWithEpsilon α (groupNum α) s t ε = true ↔
      s.c1 = t.c1 ∧ s.c2 = t.c2 ∧ s.size = t.size ∧ |s.d - t.d| ≤ ε := by
  unfold Dendrogram.Step.eqWithEpsilon
  by_cases h1 : s.c1 = t.c1 <;> by_cases h2 : s.c2 = t.c2 <;> by_cases h3 : s.size = t.size <;>
    simp [h1, h2, h3, Num.beq, Num.lt, Num.abs, Num.sub]
  by_cases h4 : s.d = t.d
  · simp [h4, hε]
  · simp [h4]

theorem C19_eq (d e : Dendrogram α) (ε : α) (hε : 0 ≤ ε) :
    @Dendrogram.eqWithEpsilon α (groupNum α) d e ε = true ↔
      d.len = e.len ∧
      ∀ (i : Nat) (h1 : i < d.steps.size) (h2 : i < e.steps.size),
        d.steps[i].c1 = e.steps[i].c1 ∧ d.steps[i].c2 = e.steps[i].c2 ∧
        d.steps[i].size = e.steps[i].size ∧ |d.steps[i].d - e.steps[i].d| ≤ ε := by
  unfold Dendrogram.eqWithEpsilon len
  by_cases hl : d.steps.size = e.steps.size
  · rw [if_neg (by rw [hl, bne_self_eq_false]; exact Bool.false_ne_true), List.all_eq_true]
    have hlen : ∀ i, i < (d.steps.toList.zip e.steps.toList).length ↔ i < d.steps.size := by
      intro i
      rw [List.length_zip, Array.length_toList, Array.length_toList, hl, Nat.min_self]
    constructor
    · intro h
      refine ⟨hl, fun i h1 h2 => (C19_eq_step _ _ ε hε).mp (h (d.steps[i], e.steps[i]) ?_)⟩
      have := List.getElem_mem ((hlen i).2 h1)
      rwa [List.getElem_zip] at this
    · intro h p hp
      obtain ⟨i, hi, rfl⟩ := List.mem_iff_getElem.mp hp
      rw [List.getElem_zip]
      exact (C19_eq_step _ _ ε hε).mpr (h.2 i ((hlen i).1 hi) (hl ▸ (hlen i).1 hi))
  · rw [if_pos (bne_iff_ne.2 hl)]
    exact ⟨fun h => absurd h Bool.false_ne_true, fun h => absurd h.1 hl⟩
end

/-! ## Non-vacuity -/

/-- A well-formed dendrogram exists (3 observations: {0,1} then {{0,1},2}); its leaf lists. -/
def exSteps : List (Step Unit) := [⟨0, 1, (), 2⟩, ⟨2, 3, (), 3⟩]

example : Spec.WellFormed 3 exSteps := by decide

example : Spec.leaves 3 exSteps 2 4 = [2, 0, 1] ∧
    (⟨exSteps.toArray, 3⟩ : Dendrogram Unit).clusterSize 4 = .ok 3 ∧
    (⟨exSteps.toArray, 3⟩ : Dendrogram Unit).clusterSize 5 = .error .indexOOB := by decide

/-- The integers are a linearly ordered additive commutative group: `eq_with_epsilon` there. -/
example :
    let d : Dendrogram Int := ⟨#[⟨0, 1, 5, 2⟩], 2⟩
    let e : Dendrogram Int := ⟨#[⟨0, 1, 7, 2⟩], 2⟩
    @Dendrogram.eqWithEpsilon Int (groupNum Int) d e 2 = true ∧
    @Dendrogram.eqWithEpsilon Int (groupNum Int) d e 1 = false ∧
    @Dendrogram.eqWithEpsilon Int (groupNum Int) d d 0 = true := by decide

example (d e : Dendrogram Int) :
    @Dendrogram.eqWithEpsilon Int (groupNum Int) d e 0 = true ↔
      d.len = e.len ∧ ∀ (i : Nat) (h1 : i < d.steps.size) (h2 : i < e.steps.size),
        d.steps[i].c1 = e.steps[i].c1 ∧ d.steps[i].c2 = e.steps[i].c2 ∧
        d.steps[i].size = e.steps[i].size ∧ |d.steps[i].d - e.steps[i].d| ≤ 0 :=
  C19_eq d e 0 (le_refl 0)

/-- Capacity on a concrete run: 3 observations accept 2 pushes (read-only ops and an out-of-range
`set_clusters` interleaved), the third push panics; 1 observation accepts none. -/
example :
    let _ : Num Int := groupNum Int
    let s : Step Int := Step.new 1 0 5 2
    let d := [DOp.push s, .readOnly, .setClusters 7 1 0, .push s].foldl step (Dendrogram.new 3)
    d.len = 2 ∧ d.apply (.push s) = .error .assertFail ∧
    (Dendrogram.new 1 : Dendrogram Int).apply (.push s) = .error .assertFail ∧
    s.c1 = 0 ∧ s.c2 = 1 := by decide

end Kodama
