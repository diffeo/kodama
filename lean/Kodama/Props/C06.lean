/-
C06 — all algorithms agree with each other and with a reference on tie-free inputs.

## Specification level

Proved here, against the label-based specification `Kodama/Spec/Naive.lean` only (no algorithm
model is mentioned), for EVERY method `m`, every `n`, every input array `data` (any length, any
content, NaN included) and every number type `α`:

* `C06_unique_from`  from an arbitrary common state `s`: if `l₁` and `l₂` have the same length, both
                     are greedy runs from `s` (`GreedyFrom m s`) and `l₁` never meets a tie
                     (`TieFreeFrom m s l₁`: at every state of its replay the pair it merges is the
                     STRICT minimum over the live pairs), then `l₁ = l₂`.
* `C06_unique`       if `steps₁`, `steps₂` are both `GreedyValid m n data` and `steps₁` is tie-free,
                     then `steps₁ = steps₂` as lists of `Step α` — labels, sizes and heights.
* `C06_wellFormed`   every `GreedyValid m n data` step list is a well-formed stepwise dendrogram
                     (`Spec.WellFormed n`: `n-1` steps, smaller label first, labels `< n+i`, no label
                     merged twice, recorded size = sum of the sizes of the two members as given by
                     `Spec.sz`).

Number laws used: NONE.  `C06_unique` does not even need asymmetry of `<`: tie-freeness of run 1 says
`D(p₁) < D(p)` for every live pair `p ≠ p₁`, admissibility of run 2's step says `¬ D(p) < D(p₂)`
for every live pair `p`, in particular `p = p₁`; so `p₂ = p₁`, hence the same height
(`post m (D p₁)`), the same size, the same merged state, and induction.  Consequently the theorems
hold verbatim for IEEE `f32`/`f64` (`Num Float`, `Num Float32`) — what floats do not give is the
tie-freeness *hypothesis* being stable under rounding (the margin certificate of the oracle).

This section mentions no algorithm: that one returns a `GreedyValid` list is C03; the two are composed for
`primitive_with` in the section `primitive` below and for the other entry points in `Props/C06Mst.lean`,
`C06Nnchain.lean`, `C06All.lean`.  NOT proved: anything about inputs with ties.
Trusted: nothing beyond the definitions in `Spec/Naive.lean`, `Spec/WellFormed.lean`.
-/
import Kodama.Lemmas.SpecUnique
import Kodama.Lemmas.SpecWellFormed
import Kodama.Lemmas.FieldInstances
import Kodama.Props.C03
import Kodama.Lemmas.ExampleRuns
namespace Kodama
open Spec
variable {α : Type} [Num α]

theorem C06_unique_from (m : Method) (s : NState α) (l₁ l₂ : List (Step α))
    (hlen : l₁.length = l₂.length)
    (h₁ : GreedyFrom m s l₁) (h₂ : GreedyFrom m s l₂) (htf : TieFreeFrom m s l₁) : l₁ = l₂ :=
  greedyFrom_unique s l₁ l₂ hlen h₁ h₂ htf

theorem C06_unique (m : Method) (n : Nat) (data : Array α) (steps₁ steps₂ : List (Step α))
    (h₁ : GreedyValid m n data steps₁) (h₂ : GreedyValid m n data steps₂)
    (htf : TieFreeFrom m (init m n data) steps₁) : steps₁ = steps₂ :=
  h₁.eq_of_tieFree h₂ htf

theorem C06_wellFormed (m : Method) (n : Nat) (data : Array α) (steps : List (Step α))
    (h : GreedyValid m n data steps) : WellFormed n steps :=
  greedyValid_wellFormed h

/-! ### Non-vacuity: a concrete tie-free instance (4 observations, exact toy numbers) -/

section NonVacuity
attribute [local instance] Toy.natNum

/-- Condensed matrix `d01=5 d02=9 d03=7 d12=8 d13=6 d23=1`. -/
private def exData : Array Nat := #[5, 9, 7, 8, 6, 1]

private def exSingle : List (Step Nat) := [⟨2, 3, 1, 2⟩, ⟨0, 1, 5, 2⟩, ⟨4, 5, 6, 4⟩]
private def exComplete : List (Step Nat) := [⟨2, 3, 1, 2⟩, ⟨0, 1, 5, 2⟩, ⟨4, 5, 9, 4⟩]
/-- Average linkage with `Nat` division: `(1·9+1·7)/2 = 8`, `(1·8+1·6)/2 = 7`, `(1·8+1·7)/2 = 7`. -/
private def exAverage : List (Step Nat) := [⟨2, 3, 1, 2⟩, ⟨0, 1, 5, 2⟩, ⟨4, 5, 7, 4⟩]

example : GreedyValid .single 4 exData exSingle ∧
    TieFreeFrom .single (init .single 4 exData) exSingle :=
  ⟨Toy.ex6_single_valid, Toy.ex6_single_tieFree⟩
example : GreedyValid .complete 4 exData exComplete ∧
    TieFreeFrom .complete (init .complete 4 exData) exComplete :=
  ⟨Toy.ex6_complete_valid, Toy.ex6_complete_tieFree⟩
example : GreedyValid .average 4 exData exAverage ∧
    TieFreeFrom .average (init .average 4 exData) exAverage := by decide

/-- The hypotheses of `C06_unique` are satisfiable, and its conclusion then pins down every other
greedy-valid list. -/
example (steps₂ : List (Step Nat)) (h₂ : GreedyValid .single 4 exData steps₂) :
    exSingle = steps₂ :=
  C06_unique .single 4 exData exSingle steps₂ Toy.ex6_single_valid h₂ Toy.ex6_single_tieFree

/-- A greedy-valid list that is NOT tie-free (two pairs at distance 1): uniqueness genuinely needs
the hypothesis — both orders are greedy-valid. -/
example : GreedyValid .single 3 (#[1, 1, 3] : Array Nat) [⟨0, 1, 1, 2⟩, ⟨2, 3, 1, 3⟩] ∧
    GreedyValid .single 3 (#[1, 1, 3] : Array Nat) [⟨0, 2, 1, 2⟩, ⟨1, 3, 1, 3⟩] ∧
    ¬ TieFreeFrom .single (init .single 3 (#[1, 1, 3] : Array Nat)) [⟨0, 1, 1, 2⟩, ⟨2, 3, 1, 3⟩] := by
  decide

example : WellFormed 4 exSingle := C06_wellFormed .single 4 exData exSingle Toy.ex6_single_valid

end NonVacuity

/-! ## EXACT ARITHMETIC: `primitive_with` agrees with every greedy-valid reference on tie-free input

Scope.  Exact arithmetic ONLY: `K` a linearly ordered field whose `Num K` instance computes the field
operations and has no NaN (`ExactLaws K`, `Lemmas/FieldInstances.lean`: `fieldNum K`,
`fieldNumWith K sq`).  IEEE floats are not a field; single / complete over any ordered number type:
`Props/C06Order.lean`; average / weighted under rounding: `Props/C06Rounding.lean`,
`Props/C06RoundingWeighted.lean`.

Entry point: `primitive_with` (model `primitiveWith`), both build modes, every prior state, every
valid matrix `2 ≤ n < 2^31`, `2·len = n(n-1)`, all seven methods.

* `C06_primitive`         hypotheses: `steps₀` is ANY `GreedyValid m n data` step list (e.g. the
      output of an independently written naive clustering) and its run meets no tie
      (`TieFreeFrom m (init m n data) steps₀`).  Conclusion: `primitiveWith` returns normally and
      its steps ARE `steps₀` (labels, sizes and heights).  `C03_primitive_exact` + `C06_unique`.
* `C06_primitive_unique`  the tie-freeness hypothesis placed on the run of `primitiveWith`'s own
      output instead: then every greedy-valid list equals that output.
* `C06_primitive_modes`   consequently, on tie-free input, the returned steps do not depend on the
      build mode or on the prior state/dendrogram (both calls return `steps₀`).
* `C06_primitive_mst_statement`  a definition, nothing asserted: on tie-free input `mstWith` returns the
      reference steps.  As written it lacks the hypothesis "no entry exceeds the `infinity` sentinel"
      that `mst_with` needs; with it the statement is proved: `C06_mst_primitive_agree_exact`
      (`Props/C06Mst.lean`, through `C03_mst_total`: `mstWith`'s output is `GreedyValid .single`).
-/

section primitive
variable {K : Type} [Field K] [LinearOrder K] [IsStrictOrderedRing K] [Num K]

/-- On tie-free input the returned steps are the steps of any greedy-valid dendrogram of the same matrix. -/
theorem C06_primitive (E : ExactLaws K) (chk : Bool) (m : Method) (st : State K)
    (d : Dendrogram K) (data : Array K) (n : Nat) (h2 : 2 ≤ n) (hs : n < 2147483648)
    (hl : 2 * data.size = n * (n - 1)) (steps₀ : List (Step K))
    (h₀ : GreedyValid m n data steps₀) (htf : TieFreeFrom m (init m n data) steps₀) :
    ∃ st' d' M', primitiveWith chk m st d data n = .ok (st', d', M') ∧
      d'.steps.toList = steps₀ :=
  ReturnsGreedy.steps_eq (C03_primitive_exact E chk m st d data n h2 hs hl) h₀ htf

/-- The same with the tie-freeness hypothesis on the run of the returned steps. -/
theorem C06_primitive_unique (E : ExactLaws K) (chk : Bool) (m : Method) (st : State K)
    (d : Dendrogram K) (data : Array K) (n : Nat) (h2 : 2 ≤ n) (hs : n < 2147483648)
    (hl : 2 * data.size = n * (n - 1)) :
    ∃ st' d' M', primitiveWith chk m st d data n = .ok (st', d', M') ∧
      GreedyValid m n data d'.steps.toList ∧
      (TieFreeFrom m (init m n data) d'.steps.toList →
        ∀ steps₂ : List (Step K), GreedyValid m n data steps₂ → steps₂ = d'.steps.toList) :=
  ReturnsGreedy.unique (C03_primitive_exact E chk m st d data n h2 hs hl)

/-- On tie-free input the returned steps depend neither on the build mode nor on the prior state. -/
theorem C06_primitive_modes (E : ExactLaws K) (chk₁ chk₂ : Bool) (m : Method) (st₁ st₂ : State K)
    (d₁ d₂ : Dendrogram K) (data : Array K) (n : Nat) (h2 : 2 ≤ n) (hs : n < 2147483648)
    (hl : 2 * data.size = n * (n - 1)) (steps₀ : List (Step K))
    (h₀ : GreedyValid m n data steps₀) (htf : TieFreeFrom m (init m n data) steps₀) :
    ∃ r₁ r₂, primitiveWith chk₁ m st₁ d₁ data n = .ok r₁ ∧
      primitiveWith chk₂ m st₂ d₂ data n = .ok r₂ ∧
      r₁.2.1.steps.toList = r₂.2.1.steps.toList :=
  ReturnsGreedy.modes (C03_primitive_exact E chk₁ m st₁ d₁ data n h2 hs hl)
    (C03_primitive_exact E chk₂ m st₂ d₂ data n h2 hs hl) h₀ htf

end primitive

/-- Nothing asserted: on tie-free input over an exact number type `mst_with` returns the steps of the
greedy-valid reference.  The statement omits "no entry exceeds the `infinity` sentinel"; with that
hypothesis it is `C06_mst_primitive_agree_exact` (`Props/C06Mst.lean`). -/
def C06_primitive_mst_statement (K : Type) [Field K] [LinearOrder K] [Num K] : Prop :=
  ExactLaws K → ∀ (chk : Bool) (st : State K) (d : Dendrogram K) (data : Array K) (n : Nat),
    2 ≤ n → n < 2147483648 → 2 * data.size = n * (n - 1) →
    ∀ steps₀ : List (Step K), GreedyValid .single n data steps₀ →
      TieFreeFrom .single (init .single n data) steps₀ →
      ∀ st' d' M', mstWith chk st d data n = .ok (st', d', M') → d'.steps.toList = steps₀

/-! ### Non-vacuity over `ℚ` -/

section primitiveExample
@[reducible] private def qNum : Num ℚ := fieldNum ℚ
attribute [local instance] qNum

/-- `d01 = 5, d02 = 2, d12 = 9`. -/
private def exQ : Array ℚ := #[5, 2, 9]
private def exQSteps : List (Step ℚ) := [⟨0, 2, 2, 2⟩, ⟨1, 3, 5, 3⟩]

/-- All hypotheses of `C06_primitive` hold of a concrete rational instance (single linkage), so the
model returns exactly the hand-written reference run. -/
example : ∃ st' d' M',
    primitiveWith true .single State.new (Dendrogram.new 0) exQ 3 = .ok (st', d', M') ∧
    d'.steps.toList = exQSteps :=
  C06_primitive (exactLaws_fieldNum ℚ) true .single _ _ exQ 3 (by decide) (by decide) (by decide)
    exQSteps exQ_single_valid0 exQ_single_tieFree0

end primitiveExample

end Kodama
