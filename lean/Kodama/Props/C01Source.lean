/-
C01 (tie to the source) — fingerprints of the hand-modelled functions this property's theorems are about.

The model of these functions is written by hand and tied to the crate by the bit-exact correspondence
run, which is bounded by the sizes it generates.  `Generated/Bodies.lean` is re-emitted from /repo on
every run with a fingerprint of each function's NORMALISED body (comments, attributes, cfg(test) items
and whitespace removed; parameters and local bindings alpha-renamed; tools/extract_bodies.py); each
theorem below pins the fingerprint of the text the model was written against.  A theorem that no longer
checks names the function that was edited: the model may no longer describe it (for instance on sizes the
correspondence run does not reach), and `check` searches for a failing input.  A fingerprint is proved
by exhibiting its row of the table (`Gen.bodyHash_of_row`); functions that other properties rest on
too are proved once, in `Lemmas/Fingerprint/`.  Written by
tools/mk_source_snapshot.py — by hand, after the model has been brought up to date, never by a check.
-/
import Kodama.Lemmas.Fingerprint.Dendrogram
import Kodama.Lemmas.Fingerprint.Relabel
import Kodama.Lemmas.Fingerprint.Table
namespace Kodama

theorem C01_source_union_LinkageUnionFind_find : Gen.bodyHash "union.rs::LinkageUnionFind::find" = some 648990603828776429 := Gen.bodyHash_of_row (i := 0) rfl
theorem C01_source_union_LinkageUnionFind_union : Gen.bodyHash "union.rs::LinkageUnionFind::union" = some 410758727748425541 := Gen.bodyHash_of_row (i := 1) rfl
theorem C01_source_union_LinkageUnionFind_parent : Gen.bodyHash "union.rs::LinkageUnionFind::parent" = some 335447550651496418 := Gen.bodyHash_of_row (i := 2) rfl
theorem C01_source_union_LinkageUnionFind_relabel : Gen.bodyHash "union.rs::LinkageUnionFind::relabel" = some 644538061833340822 := Fingerprint.union_LinkageUnionFind_relabel
theorem C01_source_dendrogram_Dendrogram_new : Gen.bodyHash "dendrogram.rs::Dendrogram::new" = some 881231569632461823 := Fingerprint.dendrogram_Dendrogram_new
theorem C01_source_dendrogram_Dendrogram_push : Gen.bodyHash "dendrogram.rs::Dendrogram::push" = some 1068277134546096908 := Fingerprint.dendrogram_Dendrogram_push
theorem C01_source_dendrogram_Dendrogram_len : Gen.bodyHash "dendrogram.rs::Dendrogram::len" = some 576102335745201653 := Fingerprint.dendrogram_Dendrogram_len
theorem C01_source_dendrogram_Dendrogram_is_empty : Gen.bodyHash "dendrogram.rs::Dendrogram::is_empty" = some 762393176365876312 := Fingerprint.dendrogram_Dendrogram_is_empty
theorem C01_source_dendrogram_Dendrogram_observations : Gen.bodyHash "dendrogram.rs::Dendrogram::observations" = some 590533105440475782 := Fingerprint.dendrogram_Dendrogram_observations
theorem C01_source_dendrogram_Dendrogram_cluster_size : Gen.bodyHash "dendrogram.rs::Dendrogram::cluster_size" = some 36394306766873447 := Fingerprint.dendrogram_Dendrogram_cluster_size
theorem C01_source_dendrogram_Dendrogram_eq_with_epsilon : Gen.bodyHash "dendrogram.rs::Dendrogram::eq_with_epsilon" = some 380150401863318009 := Fingerprint.dendrogram_Dendrogram_eq_with_epsilon
theorem C01_source_dendrogram_Step_new : Gen.bodyHash "dendrogram.rs::Step::new" = some 890580594722173371 := Fingerprint.dendrogram_Step_new
theorem C01_source_dendrogram_Step_set_clusters : Gen.bodyHash "dendrogram.rs::Step::set_clusters" = some 888573702486550835 := Fingerprint.dendrogram_Step_set_clusters
theorem C01_source_dendrogram_Step_eq_with_epsilon : Gen.bodyHash "dendrogram.rs::Step::eq_with_epsilon" = some 240740203726954700 := Fingerprint.dendrogram_Step_eq_with_epsilon
theorem C01_source_lib_LinkageState_merge : Gen.bodyHash "lib.rs::LinkageState::merge" = some 346032082858665851 := Gen.bodyHash_of_row (i := 55) rfl

end Kodama
