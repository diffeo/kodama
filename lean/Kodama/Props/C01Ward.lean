/-
C01 for WARD linkage through `nnchain_with` / `linkage_with`, for EVERY ordered number type.

Why the clamp.  `nnchain_with` is only correct for REDUCIBLE updates (`d(x, a∪b) ≥ min(d(x,a), d(x,b))`
whenever `d(a,b) ≤ min(d(x,a), d(x,b))`), the hypothesis `ChainReducible α .ward` of `C01_nnchain` /
`C12_nnchain_total` / `C14_nnchain` (`Lemmas/ChainIter.lean`).  The plain quotient
`((sx+sa)·a + (sx+sb)·b − sx·c)/(sa+sb+sx)` is reducible in exact arithmetic only: under floating-point
rounding it can come out BELOW both `a` and `b` although `c ≤ min(a,b)` (the law sampler `kodama-laws`
finds 1 906 violations of `ChainReducible.ge[ward]` in 4.1 million sampled updates), a cluster is then
pushed on the chain twice and a dead cluster is merged, and the result is an INVALID dendrogram (with the
unclamped formula: n = 32, f64, all entries 1.3087321063503623 except three 1–2 ulps off; the last step
returned by `linkage(Method::Ward)` is `(61, 61, size 60)`).

`method::ward` clamps the quotient from below by the smaller argument WHENEVER the
merged distance is not above it
(`least := if a < b then a else b; *b = if !(least < c) && value < least then least else value`,
`Kodama/Generated/Method.lean`, regenerated from `src/method.rs`).  Outside the guard the function is
unchanged; in exact arithmetic the clamp is a no-op for all arguments with a positive size
(`FieldLaws.ward_eq_formula`, `Lemmas/WardExact.lean`).  For the clamped formula the `ge` clause of
`ChainReducible α .ward` follows from `OrderLaws α` ALONE (`Gen.ward_not_lt`, `Lemmas/WardClamp.lean`;
`chainReducible_ward`, `Lemmas/ChainIter.lean`): from `d(a,b) ≤ t ≤ d(x,a), d(x,b)` the guard is true,
and then the result is `least`, or a quotient not below `least`.  No field law, no exact arithmetic,
no assumption on how `+ − × /` round.

Proved here (by instantiating `C01_nnchain` / `C01_linkage`), for every valid matrix
(2 ≤ n < 2^31, 2·len = n(n−1)), both build modes, every prior state:

* `C01_nnchain_ward`  `nnchainWith chk .ward …` returning `(st', d', M')` implies
                      `d'.obs = n ∧ WellFormed n d'.steps`;
* `C01_linkage_ward`  the same through `linkageWith chk .ward` (routed to nnchain by the generated
                      dispatch table).
Ward works on the SQUARED entries (`squareData`, the `x·x` pass at the start of `nnchain_with`) and
takes a final `sqrt` of every height; well-formedness does not depend on the heights
(`wellFormed_sqrtSteps`), so no hypothesis on `sqrt` is needed here.

Hypotheses (explicit; all hold of IEEE f32/f64 as stated):
* `OrderLaws α`   `<` is a strict weak order on the non-NaN values (IEEE `<`: NaN compares false);
* `hsq`           no SQUARED input entry is NaN: `∀ i, ¬ isNaN (data[i] · data[i])` (for floats: no NaN
                  in the input; an infinite or overflowing square is `+∞`, not NaN);
* `WardNoNaN α`   the `nan` clause of `ChainReducible α .ward`: the update of non-NaN values with
                  `d(a,b) ≤ d(x,a), d(x,b)` and positive sizes is not NaN.  For floats: no overflow of
                  the numerator to `∞ − ∞`; it holds on finite inputs whose size-weighted sums stay
                  finite (sampled: `ChainReducible.nan[ward,dom=moderate]`).  Sufficient: the QUOTIENT
                  is not NaN (`wardNoNaN_of_value`) — guard and clamp never create a NaN.
                  It is a hypothesis, not proved for floats.

NOT proved: `WardNoNaN` for `Float`/`Float32`; anything about the VALUES of the heights on floats
(Ward's numerator cancels, no relative rounding bound is claimed).

Also here (`UnclampedWardDefect`): a model-level witness of the DEFECT.  On the toy number type with a
4-bit significand rounding toward zero (`UnclampedDefect.truncNum` of `Props/C01Average.lean`, which
satisfies `OrderLaws`) the unclamped Ward quotient of `a = b = c = 7` with sizes `1, 1, 1` is `6` —
strictly below BOTH arguments although `c ≤ min(a,b)` — while the clamped `Gen.ward` returns `7`.
-/
import Kodama.Props.C01
import Kodama.Props.C01Average
namespace Kodama
open Spec
variable {α : Type} [Num α]

/-- Ward squares its input: the `NoNaNData` hypothesis of the nnchain theorems, in elementary terms. -/
theorem noNaNData_squareData_ward {data : Array α}
    (hsq : ∀ (i : Nat) (h : i < data.size), Num.isNaN (Num.mul data[i] data[i]) = false) :
    NoNaNData (squareData Method.ward data) := by
  intro i h
  have hi : i < data.size := by simpa [squareData, Method.onSquares] using h
  simpa [squareData, Method.onSquares] using hsq i hi

theorem C01_nnchain_ward (L : OrderLaws α) (hn : WardNoNaN α) (chk : Bool)
    (st st' : State α) (d d' : Dendrogram α) (data : Array α) (n : Nat) (M' : Mat α)
    (h2 : 2 ≤ n) (hs : n < 2147483648) (hl : 2 * data.size = n * (n - 1))
    (hsq : ∀ (i : Nat) (h : i < data.size), Num.isNaN (Num.mul data[i] data[i]) = false)
    (h : nnchainWith chk .ward st d data n = .ok (st', d', M')) :
    d'.obs = n ∧ WellFormed n d'.steps.toList :=
  C01_nnchain L chk .ward (chainReducible_ward L hn) st st' d d' data n M' h2 hs hl
    (noNaNData_squareData_ward hsq) h

theorem C01_linkage_ward (L : OrderLaws α) (hn : WardNoNaN α) (chk : Bool)
    (st st' : State α) (d d' : Dendrogram α) (data : Array α) (n : Nat) (M' : Mat α)
    (h2 : 2 ≤ n) (hs : n < 2147483648) (hl : 2 * data.size = n * (n - 1))
    (hsq : ∀ (i : Nat) (h : i < data.size), Num.isNaN (Num.mul data[i] data[i]) = false)
    (h : linkageWith chk .ward st d data n = .ok (st', d', M')) :
    d'.obs = n ∧ WellFormed n d'.steps.toList := by
  rw [linkageWith_nnchain chk .ward .ward (by decide) rfl] at h
  exact C01_nnchain_ward L hn chk st st' d d' data n M' h2 hs hl hsq h

/-! ### Non-vacuity (toy exact number type `Toy.natNum`, a valid 4-point matrix) -/

section NonVacuity
attribute [local instance] Toy.natNum

example : OrderLaws Nat ∧ WardNoNaN Nat ∧
    (∀ (i : Nat) (h : i < (#[5, 2, 9, 7, 4, 1] : Array Nat).size),
      Num.isNaN (Num.mul (#[5, 2, 9, 7, 4, 1] : Array Nat)[i] (#[5, 2, 9, 7, 4, 1] : Array Nat)[i])
        = false) :=
  ⟨Toy.natOrderLaws, wardNoNaN_of_noNaN fun _ => rfl, fun _ _ => rfl⟩

example (st' : State Nat) (d' : Dendrogram Nat) (M' : Mat Nat)
    (h : nnchainWith true .ward State.new (Dendrogram.new 4)
      (#[5, 2, 9, 7, 4, 1] : Array Nat) 4 = .ok (st', d', M')) :
    d'.obs = 4 ∧ WellFormed 4 d'.steps.toList :=
  C01_nnchain_ward Toy.natOrderLaws (wardNoNaN_of_noNaN fun _ => rfl) true _ st' _ d'
    _ 4 M' (by decide) (by decide) (by decide) (fun _ _ => rfl) h

end NonVacuity

/-! ### The defect, at the level of the model

`UnclampedDefect.truncNum` (`Props/C01Average.lean`): natural numbers with a 4-bit significand, every
arithmetic result rounded TOWARD ZERO.  The order is the usual one, so `OrderLaws` holds; what fails is
the algebra — exactly the situation of IEEE floats. -/

namespace UnclampedWardDefect
open UnclampedDefect

attribute [local instance] truncNum

/-- **The unclamped formula is not reducible under rounding.**  `(1+1)·7 + (1+1)·7 = 28`,
`28 − 1·7 = 21` rounds to `20`, `20 / 3 = 6`: the Ward "distance" from `a = b = 7` with merged
distance `c = 7 ≤ min(a, b)` is `6`, strictly below both arguments. -/
theorem unclamped_value_below_both :
    Gen.wardValue (7 : Nat) 7 7 1 1 1 = 6 ∧
      Num.lt (Gen.wardValue (7 : Nat) 7 7 1 1 1) (7 : Nat) = true := by decide

/-- The guarded, clamped `method::ward` returns `7` on the same input … -/
theorem clamped_ward_on_witness : Gen.ward (7 : Nat) 7 7 1 1 1 = 7 := by decide

/-- … leaves the quotient alone OUTSIDE the guard (`c = 9 > min(a,b)`: the function is the
plain quotient there) … -/
theorem clamped_ward_outside_guard :
    Gen.ward (7 : Nat) 7 9 1 1 1 = Gen.wardValue (7 : Nat) 7 9 1 1 1 ∧
      Num.lt (Gen.ward (7 : Nat) 7 9 1 1 1) (7 : Nat) = true := by decide

/-- … and is reducible on this number type altogether (as on every ordered number type). -/
example : ChainReducible Nat .ward :=
  chainReducible_ward truncNum_orderLaws (wardNoNaN_of_noNaN fun _ => rfl)

/-- Hence no theorem "the unclamped quotient is `≥` a common lower bound `t ≥ c` of its arguments"
can follow from `OrderLaws` (plus absence of NaN): `t = 7` is such a bound and not one of the
quotient. -/
theorem unclamped_not_reducible :
    ¬ ∀ (a b c t : Nat) (sa sb sx : Nat), 0 < sa → 0 < sb → 0 < sx → Num.lt t c = false →
        Num.lt a t = false → Num.lt b t = false →
        Num.lt (Gen.wardValue a b c sa sb sx) t = false := by
  intro h
  have := h 7 7 7 7 1 1 1 (by decide) (by decide) (by decide) (by decide) (by decide) (by decide)
  revert this; decide

end UnclampedWardDefect

end Kodama
