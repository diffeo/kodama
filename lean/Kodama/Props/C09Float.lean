/-
C09 / C10 (tie to src/float.rs) — the number operations the crate uses ARE the IEEE operations the model's
`Num Float` / `Num Float32` instances use, and nothing else.

`Generated/FloatImpl.lean` is re-emitted from src/float.rs on every run: the supertraits of `trait Float`
(the only operators generic code may apply to a `T`) and, for `f32` and `f64`, every method of the `impl`
with its body.  The theorems below pin that table to the one the model mirrors:

| Rust (float.rs)                       | model (`Kodama/Num.lean`)                                   |
|---------------------------------------|-------------------------------------------------------------|
| `+ - * /`, `<` (`PartialOrd`), `==`    | `Float(32).add/sub/mul/div`, `<`, `==` (native IEEE)         |
| `v as fN`                              | `Float(32).ofNat`                                           |
| `from_float(0.5 / 0.25)`               | `half`, `quarter` (exact in both widths)                     |
| `fN::INFINITY`, `fN::MAX`              | `infinity`, `maxValue` (bit patterns `0x7FF0…`, `0x7FEF…F`)   |
| `fN::sqrt`, `fN::abs`                  | `Float(32).sqrt`, `.abs`                                    |

* `C09_float_impl`         the fourteen method bodies are exactly these library calls — no literal, no
  epsilon, no clamping, no width mix-up (such as `f32::MAX` in the `f64` impl);
* `C09_float_supertraits`  generic code can use `+ - * /`, comparison and equality on `T`, nothing more.

A change to float.rs makes one of the two `rfl`s fail: the check then searches with the C09/C10/C12
oracles (scaling, monotone maps, finiteness) for an input on which the real crate misbehaves.
-/
import Kodama.Generated.FloatImpl
namespace Kodama

theorem C09_float_impl : Gen.floatImpls = [
    ("f32", "from_usize", "v: usize -> f32", "v as f32"),
    ("f32", "from_float", "v: F -> f32", "v.to_f64() as f32"),
    ("f32", "to_f64", "self -> f64", "self as f64"),
    ("f32", "infinity", " -> f32", "f32::INFINITY"),
    ("f32", "max_value", " -> f32", "f32::MAX"),
    ("f32", "sqrt", "self -> f32", "f32::sqrt(self)"),
    ("f32", "abs", "self -> f32", "f32::abs(self)"),
    ("f64", "from_usize", "v: usize -> f64", "v as f64"),
    ("f64", "from_float", "v: F -> f64", "v.to_f64()"),
    ("f64", "to_f64", "self -> f64", "self"),
    ("f64", "infinity", " -> f64", "f64::INFINITY"),
    ("f64", "max_value", " -> f64", "f64::MAX"),
    ("f64", "sqrt", "self -> f64", "f64::sqrt(self)"),
    ("f64", "abs", "self -> f64", "f64::abs(self)")] := rfl

theorem C09_float_supertraits : Gen.floatSupertraits =
    ["self::private::Sealed", "Copy", "Clone", "PartialEq", "PartialOrd", "Add<Self,Output=Self>",
      "Sub<Self,Output=Self>", "Div<Self,Output=Self>", "Mul<Self,Output=Self>"] := rfl

end Kodama
