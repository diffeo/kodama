/-
C01 for AVERAGE linkage through `nnchain_with` / `linkage_with`, for EVERY ordered number type.

Why the clamp.  `nnchain_with` is only correct for REDUCIBLE updates (`d(x, a∪b) ≥ min(d(x,a), d(x,b))`),
the hypothesis `ChainReducible α .average` of `C01_nnchain` / `C12_nnchain_total` / `C14_nnchain`
(`Lemmas/ChainIter.lean`).  The plain mean `(sa·a + sb·b)/(sa + sb)` is reducible in exact arithmetic
only: under floating-point rounding it can come out one ulp BELOW both arguments, a cluster is then
pushed on the chain twice and a dead cluster is merged, and the result is an INVALID dendrogram (with
the unclamped formula the crate does this at n = 14, f32, near-tied input).

`method::average` clamps the mean from below by the smaller argument
(`least := if a < b then a else b; *b = if mean < least then least else mean`,
`Kodama/Generated/Method.lean`, regenerated from `src/method.rs`).  For the clamped formula the `ge`
clause of `ChainReducible α .average` follows from `OrderLaws α` ALONE (`Gen.average_not_lt`,
`Lemmas/AverageClamp.lean`; `chainReducible_average`, `Lemmas/ChainIter.lean`): no field law, no exact
arithmetic, no assumption on how `+ × /` round.

Proved here (by instantiating `C01_nnchain` / `C01_linkage`), for every valid matrix
(2 ≤ n < 2^31, 2·len = n(n−1)), both build modes, every prior state:

* `C01_nnchain_average`  `nnchainWith chk .average …` returning `(st', d', M')` implies
                         `d'.obs = n ∧ WellFormed n d'.steps`;
* `C01_linkage_average`  the same through `linkageWith chk .average` (routed to nnchain by the generated
                         dispatch table).

Hypotheses (explicit; all hold of IEEE f32/f64 as stated):
* `OrderLaws α`     `<` is a strict weak order on the non-NaN values (IEEE `<`: NaN compares false);
* `NoNaNData data`  no NaN in the input (average does not square the input);
* `AverageNoNaN α`  the `nan` clause of `ChainReducible α .average`: the update of two non-NaN values
                    with positive sizes is not NaN.  For floats: no overflow of `sa·a + sb·b` to
                    `∞ − ∞`; it holds on finite inputs whose size-weighted sums stay finite.  Sufficient:
                    the MEAN is not NaN (`averageNoNaN_of_mean`) — the clamp never creates a NaN.
                    It is a hypothesis, not proved for floats.

NOT proved: `AverageNoNaN` for `Float`/`Float32`.

Also here (`UnclampedDefect`): a model-level witness that the clamp is needed.  On a toy number type with a
4-bit significand rounding toward zero (`UnclampedDefect.truncNum`, which satisfies `OrderLaws`) the unclamped
mean of `7` and `7` with sizes `1`, `2` is `6` — strictly below BOTH arguments — while the clamped
`Gen.average` returns `7`.
-/
import Kodama.Props.C01
import Kodama.Lemmas.OnSquares
namespace Kodama
open Spec
variable {α : Type} [Num α]

theorem squareData_average (data : Array α) :
    squareData (MethodChain.intoMethod .average) data = data :=
  squareData_of_not_onSquares rfl data

theorem C01_nnchain_average (L : OrderLaws α) (hn : AverageNoNaN α) (chk : Bool)
    (st st' : State α) (d d' : Dendrogram α) (data : Array α) (n : Nat) (M' : Mat α)
    (h2 : 2 ≤ n) (hs : n < 2147483648) (hl : 2 * data.size = n * (n - 1))
    (hnan : NoNaNData data)
    (h : nnchainWith chk .average st d data n = .ok (st', d', M')) :
    d'.obs = n ∧ WellFormed n d'.steps.toList :=
  C01_nnchain L chk .average (chainReducible_average L hn) st st' d d' data n M' h2 hs hl
    (by rw [squareData_average]; exact hnan) h

theorem C01_linkage_average (L : OrderLaws α) (hn : AverageNoNaN α) (chk : Bool)
    (st st' : State α) (d d' : Dendrogram α) (data : Array α) (n : Nat) (M' : Mat α)
    (h2 : 2 ≤ n) (hs : n < 2147483648) (hl : 2 * data.size = n * (n - 1))
    (hnan : NoNaNData data)
    (h : linkageWith chk .average st d data n = .ok (st', d', M')) :
    d'.obs = n ∧ WellFormed n d'.steps.toList := by
  rw [linkageWith_nnchain chk .average .average (by decide) rfl] at h
  exact C01_nnchain_average L hn chk st st' d d' data n M' h2 hs hl hnan h

/-! ### Non-vacuity (toy exact number type `Toy.natNum`, a valid 4-point matrix) -/

section NonVacuity
attribute [local instance] Toy.natNum

example : OrderLaws Nat ∧ AverageNoNaN Nat ∧ NoNaNData (#[5, 2, 9, 7, 4, 1] : Array Nat) :=
  ⟨Toy.natOrderLaws, averageNoNaN_of_noNaN fun _ => rfl, fun _ _ => rfl⟩

example (st' : State Nat) (d' : Dendrogram Nat) (M' : Mat Nat)
    (h : nnchainWith true .average State.new (Dendrogram.new 4)
      (#[5, 2, 9, 7, 4, 1] : Array Nat) 4 = .ok (st', d', M')) :
    d'.obs = 4 ∧ WellFormed 4 d'.steps.toList :=
  C01_nnchain_average Toy.natOrderLaws (averageNoNaN_of_noNaN fun _ => rfl) true _ st' _ d'
    _ 4 M' (by decide) (by decide) (by decide) (fun _ _ => rfl) h

end NonVacuity

/-! ### The defect, at the level of the model

`truncNum`: natural numbers with a 4-bit significand, every arithmetic result rounded TOWARD ZERO
to a representable value (`< 16`: exact; `16 … 31`: multiples of 2; `32 … 63`: multiples of 4; …;
three binades are enough here).  The order is the usual one, so `OrderLaws` holds; what fails is the
algebra — exactly the situation of IEEE floats. -/

namespace UnclampedDefect

/-- Round toward zero to a 4-bit significand (three binades above 16 suffice for the witness). -/
def trunc (x : Nat) : Nat :=
  if x < 16 then x else if x < 32 then x / 2 * 2 else if x < 64 then x / 4 * 4 else x / 8 * 8

@[reducible] def truncNum : Num Nat where
  lt a b := decide (a < b)
  beq a b := decide (a = b)
  add a b := trunc (a + b)
  sub a b := trunc (a - b)
  mul a b := trunc (a * b)
  div a b := trunc (a / b)
  ofNat n := trunc n
  half := 0
  quarter := 0
  sqrt a := a
  abs a := a
  maxValue := 1000000
  infinity := 1000000
  isNaN _ := false

theorem truncNum_orderLaws : @OrderLaws Nat truncNum :=
  @orderLaws_of_lt Nat _ truncNum fun _ _ => rfl

attribute [local instance] truncNum

/-- **The unclamped formula is not reducible under rounding.**  `1·7 + 2·7 = 21` rounds to `20`,
`20 / 3 = 6`: the "mean" of `7` and `7` is `6`, strictly below both arguments. -/
theorem unclamped_mean_below_both :
    Gen.averageMean (7 : Nat) 7 1 2 = 6 ∧
      Num.lt (Gen.averageMean (7 : Nat) 7 1 2) (7 : Nat) = true := by decide

/-- The clamped `method::average` returns `7` on the same input … -/
theorem clamped_average_on_witness : Gen.average (7 : Nat) 7 1 2 = 7 := by decide

/-- … and is reducible on this number type altogether (as on every ordered number type). -/
example : ChainReducible Nat .average :=
  chainReducible_average truncNum_orderLaws (averageNoNaN_of_noNaN fun _ => rfl)

/-- Hence no theorem "the unclamped mean is `≥` a common lower bound of its arguments" can follow from
`OrderLaws` (plus absence of NaN): `t = 7` is a lower bound of both arguments and not of the mean. -/
theorem unclamped_not_reducible :
    ¬ ∀ (a b t : Nat) (sa sb : Nat), 0 < sa → 0 < sb → Num.lt a t = false → Num.lt b t = false →
        Num.lt (Gen.averageMean a b sa sb) t = false := by
  intro h
  have := h 7 7 7 1 2 (by decide) (by decide) (by decide) (by decide)
  revert this; decide

end UnclampedDefect

end Kodama
