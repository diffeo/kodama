/-
C06 for `nnchain_with` (and `linkage_with` with complete / average / weighted / Ward): on tie-free
input the nearest-neighbour-chain algorithm returns THE greedy-valid dendrogram, hence agrees with
every greedy-valid reference and with `primitive_with`.

Scope.  EXACT ARITHMETIC ONLY: `K` a linearly ordered field whose `Num K` instance computes the field
operations and has no NaN (`ExactLaws K`: `fieldNum K`, `fieldNumWith K sq`).  IEEE floats are not a
field, and reducibility of the weighted update does not follow from a rounding model (for the clamped
average / Ward updates of the crate it follows from `OrderLaws`, `Lemmas/ChainIter.lean`, but the theorems
of this file are stated against `ExactLaws` all the same); average / weighted under rounding:
`Props/C06Rounding.lean`, `Props/C06RoundingWeighted.lean`; for the other methods the float
claim rests on the bit-exact correspondence run and the greedy-replay oracle.  Entry point
`nnchain_with` (model `nnchainWith`), both build modes, every prior state, every valid matrix
`2 ≤ n < 2^31`, `2·len = n(n−1)`, all five chain methods.

* `C06_nnchain`         `steps₀` ANY `GreedyValid` list whose run meets no tie ⇒ `nnchainWith` returns
                        exactly `steps₀` (labels, sizes, heights).  `C03_nnchain_exact` + `C06_unique`.
* `C06_nnchain_unique`  tie-freeness placed on the run of the returned steps instead.
* `C06_nnchain_agree`   `nnchainWith mc` and `primitiveWith mc.intoMethod` both return, both are
                        greedy-valid, and if the run of either output is tie-free they return the SAME
                        steps (with ties two greedy runs may legitimately differ).
* `C06_nnchain_modes`   on tie-free input the result depends neither on the build mode nor on the
                        prior state.
* `C06_linkage_nnchain` the same through `linkageWith` for complete / average / weighted / Ward.
-/
import Kodama.Props.C03Nnchain
namespace Kodama
open Spec
variable {K : Type} [Field K] [LinearOrder K] [IsStrictOrderedRing K] [Num K]

/-- **C06 for `nnchain_with`, exact arithmetic.**  On tie-free input the returned steps are the steps
of any greedy-valid dendrogram of the same matrix. -/
theorem C06_nnchain (E : ExactLaws K) (chk : Bool) (mc : MethodChain) (st : State K)
    (d : Dendrogram K) (data : Array K) (n : Nat) (h2 : 2 ≤ n) (hs : n < 2147483648)
    (hl : 2 * data.size = n * (n - 1)) (steps₀ : List (Step K))
    (h₀ : GreedyValid mc.intoMethod n data steps₀)
    (htf : TieFreeFrom mc.intoMethod (init mc.intoMethod n data) steps₀) :
    ∃ st' d' M', nnchainWith chk mc st d data n = .ok (st', d', M') ∧
      d'.steps.toList = steps₀ :=
  ReturnsGreedy.steps_eq (C03_nnchain_exact E chk mc st d data n h2 hs hl) h₀ htf

/-- The same with the tie-freeness hypothesis on the run of the returned steps. -/
theorem C06_nnchain_unique (E : ExactLaws K) (chk : Bool) (mc : MethodChain) (st : State K)
    (d : Dendrogram K) (data : Array K) (n : Nat) (h2 : 2 ≤ n) (hs : n < 2147483648)
    (hl : 2 * data.size = n * (n - 1)) :
    ∃ st' d' M', nnchainWith chk mc st d data n = .ok (st', d', M') ∧
      GreedyValid mc.intoMethod n data d'.steps.toList ∧
      (TieFreeFrom mc.intoMethod (init mc.intoMethod n data) d'.steps.toList →
        ∀ steps₂ : List (Step K), GreedyValid mc.intoMethod n data steps₂ →
          steps₂ = d'.steps.toList) :=
  ReturnsGreedy.unique (C03_nnchain_exact E chk mc st d data n h2 hs hl)

/-- **`nnchain_with` and `primitive_with` agree on tie-free input** (exact arithmetic): both return
greedy-valid dendrograms, and when the run of either one meets no tie the two step lists are equal. -/
theorem C06_nnchain_agree (E : ExactLaws K) (chk₁ chk₂ : Bool) (mc : MethodChain)
    (st₁ st₂ : State K) (d₁ d₂ : Dendrogram K) (data : Array K) (n : Nat) (h2 : 2 ≤ n)
    (hs : n < 2147483648) (hl : 2 * data.size = n * (n - 1)) :
    ∃ s₁ e₁ M₁ s₂ e₂ M₂,
      nnchainWith chk₁ mc st₁ d₁ data n = .ok (s₁, e₁, M₁) ∧
      primitiveWith chk₂ mc.intoMethod st₂ d₂ data n = .ok (s₂, e₂, M₂) ∧
      GreedyValid mc.intoMethod n data e₁.steps.toList ∧
      GreedyValid mc.intoMethod n data e₂.steps.toList ∧
      (TieFreeFrom mc.intoMethod (init mc.intoMethod n data) e₁.steps.toList ∨
        TieFreeFrom mc.intoMethod (init mc.intoMethod n data) e₂.steps.toList →
        e₁.steps.toList = e₂.steps.toList) :=
  ReturnsGreedy.agree (C03_nnchain_exact E chk₁ mc st₁ d₁ data n h2 hs hl)
    (C03_primitive_exact E chk₂ mc.intoMethod st₂ d₂ data n h2 hs hl)

/-- On tie-free input the returned steps depend neither on the build mode nor on the prior state. -/
theorem C06_nnchain_modes (E : ExactLaws K) (chk₁ chk₂ : Bool) (mc : MethodChain)
    (st₁ st₂ : State K) (d₁ d₂ : Dendrogram K) (data : Array K) (n : Nat) (h2 : 2 ≤ n)
    (hs : n < 2147483648) (hl : 2 * data.size = n * (n - 1)) (steps₀ : List (Step K))
    (h₀ : GreedyValid mc.intoMethod n data steps₀)
    (htf : TieFreeFrom mc.intoMethod (init mc.intoMethod n data) steps₀) :
    ∃ r₁ r₂, nnchainWith chk₁ mc st₁ d₁ data n = .ok r₁ ∧
      nnchainWith chk₂ mc st₂ d₂ data n = .ok r₂ ∧
      r₁.2.1.steps.toList = r₂.2.1.steps.toList :=
  ReturnsGreedy.modes (C03_nnchain_exact E chk₁ mc st₁ d₁ data n h2 hs hl)
    (C03_nnchain_exact E chk₂ mc st₂ d₂ data n h2 hs hl) h₀ htf

/-- `C06_nnchain` through `linkage_with` (complete / average / weighted / Ward). -/
theorem C06_linkage_nnchain (E : ExactLaws K) (chk : Bool) (mc : MethodChain) (hm : mc ≠ .single)
    (st : State K) (d : Dendrogram K) (data : Array K) (n : Nat) (h2 : 2 ≤ n)
    (hs : n < 2147483648) (hl : 2 * data.size = n * (n - 1)) (steps₀ : List (Step K))
    (h₀ : GreedyValid mc.intoMethod n data steps₀)
    (htf : TieFreeFrom mc.intoMethod (init mc.intoMethod n data) steps₀) :
    ∃ st' d' M', linkageWith chk mc.intoMethod st d data n = .ok (st', d', M') ∧
      d'.steps.toList = steps₀ := by
  rw [linkageWith_eq_nnchainWith chk mc hm]
  exact C06_nnchain E chk mc st d data n h2 hs hl steps₀ h₀ htf

/-! ### Non-vacuity over `ℚ` -/

section Example
@[reducible] private def qNum : Num ℚ := fieldNum ℚ
attribute [local instance] qNum

/-- `d01 = 5, d02 = 2, d12 = 9`, complete linkage: the model returns the hand-written reference. -/
example : ∃ st' d' M',
    nnchainWith true .complete State.new (Dendrogram.new 0) (#[5, 2, 9] : Array ℚ) 3
      = .ok (st', d', M') ∧
    d'.steps.toList = [⟨0, 2, 2, 2⟩, ⟨1, 3, 9, 3⟩] :=
  C06_nnchain (exactLaws_fieldNum ℚ) true .complete _ _ _ 3 (by decide) (by decide) (by decide)
    [⟨0, 2, 2, 2⟩, ⟨1, 3, 9, 3⟩] (by decide) (by decide)

end Example

end Kodama
