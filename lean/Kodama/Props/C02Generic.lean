/-
C02 for `generic_with`, `mst_with` and `linkage_with`: every height of the RETURNED dendrogram is the
documented linkage criterion of the two clusters it merges, computed from the ORIGINAL matrix.

## Scope
EXACT ARITHMETIC ONLY: `K` a linearly ordered field whose `Num K` instance computes the field
operations and has no NaN (`ExactLaws K`).  IEEE floats are not a field (the closed forms of the
update formulas need associativity / distributivity); average and weighted linkage under rounding:
`Props/C02RoundingGeneric.lean` (`generic_with`), `Props/C02Rounding.lean` (`linkage_with`).
Both build modes, every prior state, every valid matrix `2 ≤ n < 2^31`, `2·len = n(n−1)`.

## Statement (same conclusion as `C02_primitive`, `Props/C02Primitive.lean`)
The call returns, and for EVERY returned step `s` with `A`, `B` the observation sets
(`Spec.leaves`) of its two labels in the returned dendrogram, `T₁`, `T₂` their merge trees
(`clusterTree`) and `dm = (Spec.init m n data).D` the base matrix (= the input entries, squared iff
`m.onSquares`: `C02_base_matrix`):
  single   `IsMinOver dm A B s.d`  (attained minimum over the cross pairs)
  complete `IsMaxOver dm A B s.d`
  average  `s.d = avg dm A B`      (mean over the cross pairs)
  weighted `s.d = wdist dm T₁ T₂`  (the tree recursion)
  Ward / centroid / median  `s.d = Num.sqrt` of `wardc dm A B` / `cen dm A B` / `mdist dm T₁ T₂`
  (`Num.sqrt` completely abstract, as in `C02_greedy_heights_closed`).

* `C02_generic`, `C02_generic_of_run`   `genericWith`, all seven methods; hypotheses `BeqExact K`,
                                        `GenericSafe m data` (`Lemmas/ComposeExact.lean`; what they
                                        say and why: header of `Props/C03Generic.lean`).
* `C02_mst`, `C02_mst_of_run`           `mstWith` (single linkage); hypothesis `InfSafe n data`.
* `C02_linkage`, `C02_linkage_of_run`   `linkageWith`, all seven methods; `InfSafe n data` if routed to
                                        mst (single), `BeqExact K ∧ GenericSafe m data` if routed to
                                        generic (centroid, median), nothing otherwise.
The `_of_run` forms take a successful run as a hypothesis instead of asserting that the call returns.
Proof: the returned steps are `Spec.GreedyValid` (`C03_generic_exact`, `C03_mst_total`,
`C03_linkage_exact`) and every greedy-valid dendrogram has these heights
(`C02_greedy_heights_closed`).

NOT proved: anything about floats; `height² = criterion` for the methods on squares (needs
`sqrt v · sqrt v = v`, `0 ≤ criterion`); `GenericSafe` for Ward/centroid/median from a bound on the
input (limitation stated in `Props/C03Generic.lean`).
-/
import Kodama.Props.C03Generic
import Kodama.Props.C02
namespace Kodama
open Spec Crit Finset
variable {K : Type} [Field K] [LinearOrder K] [IsStrictOrderedRing K] [Num K]

theorem C02_generic (E : ExactLaws K) (B : BeqExact K) (chk : Bool) (m : Method) (st : State K)
    (d : Dendrogram K) (data : Array K) (n : Nat) (h2 : 2 ≤ n) (hs : n < 2147483648)
    (hl : 2 * data.size = n * (n - 1)) (S : GenericSafe m data) :
    ∃ st' d' M', genericWith chk m st d data n = .ok (st', d', M') ∧
      ∀ (i : Nat) (s : Step K), d'.steps.toList[i]? = some s →
        let steps := d'.steps.toList
        let dm := (Spec.init m n data).D
        let A := (Spec.leaves n steps steps.length s.c1).toFinset
        let B := (Spec.leaves n steps steps.length s.c2).toFinset
        let T₁ := clusterTree n steps s.c1
        let T₂ := clusterTree n steps s.c2
        match m with
        | .single => IsMinOver dm A B s.d
        | .complete => IsMaxOver dm A B s.d
        | .average => s.d = avg dm A B
        | .weighted => s.d = wdist dm T₁ T₂
        | .ward => s.d = Num.sqrt (wardc dm A B)
        | .centroid => s.d = Num.sqrt (cen dm A B)
        | .median => s.d = Num.sqrt (mdist dm T₁ T₂) := by
  refine exists_ok_imp (C03_generic_exact E B chk m st d data n h2 hs hl S) fun d' hg i s hi => ?_
  have h := C02_greedy_heights_closed E.field m n data d'.steps.toList hg i s hi
  cases m <;> exact h

theorem C02_generic_of_run (E : ExactLaws K) (B : BeqExact K) (chk : Bool) (m : Method)
    (st st' : State K) (d d' : Dendrogram K) (data : Array K) (n : Nat) (M' : Mat K) (h2 : 2 ≤ n)
    (hs : n < 2147483648) (hl : 2 * data.size = n * (n - 1)) (S : GenericSafe m data)
    (hrun : genericWith chk m st d data n = .ok (st', d', M'))
    (i : Nat) (s : Step K) (hi : d'.steps.toList[i]? = some s) :
    let steps := d'.steps.toList
    let dm := (Spec.init m n data).D
    let A := (Spec.leaves n steps steps.length s.c1).toFinset
    let B := (Spec.leaves n steps steps.length s.c2).toFinset
    let T₁ := clusterTree n steps s.c1
    let T₂ := clusterTree n steps s.c2
    match m with
    | .single => IsMinOver dm A B s.d
    | .complete => IsMaxOver dm A B s.d
    | .average => s.d = avg dm A B
    | .weighted => s.d = wdist dm T₁ T₂
    | .ward => s.d = Num.sqrt (wardc dm A B)
    | .centroid => s.d = Num.sqrt (cen dm A B)
    | .median => s.d = Num.sqrt (mdist dm T₁ T₂) := by
  have hg := C03_generic E B chk m st st' d d' M' data n h2 hs hl S hrun
  have h := C02_greedy_heights_closed E.field m n data d'.steps.toList hg i s hi
  cases m <;> exact h

/-- **C02 for `mst_with`** (single linkage), exact arithmetic: every returned height is the attained
minimum of the original matrix over the cross pairs of the two merged clusters. -/
theorem C02_mst (E : ExactLaws K) (chk : Bool) (st : State K) (d : Dendrogram K)
    (data : Array K) (n : Nat) (h2 : 2 ≤ n) (hs : n < 2147483648)
    (hl : 2 * data.size = n * (n - 1)) (hinf : InfSafe n data) :
    ∃ st' d' M', mstWith chk st d data n = .ok (st', d', M') ∧
      ∀ (i : Nat) (s : Step K), d'.steps.toList[i]? = some s →
        let steps := d'.steps.toList
        IsMinOver (Spec.init .single n data).D
          (Spec.leaves n steps steps.length s.c1).toFinset
          (Spec.leaves n steps steps.length s.c2).toFinset s.d :=
  exists_ok_imp (C03_mst_total E.field.orderLaws E.field.ltTrichotomy chk st d data n h2 hs hl
      (E.noNaN_data n data) (infSafe_infTop E hinf))
    fun d' hg i s hi => C02_greedy_heights_closed E.field .single n data d'.steps.toList hg i s hi

theorem C02_mst_of_run (E : ExactLaws K) (chk : Bool) (st st' : State K) (d d' : Dendrogram K)
    (data : Array K) (n : Nat) (M' : Mat K) (h2 : 2 ≤ n) (hs : n < 2147483648)
    (hl : 2 * data.size = n * (n - 1)) (hinf : InfSafe n data)
    (hrun : mstWith chk st d data n = .ok (st', d', M'))
    (i : Nat) (s : Step K) (hi : d'.steps.toList[i]? = some s) :
    let steps := d'.steps.toList
    IsMinOver (Spec.init .single n data).D
      (Spec.leaves n steps steps.length s.c1).toFinset
      (Spec.leaves n steps steps.length s.c2).toFinset s.d :=
  C02_greedy_heights_closed E.field .single n data d'.steps.toList
    (C03_mst E.field.orderLaws E.field.ltTrichotomy chk st st' d d' data n M' h2 hs hl
      (E.noNaN_data n data) (infSafe_infTop E hinf) hrun) i s hi

theorem C02_linkage (E : ExactLaws K) (chk : Bool) (m : Method) (st : State K)
    (d : Dendrogram K) (data : Array K) (n : Nat) (h2 : 2 ≤ n) (hs : n < 2147483648)
    (hl : 2 * data.size = n * (n - 1))
    (hinf : dispatch m = .mst → InfSafe n data)
    (hgen : dispatch m = .generic → BeqExact K ∧ GenericSafe m data) :
    ∃ st' d' M', linkageWith chk m st d data n = .ok (st', d', M') ∧
      ∀ (i : Nat) (s : Step K), d'.steps.toList[i]? = some s →
        let steps := d'.steps.toList
        let dm := (Spec.init m n data).D
        let A := (Spec.leaves n steps steps.length s.c1).toFinset
        let B := (Spec.leaves n steps steps.length s.c2).toFinset
        let T₁ := clusterTree n steps s.c1
        let T₂ := clusterTree n steps s.c2
        match m with
        | .single => IsMinOver dm A B s.d
        | .complete => IsMaxOver dm A B s.d
        | .average => s.d = avg dm A B
        | .weighted => s.d = wdist dm T₁ T₂
        | .ward => s.d = Num.sqrt (wardc dm A B)
        | .centroid => s.d = Num.sqrt (cen dm A B)
        | .median => s.d = Num.sqrt (mdist dm T₁ T₂) := by
  refine exists_ok_imp (C03_linkage_exact E chk m st d data n h2 hs hl hinf hgen)
    fun d' hg i s hi => ?_
  have h := C02_greedy_heights_closed E.field m n data d'.steps.toList hg i s hi
  cases m <;> exact h

theorem C02_linkage_of_run (E : ExactLaws K) (chk : Bool) (m : Method) (st st' : State K)
    (d d' : Dendrogram K) (data : Array K) (n : Nat) (M' : Mat K) (h2 : 2 ≤ n)
    (hs : n < 2147483648) (hl : 2 * data.size = n * (n - 1))
    (hinf : dispatch m = .mst → InfSafe n data)
    (hgen : dispatch m = .generic → BeqExact K ∧ GenericSafe m data)
    (hrun : linkageWith chk m st d data n = .ok (st', d', M'))
    (i : Nat) (s : Step K) (hi : d'.steps.toList[i]? = some s) :
    let steps := d'.steps.toList
    let dm := (Spec.init m n data).D
    let A := (Spec.leaves n steps steps.length s.c1).toFinset
    let B := (Spec.leaves n steps steps.length s.c2).toFinset
    let T₁ := clusterTree n steps s.c1
    let T₂ := clusterTree n steps s.c2
    match m with
    | .single => IsMinOver dm A B s.d
    | .complete => IsMaxOver dm A B s.d
    | .average => s.d = avg dm A B
    | .weighted => s.d = wdist dm T₁ T₂
    | .ward => s.d = Num.sqrt (wardc dm A B)
    | .centroid => s.d = Num.sqrt (cen dm A B)
    | .median => s.d = Num.sqrt (mdist dm T₁ T₂) := by
  have hg := C03_linkage E chk m st st' d d' M' data n h2 hs hl hinf hgen hrun
  have h := C02_greedy_heights_closed E.field m n data d'.steps.toList hg i s hi
  cases m <;> exact h

/-! ### Non-vacuity over `ℚ` (`ratNumMax 1000`) -/

section Example

private theorem ex_lt : ∀ v ∈ (#[1, 9, 4] : Array ℚ).toList,
    v < (@Num.maxValue ℚ (ratNumMax 1000)) := by decide

/-- Average linkage through `generic_with` on `d01=1 d02=9 d12=4`: every returned height is the mean
over the cross pairs of the two merged clusters. -/
example : ∃ st' d' M',
    @genericWith ℚ (ratNumMax 1000) true .average State.new (Dendrogram.new 0) #[1, 9, 4] 3
      = .ok (st', d', M') ∧
    ∀ (i : Nat) (s : Step ℚ), d'.steps.toList[i]? = some s →
      s.d = avg (@Spec.init ℚ (ratNumMax 1000) .average 3 #[1, 9, 4]).D
        (Spec.leaves 3 d'.steps.toList d'.steps.toList.length s.c1).toFinset
        (Spec.leaves 3 d'.steps.toList d'.steps.toList.length s.c2).toFinset :=
  @C02_generic ℚ _ _ _ (ratNumMax 1000) (ratNumMax_exact 1000) (ratNumMax_beq 1000) true .average
    _ _ _ 3 (by decide) (by decide) (by decide)
    (@genericSafe_of_lt_max ℚ _ _ _ (ratNumMax 1000) (ratNumMax_exact 1000) .average rfl _ ex_lt)

/-- Single linkage through `mst_with` on the same matrix: every returned height is the attained
minimum over the cross pairs (sentinel hypothesis: `1, 9, 4 ≤ 1000`). -/
example : ∃ st' d' M',
    @mstWith ℚ (ratNumMax 1000) false State.new (Dendrogram.new 3) #[1, 9, 4] 3
      = .ok (st', d', M') ∧
    ∀ (i : Nat) (s : Step ℚ), d'.steps.toList[i]? = some s →
      IsMinOver (@Spec.init ℚ (ratNumMax 1000) .single 3 #[1, 9, 4]).D
        (Spec.leaves 3 d'.steps.toList d'.steps.toList.length s.c1).toFinset
        (Spec.leaves 3 d'.steps.toList d'.steps.toList.length s.c2).toFinset s.d :=
  @C02_mst ℚ _ _ _ (ratNumMax 1000) (ratNumMax_exact 1000) false _ _ _ 3 (by decide) (by decide)
    (by decide) (forall_lt_pairs (by decide))

/-- Ward through `linkage_with` (routed to `nnchain_with`: no sentinel hypothesis). -/
example : ∃ st' d' M',
    @linkageWith ℚ (fieldNum ℚ) true .ward State.new (Dendrogram.new 0) #[1, 9, 4] 3
      = .ok (st', d', M') ∧
    ∀ (i : Nat) (s : Step ℚ), d'.steps.toList[i]? = some s →
      s.d = @Num.sqrt ℚ (fieldNum ℚ) (wardc (@Spec.init ℚ (fieldNum ℚ) .ward 3 #[1, 9, 4]).D
        (Spec.leaves 3 d'.steps.toList d'.steps.toList.length s.c1).toFinset
        (Spec.leaves 3 d'.steps.toList d'.steps.toList.length s.c2).toFinset) :=
  @C02_linkage ℚ _ _ _ (fieldNum ℚ) (exactLaws_fieldNum ℚ) true .ward _ _ _ 3 (by decide)
    (by decide) (by decide) (fun h => by cases h) (fun h => by cases h)

end Example

end Kodama
