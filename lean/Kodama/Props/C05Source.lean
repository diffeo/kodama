/-
C05 (tie to the source) — fingerprints of the hand-modelled functions this property's theorems are about.

The model of these functions is written by hand and tied to the crate by the bit-exact correspondence
run, which is bounded by the sizes it generates.  `Generated/Bodies.lean` is re-emitted from /repo on
every run with a fingerprint of each function's NORMALISED body (comments, attributes, cfg(test) items
and whitespace removed; parameters and local bindings alpha-renamed; tools/extract_bodies.py); each
theorem below pins the fingerprint of the text the model was written against.  A theorem that no longer
checks names the function that was edited: the model may no longer describe it (for instance on sizes the
correspondence run does not reach), and `check` searches for a failing input.  A fingerprint is proved
by exhibiting its row of the table (`Gen.bodyHash_of_row`); functions that other properties rest on
too are proved once, in `Lemmas/Fingerprint/`.  Written by
tools/mk_source_snapshot.py — by hand, after the model has been brought up to date, never by a check.
-/
import Kodama.Lemmas.Fingerprint.Relabel
namespace Kodama

theorem C05_source_union_LinkageUnionFind_relabel : Gen.bodyHash "union.rs::LinkageUnionFind::relabel" = some 644538061833340822 := Fingerprint.union_LinkageUnionFind_relabel

end Kodama
