/-
C12, second half — "every reported dissimilarity is finite and not NaN, and NON-NEGATIVE when the
inputs are."  (The first half, "returns normally", is in `Props/C12.lean`, `C12Average`, `C12Ward`,
`C12Weighted`, `C12Generic`.)

## Mathematical content
A greedy step merges a pair `(A,B)` of MINIMUM current dissimilarity `c`, so `c ≤ a := d(A,X)` and
`c ≤ b := d(B,X)` for every other cluster `X`; with `0 ≤ c` every Lance–Williams update is `≥ 0`
(`C12_lw_nonneg`: single/complete return one of `a, b`; average/weighted a mean; Ward
`≥ (sa·a+(sx+sb)·b)/(sa+sb+sx)`; centroid `≥ c·(sa²+sa·sb+sb²)/(sa+sb)²`; median `≥ 3c/4`).
The hypothesis "closest pair" is essential for Ward/centroid/median: `{v | 0 ≤ v}` is NOT closed under
their updates (`a = b = 0`, `c = 1`), so this is a theorem about greedy runs, not about the formulas.

## 1, 2. EXACT ARITHMETIC — all seven methods, all five entry points
`K` a linearly ordered field (`[Field K] [LinearOrder K] [IsStrictOrderedRing K]`) whose `Num K`
instance computes the field operations (`FieldLaws K`; for the entry points `ExactLaws K` = that + no
NaN, exactly the hypotheses of the C03 theorems).  `sqrt` is left UNCONSTRAINED by these bundles, so
the result for Ward/centroid/median is stated in two layers (`HeightsNonneg m steps`):
  (a) every height is `Spec.post m v` — `sqrt v` for the methods on squares, `v` otherwise — of a
      table value `0 ≤ v`  (no hypothesis on `sqrt`);
  (b) under `SqrtNonneg K m` (`m.onSquares = true → ∀ v ≥ 0, 0 ≤ Num.sqrt v`; vacuous for the four
      methods that do not square; follows from `MonoSqrt K` and `0 ≤ sqrt 0`: `sqrtNonneg_of_mono`)
      every height is `≥ 0`.
Input hypothesis `InputNonneg m data`: `m.onSquares = false → ∀ v ∈ data, 0 ≤ v`.  For Ward, centroid
and median NOTHING is assumed about the signs of the input: the initial table consists of squares.

Specification level (no algorithm):
* `C12_greedy_table_nonneg`     `Spec.RunGood (0 ≤ ·) m n data`: every table value of every state
                                reached by every greedy run of the specification is `≥ 0`.
* `C12_greedy_heights_nonneg`   `HeightsNonneg m steps` for every `GreedyValid m n data steps`
                                (any `n`, including `n < 2`); `C12_greedy_rawHeights_nonneg` (the
                                squared heights), `C12_greedy_heights_nonneg_plain` (methods that do not
                                square: plain `0 ≤ height`); `C12_lw_nonneg` (the update-formula fact).
Entry points (both build modes, every prior state; hypotheses = those of the C03 theorem used +
`InputNonneg`): the call returns normally, the returned steps are `GreedyValid`, and `HeightsNonneg`:
* `C12_primitive_nonneg`   all 7 methods                         (`C03_primitive_exact`)
* `C12_nnchain_nonneg`     single/complete/average/weighted/Ward (`C03_nnchain_exact`)
* `C12_generic_nonneg`     all 7 methods; extra hypotheses `BeqExact K` and
                           `RunGood (· < max_value)` (sentinel)  (`C03_generic_run_exact`)
* `C12_mst_nonneg`         single; extra hypothesis `InfSafe`    (`C03_mst_total`)
* `C12_linkage_nonneg`     all 7 methods                         (`C03_linkage_run_exact`)
and their run forms `C12_*_nonneg_of_run` ("whatever the call returned …").
"Not NaN" is part of `ExactLaws` (`isNaN` is constantly `false`); "finite" has no content in a field.

## 3. NUMBER TYPES WITHOUT FIELD LAWS (IEEE floats)
### 3a. single / complete: every height IS an input entry (`Lemmas/NonNegEntry.lean`)
No arithmetic happens (`Gen.single a b`, `Gen.complete a b` ∈ `{a, b}`), so whatever holds of every
input entry — finite, not NaN, `≥ 0`, `≤ B` — holds of every height (`C12_heights_transfer`).
* `C12_single_complete_height_is_entry`   SPEC level, ANY `[Num α]`, no law at all: every height of a
      `GreedyValid` single/complete dendrogram is an element of `data`;
      `C12_single_complete_height_equiv_entry`: for `GreedyValidUpTo` (heights recorded up to
      order-equivalence) every height is order-equivalent to an element of `data`.
* Entry points under `OrderLaws α` ONLY (true of IEEE `<` incl. NaN, `±0`, `±∞`; NO `LtTrichotomy`),
  NaN-free input — the call returns and every returned height IS an element of `data`:
      `C12_primitive_single_complete_height_is_entry`   `primitive_with`, single and complete;
      `C12_nnchain_single_complete_height_is_entry`     `nnchain_with`, single and complete;
      `C12_generic_single_complete_height_is_entry`     `generic_with`, single and complete (input in a
                                                        `GoodSet`: not NaN, `< max_value`, `v == v`);
      `C12_linkage_complete_height_is_entry`            `linkage_with(Complete)`.
* `mst_with` / `linkage_with(Single)` under `OrderLaws` only (`C12_mst_height_equiv_entry`,
  `C12_linkage_single_height_equiv_entry`; input NaN-free and not above `T::infinity()`): the call
  returns, no returned height is NaN, and every returned height is ORDER-EQUIVALENT (`¬ <` both ways)
  to an element of `data` — Prim compares `<`-minima, so a recorded `-0.0` may stand for an entry
  `+0.0`; bounds transfer along order-equivalence (`C12_heights_transfer_equiv`: `≥ z`, `≤ B`).
  With `LtTrichotomy α` (no two incomparable distinct values): IS an element
  (`C12_mst_height_is_entry`, `C12_linkage_single_height_is_entry`).
### 3b. average / weighted under the standard model of floating-point arithmetic
`C12_average_rounded_finite_nonneg_{nnchain,linkage,primitive,generic}`,
`C12_weighted_rounded_finite_nonneg_{nnchain,linkage,primitive,generic}`: read off the same runs as
the `C02_*_rounded` theorems (`Lemmas/RoundRuns.lean`; same hypotheses: `Round.Model`, non-negative finite entries in `{0}∪[dlo,dhi]`
resp. `[dlo,dhi]`, `RangeOk`/`RangeOkW`; weighted: reducibility on a domain `ChainGeOn`): every returned
height `h` satisfies `fin h ∧ isNaN h = false ∧ 0 ≤ val h`.
### 3c. median / centroid / Ward under the standard model (`Lemmas/NonNegRound.lean`)
Model `Round.SubModel` = `Round.Model` + the same relative-error law for `−` + `0.25` exact; `u ≤ 1/16`.
* `C12_lw_nonneg_rounded`            ONE update of a closest pair computed with rounding is finite and
      `≥ 0`: the computed subtrahend is at most `¾` of the computed minuend (no catastrophic
      cancellation), arguments finite in `{0}∪[l,h]`, sizes `≤ m`, range bookkeeping `Rng`.
* `C12_greedy_table_nonneg_rounded`  SPEC level: if every table value of every greedy run is finite
      with magnitude `0` or in `[l,h]` (NO over/underflow along the run — a RUN-DEPENDENT hypothesis of
      the kind the `generic_with` theorems take (`Spec.RunGood`); it cannot follow from a rounding model, exact
      centroid/median dissimilarities can be arbitrarily small) then every such value is `≥ 0`.
* `C12_generic_nonneg_rounded`       `generic_with(Median|Centroid|Ward)`: under that hypothesis (+ the
      `generic_with` hypotheses `BeqLe`, `GoodSet`, `LwSymm`, `LBClosed` for Ward) the call returns and
      every returned height is `sqrt v` of a finite `v`, `0 ≤ val v`; with the law
      "`sqrt` maps finite non-negative values to finite non-negative values" every height is finite `≥ 0`.

## 4. Non-vacuity
`ℚ` (`fieldNum ℚ`, `ratNumMax 1000`) for 1 and 2, every method / entry point, incl. Ward/centroid/median
on NEGATIVE entries and on the non-constant 4-point matrix; toy `Nat` for 3a; `downNum` (`ℚ` rounding
every operation down by `999/1000`) for 3b and 3c; exact `ℚ` through `generic_with(Median)` for 3c.

## NOT proved
* That IEEE binary32/64 satisfy `Round.Model` / `Round.SubModel` (trusted textbook fact, as in C02Rounding).
* 3c for the entry points `primitive_with`, `nnchain_with(Ward)`, `linkage_with(Ward)` (only the
  spec-level statement and `generic_with`; `linkage_with(Centroid|Median)` IS `generic_with`), and the
  absence of over/underflow along the run for median/centroid/Ward (hypothesis, see 3c).
* 3a for `nnchain_with`/`primitive_with`/`generic_with` needs a NaN-free input; nothing is claimed for
  inputs containing NaN.

## Trusted
`Spec/Naive.lean` (the specification), the model ↔ Rust correspondence, as for C03.
-/
import Kodama.Lemmas.NonNegSpec
import Kodama.Lemmas.NonNegEntry
import Kodama.Lemmas.NonNegRound
import Kodama.Props.C03GenericRun
import Kodama.Props.C03Mst
import Kodama.Lemmas.RoundRuns
import Kodama.Lemmas.RoundExamples
namespace Kodama
open Spec

section Exact
variable {K : Type} [Field K] [LinearOrder K] [IsStrictOrderedRing K] [Num K]

/-- The input hypothesis: the entries are non-negative — required only for the four methods that do
NOT square their input (single, complete, average, weighted). -/
def InputNonneg (m : Method) (data : Array K) : Prop :=
  m.onSquares = false → ∀ v ∈ data.toList, 0 ≤ v

/-- The only fact about `sqrt` that is used (and only by Ward, centroid, median). -/
def SqrtNonneg (K : Type) [Field K] [LinearOrder K] [Num K] (m : Method) : Prop :=
  m.onSquares = true → ∀ v : K, 0 ≤ v → 0 ≤ Num.sqrt v

/-- Conclusion of the theorems: (a) every height is `post m v` of a table value `v ≥ 0`;
(b) if `sqrt` maps non-negative values to non-negative values, every height is `≥ 0`. -/
def HeightsNonneg (m : Method) (steps : List (Step K)) : Prop :=
  (∀ st ∈ steps, ∃ v : K, 0 ≤ v ∧ st.d = post m v) ∧
  (SqrtNonneg K m → ∀ st ∈ steps, 0 ≤ st.d)

omit [IsStrictOrderedRing K] in
theorem sqrtNonneg_of_not_onSquares (m : Method) (h : m.onSquares = false) : SqrtNonneg K m :=
  fun h' => by rw [h] at h'; cases h'

omit [IsStrictOrderedRing K] in
/-- `SqrtNonneg` from the project's `MonoSqrt` and `0 ≤ sqrt 0`. -/
theorem sqrtNonneg_of_mono (F : FieldLaws K) (S : MonoSqrt K) (h0 : (0 : K) ≤ Num.sqrt 0)
    (m : Method) : SqrtNonneg K m := by
  intro _ v hv
  have := S.mono 0 v (F.lt_false.2 hv)
  exact le_trans h0 (F.lt_false.1 this)

omit [IsStrictOrderedRing K] in
theorem heightsNonneg_of_post {m : Method} {steps : List (Step K)}
    (h : ∀ st ∈ steps, ∃ v : K, 0 ≤ v ∧ st.d = post m v) : HeightsNonneg m steps := by
  refine ⟨h, fun hsq st hst => ?_⟩
  obtain ⟨v, hv, e⟩ := h st hst
  rw [e]
  unfold post
  cases hm : m.onSquares with
  | true => simpa using hsq hm v hv
  | false => simpa using hv

/-! ## 1. Specification level -/

/-- The update of a closest pair is non-negative. -/
theorem C12_lw_nonneg (F : FieldLaws K) (m : Method) (a b c : K) (sa sb sx : Nat)
    (hsa : 0 < sa) (hsb : 0 < sb) (hc : 0 ≤ c) (hca : c ≤ a) (hcb : c ≤ b) :
    0 ≤ lw m a b c sa sb sx := by
  have ha0 : 0 ≤ a := le_trans hc hca
  have hb0 : 0 ≤ b := le_trans hc hcb
  have pa : (0 : K) < (sa : K) := Nat.cast_pos.mpr hsa
  have pb : (0 : K) < (sb : K) := Nat.cast_pos.mpr hsb
  have px : (0 : K) ≤ (sx : K) := Nat.cast_nonneg sx
  cases m with
  | single =>
    show 0 ≤ Gen.single a b
    rcases Gen.single_cases a b with e | e <;> rw [e] <;> assumption
  | complete =>
    show 0 ≤ Gen.complete a b
    rcases Gen.complete_cases a b with e | e <;> rw [e] <;> assumption
  | average =>
    show 0 ≤ Gen.average a b sa sb
    rw [F.average_eq_mean a b sa sb (by omega)]
    exact div_nonneg (add_nonneg (mul_nonneg pa.le ha0) (mul_nonneg pb.le hb0)) (add_pos pa pb).le
  | weighted =>
    show 0 ≤ Gen.weighted a b
    simp only [Gen.weighted, F.add, F.mul, F.half]
    exact mul_nonneg one_half_pos.le (add_nonneg ha0 hb0)
  | ward =>
    show 0 ≤ Gen.ward a b c sa sb sx
    rw [F.ward_eq_formula a b c sa sb sx (by omega)]
    -- the subtracted `sx·c` is at most half of the rest of the numerator
    have hP : 0 ≤ ((sx : K) + (sa : K)) * a + ((sx : K) + (sb : K)) * b :=
      add_nonneg (mul_nonneg (add_nonneg px pa.le) ha0) (mul_nonneg (add_nonneg px pb.le) hb0)
    exact div_nonneg (sub_nonneg.2 (le_trans (ward_half px pa.le pb.le ha0 hb0 hca hcb)
      (mul_le_of_le_one_left hP (by norm_num)))) (add_nonneg (add_pos pa pb).le px)
  | centroid =>
    show 0 ≤ Gen.centroid a b c sa sb
    simp only [Gen.centroid, F.add, F.sub, F.mul, F.div, F.ofNat]
    have hs : (0 : K) < (sa : K) + (sb : K) := add_pos pa pb
    -- `sa·sb·c/(sa+sb)² ≤ c/4 ≤ c ≤ (sa·a+sb·b)/(sa+sb)`
    exact sub_nonneg.2 (le_trans ((div_le_iff₀ (mul_pos hs hs)).2 (amgm_quarter hc))
      (le_trans (mul_le_of_le_one_left hc (by norm_num))
        ((le_div_iff₀ hs).2 (mean_ge pa.le pb.le hca hcb))))
  | median =>
    show 0 ≤ Gen.median a b c
    simp only [Gen.median, F.add, F.sub, F.mul, F.half, F.quarter]
    linarith only [hc, hca, hcb]

/-- Every table value of every greedy run is non-negative.  `hin` asks for non-negative input entries only
for the methods that do not square; for the others the initial table consists of squares. -/
theorem C12_greedy_table_nonneg (F : FieldLaws K) (m : Method) (data : Array K) (n : Nat)
    (h2 : 2 ≤ n) (hs : n < 2147483648) (hl : 2 * data.size = n * (n - 1))
    (hin : InputNonneg m data) : RunGood (fun v : K => 0 ≤ v) m n data :=
  runGood_strengthen (G := fun _ => True) (fun _ _ _ _ _ _ _ => trivial)
    (init_TableNonneg F m data n h2 hs hl hin)
    (fun a b c sa sb sx ha hb _ _ _ _ gc hca hcb _ =>
      C12_lw_nonneg F m a b c sa sb sx ha hb gc (F.lt_false.1 hca) (F.lt_false.1 hcb))

/-- Non-negative in the two-layer sense of `HeightsNonneg`. -/
theorem C12_greedy_heights_nonneg (F : FieldLaws K) (m : Method) (data : Array K) (n : Nat)
    (hs : n < 2147483648) (hl : 2 * data.size = n * (n - 1)) (hin : InputNonneg m data)
    (steps : List (Step K)) (hg : GreedyValid m n data steps) : HeightsNonneg m steps := by
  by_cases h2 : 2 ≤ n
  · exact heightsNonneg_of_post
      ((C12_greedy_table_nonneg F m data n h2 hs hl hin).heights hg.2)
  · have : steps = [] := List.eq_nil_of_length_eq_zero (by have := hg.1; omega)
    subst this
    exact heightsNonneg_of_post (fun st hst => by cases hst)

/-- The squared heights (raw table values of the merged pairs) of a greedy-valid dendrogram are
non-negative — for all methods, no `sqrt` involved. -/
theorem C12_greedy_rawHeights_nonneg (F : FieldLaws K) (m : Method) (data : Array K) (n : Nat)
    (h2 : 2 ≤ n) (hs : n < 2147483648) (hl : 2 * data.size = n * (n - 1))
    (hin : InputNonneg m data) (steps : List (Step K)) (hg : GreedyValid m n data steps) :
    ∀ v ∈ rawHeights m (init m n data) steps, 0 ≤ v :=
  (C12_greedy_table_nonneg F m data n h2 hs hl hin).rawHeights hg.2

/-- The methods that do not square: plain `0 ≤ height`. -/
theorem C12_greedy_heights_nonneg_plain (F : FieldLaws K) (m : Method) (hm : m.onSquares = false)
    (data : Array K) (n : Nat) (hs : n < 2147483648) (hl : 2 * data.size = n * (n - 1))
    (hin : ∀ v ∈ data.toList, 0 ≤ v) (steps : List (Step K))
    (hg : GreedyValid m n data steps) : ∀ st ∈ steps, 0 ≤ st.d :=
  (C12_greedy_heights_nonneg F m data n hs hl (fun _ => hin) steps hg).2
    (sqrtNonneg_of_not_onSquares m hm)

/-! ## 2. Entry points -/

theorem C12_primitive_nonneg (E : ExactLaws K) (chk : Bool) (m : Method) (st : State K)
    (d : Dendrogram K) (data : Array K) (n : Nat) (h2 : 2 ≤ n) (hs : n < 2147483648)
    (hl : 2 * data.size = n * (n - 1)) (hin : InputNonneg m data) :
    ∃ st' d' M', primitiveWith chk m st d data n = .ok (st', d', M') ∧
      GreedyValid m n data d'.steps.toList ∧ HeightsNonneg m d'.steps.toList :=
  exists_ok_imp (C03_primitive_exact E chk m st d data n h2 hs hl)
    fun _ hg => ⟨hg, C12_greedy_heights_nonneg E.field m data n hs hl hin _ hg⟩

theorem C12_nnchain_nonneg (E : ExactLaws K) (chk : Bool) (mc : MethodChain) (st : State K)
    (d : Dendrogram K) (data : Array K) (n : Nat) (h2 : 2 ≤ n) (hs : n < 2147483648)
    (hl : 2 * data.size = n * (n - 1)) (hin : InputNonneg mc.intoMethod data) :
    ∃ st' d' M', nnchainWith chk mc st d data n = .ok (st', d', M') ∧
      GreedyValid mc.intoMethod n data d'.steps.toList ∧
      HeightsNonneg mc.intoMethod d'.steps.toList :=
  exists_ok_imp (C03_nnchain_exact E chk mc st d data n h2 hs hl)
    fun _ hg => ⟨hg, C12_greedy_heights_nonneg E.field _ data n hs hl hin _ hg⟩

/-- **`generic_with`, all seven methods** (sentinel hypothesis of `C03_generic_run_exact`: every table
value of every greedy run is below `T::max_value()`). -/
theorem C12_generic_nonneg (E : ExactLaws K) (B : BeqExact K) (chk : Bool) (m : Method)
    (st : State K) (d : Dendrogram K) (data : Array K) (n : Nat) (h2 : 2 ≤ n) (hs : n < 2147483648)
    (hl : 2 * data.size = n * (n - 1))
    (hrun : RunGood (fun v : K => v < (Num.maxValue : K)) m n data) (hin : InputNonneg m data) :
    ∃ st' d' M', genericWith chk m st d data n = .ok (st', d', M') ∧
      GreedyValid m n data d'.steps.toList ∧ HeightsNonneg m d'.steps.toList :=
  exists_ok_imp (C03_generic_run_exact E B chk m st d data n h2 hs hl hrun)
    fun _ hg => ⟨hg, C12_greedy_heights_nonneg E.field m data n hs hl hin _ hg⟩

/-- **`mst_with`** (single linkage; sentinel hypothesis `InfSafe`: no entry exceeds
`T::infinity()`). -/
theorem C12_mst_nonneg (E : ExactLaws K) (chk : Bool) (st : State K) (d : Dendrogram K)
    (data : Array K) (n : Nat) (h2 : 2 ≤ n) (hs : n < 2147483648)
    (hl : 2 * data.size = n * (n - 1)) (hinf : InfSafe n data)
    (hin : ∀ v ∈ data.toList, 0 ≤ v) :
    ∃ st' d' M', mstWith chk st d data n = .ok (st', d', M') ∧
      GreedyValid .single n data d'.steps.toList ∧ ∀ s ∈ d'.steps.toList, 0 ≤ s.d :=
  exists_ok_imp (C03_mst_total E.field.orderLaws E.field.ltTrichotomy chk st d data n h2 hs hl
      (E.noNaN_data n data) (infSafe_infTop E hinf))
    fun _ hg => ⟨hg, C12_greedy_heights_nonneg_plain E.field .single rfl data n hs hl hin _ hg⟩

/-- **`linkage_with`, all seven methods** (hypotheses of `C03_linkage_run_exact`: `InfSafe` when routed
to `mst_with`, `BeqExact ∧ RunGood (· < max_value)` when routed to `generic_with`). -/
theorem C12_linkage_nonneg (E : ExactLaws K) (chk : Bool) (m : Method) (st : State K)
    (d : Dendrogram K) (data : Array K) (n : Nat) (h2 : 2 ≤ n) (hs : n < 2147483648)
    (hl : 2 * data.size = n * (n - 1))
    (hinf : dispatch m = .mst → InfSafe n data)
    (hgen : dispatch m = .generic →
      BeqExact K ∧ RunGood (fun v : K => v < (Num.maxValue : K)) m n data)
    (hin : InputNonneg m data) :
    ∃ st' d' M', linkageWith chk m st d data n = .ok (st', d', M') ∧
      GreedyValid m n data d'.steps.toList ∧ HeightsNonneg m d'.steps.toList :=
  exists_ok_imp (C03_linkage_run_exact E chk m st d data n h2 hs hl hinf hgen)
    fun _ hg => ⟨hg, C12_greedy_heights_nonneg E.field m data n hs hl hin _ hg⟩

/-- Run form: whatever `primitive_with` returned has non-negative heights. -/
theorem C12_primitive_nonneg_of_run (E : ExactLaws K) (chk : Bool) (m : Method) (st st' : State K)
    (d d' : Dendrogram K) (M' : Mat K) (data : Array K) (n : Nat) (h2 : 2 ≤ n)
    (hs : n < 2147483648) (hl : 2 * data.size = n * (n - 1)) (hin : InputNonneg m data)
    (hrun : primitiveWith chk m st d data n = .ok (st', d', M')) :
    HeightsNonneg m d'.steps.toList :=
  (of_exists_ok (C12_primitive_nonneg E chk m st d data n h2 hs hl hin) hrun).2

theorem C12_nnchain_nonneg_of_run (E : ExactLaws K) (chk : Bool) (mc : MethodChain)
    (st st' : State K) (d d' : Dendrogram K) (M' : Mat K) (data : Array K) (n : Nat) (h2 : 2 ≤ n)
    (hs : n < 2147483648) (hl : 2 * data.size = n * (n - 1))
    (hin : InputNonneg mc.intoMethod data)
    (hrun : nnchainWith chk mc st d data n = .ok (st', d', M')) :
    HeightsNonneg mc.intoMethod d'.steps.toList :=
  (of_exists_ok (C12_nnchain_nonneg E chk mc st d data n h2 hs hl hin) hrun).2

theorem C12_generic_nonneg_of_run (E : ExactLaws K) (B : BeqExact K) (chk : Bool) (m : Method)
    (st st' : State K) (d d' : Dendrogram K) (M' : Mat K) (data : Array K) (n : Nat) (h2 : 2 ≤ n)
    (hs : n < 2147483648) (hl : 2 * data.size = n * (n - 1))
    (hrun : RunGood (fun v : K => v < (Num.maxValue : K)) m n data) (hin : InputNonneg m data)
    (hret : genericWith chk m st d data n = .ok (st', d', M')) :
    HeightsNonneg m d'.steps.toList :=
  (of_exists_ok (C12_generic_nonneg E B chk m st d data n h2 hs hl hrun hin) hret).2

theorem C12_mst_nonneg_of_run (E : ExactLaws K) (chk : Bool) (st st' : State K)
    (d d' : Dendrogram K) (M' : Mat K) (data : Array K) (n : Nat) (h2 : 2 ≤ n)
    (hs : n < 2147483648) (hl : 2 * data.size = n * (n - 1)) (hinf : InfSafe n data)
    (hin : ∀ v ∈ data.toList, 0 ≤ v) (hrun : mstWith chk st d data n = .ok (st', d', M')) :
    ∀ s ∈ d'.steps.toList, 0 ≤ s.d :=
  (of_exists_ok (C12_mst_nonneg E chk st d data n h2 hs hl hinf hin) hrun).2

theorem C12_linkage_nonneg_of_run (E : ExactLaws K) (chk : Bool) (m : Method) (st st' : State K)
    (d d' : Dendrogram K) (M' : Mat K) (data : Array K) (n : Nat) (h2 : 2 ≤ n)
    (hs : n < 2147483648) (hl : 2 * data.size = n * (n - 1))
    (hinf : dispatch m = .mst → InfSafe n data)
    (hgen : dispatch m = .generic →
      BeqExact K ∧ RunGood (fun v : K => v < (Num.maxValue : K)) m n data)
    (hin : InputNonneg m data) (hrun : linkageWith chk m st d data n = .ok (st', d', M')) :
    HeightsNonneg m d'.steps.toList :=
  (of_exists_ok (C12_linkage_nonneg E chk m st d data n h2 hs hl hinf hgen hin) hrun).2

end Exact

/-! ## 3. Number types WITHOUT field laws (IEEE floats)

### 3a. Single and complete linkage: every height IS an input entry

`Gen.single a b` / `Gen.complete a b` return one of their arguments, so no arithmetic happens. -/

section Entry
variable {α : Type} [Num α]

/-- **Specification level, ANY number type (no law at all)**: every height of a `GreedyValid`
single- or complete-linkage dendrogram is an element of the input array. -/
theorem C12_single_complete_height_is_entry (m : Method) (hm : m = .single ∨ m = .complete)
    (data : Array α) (n : Nat) (hs : n < 2147483648) (hl : 2 * data.size = n * (n - 1))
    (steps : List (Step α)) (hg : GreedyValid m n data steps) :
    ∀ st ∈ steps, st.d ∈ data.toList :=
  greedyValid_heights_mem m hm data n hs hl steps hg

/-- The same for runs that record heights only up to order-equivalence (`GreedyValidUpTo`): every
height is order-equivalent (`¬ <` both ways) to an element of the input array. -/
theorem C12_single_complete_height_equiv_entry (m : Method) (hm : m = .single ∨ m = .complete)
    (data : Array α) (n : Nat) (hs : n < 2147483648) (hl : 2 * data.size = n * (n - 1))
    (steps : List (Step α)) (hg : GreedyValidUpTo m n data steps) :
    ∀ st ∈ steps, ∃ e ∈ data.toList, Num.lt st.d e = false ∧ Num.lt e st.d = false :=
  greedyValidUpTo_heights_equiv m hm data n hs hl steps hg

omit [Num α] in
/-- Whatever holds of every input entry (finite, not NaN, non-negative, `≤ B`, …) holds of every
height that is an input entry. -/
theorem C12_heights_transfer {P : α → Prop} {data : Array α} {steps : List (Step α)}
    (h : ∀ s ∈ steps, s.d ∈ data.toList) (hP : ∀ v ∈ data.toList, P v) : ∀ s ∈ steps, P s.d :=
  fun s hs => hP _ (h s hs)

/-- Bounds transfer along order-equivalence: if every entry is not NaN, `≥ z` and `≤ B` (in the sense
of `¬ <`), so is every height that is order-equivalent to an entry. -/
theorem C12_heights_transfer_equiv (L : OrderLaws α) {data : Array α} {steps : List (Step α)}
    (h : ∀ s ∈ steps, ∃ e ∈ data.toList, Num.lt s.d e = false ∧ Num.lt e s.d = false)
    (hnan : ∀ v ∈ data.toList, Num.isNaN v = false) (z B : α)
    (hz : ∀ v ∈ data.toList, Num.lt v z = false) (hB : ∀ v ∈ data.toList, Num.lt B v = false) :
    ∀ s ∈ steps, Num.lt s.d z = false ∧ Num.lt B s.d = false := by
  intro s hs
  obtain ⟨e, he, h1, h2⟩ := h s hs
  exact ⟨L.le_trans z e s.d (hnan e he) (hz e he) h1, L.le_trans s.d e B (hnan e he) h2 (hB e he)⟩

/-- **`primitive_with(Single | Complete)`, `OrderLaws` only** (true of IEEE `<`; no trichotomy, so
`±0` may both occur), NaN-free input: returns, and every returned height IS an input entry. -/
theorem C12_primitive_single_complete_height_is_entry (L : OrderLaws α) (chk : Bool) (m : Method)
    (hm : m = .single ∨ m = .complete) (st : State α) (d : Dendrogram α) (data : Array α)
    (n : Nat) (h2 : 2 ≤ n) (hs : n < 2147483648) (hl : 2 * data.size = n * (n - 1))
    (hnan : ∀ v ∈ data.toList, Num.isNaN v = false) :
    ∃ st' d' M', primitiveWith chk m st d data n = .ok (st', d', M') ∧
      ∀ s ∈ d'.steps.toList, s.d ∈ data.toList := by
  have hge {ok : α → Prop} : LwGeOn ok m := by
    rcases hm with rfl | rfl
    · exact lwGeOn_single _
    · exact lwGeOn_complete _
  exact exists_ok_imp (primitiveWith_greedy L chk m
      (onSquares_single_complete hm) hge (lwCompat_memRel data m hm) (fun _ _ v h => hnan v h)
      st d data n h2 hs hl (memRel_init m hm data n hs hl))
    fun _ h => greedySw_memRel_mem h.2

/-- **`nnchain_with(Single | Complete)`, `OrderLaws` only**, NaN-free input. -/
theorem C12_nnchain_single_complete_height_is_entry (L : OrderLaws α) (chk : Bool)
    (mc : MethodChain) (hmc : mc = .single ∨ mc = .complete) (st : State α) (d : Dendrogram α)
    (data : Array α) (n : Nat) (h2 : 2 ≤ n) (hs : n < 2147483648)
    (hl : 2 * data.size = n * (n - 1)) (hnan : ∀ v ∈ data.toList, Num.isNaN v = false) :
    ∃ st' d' M', nnchainWith chk mc st d data n = .ok (st', d', M') ∧
      ∀ s ∈ d'.steps.toList, s.d ∈ data.toList :=
  nnchainWith_single_complete_heights_mem L chk mc hmc st d data n h2 hs hl hnan

/-- **`linkage_with(Complete)`** (routed to `nnchain_with`), `OrderLaws` only, NaN-free input. -/
theorem C12_linkage_complete_height_is_entry (L : OrderLaws α) (chk : Bool) (st : State α)
    (d : Dendrogram α) (data : Array α) (n : Nat) (h2 : 2 ≤ n) (hs : n < 2147483648)
    (hl : 2 * data.size = n * (n - 1)) (hnan : ∀ v ∈ data.toList, Num.isNaN v = false) :
    ∃ st' d' M', linkageWith chk .complete st d data n = .ok (st', d', M') ∧
      ∀ s ∈ d'.steps.toList, s.d ∈ data.toList := by
  have e : linkageWith chk .complete st d data n = nnchainWith chk .complete st d data n :=
    linkageWith_eq_nnchainWith chk .complete (by decide) st d data n
  rw [e]
  exact nnchainWith_single_complete_heights_mem L chk .complete (Or.inr rfl) st d data n h2 hs hl
    hnan

/-- **`generic_with(Single | Complete)`, `OrderLaws` only**, input in a `GoodSet` (not NaN, below
`T::max_value()`, `v == v`). -/
theorem C12_generic_single_complete_height_is_entry {G : α → Prop} (L : OrderLaws α)
    (gs : GoodSet G) (chk : Bool) (m : Method) (hm : m = .single ∨ m = .complete)
    (hmax : Num.isNaN (Num.maxValue : α) = false) (st : State α) (d : Dendrogram α)
    (data : Array α) (n : Nat) (h2 : 2 ≤ n) (hs : n < 2147483648)
    (hl : 2 * data.size = n * (n - 1)) (hin : ∀ v ∈ data.toList, G v) :
    ∃ st' d' M', genericWith chk m st d data n = .ok (st', d', M') ∧
      ∀ s ∈ d'.steps.toList, s.d ∈ data.toList :=
  exists_ok_imp
    (genericWith_single_complete_heights_mem L gs chk m hm hmax st d data n h2 hs hl hin)
    fun _ h s hs' => (h s hs').1

/-- **`mst_with`, `OrderLaws` only** (true of IEEE floats), NaN-free input not above
`T::infinity()`: the call returns, no returned height is NaN, and every returned height is
ORDER-EQUIVALENT to an input entry (it may be `-0.0` where the entry is `+0.0`, nothing else). -/
theorem C12_mst_height_equiv_entry (L : OrderLaws α) (chk : Bool) (st : State α)
    (d : Dendrogram α) (data : Array α) (n : Nat) (h2 : 2 ≤ n) (hs : n < 2147483648)
    (hl : 2 * data.size = n * (n - 1)) (hnan : ∀ v ∈ data.toList, Num.isNaN v = false)
    (hinfn : Num.isNaN (Num.infinity : α) = false)
    (hinf : ∀ v ∈ data.toList, Num.lt (Num.infinity : α) v = false) :
    ∃ st' d' M', mstWith chk st d data n = .ok (st', d', M') ∧
      ∀ s ∈ d'.steps.toList, Num.isNaN s.d = false ∧
        ∃ e ∈ data.toList, Num.lt s.d e = false ∧ Num.lt e s.d = false := by
  have hN := noNaN_of_data data n hl hnan
  have hI := infTop_of_data data n hl hinfn hinf
  obtain ⟨⟨st', d', M'⟩, hr⟩ := C04_mst_total L chk st d data n h2 hs hl hN hI
  refine ⟨st', d', M', hr, fun s hs' => ⟨?_, ?_⟩⟩
  · obtain ⟨st1, dend1, M1, ord, uf, _, hprim, hrel⟩ :=
      mstWith_decompose L chk st st' d d' data n M' h2 hs hl hN hI hr
    obtain ⟨s0, hs0, e⟩ := relabel_heights_mem .single st1.set uf dend1 d' hrel s hs'
    rw [e]; exact hprim.nn hs0
  · exact greedyValidUpTo_heights_equiv .single (Or.inl rfl) data n hs hl _
      (C03_mst_upTo L chk st st' d d' data n M' h2 hs hl hN hI hr) s hs'

/-- The same through `linkage_with(Single)` (routed to `mst_with`). -/
theorem C12_linkage_single_height_equiv_entry (L : OrderLaws α) (chk : Bool) (st : State α)
    (d : Dendrogram α) (data : Array α) (n : Nat) (h2 : 2 ≤ n) (hs : n < 2147483648)
    (hl : 2 * data.size = n * (n - 1)) (hnan : ∀ v ∈ data.toList, Num.isNaN v = false)
    (hinfn : Num.isNaN (Num.infinity : α) = false)
    (hinf : ∀ v ∈ data.toList, Num.lt (Num.infinity : α) v = false) :
    ∃ st' d' M', linkageWith chk .single st d data n = .ok (st', d', M') ∧
      ∀ s ∈ d'.steps.toList, Num.isNaN s.d = false ∧
        ∃ e ∈ data.toList, Num.lt s.d e = false ∧ Num.lt e s.d = false := by
  rw [linkage_single_eq]
  exact C12_mst_height_equiv_entry L chk st d data n h2 hs hl hnan hinfn hinf

/-- **`mst_with` where incomparable values are equal** (`LtTrichotomy`; for floats: inputs on which
`-0.0` does not occur next to `+0.0`): every returned height IS an input entry. -/
theorem C12_mst_height_is_entry (L : OrderLaws α) (T : LtTrichotomy α) (chk : Bool) (st : State α)
    (d : Dendrogram α) (data : Array α) (n : Nat) (h2 : 2 ≤ n) (hs : n < 2147483648)
    (hl : 2 * data.size = n * (n - 1)) (hnan : ∀ v ∈ data.toList, Num.isNaN v = false)
    (hinfn : Num.isNaN (Num.infinity : α) = false)
    (hinf : ∀ v ∈ data.toList, Num.lt (Num.infinity : α) v = false) :
    ∃ st' d' M', mstWith chk st d data n = .ok (st', d', M') ∧
      ∀ s ∈ d'.steps.toList, s.d ∈ data.toList :=
  exists_ok_imp (C03_mst_total L T chk st d data n h2 hs hl
      (noNaN_of_data data n hl hnan) (infTop_of_data data n hl hinfn hinf))
    fun _ hg => greedyValid_heights_mem .single (Or.inl rfl) data n hs hl _ hg

theorem C12_linkage_single_height_is_entry (L : OrderLaws α) (T : LtTrichotomy α) (chk : Bool)
    (st : State α) (d : Dendrogram α) (data : Array α) (n : Nat) (h2 : 2 ≤ n)
    (hs : n < 2147483648) (hl : 2 * data.size = n * (n - 1))
    (hnan : ∀ v ∈ data.toList, Num.isNaN v = false)
    (hinfn : Num.isNaN (Num.infinity : α) = false)
    (hinf : ∀ v ∈ data.toList, Num.lt (Num.infinity : α) v = false) :
    ∃ st' d' M', linkageWith chk .single st d data n = .ok (st', d', M') ∧
      ∀ s ∈ d'.steps.toList, s.d ∈ data.toList := by
  rw [linkage_single_eq]
  exact C12_mst_height_is_entry L T chk st d data n h2 hs hl hnan hinfn hinf

end Entry

/-! ### 3b. Average and weighted linkage under the standard model of floating-point arithmetic

Under the hypotheses of the `C02_*_rounded` theorems (`Props/C02Rounding*.lean`), read off the same runs
(`Lemmas/RoundRuns.lean`): every returned height `h` is finite, not NaN and `0 ≤ val h` — from
`Near u k mean (val h)` with `0 ≤ mean`, `u < 1`: `0 ≤ mean·(1−u)^k ≤ val h`. -/

section Rounded
open Round Crit
variable {K : Type} [Field K] [LinearOrder K] [IsStrictOrderedRing K]
variable {α : Type} [Num α]

theorem C12_average_rounded_finite_nonneg_nnchain (L : OrderLaws α) {val : α → K} {fin : α → Prop}
    {u lo hi : K} {N : Nat} (RM : Round.Model val fin u lo hi N)
    (chk : Bool) (st : State α) (d : Dendrogram α) (data : Array α) (n : Nat)
    (h2 : 2 ≤ n) (hs : n < 2147483648) (hl : 2 * data.size = n * (n - 1))
    {dlo dhi : K} (hdlo : 0 < dlo) (hdle : dlo ≤ dhi)
    (hdata : ∀ (k : Nat) (h : k < data.size), fin data[k] ∧ In0 dlo dhi (val data[k]))
    (Rg : RangeOk u lo hi N n dlo dhi) :
    ∃ st' d' M', nnchainWith chk .average st d data n = .ok (st', d', M') ∧
      ∀ s ∈ d'.steps.toList, fin s.d ∧ Num.isNaN s.d = false ∧ 0 ≤ val s.d :=
  exists_ok_imp (nnchain_average_greedySw L RM chk st d data n h2 hs hl hdlo hdle hdata Rg)
    fun _ h => finite_nonneg_of_avgSw RM (baseOk_valD data n h2 hs hl hdlo hdle hdata) h.1 h.2

theorem C12_average_rounded_finite_nonneg_linkage (L : OrderLaws α) {val : α → K} {fin : α → Prop}
    {u lo hi : K} {N : Nat} (RM : Round.Model val fin u lo hi N)
    (chk : Bool) (st : State α) (d : Dendrogram α) (data : Array α) (n : Nat)
    (h2 : 2 ≤ n) (hs : n < 2147483648) (hl : 2 * data.size = n * (n - 1))
    {dlo dhi : K} (hdlo : 0 < dlo) (hdle : dlo ≤ dhi)
    (hdata : ∀ (k : Nat) (h : k < data.size), fin data[k] ∧ In0 dlo dhi (val data[k]))
    (Rg : RangeOk u lo hi N n dlo dhi) :
    ∃ st' d' M', linkageWith chk .average st d data n = .ok (st', d', M') ∧
      ∀ s ∈ d'.steps.toList, fin s.d ∧ Num.isNaN s.d = false ∧ 0 ≤ val s.d :=
  exists_ok_imp (linkage_average_greedySw L RM chk st d data n h2 hs hl hdlo hdle hdata Rg)
    fun _ h => finite_nonneg_of_avgSw RM (baseOk_valD data n h2 hs hl hdlo hdle hdata) h.1 h.2

theorem C12_average_rounded_finite_nonneg_primitive (L : OrderLaws α) {val : α → K}
    {fin : α → Prop} {u lo hi : K} {N : Nat} (RM : Round.Model val fin u lo hi N)
    (chk : Bool) (st : State α) (d : Dendrogram α) (data : Array α) (n : Nat)
    (h2 : 2 ≤ n) (hs : n < 2147483648) (hl : 2 * data.size = n * (n - 1))
    {dlo dhi : K} (hdlo : 0 < dlo) (hdle : dlo ≤ dhi)
    (hdata : ∀ (k : Nat) (h : k < data.size), fin data[k] ∧ In0 dlo dhi (val data[k]))
    (Rg : RangeOk u lo hi N n dlo dhi) :
    ∃ st' d' M', primitiveWith chk .average st d data n = .ok (st', d', M') ∧
      ∀ s ∈ d'.steps.toList, fin s.d ∧ Num.isNaN s.d = false ∧ 0 ≤ val s.d :=
  exists_ok_imp (primitive_average_greedySw L RM chk st d data n h2 hs hl hdlo hdle hdata Rg)
    fun _ h => finite_nonneg_of_avgSw RM (baseOk_valD data n h2 hs hl hdlo hdle hdata) h.1 h.2

/-- average, `generic_with` (extra hypotheses of `C02_generic_average_rounded`). -/
theorem C12_average_rounded_finite_nonneg_generic (L : OrderLaws α) (hbeq : BeqLe α) {val : α → K}
    {fin : α → Prop} {u lo hi : K} {N : Nat} (RM : Round.Model val fin u lo hi N)
    (hmax : Num.isNaN (Num.maxValue : α) = false) {G : α → Prop} (gs : GoodSet G)
    (chk : Bool) (st : State α) (d : Dendrogram α) (data : Array α) (n : Nat)
    (h2 : 2 ≤ n) (hs : n < 2147483648) (hl : 2 * data.size = n * (n - 1))
    {dlo dhi : K} (hdlo : 0 < dlo) (hdle : dlo ≤ dhi)
    (hdata : ∀ (k : Nat) (h : k < data.size), fin data[k] ∧ In0 dlo dhi (val data[k]))
    (Rg : RangeOk u lo hi N n dlo dhi)
    (hG : ∀ v, fin v → In0 (vlo u n dlo) (vhi u n dhi) (val v) → G v) :
    ∃ st' d' M', genericWith chk .average st d data n = .ok (st', d', M') ∧
      ∀ s ∈ d'.steps.toList, fin s.d ∧ Num.isNaN s.d = false ∧ 0 ≤ val s.d :=
  exists_ok_imp (generic_average_greedySw L RM chk st d data n h2 hs hl hdlo hdle hdata Rg hbeq hmax gs hG)
    fun _ h => finite_nonneg_of_avgSw RM (baseOk_valD data n h2 hs hl hdlo hdle hdata) h.1 h.2

/-- weighted, `nnchain_with` (hypotheses of `C02_nnchain_weighted_rounded`, including reducibility of
the weighted update on a domain, `ChainGeOn ok .weighted`). -/
theorem C12_weighted_rounded_finite_nonneg_nnchain (L : OrderLaws α) {val : α → K}
    {fin : α → Prop} {u lo hi : K} {N : Nat} (RM : Round.Model val fin u lo hi N)
    {ok : α → Prop} (hge : ChainGeOn ok .weighted)
    (chk : Bool) (st : State α) (d : Dendrogram α) (data : Array α) (n : Nat)
    (h2 : 2 ≤ n) (hs : n < 2147483648) (hl : 2 * data.size = n * (n - 1))
    {dlo dhi : K} (hdlo : 0 < dlo)
    (hdata : ∀ (k : Nat) (h : k < data.size),
      fin data[k] ∧ dlo ≤ val data[k] ∧ val data[k] ≤ dhi)
    (Rg : RangeOkW u lo hi n dlo dhi)
    (hok : ∀ v, fin v → dlo * (1 - u) ^ (2 * n) ≤ val v → val v ≤ dhi / (1 - u) ^ (2 * n) → ok v) :
    ∃ st' d' M', nnchainWith chk .weighted st d data n = .ok (st', d', M') ∧
      ∀ s ∈ d'.steps.toList, fin s.d ∧ Num.isNaN s.d = false ∧ 0 ≤ val s.d :=
  exists_ok_imp (nnchain_weighted_greedySw L RM hge chk st d data n h2 hs hl hdlo hdata Rg hok)
    fun _ h => finite_nonneg_of_wgtSw RM (baseOkW_valD data n hs hl hdlo hdata) h.2

theorem C12_weighted_rounded_finite_nonneg_linkage (L : OrderLaws α) {val : α → K}
    {fin : α → Prop} {u lo hi : K} {N : Nat} (RM : Round.Model val fin u lo hi N)
    {ok : α → Prop} (hge : ChainGeOn ok .weighted)
    (chk : Bool) (st : State α) (d : Dendrogram α) (data : Array α) (n : Nat)
    (h2 : 2 ≤ n) (hs : n < 2147483648) (hl : 2 * data.size = n * (n - 1))
    {dlo dhi : K} (hdlo : 0 < dlo)
    (hdata : ∀ (k : Nat) (h : k < data.size),
      fin data[k] ∧ dlo ≤ val data[k] ∧ val data[k] ≤ dhi)
    (Rg : RangeOkW u lo hi n dlo dhi)
    (hok : ∀ v, fin v → dlo * (1 - u) ^ (2 * n) ≤ val v → val v ≤ dhi / (1 - u) ^ (2 * n) → ok v) :
    ∃ st' d' M', linkageWith chk .weighted st d data n = .ok (st', d', M') ∧
      ∀ s ∈ d'.steps.toList, fin s.d ∧ Num.isNaN s.d = false ∧ 0 ≤ val s.d :=
  exists_ok_imp (linkage_weighted_greedySw L RM hge chk st d data n h2 hs hl hdlo hdata Rg hok)
    fun _ h => finite_nonneg_of_wgtSw RM (baseOkW_valD data n hs hl hdlo hdata) h.2

theorem C12_weighted_rounded_finite_nonneg_primitive (L : OrderLaws α) {val : α → K}
    {fin : α → Prop} {u lo hi : K} {N : Nat} (RM : Round.Model val fin u lo hi N)
    {ok : α → Prop} (hge : ChainGeOn ok .weighted)
    (chk : Bool) (st : State α) (d : Dendrogram α) (data : Array α) (n : Nat)
    (h2 : 2 ≤ n) (hs : n < 2147483648) (hl : 2 * data.size = n * (n - 1))
    {dlo dhi : K} (hdlo : 0 < dlo)
    (hdata : ∀ (k : Nat) (h : k < data.size),
      fin data[k] ∧ dlo ≤ val data[k] ∧ val data[k] ≤ dhi)
    (Rg : RangeOkW u lo hi n dlo dhi)
    (hok : ∀ v, fin v → dlo * (1 - u) ^ (2 * n) ≤ val v → val v ≤ dhi / (1 - u) ^ (2 * n) → ok v) :
    ∃ st' d' M', primitiveWith chk .weighted st d data n = .ok (st', d', M') ∧
      ∀ s ∈ d'.steps.toList, fin s.d ∧ Num.isNaN s.d = false ∧ 0 ≤ val s.d :=
  exists_ok_imp (primitive_weighted_greedySw L RM hge chk st d data n h2 hs hl hdlo hdata Rg hok)
    fun _ h => finite_nonneg_of_wgtSw RM (baseOkW_valD data n hs hl hdlo hdata) h.2

/-- weighted, `generic_with` (extra hypotheses of `C02_generic_weighted_rounded`). -/
theorem C12_weighted_rounded_finite_nonneg_generic (L : OrderLaws α) (hbeq : BeqLe α)
    {val : α → K} {fin : α → Prop} {u lo hi : K} {N : Nat} (RM : Round.Model val fin u lo hi N)
    (hmax : Num.isNaN (Num.maxValue : α) = false) {G : α → Prop} (gs : GoodSet G)
    (hge : ChainGeOn G .weighted)
    (chk : Bool) (st : State α) (d : Dendrogram α) (data : Array α) (n : Nat)
    (h2 : 2 ≤ n) (hs : n < 2147483648) (hl : 2 * data.size = n * (n - 1))
    {dlo dhi : K} (hdlo : 0 < dlo)
    (hdata : ∀ (k : Nat) (h : k < data.size),
      fin data[k] ∧ dlo ≤ val data[k] ∧ val data[k] ≤ dhi)
    (Rg : RangeOkW u lo hi n dlo dhi)
    (hG : ∀ v, fin v → dlo * (1 - u) ^ (2 * n) ≤ val v → val v ≤ dhi / (1 - u) ^ (2 * n) → G v) :
    ∃ st' d' M', genericWith chk .weighted st d data n = .ok (st', d', M') ∧
      ∀ s ∈ d'.steps.toList, fin s.d ∧ Num.isNaN s.d = false ∧ 0 ≤ val s.d :=
  exists_ok_imp (generic_weighted_greedySw L RM hge chk st d data n h2 hs hl hdlo hdata Rg hG hbeq hmax gs)
    fun _ h => finite_nonneg_of_wgtSw RM (baseOkW_valD data n hs hl hdlo hdata) h.2

end Rounded

/-! ### 3c. Median, centroid and Ward under the standard model of floating-point arithmetic

The update is `p − q` with the computed `q` at most `¾` of the computed `p` when the merged pair is a
closest pair: no catastrophic cancellation (`Lemmas/NonNegRound.lean`).  Model: `Round.SubModel` =
`Round.Model` + the same relative-error law for `−` + exactness of the constant `0.25`; `u ≤ 1/16`.
What CANNOT be derived from a rounding model is that no value of the run under- or overflows (exact
centroid / median dissimilarities can be arbitrarily small or `0`), so that is the RUN-DEPENDENT
hypothesis `hrun` — the same kind of hypothesis the `generic_with` theorems take
(`Spec.RunGood`), here "every table value of every greedy run is finite with magnitude `0` or in
`[l, h]`".  Conclusion: every such value is `≥ 0`. -/

section RoundedSub
open Round
variable {K : Type} [Field K] [LinearOrder K] [IsStrictOrderedRing K]
variable {α : Type} [Num α] {val : α → K} {fin : α → Prop} {u lo hi Lm Hm : K} {N : Nat}

/-- One update of a closest pair (median / centroid / Ward) computed with rounding is finite and
`≥ 0`. -/
theorem C12_lw_nonneg_rounded (RM : SubModel val fin u lo hi N) (hu16 : u ≤ 1 / 16) (mt : Method)
    (hmt : mt = .median ∨ mt = .centroid ∨ mt = .ward) {a b c : α} {sa sb sx : Nat} {l h m : K}
    (fa : fin a) (fb : fin b) (fc : fin c) (hl : 0 < l) (hlh : l ≤ h)
    (ra : In0 l h (val a)) (rb : In0 l h (val b)) (rc : In0 l h (val c))
    (hca : Num.lt a c = false) (hcb : Num.lt b c = false)
    (hsa : 0 < sa) (hsb : 0 < sb) (hsx : 0 < sx) (hN : sa + sb + sx ≤ N)
    (hm : (sa : K) + (sb : K) + (sx : K) ≤ m)
    (R : Rng u lo hi Lm Hm) (hLm1 : Lm ≤ 1) (hLm2 : Lm * (4 * (m * m)) ≤ l * (1 - u) ^ 4)
    (hHm1 : m * m ≤ Hm) (hHm2 : 2 * (m * m * h) ≤ Hm * (1 - u) ^ 4) :
    fin (Spec.lw mt a b c sa sb sx) ∧ 0 ≤ val (Spec.lw mt a b c sa sb sx) := by
  have h0 := RM.u_nonneg
  have hu := RM.u_lt_one
  have hca' : val c ≤ val a := (RM.toModel.lt_false fa fc).mp hca
  have hcb' : val c ≤ val b := (RM.toModel.lt_false fb fc).mp hcb
  have p41 : (1 - u) ^ 4 ≤ 1 := pow_w_le_one h0 hu 4
  have hh0 : 0 ≤ h := le_trans hl.le hlh
  have habm : (sa : K) + (sb : K) ≤ m := le_trans (le_add_of_nonneg_right (Nat.cast_nonneg sx)) hm
  have hm2 : (2 : K) ≤ m :=
    le_trans (le_of_eq_of_le one_add_one_eq_two.symm
      (add_le_add (Nat.one_le_cast.2 hsa) (Nat.one_le_cast.2 hsb))) habm
  have hmm1 := SubModel.one_le_sq_of_two_le hm2
  -- median and centroid do not need the four spare factors `(1−u)⁴`
  have hLm2' : Lm * (4 * (m * m)) ≤ l := le_trans hLm2 (mul_le_of_le_one_right hl.le p41)
  have hHm2' : 2 * (m * m * h) ≤ Hm :=
    le_trans hHm2 (mul_le_of_le_one_right (le_trans R.Lm_pos.le R.Lm_le) p41)
  rcases hmt with rfl | rfl | rfl
  · refine RM.median_nonneg hu16 fa fb fc hl hlh ra rb rc hca' hcb' R ?_ ?_
    · refine le_trans (mul_le_mul_of_nonneg_left ?_ R.Lm_pos.le) hLm2'
      linarith only [le_trans hm2 (SubModel.le_sq_of_two_le hm2)]
    · refine le_trans (mul_le_mul_of_nonneg_left ?_ zero_le_two) hHm2'
      exact le_mul_of_one_le_left hh0 hmm1
  · exact RM.centroid_nonneg hu16 fa fb fc hl hlh ra rb rc hca' hcb' hsa hsb (by omega)
      habm R hLm1 hLm2' hHm1 hHm2'
  · exact RM.ward_nonneg hu16 fa fb fc hl hlh ra rb rc hca' hcb' hsa hsb hsx hN hm R hLm1 hLm2
      hHm1 hHm2

/-- **Specification level**: if no table value of any greedy run under- or overflows, every table
value of every greedy run is non-negative (`In0 l h x` is `x = 0 ∨ l ≤ x ≤ h`). -/
theorem C12_greedy_table_nonneg_rounded (RM : SubModel val fin u lo hi N) (hu16 : u ≤ 1 / 16)
    (mt : Method) (hmt : mt = .median ∨ mt = .centroid ∨ mt = .ward) {n : Nat} {data : Array α}
    {l h : K} (hl : 0 < l) (hlh : l ≤ h) (hnN : n ≤ N) (R : Rng u lo hi Lm Hm) (hLm1 : Lm ≤ 1)
    (hLm2 : Lm * (4 * ((n : K) * (n : K))) ≤ l * (1 - u) ^ 4)
    (hHm1 : (n : K) * (n : K) ≤ Hm) (hHm2 : 2 * ((n : K) * (n : K) * h) ≤ Hm * (1 - u) ^ 4)
    (h2 : 2 ≤ n) (hs : n < 2147483648) (hlen : 2 * data.size = n * (n - 1))
    (hdata : ∀ x ∈ data.toList, fin x ∧ InRange lo hi (val x * val x))
    (hrun : RunGood (fun v => fin v ∧ InRange l h (val v)) mt n data) :
    RunGood (fun v => fin v ∧ In0 l h (val v)) mt n data := by
  have hsq : mt.onSquares = true := by rcases hmt with rfl | rfl | rfl <;> rfl
  refine runGood_strengthen hrun ?_ ?_
  · -- the initial table consists of computed squares
    have hsqr : TableGood (fun v : α => ∃ e ∈ data.toList, v = Num.mul e e) (init mt n data) :=
      init_TableGood_entries mt data n h2 hs hlen fun v hv => ⟨v, hv, by rw [hsq]; rfl⟩
    intro x hx y hy hxy
    obtain ⟨f, r⟩ := hrun [] trivial x hx y hy hxy
    obtain ⟨e, he, ev⟩ := hsqr x hx y hy hxy
    refine ⟨f, In0.of_inRange r ?_⟩
    show 0 ≤ val ((init mt n data).D x y)
    rw [ev]
    obtain ⟨fe, re⟩ := hdata e he
    obtain ⟨_, δ, hδ, eq⟩ := RM.mul e e fe fe re
    rw [eq]
    exact mul_nonneg (mul_self_nonneg _)
      (le_trans (sub_pos.2 RM.u_lt_one).le (one_sub_le_round hδ))
  · intro a b c sa sb sx hsa hsb hsx hsum ⟨fa, ra⟩ ⟨fb, rb⟩ ⟨fc, rc⟩ hca hcb ⟨_, rg⟩
    have hsumK : (sa : K) + (sb : K) + (sx : K) ≤ (n : K) := by exact_mod_cast hsum
    obtain ⟨f, nn⟩ := C12_lw_nonneg_rounded RM hu16 mt hmt fa fb fc hl hlh ra rb rc hca hcb hsa hsb hsx
      (by omega) hsumK R hLm1 hLm2 hHm1 hHm2
    exact ⟨f, In0.of_inRange rg nn⟩

/-- **`generic_with(Median | Centroid | Ward)` under rounding**: if no table value of any greedy run
under- or overflows (and all lie in a `GoodSet G0`: below `T::max_value()`), the call returns normally
and every returned height is `sqrt v` of a finite `v` with `0 ≤ val v`; with the `sqrt` law `hsqrt`
every returned height is finite and `≥ 0`.  (`hsym`: `+`, `×` commute — `lwSymm_median`,
`lwSymm_centroid`, `lwSymm_ward`; `hlbc` is needed for Ward only.) -/
theorem C12_generic_nonneg_rounded (L : OrderLaws α) (hbeq : BeqLe α) {G0 : α → Prop}
    (gs : GoodSet G0) (RM : SubModel val fin u lo hi N) (hu16 : u ≤ 1 / 16) (chk : Bool)
    (mt : Method) (hmt : mt = .median ∨ mt = .centroid ∨ mt = .ward) {l h : K}
    (hlbc : l1Mode mt = .fix → LBClosed (fun v => G0 v ∧ fin v ∧ In0 l h (val v)) mt)
    (hsym : LwSymm α mt) (hmax : Num.isNaN (Num.maxValue : α) = false)
    (st : State α) (d : Dendrogram α) (data : Array α) (n : Nat) (h2 : 2 ≤ n)
    (hs : n < 2147483648) (hlen : 2 * data.size = n * (n - 1))
    (hl : 0 < l) (hlh : l ≤ h) (hnN : n ≤ N) (R : Rng u lo hi Lm Hm) (hLm1 : Lm ≤ 1)
    (hLm2 : Lm * (4 * ((n : K) * (n : K))) ≤ l * (1 - u) ^ 4)
    (hHm1 : (n : K) * (n : K) ≤ Hm) (hHm2 : 2 * ((n : K) * (n : K) * h) ≤ Hm * (1 - u) ^ 4)
    (hdata : ∀ x ∈ data.toList, fin x ∧ InRange lo hi (val x * val x))
    (hrun : RunGood (fun v => G0 v ∧ fin v ∧ InRange l h (val v)) mt n data) :
    ∃ st' d' M', genericWith chk mt st d data n = .ok (st', d', M') ∧
      (∀ s ∈ d'.steps.toList, ∃ v, fin v ∧ 0 ≤ val v ∧ s.d = Num.sqrt v) ∧
      ((∀ v, fin v → 0 ≤ val v → fin (Num.sqrt v) ∧ 0 ≤ val (Num.sqrt v)) →
        ∀ s ∈ d'.steps.toList, fin s.d ∧ 0 ≤ val s.d) := by
  have hsq : mt.onSquares = true := by rcases hmt with rfl | rfl | rfl <;> rfl
  have hrun1 : RunGood (fun v => fin v ∧ In0 l h (val v)) mt n data :=
    C12_greedy_table_nonneg_rounded RM hu16 mt hmt hl hlh hnN R hLm1 hLm2 hHm1 hHm2 h2 hs hlen hdata
      (hrun.mono (fun _ h => h.2))
  have hrun2 : RunGood (fun v => G0 v ∧ fin v ∧ In0 l h (val v)) mt n data :=
    fun l' hl' x hx y hy hxy =>
      ⟨(hrun l' hl' x hx y hy hxy).1, hrun1 l' hl' x hx y hy hxy⟩
  have gs' : GoodSet (fun v => G0 v ∧ fin v ∧ In0 l h (val v)) :=
    ⟨fun v h => gs.notNaN v h.1, fun v h => gs.ltMax v h.1, fun v h => gs.beqRefl v h.1⟩
  obtain ⟨st', d', M', hr, hh⟩ :=
    genericWith_run_heights L hbeq gs' chk mt hlbc hsym hmax st d data n h2 hs hlen hrun2
  have key : ∀ s ∈ d'.steps.toList, ∃ v, fin v ∧ 0 ≤ val v ∧ s.d = Num.sqrt v := by
    intro s hs'
    obtain ⟨v, ⟨_, fv, rv⟩, e⟩ := hh s hs'
    refine ⟨v, fv, rv.nonneg hl.le, ?_⟩
    rw [e]; unfold post; simp [hsq]
  refine ⟨st', d', M', hr, key, fun hsqrt s hs' => ?_⟩
  obtain ⟨v, fv, v0, e⟩ := key s hs'
  rw [e]; exact hsqrt v fv v0

end RoundedSub

/-! ## 4. Non-vacuity over `ℚ`

`fieldNum ℚ` / `ratNumMax 1000` (= `fieldNum ℚ` with both sentinels `1000`) have `sqrt := id`, so
`SqrtNonneg ℚ m` holds and layer (b) of `HeightsNonneg` gives plain `0 ≤ height`. -/

section Example

theorem sqrtNonneg_fieldNum (m : Method) : @SqrtNonneg ℚ _ _ (fieldNum ℚ) m := fun _ _ hv => hv

theorem sqrtNonneg_ratNumMax (M : ℚ) (m : Method) : @SqrtNonneg ℚ _ _ (ratNumMax M) m :=
  fun _ _ hv => hv

private theorem mem3 {v : ℚ} {a b c : ℚ} (hv : v ∈ (#[a, b, c] : Array ℚ).toList) :
    v = a ∨ v = b ∨ v = c := by simpa using hv

/-- Spec level, every method, the matrix `d01=1 d02=9 d12=4`: every table value of every greedy run is
`≥ 0`. -/
example (m : Method) :
    @RunGood ℚ (fieldNum ℚ) (fun v => 0 ≤ v) m 3 #[1, 9, 4] :=
  @C12_greedy_table_nonneg ℚ _ _ _ (fieldNum ℚ) (fieldNum_laws ℚ) m _ 3 (by decide) (by decide)
    (by decide) (fun _ v hv => by rcases mem3 hv with rfl | rfl | rfl <;> norm_num)

/-- Spec level, Ward / centroid / median on a matrix with NEGATIVE entries (`d01=-1 d02=3 d12=-2`):
no sign hypothesis is needed, the initial table consists of squares. -/
example (m : Method) (hm : m.onSquares = true) :
    @RunGood ℚ (fieldNum ℚ) (fun v => 0 ≤ v) m 3 #[-1, 3, -2] :=
  @C12_greedy_table_nonneg ℚ _ _ _ (fieldNum ℚ) (fieldNum_laws ℚ) m _ 3 (by decide) (by decide)
    (by decide) (fun h => by rw [hm] at h; cases h)

/-- `primitive_with`, every method: returns, greedy-valid, every height `≥ 0`. -/
example (m : Method) : ∃ st' d' M',
    @primitiveWith ℚ (fieldNum ℚ) true m State.new (Dendrogram.new 0) #[1, 9, 4] 3
      = .ok (st', d', M') ∧ ∀ s ∈ d'.steps.toList, 0 ≤ s.d :=
  exists_ok_imp
    (@C12_primitive_nonneg ℚ _ _ _ (fieldNum ℚ) (exactLaws_fieldNum ℚ) true m State.new
      (Dendrogram.new 0) #[1, 9, 4] 3 (by decide) (by decide) (by decide)
      (fun _ v hv => by rcases mem3 hv with rfl | rfl | rfl <;> norm_num))
    fun _ hh => hh.2.2 (sqrtNonneg_fieldNum m)

/-- `nnchain_with`, every chain method. -/
example (mc : MethodChain) : ∃ st' d' M',
    @nnchainWith ℚ (fieldNum ℚ) false mc State.new (Dendrogram.new 0) #[1, 9, 4] 3
      = .ok (st', d', M') ∧ ∀ s ∈ d'.steps.toList, 0 ≤ s.d :=
  exists_ok_imp
    (@C12_nnchain_nonneg ℚ _ _ _ (fieldNum ℚ) (exactLaws_fieldNum ℚ) false mc State.new
      (Dendrogram.new 0) #[1, 9, 4] 3 (by decide) (by decide) (by decide)
      (fun _ v hv => by rcases mem3 hv with rfl | rfl | rfl <;> norm_num))
    fun _ hh => hh.2.2 (sqrtNonneg_fieldNum _)

@[reducible] private def qNumNN : Num ℚ := ratNumMax 1000
attribute [local instance] qNumNN

/-- `generic_with`, Ward / centroid / median on the NON-constant 4-point matrix of
`Props/C03GenericRun.lean` (`runGood_ward4`, `runGood_centroid4`, `runGood_median4`). -/
example : ∃ st' d' M',
    genericWith true .ward State.new (Dendrogram.new 0) (#[1, 3, 2, 4, 5, 7] : Array ℚ) 4
      = .ok (st', d', M') ∧ ∀ s ∈ d'.steps.toList, 0 ≤ s.d :=
  exists_ok_imp
    (C12_generic_nonneg (ratNumMax_exact 1000) (ratNumMax_beq 1000) true .ward State.new
      (Dendrogram.new 0) (#[1, 3, 2, 4, 5, 7] : Array ℚ) 4 (by decide) (by decide) (by decide)
      runGood_ward4 (fun h => by cases h))
    fun _ hh => hh.2.2 (sqrtNonneg_ratNumMax 1000 _)

example : ∃ st' d' M',
    genericWith false .centroid State.new (Dendrogram.new 0) (#[1, 3, 2, 4, 5, 7] : Array ℚ) 4
      = .ok (st', d', M') ∧ ∀ s ∈ d'.steps.toList, 0 ≤ s.d :=
  exists_ok_imp
    (C12_generic_nonneg (ratNumMax_exact 1000) (ratNumMax_beq 1000) false .centroid State.new
      (Dendrogram.new 0) (#[1, 3, 2, 4, 5, 7] : Array ℚ) 4 (by decide) (by decide) (by decide)
      runGood_centroid4 (fun h => by cases h))
    fun _ hh => hh.2.2 (sqrtNonneg_ratNumMax 1000 _)

/-- `linkage_with(Median)` (routed to `generic_with`) on the same matrix. -/
example : ∃ st' d' M',
    linkageWith true .median State.new (Dendrogram.new 0) (#[1, 3, 2, 4, 5, 7] : Array ℚ) 4
      = .ok (st', d', M') ∧ ∀ s ∈ d'.steps.toList, 0 ≤ s.d :=
  exists_ok_imp
    (C12_linkage_nonneg (ratNumMax_exact 1000) true .median State.new
      (Dendrogram.new 0) (#[1, 3, 2, 4, 5, 7] : Array ℚ) 4 (by decide) (by decide) (by decide)
      (fun h => by cases h) (fun _ => ⟨ratNumMax_beq 1000, runGood_median4⟩) (fun h => by cases h))
    fun _ hh => hh.2.2 (sqrtNonneg_ratNumMax 1000 _)

/-- `mst_with` and `linkage_with(Single)` on `d01=1 d02=9 d12=4` (`InfSafe`: entries `≤ 1000`). -/
private theorem infSafe_ex : InfSafe 3 (#[1, 9, 4] : Array ℚ) :=
  forall_lt_pairs (by decide +kernel)

example : ∃ st' d' M',
    mstWith true State.new (Dendrogram.new 0) (#[1, 9, 4] : Array ℚ) 3 = .ok (st', d', M') ∧
      ∀ s ∈ d'.steps.toList, 0 ≤ s.d :=
  exists_ok_imp
    (C12_mst_nonneg (ratNumMax_exact 1000) true State.new (Dendrogram.new 0)
      (#[1, 9, 4] : Array ℚ) 3 (by decide) (by decide) (by decide) infSafe_ex
      (fun v hv => by rcases mem3 hv with rfl | rfl | rfl <;> norm_num))
    fun _ hh => hh.2

example (m : Method) (hm : dispatch m ≠ .generic) : ∃ st' d' M',
    linkageWith true m State.new (Dendrogram.new 0) (#[1, 9, 4] : Array ℚ) 3
      = .ok (st', d', M') ∧ ∀ s ∈ d'.steps.toList, 0 ≤ s.d :=
  exists_ok_imp
    (C12_linkage_nonneg (ratNumMax_exact 1000) true m State.new (Dendrogram.new 0)
      (#[1, 9, 4] : Array ℚ) 3 (by decide) (by decide) (by decide) (fun _ => infSafe_ex)
      (fun h => absurd h hm) (fun _ v hv => by rcases mem3 hv with rfl | rfl | rfl <;> norm_num))
    fun _ hh => hh.2.2 (sqrtNonneg_ratNumMax 1000 _)

end Example

/-! ### Non-vacuity of part 3 -/

section ExampleEntry
attribute [local instance] Toy.natNum

/-- 3a on the toy exact type `Nat` (`OrderLaws` only), 4 observations: `primitive_with` and
`nnchain_with` with single and complete linkage, `mst_with`. -/
example (m : Method) (hm : m = .single ∨ m = .complete) : ∃ st' d' M',
    primitiveWith true m State.new (Dendrogram.new 0) (#[5, 2, 9, 7, 4, 1] : Array Nat) 4
      = .ok (st', d', M') ∧ ∀ s ∈ d'.steps.toList, s.d ∈ [5, 2, 9, 7, 4, 1] :=
  C12_primitive_single_complete_height_is_entry Toy.natOrderLaws true m hm _ _ _ 4 (by decide)
    (by decide) (by decide) (fun _ _ => rfl)

example (mc : MethodChain) (hmc : mc = .single ∨ mc = .complete) : ∃ st' d' M',
    nnchainWith false mc State.new (Dendrogram.new 0) (#[5, 2, 9, 7, 4, 1] : Array Nat) 4
      = .ok (st', d', M') ∧ ∀ s ∈ d'.steps.toList, s.d ∈ [5, 2, 9, 7, 4, 1] :=
  C12_nnchain_single_complete_height_is_entry Toy.natOrderLaws false mc hmc _ _ _ 4 (by decide)
    (by decide) (by decide) (fun _ _ => rfl)

example : ∃ st' d' M',
    mstWith true State.new (Dendrogram.new 0) (#[5, 2, 9, 7, 4, 1] : Array Nat) 4
      = .ok (st', d', M') ∧
      ∀ s ∈ d'.steps.toList, Num.isNaN s.d = false ∧
        ∃ e ∈ [5, 2, 9, 7, 4, 1], Num.lt s.d e = false ∧ Num.lt e s.d = false :=
  C12_mst_height_equiv_entry Toy.natOrderLaws true _ _ _ 4 (by decide) (by decide) (by decide)
    (fun _ _ => rfl) rfl (by decide)

end ExampleEntry

section ExampleRounded
attribute [local instance] downNum

/-- 3b on `downNum` (`ℚ` with every `+ − × /` rounded DOWN by the factor `999/1000`; the clamp of
`method::average` fires there): every height returned by `nnchain_with(Average)` is `≥ 0`. -/
example : ∃ st' d' M',
    nnchainWith true .average State.new (Dendrogram.new 0) (#[1, 9, 4] : Array ℚ) 3
      = .ok (st', d', M') ∧ ∀ s ∈ d'.steps.toList, (0 : ℚ) ≤ s.d :=
  exists_ok_imp (C12_average_rounded_finite_nonneg_nnchain downNum_orderLaws
      downNum_model_ex true State.new (Dendrogram.new 0) #[1, 9, 4] 3 (by decide) (by decide)
      (by decide) (dlo := 1) (dhi := 9) (by norm_num) (by norm_num) example_data_ok rangeOk_ex)
    fun _ h s hs => (h s hs).2.2

end ExampleRounded

section ExampleRoundedSub
open Round

/-- Exact arithmetic satisfies the extended model with `u = 0`. -/
theorem subModel_of_exact {K : Type} [Field K] [LinearOrder K] [IsStrictOrderedRing K] [Num K]
    (E : ExactLaws K) {lo hi : K} {N : Nat} (hlo : 0 < lo) (hlo1 : lo ≤ 1) (hN : (N : K) ≤ hi) :
    Round.SubModel (fun x : K => x) (fun _ => True) 0 lo hi N :=
  { model_of_exact E hlo hlo1 hN with
    sub := fun a b _ _ _ => ⟨trivial, 0, by simp, by simp [E.field.sub]⟩
    quarter := ⟨trivial, E.field.quarter⟩ }

/-- The Boolean form of "below the sentinel, magnitude `0` or in `[1/100, 500]`". -/
private def okB (v : ℚ) : Bool :=
  decide (v < 1000) && (decide (v = 0) || (decide ((1 : ℚ) / 100 ≤ |v|) && decide (|v| ≤ 500)))

private theorem okB_spec {v : ℚ} (h : okB v = true) :
    v < 1000 ∧ True ∧ InRange ((1 : ℚ) / 100) 500 v := by
  unfold okB at h
  simp only [Bool.and_eq_true, Bool.or_eq_true, decide_eq_true_eq] at h
  refine ⟨h.1, trivial, ?_⟩
  rcases h.2 with h0 | hr
  · exact Or.inl h0
  · exact Or.inr hr

section ExactQ
@[reducible] private def qNumSub : Num ℚ := ratNumMax 1000
attribute [local instance] qNumSub

/-- 3c on exact `ℚ` (`u = 0`), MEDIAN through `generic_with` on the non-constant 4-point matrix
`#[1, 3, 2, 4, 5, 7]`: the run-dependent hypothesis is discharged by the exhaustive checker
`Spec.runGoodB`; every returned height is `≥ 0`. -/
example : ∃ st' d' M',
    genericWith true .median State.new (Dendrogram.new 0) (#[1, 3, 2, 4, 5, 7] : Array ℚ) 4
      = .ok (st', d', M') ∧ ∀ s ∈ d'.steps.toList, (0 : ℚ) ≤ s.d := by
  have E := ratNumMax_exact 1000
  have RM : Round.SubModel (fun x : ℚ => x) (fun _ => True) 0 (1 / 10000) 100000 10 :=
    subModel_of_exact E (by norm_num) (by norm_num) (by norm_num)
  have hrun : RunGood (fun v : ℚ => v < 1000 ∧ True ∧ InRange ((1 : ℚ) / 100) 500 v) .median 4
      (#[1, 3, 2, 4, 5, 7] : Array ℚ) :=
    (runGood_of_check okB .median 4 _ 3 (by decide +kernel)).mono (fun _ h => okB_spec h)
  obtain ⟨st', d', M', hr, -, h⟩ := C12_generic_nonneg_rounded (val := fun x : ℚ => x)
    (fin := fun _ => True) (Lm := 1 / 6400) (Hm := 16000) (l := 1 / 100) (h := 500)
    E.field.orderLaws ratNum1000_beqLe ratNum1000_goodSet RM (by norm_num) true .median
    (Or.inl rfl) (fun h => by simp [l1Mode] at h) (E.field.lwSymm .median) (E.noNaN _)
    State.new (Dendrogram.new 0) (#[1, 3, 2, 4, 5, 7] : Array ℚ) 4 (by decide) (by decide)
    (by decide) (by norm_num) (by norm_num) (by decide)
    ⟨by norm_num, by norm_num, by norm_num, by norm_num⟩ (by norm_num) (by norm_num)
    (by norm_num) (by norm_num)
    (fun x hx => by
      have : x = 1 ∨ x = 3 ∨ x = 2 ∨ x = 4 ∨ x = 5 ∨ x = 7 := by simpa using hx
      refine ⟨trivial, Or.inr ?_⟩
      rcases this with rfl | rfl | rfl | rfl | rfl | rfl <;> norm_num)
    hrun
  exact ⟨st', d', M', hr, fun s hs' => (h (fun v _ hv => ⟨trivial, hv⟩) s hs').2⟩

end ExactQ

section RoundDownSub
attribute [local instance] downNum

/-- `downNum` (every `+ − × /` rounded DOWN by `999/1000`) satisfies the extended model with
`u = 1/1000`. -/
theorem downNum_subModel {lo hi : ℚ} {N : Nat} (hlo : 0 < lo) (hlo1 : lo ≤ 1) (hN : (N : ℚ) ≤ hi) :
    Round.SubModel (fun x : ℚ => x) (fun _ => True) (1 / 1000) lo hi N :=
  { downNum_model hlo hlo1 hN with
    sub := fun a b _ _ _ => ⟨trivial, -(1 / 1000), by norm_num [abs_le], by
      show (a - b) * (999 / 1000) = _; ring⟩
    quarter := ⟨trivial, rfl⟩ }

private def okD (v : ℚ) : Bool :=
  decide (v = 0) || (decide ((1 : ℚ) / 100 ≤ |v|) && decide (|v| ≤ 100))

private theorem okD_spec {v : ℚ} (h : okD v = true) : True ∧ InRange ((1 : ℚ) / 100) 100 v := by
  unfold okD at h
  simp only [Bool.and_eq_true, Bool.or_eq_true, decide_eq_true_eq] at h
  exact ⟨trivial, h⟩

/-- 3c on the ROUNDING toy type, specification level, median / centroid / Ward on `d01=1 d02=3
d12=2`: every table value of every greedy run is `≥ 0`. -/
example (mt : Method) (hmt : mt = .median ∨ mt = .centroid ∨ mt = .ward) :
    RunGood (fun v : ℚ => True ∧ In0 ((1 : ℚ) / 100) 100 v) mt 3 (#[1, 3, 2] : Array ℚ) := by
  have hrun : RunGood (fun v : ℚ => True ∧ InRange ((1 : ℚ) / 100) 100 v) mt 3
      (#[1, 3, 2] : Array ℚ) := by
    rcases hmt with rfl | rfl | rfl <;>
      exact (runGood_of_check okD _ 3 _ 2 (by decide +kernel)).mono (fun _ h => okD_spec h)
  exact C12_greedy_table_nonneg_rounded (val := fun x : ℚ => x) (fin := fun _ => True)
    (Lm := 1 / 10000) (Hm := 2000)
    (downNum_subModel (lo := 1 / 100000) (hi := 3000) (N := 10) (by norm_num) (by norm_num)
      (by norm_num)) (by norm_num) mt hmt (by norm_num) (by norm_num) (by decide)
    ⟨by norm_num, by norm_num, by norm_num, by norm_num⟩ (by norm_num) (by norm_num)
    (by norm_num) (by norm_num) (by decide) (by decide) (by decide)
    (fun x hx => by
      have : x = 1 ∨ x = 3 ∨ x = 2 := by simpa using hx
      refine ⟨trivial, Or.inr ?_⟩
      rcases this with rfl | rfl | rfl <;> norm_num)
    hrun

end RoundDownSub

end ExampleRoundedSub

end Kodama
