/-
C07, second half — the OBSERVABLE CONSEQUENCE of the condensed layout.

Property: entry `k` of the input slice is the dissimilarity of the `k`-th pair of
`(0,1),(0,2),…,(0,n-1),(1,2),…,(n-2,n-1)` (= `Spec.pairs n`; the layout itself is `Props/C07.lean`).
Consequence: if exactly one entry is strictly smallest, the first step merges exactly that pair of
observations at exactly that value; under single linkage the second step then joins the clusters
containing the pair of the (unique) second-smallest entry at exactly that entry's value.
Quantifier: every `n`, every slot `k < n(n-1)/2`, every entry point.

Conventions of all statements below.  `data` is the caller's slice, `hl : 2·data.size = n(n-1)`;
slot `k` (`hk : k < data.size`) is the pair `(r, c)` given by `hp : (pairs n)[k]? = some (r, c)`
(so `r < c < n`, `C07_bij`); "unique strictly smallest" is
`hmin : ∀ j < data.size, j ≠ k → Num.lt data[k] data[j] = true`; "unique second-smallest" is slot
`k₂ ≠ k`, pair `(r₂, c₂)`, `hmin₂ : ∀ j < data.size, j ≠ k → j ≠ k₂ → Num.lt data[k₂] data[j] = true`.
`n ≥ 2` (resp. `n ≥ 3`) is IMPLIED by the existence of a slot (two distinct slots) and is therefore
not a hypothesis.  A step is `⟨c1, c2, d, size⟩`; observation labels are `0 … n-1`, the first merge
creates label `n`.  `C07_label n r c x` = label of the cluster containing observation `x` after the
merge of `(r, c)` (`n` if `x ∈ {r, c}`, else `x`); `C07_csize r c x` = its size (2 / 1).
`C07_height m x` = what the specification reports for a merge of two observations with input entry
`x`: `x` for single / complete / average / weighted, `Num.sqrt (Num.mul x x)` for Ward / centroid /
median (the crate squares the entries and takes a root at the end: `Spec.init`, `Spec.post`);
`C07_height_plain`, `C07_height_squares`, `C07_height_eq` (`= x` as soon as `sqrt (x·x) = x`).

## 1. Specification level, first step (every `GreedyValid m n data steps`; no algorithm mentioned)
* `C07_first_step_of_greedy_table`  ANY method, NO number law: if the TABLE value of slot `k`
      (`C07_tab m data[k]`: the entry, squared for the methods on squares) is strictly below the table
      value of every other slot, then `steps = ⟨r, c, C07_height m data[k], 2⟩ :: rest`.
      (No `OrderLaws` needed: `Spec.Admissible` says "no live pair strictly closer", and the pair of
      slot `k` IS strictly closer than any other pair.)
* `C07_first_step_of_greedy`        ANY method, hypothesis on the RAW entries (`hmin`) plus, for the
      methods on squares only, `hsq`: squaring keeps `data[k]` strictly below the other entries.
* `C07_first_step_of_greedy_plain`  single / complete / average / weighted (`m.onSquares = false`):
      only `hmin`, no law; first step `⟨r, c, data[k], 2⟩`.
* `C07_first_step_of_greedy_exact`  all seven methods in exact arithmetic (`FieldLaws K`, strictly
      ordered field): `hmin` and, for the methods on squares, `0 ≤ data[k]` (NEEDED: with a negative
      smallest entry squaring reorders the entries, e.g. `-3 < 1` but `9 > 1`).  `C07_sq_lt_exact`
      discharges `hsq`.  Height `sqrt (data[k]·data[k])`; `= data[k]` by `C07_height_eq` when the
      instance's `sqrt` undoes that square (`sqrt` is otherwise unconstrained in `ExactLaws`).

## 2. Specification level, second step, single linkage
* `C07_second_step_single_of_greedy`  `OrderLaws α` (only `asymm` is used: `Gen.single x d₂` must
      pick `d₂` when `d₂ < x`); every `GreedyValid .single n data steps` is
      `⟨r, c, data[k], 2⟩ :: ⟨min l₁ l₂, max l₁ l₂, data[k₂], C07_csize r c r₂ + C07_csize r c c₂⟩ :: rest`
      with `l₁ = C07_label n r c r₂`, `l₂ = C07_label n r c c₂`.
      `C07_second_size`: that size is 3 if the two pairs share an observation, 2 otherwise;
      `C07_slots_ne`: `(r₂, c₂) ≠ (r, c)`.  No NaN hypothesis: the strict inequalities suffice.
* `C07_first_step_of_greedy_upTo`, `C07_second_step_single_of_greedy_upTo`  the same from the weaker
      `Spec.GreedyValidUpTo` (heights only order-equivalent to the table values): labels and sizes
      exactly as above, heights `C07_equiv` (neither `<` the other) to `data[k]`, `data[k₂]`;
      `C07_equiv_eq`: equality under `LtTrichotomy`.

## 3. Entry points (model functions; both build modes `chk`; every prior state; `n < 2^31`).
All are compositions of 1/2 with the C03 theorem named, under exactly its hypotheses; each says the
call RETURNS `.ok (st', d', M')` and `d'.steps.toList` starts with the step(s) above.
* `mst_with`:      `C07_first_step_mst`, `C07_second_step_mst` (`C03_mst_total`: `OrderLaws`,
                   `LtTrichotomy`, `NoNaN`, `InfTop`);
                   `C07_first_step_mst_upTo`, `C07_second_step_mst_upTo` (`C03_mst_upTo`: `OrderLaws`,
                   `NoNaN`, `InfTop` ONLY — hypotheses true of IEEE floats; heights up to `C07_equiv`,
                   i.e. for floats up to the sign of a zero).
* `linkage_with`:  `C07_first_step_linkage_single`, `C07_second_step_linkage_single`, `…_upTo` (Single →
                   mst); `C07_first_step_linkage` ALL seven methods in EXACT arithmetic
                   (`C07_linkage_greedy_exact`: Single → mst needs `InfTop`; complete / average /
                   weighted / Ward → nnchain, `C03_linkage_nnchain`; centroid / median → generic,
                   `C03_linkage_centroid_median`, needs its good-set hypotheses).
* `primitive_with`: `C07_first_step_primitive` all seven methods, EXACT arithmetic
                   (`C03_primitive_exact`); `C07_first_step_primitive_single`, `…_complete`,
                   `C07_second_step_primitive_single` abstract number type (`OrderLaws`, `LtTrichotomy`,
                   `InitNoNaN`).
* `generic_with`:  `C07_first_step_generic` (any method under the hypotheses of
                   `C03_generic_reducible`: `UpdClosed`, `LBClosed`, `LwSymm`, `Reducible`; for average
                   and Ward, whose updates the crate clamps from below, `Reducible` / `LBClosed` follow
                   from `OrderLaws` — `reducible_average`, `reducible_ward`, `lbClosed_average`,
                   `lbClosed_ward`; for weighted they stay hypotheses), `C07_first_step_generic_unsorted`
                   (centroid, median; `C03_generic_unsorted`), `C07_first_step_generic_single`,
                   `C07_second_step_generic_single` (`C03_generic_single`).
* `nnchain_with`:  `C07_first_step_nnchain` all five methods, EXACT arithmetic (`C03_nnchain_exact`);
                   `C07_first_step_nnchain_single`, `C07_second_step_nnchain_single` abstract number
                   type with `OrderLaws`, `LtTrichotomy`, no NaN at all (`C03_nnchain_single_laws`).

## 4. Non-vacuity: `example`s at the end (toy numbers `Nat`, and `ℚ` for Ward).

## NOT proved
* Anything about IEEE rounding for the methods on squares: `hsq` ("squaring keeps the smallest entry
  strictly smallest") is FALSE for floats when squares underflow / overflow / round to the same value
  (`1e-200 < 2e-200`, both squares are `0`), and `sqrt (x·x) = x` can fail by an ulp or by
  over/underflow; there the statement is an exact-arithmetic one and the height is stated as
  `sqrt (data[k]·data[k])`.
* For average / weighted / Ward through `nnchain_with` / `primitive_with` the corollaries here are stated in
  exact arithmetic only (`C03_nnchain_exact`, `C03_primitive_exact`); none is stated from
  `C03_primitive_reducible` or from the rounding theorems of `Props/C03Rounding.lean`.  The first step itself
  does not depend on reducibility, but there is no direct proof from the first loop iteration of each
  algorithm that bypasses `GreedyValid` of the whole run and the stable sort.
* With `LtTrichotomy` (false for floats: `±0`) the heights are EQUAL to the entries; without it only
  the `_upTo` forms (mst / linkage-single) are proved.
Trusted: `Spec/Naive.lean`, `Spec/Pairs.lean`, the model ↔ Rust correspondence, as for C03.
-/
import Kodama.Props.C03
import Kodama.Props.C03Mst
import Kodama.Props.C03Nnchain
import Kodama.Props.C04
import Kodama.Props.C07
import Kodama.Lemmas.MstPrimEntry
import Kodama.Lemmas.SpecUnique
namespace Kodama
open Spec
variable {α : Type} [Num α]

/-- What the specification's initial table holds for an input entry `x`: `x·x` for the methods
that work on squares (Ward, centroid, median), `x` itself otherwise (`Spec.init`). -/
def C07_tab (m : Method) (x : α) : α := if m.onSquares then Num.mul x x else x

/-- The height the specification reports for a merge of two observations whose input entry is
`x`: `sqrt (x·x)` for the methods on squares, `x` otherwise (`Spec.post ∘ C07_tab`). -/
def C07_height (m : Method) (x : α) : α := post m (C07_tab m x)

theorem C07_height_plain {m : Method} (hm : m.onSquares = false) (x : α) : C07_height m x = x := by
  simp [C07_height, C07_tab, post, hm]

theorem C07_height_squares {m : Method} (hm : m.onSquares = true) (x : α) :
    C07_height m x = Num.sqrt (Num.mul x x) := by
  simp [C07_height, C07_tab, post, hm]

/-- If `sqrt` undoes the squaring of `x` (a hypothesis on the number type at that one value; true in
exact arithmetic with a real square root when `0 ≤ x`), the reported height is `x` itself. -/
theorem C07_height_eq {m : Method} (x : α)
    (hs : m.onSquares = true → Num.sqrt (Num.mul x x) = x) : C07_height m x = x := by
  cases hm : m.onSquares
  · exact C07_height_plain hm x
  · rw [C07_height_squares hm, hs hm]

omit [Num α] in
/-- The table entry of two distinct observations is the slot of their ordered pair. -/
theorem C07_entry_slot (n : Nat) (data : Array α) (hl : 2 * data.size = n * (n - 1)) (dflt : α)
    (u v : Nat) (hu : u < n) (hv : v < n) (huv : u ≠ v) :
    ∃ j, ∃ hj : j < data.size, (pairs n)[j]? = some (min u v, max u v) ∧
      entry n data dflt u v = data[j] :=
  entry_is_slot n data dflt hl u v hu hv huv

omit [Num α] in
/-- Slot `k` of a valid condensed array is a pair `r < c < n`, and the table entry of that pair is
`data[k]`. -/
theorem C07_slot_entry (n : Nat) (data : Array α) (dflt : α)
    (k : Nat) (hk : k < data.size) (r c : Nat) (hp : (pairs n)[k]? = some (r, c)) :
    r < c ∧ c < n ∧ entry n data dflt r c = data[k] :=
  slot_is_entry n data dflt k hk r c hp

/-! ## 1. The first step (specification level) -/

omit [Num α] in
/-- A condensed array with more than `(b+1)·b/2` entries belongs to more than `b + 1` observations. -/
private theorem lt_of_size_lt {n b : Nat} {data : Array α} (hl : 2 * data.size = n * (n - 1))
    (hb : (b + 1) * b < 2 * data.size) : b + 1 < n := by
  by_contra h
  have := Nat.mul_le_mul (show n ≤ b + 1 by omega) (show n - 1 ≤ b by omega)
  omega

omit [Num α] in
private theorem two_le_of_slot {n : Nat} {data : Array α} (hl : 2 * data.size = n * (n - 1))
    {k : Nat} (hk : k < data.size) : 2 ≤ n :=
  lt_of_size_lt (b := 0) hl (by omega)

/-- `{u, v} = {a, b}` as unordered pairs. -/
private def pairEq (u v a b : Nat) : Prop := (u = a ∧ v = b) ∨ (u = b ∧ v = a)

omit [Num α] in
/-- The table entry of two distinct observations is the entry of a slot, which is not slot `k`
unless the two are the pair of slot `k`. -/
private theorem entry_slot_ne (n : Nat) (data : Array α) (hl : 2 * data.size = n * (n - 1))
    (dflt : α) (u v : Nat) (hu : u < n) (hv : v < n) (huv : u ≠ v) :
    ∃ j, ∃ hj : j < data.size, entry n data dflt u v = data[j] ∧
      ∀ k r c, (pairs n)[k]? = some (r, c) → ¬ pairEq u v r c → j ≠ k := by
  obtain ⟨j, hj, hpj, hej⟩ := C07_entry_slot n data hl dflt u v hu hv huv
  refine ⟨j, hj, hej, ?_⟩
  rintro k r c hp hnp rfl
  rw [hp] at hpj
  simp only [Option.some.injEq, Prod.mk.injEq] at hpj
  apply hnp
  unfold pairEq
  omega

/-- In a state whose live pair `p < q` is strictly closest, the admissible step is the merge of
`p` and `q` (`Spec.admissible_unique`; no number law). -/
private theorem step_of_strict_min {m : Method} {s : NState α} {p q : Nat} {st : Step α}
    (hp : p ∈ s.live) (hq : q ∈ s.live) (hpq : p < q)
    (ht : ∀ x ∈ s.live, ∀ y ∈ s.live, x ≠ y → ¬ pairEq x y p q →
      Num.lt (s.D p q) (s.D x y) = true)
    (h : Admissible m s st) : st = ⟨p, q, post m (s.D p q), s.size p + s.size q⟩ :=
  (admissible_unique ⟨hp, hq, hpq, rfl, rfl⟩ h fun x hx y hy hxy hne =>
    ht x hx y hy (by omega) (by
      rintro (⟨rfl, rfl⟩ | ⟨rfl, rfl⟩)
      · exact hne rfl
      · omega)).symm

/-- The same for a strictly closest pair `{l₁, l₂}` given in either order. -/
private theorem step_of_strict_min' {m : Method} {s : NState α} (hs : DSymm s) {l₁ l₂ : Nat}
    {st : Step α} (h₁ : l₁ ∈ s.live) (h₂ : l₂ ∈ s.live) (h₁₂ : l₁ ≠ l₂)
    (ht : ∀ x ∈ s.live, ∀ y ∈ s.live, x ≠ y → ¬ pairEq x y l₁ l₂ →
      Num.lt (s.D l₁ l₂) (s.D x y) = true)
    (h : Admissible m s st) :
    st = ⟨min l₁ l₂, max l₁ l₂, post m (s.D l₁ l₂), s.size l₁ + s.size l₂⟩ := by
  rcases Nat.lt_or_gt_of_ne h₁₂ with hlt | hlt
  · rw [Nat.min_eq_left hlt.le, Nat.max_eq_right hlt.le]
    exact step_of_strict_min h₁ h₂ hlt ht h
  · rw [Nat.min_eq_right hlt.le, Nat.max_eq_left hlt.le, hs l₁ l₂,
      Nat.add_comm (s.size l₁) (s.size l₂)]
    exact step_of_strict_min h₂ h₁ hlt (fun x hx y hy hxy hnp => by
      rw [hs l₂ l₁]
      exact ht x hx y hy hxy fun hp => hnp hp.symm) h

/-- A step admissible up to order-equivalence of its height is admissible once it records the
table's height. -/
private theorem admissible_of_upTo {m : Method} {s : NState α} {st : Step α}
    (h : AdmissibleUpTo m s st) :
    Admissible m s ⟨st.c1, st.c2, post m (s.D st.c1 st.c2), st.size⟩ :=
  ⟨h.1, h.2.1, h.2.2.1, h.2.2.2.1, rfl, h.2.2.2.2.2⟩

/-- The admissible first move when the table value of slot `k` is strictly smallest. -/
private theorem first_step_unique (m : Method) (n : Nat) (data : Array α)
    (hl : 2 * data.size = n * (n - 1))
    (k : Nat) (hk : k < data.size) (r c : Nat) (hp : (pairs n)[k]? = some (r, c))
    (hmin : ∀ j (hj : j < data.size), j ≠ k →
      Num.lt (C07_tab m data[k]) (C07_tab m data[j]) = true)
    (st : Step α) (h : Admissible m (init m n data) st) :
    st = ⟨r, c, C07_height m data[k], 2⟩ := by
  obtain ⟨hrc, hcn, hek⟩ := C07_slot_entry n data Num.infinity k hk r c hp
  have hlive : ∀ x, x ∈ (init m n data).live ↔ x < n := fun x => by simp [init]
  have hD : ∀ x y, (init m n data).D x y = C07_tab m (entry n data Num.infinity x y) :=
    fun _ _ => rfl
  rw [step_of_strict_min ((hlive r).2 (by omega)) ((hlive c).2 hcn) hrc ?_ h, hD, hek]
  · rfl
  · intro x hx y hy hxy hnp
    obtain ⟨j, hj, hej, hjk⟩ := entry_slot_ne n data hl Num.infinity x y
      ((hlive x).1 hx) ((hlive y).1 hy) hxy
    rw [hD, hD, hek, hej]
    exact hmin j hj (hjk k r c hp hnp)

/-- Table form (no number law at all).  If the table value of slot `k` is strictly
below the table value of every other slot, every greedy run starts by merging the pair of slot `k`
at the height the specification derives from that value, with size 2. -/
theorem C07_first_step_of_greedy_table (m : Method) (n : Nat) (data : Array α)
    (steps : List (Step α)) (hl : 2 * data.size = n * (n - 1))
    (hv : GreedyValid m n data steps) (k : Nat) (hk : k < data.size) (r c : Nat)
    (hp : (pairs n)[k]? = some (r, c))
    (hmin : ∀ j (hj : j < data.size), j ≠ k →
      Num.lt (C07_tab m data[k]) (C07_tab m data[j]) = true) :
    ∃ rest, steps = ⟨r, c, C07_height m data[k], 2⟩ :: rest := by
  obtain ⟨hlen, hg⟩ := hv
  cases steps with
  | nil => have := two_le_of_slot hl hk; simp at hlen; omega
  | cons st rest => exact ⟨rest, by rw [first_step_unique m n data hl k hk r c hp hmin st hg.1]⟩

/-- From the raw entries to the table values: squaring (`hsq`, methods on squares only) keeps the
entry of slot `k` strictly smallest. -/
private theorem tab_lt (m : Method) (data : Array α) (k : Nat) (hk : k < data.size)
    (hmin : ∀ j (hj : j < data.size), j ≠ k → Num.lt data[k] data[j] = true)
    (hsq : m.onSquares = true → ∀ j (hj : j < data.size), Num.lt data[k] data[j] = true →
      Num.lt (Num.mul data[k] data[k]) (Num.mul data[j] data[j]) = true)
    (j : Nat) (hj : j < data.size) (hne : j ≠ k) :
    Num.lt (C07_tab m data[k]) (C07_tab m data[j]) = true := by
  unfold C07_tab
  cases hm : m.onSquares
  · exact hmin j hj hne
  · exact hsq hm j hj (hmin j hj hne)

/-- Slot `k` holds the unique strictly smallest entry of the
input.  For the methods on squares the hypothesis `hsq` says that squaring keeps that entry strictly
smallest (see `C07_sq_lt_exact`: true in exact arithmetic when `0 ≤ data[k]`; it can FAIL for IEEE
floats when squares underflow, overflow or round together).  Then every greedy run starts with
`(r, c, C07_height m data[k], 2)`, `(r, c)` the `k`-th pair of the row-major enumeration. -/
theorem C07_first_step_of_greedy (m : Method) (n : Nat) (data : Array α)
    (steps : List (Step α)) (hl : 2 * data.size = n * (n - 1))
    (hv : GreedyValid m n data steps) (k : Nat) (hk : k < data.size) (r c : Nat)
    (hp : (pairs n)[k]? = some (r, c))
    (hmin : ∀ j (hj : j < data.size), j ≠ k → Num.lt data[k] data[j] = true)
    (hsq : m.onSquares = true → ∀ j (hj : j < data.size), Num.lt data[k] data[j] = true →
      Num.lt (Num.mul data[k] data[k]) (Num.mul data[j] data[j]) = true) :
    ∃ rest, steps = ⟨r, c, C07_height m data[k], 2⟩ :: rest :=
  C07_first_step_of_greedy_table m n data steps hl hv k hk r c hp (tab_lt m data k hk hmin hsq)


/-- Methods that do not square (single, complete, average, weighted): the
height is exactly `data[k]`; no number law is used. -/
theorem C07_first_step_of_greedy_plain (m : Method) (hm : m.onSquares = false) (n : Nat)
    (data : Array α) (steps : List (Step α)) (hl : 2 * data.size = n * (n - 1))
    (hv : GreedyValid m n data steps) (k : Nat) (hk : k < data.size) (r c : Nat)
    (hp : (pairs n)[k]? = some (r, c))
    (hmin : ∀ j (hj : j < data.size), j ≠ k → Num.lt data[k] data[j] = true) :
    ∃ rest, steps = ⟨r, c, data[k], 2⟩ :: rest := by
  have := C07_first_step_of_greedy m n data steps hl hv k hk r c hp hmin
    (fun h => by rw [hm] at h; cases h)
  rwa [C07_height_plain hm] at this

/-- Label of the cluster containing observation `x` after the first merge `(r, c)` of a run on `n`
observations: the new label `n` for `r` and `c`, the observation itself otherwise. -/
def C07_label (n r c x : Nat) : Nat := if x = r ∨ x = c then n else x

/-- Size of that cluster. -/
def C07_csize (r c x : Nat) : Nat := if x = r ∨ x = c then 2 else 1

theorem label_r (n r c : Nat) : C07_label n r c r = n := if_pos (Or.inl rfl)

theorem label_c (n r c : Nat) : C07_label n r c c = n := if_pos (Or.inr rfl)

theorem label_of_not {n r c x : Nat} (h : x ≠ r ∧ x ≠ c) : C07_label n r c x = x :=
  if_neg (by omega)

theorem label_eq_n {n r c x : Nat} (hx : x < n) (h : C07_label n r c x = n) : x = r ∨ x = c := by
  unfold C07_label at h
  split at h <;> omega

theorem label_eq_old {n r c x z : Nat} (hz : z ≠ n) (h : C07_label n r c x = z) : x = z := by
  unfold C07_label at h
  split at h <;> omega

theorem label_ne {n r c x y : Nat} (hx : x < n) (hy : y < n) (hxy : x ≠ y)
    (h : ¬ (x = r ∧ y = c) ∧ ¬ (x = c ∧ y = r)) : C07_label n r c x ≠ C07_label n r c y := by
  unfold C07_label
  split <;> split <;> omega

theorem csize_eq (n r c x : Nat) (hx : x < n) :
    C07_csize r c x = if C07_label n r c x = n then 2 else 1 := by
  unfold C07_csize C07_label
  split <;> split <;> omega

/-- The labels alive after the merge of `(r, c)`: the other observations and the new label `n`. -/
private def Live (n r c x : Nat) : Prop := (x < n ∧ x ≠ r ∧ x ≠ c) ∨ x = n

private theorem live_label {n r c x : Nat} (hx : x < n) : Live n r c (C07_label n r c x) := by
  unfold C07_label Live
  split <;> omega

private theorem pairEq_label {n r c u v a b : Nat} (h : pairEq u v a b) :
    pairEq (C07_label n r c u) (C07_label n r c v) (C07_label n r c a) (C07_label n r c b) := by
  rcases h with ⟨rfl, rfl⟩ | ⟨rfl, rfl⟩
  · exact Or.inl ⟨rfl, rfl⟩
  · exact Or.inr ⟨rfl, rfl⟩

private theorem single_not_lt_left (L : OrderLaws α) (a b : α) :
    Num.lt a (Gen.single a b) = false := by
  unfold Gen.single
  by_cases h : Num.lt a b = true
  · rw [if_pos h]; exact L.irrefl a
  · rw [if_neg h]; exact Bool.eq_false_iff.2 h

private theorem single_not_lt_right (L : OrderLaws α) (a b : α) :
    Num.lt b (Gen.single a b) = false := by
  unfold Gen.single
  by_cases h : Num.lt a b = true
  · rw [if_pos h]; exact L.asymm a b h
  · rw [if_neg h]; exact L.irrefl b

/-- What the table after the merge of `(r, c)` holds between two live labels `x ≠ y`, read through
the matrix `e` of the observations: the entry of some pair of observations carrying these labels,
and no such pair has a smaller entry. -/
private def Rep (e : Nat → Nat → α) (n r c x y : Nat) (d : α) : Prop :=
  (∃ u v, u < n ∧ v < n ∧ C07_label n r c u = x ∧ C07_label n r c v = y ∧ d = e u v) ∧
  ∀ u v, u < n → v < n → C07_label n r c u = x → C07_label n r c v = y → Num.lt (e u v) d = false

private theorem Rep.symm {e : Nat → Nat → α} (hsym : ∀ u v, e u v = e v u) {n r c x y : Nat} {d : α}
    (h : Rep e n r c x y d) : Rep e n r c y x d := by
  obtain ⟨⟨u, v, hu, hv, lu, lv, he⟩, lb⟩ := h
  exact ⟨⟨v, u, hv, hu, lv, lu, he.trans (hsym u v)⟩,
    fun u v hu hv lu lv => hsym v u ▸ lb v u hv hu lv lu⟩

/-- The table after one single-linkage merge of `(r, c)` from the initial state: the three cases of
the merge (`pairwise_of_merge`); the new row is a `Gen.single` of two entries, which is one of them
and is below neither. -/
private theorem merged_rep (L : OrderLaws α) (n : Nat) (data : Array α) {r c : Nat} (hrc : r < c)
    (hcn : c < n) :
    ∀ x ∈ (merge .single (init .single n data) r c).live,
      ∀ y ∈ (merge .single (init .single n data) r c).live, x ≠ y →
        Rep (entry n data Num.infinity) n r c x y ((merge .single (init .single n data) r c).D x y) := by
  intro x hx y hy
  refine pairwise_of_merge (O := fun x => x < n ∧ x ≠ r ∧ x ≠ c) (c := n)
    (P := fun x y => Rep (entry n data Num.infinity) n r c x y
      ((merge .single (init .single n data) r c).D x y))
    (fun x hx hc => ?_) (fun x y hx hy _ cx cy => ?_) (fun y hy hc => ?_) x y hx hy
  · obtain ⟨h0, h1, h2⟩ := ((mem_merge_live ..).1 hx).resolve_right hc
    exact ⟨(mem_init_live ..).1 h0, h1, h2⟩
  · rw [merge_D_old .single (init .single n data) r c x y cx cy]
    refine ⟨⟨x, y, hx.1, hy.1, label_of_not hx.2, label_of_not hy.2, rfl⟩, fun u v _ _ lu lv => ?_⟩
    rw [label_eq_old cx lu, label_eq_old cy lv]
    exact L.irrefl _
  · have new : Rep (entry n data Num.infinity) n r c n y
        (Gen.single (entry n data Num.infinity r y) (entry n data Num.infinity c y)) := by
      refine ⟨?_, fun u v hu _ lu lv => ?_⟩
      · rcases Gen.single_cases (entry n data Num.infinity r y) (entry n data Num.infinity c y)
          with h | h
        · exact ⟨r, y, by omega, hy.1, label_r .., label_of_not hy.2, h⟩
        · exact ⟨c, y, hcn, hy.1, label_c .., label_of_not hy.2, h⟩
      · rw [label_eq_old hc lv]
        rcases label_eq_n hu lu with rfl | rfl
        · exact single_not_lt_left L _ _
        · exact single_not_lt_right L _ _
    have e1 := merge_D_new .single (init .single n data) r c y
    have e2 := merge_D_new' .single (init .single n data) r c y hc
    exact ⟨e1 ▸ new, e2 ▸ new.symm (entry_symm n data Num.infinity)⟩

omit [Num α] in
private theorem three_le_of_slots {n : Nat} {data : Array α} (hl : 2 * data.size = n * (n - 1))
    {k k₂ : Nat} (hk : k < data.size) (hk₂ : k₂ < data.size) (hkk : k₂ ≠ k) : 3 ≤ n :=
  lt_of_size_lt (b := 1) hl (by omega)

/-- Distinct slots hold distinct pairs (injectivity of the index, `C07_bij`). -/
theorem C07_slots_ne (n k k₂ : Nat) (hkk : k₂ ≠ k) (r c r₂ c₂ : Nat)
    (hp : (pairs n)[k]? = some (r, c)) (hp₂ : (pairs n)[k₂]? = some (r₂, c₂)) :
    ¬ (r₂ = r ∧ c₂ = c) := by
  rintro ⟨rfl, rfl⟩
  have hb := (C07_bij n).2.2.2
  obtain ⟨hkl, he⟩ := List.getElem?_eq_some_iff.mp hp
  obtain ⟨hkl₂, he₂⟩ := List.getElem?_eq_some_iff.mp hp₂
  have b1 := (hb k hkl).2.2
  have b2 := (hb k₂ hkl₂).2.2
  rw [he] at b1; rw [he₂] at b2
  simp only at b1 b2
  omega


/-- The admissible move in the state after the single-linkage merge of `(r, c)`. -/
private theorem second_step_unique (L : OrderLaws α) (n : Nat) (data : Array α)
    (hl : 2 * data.size = n * (n - 1))
    (k : Nat) (hk : k < data.size) (r c : Nat) (hp : (pairs n)[k]? = some (r, c))
    (k₂ : Nat) (hk₂ : k₂ < data.size) (hkk : k₂ ≠ k) (r₂ c₂ : Nat)
    (hp₂ : (pairs n)[k₂]? = some (r₂, c₂))
    (hmin₂ : ∀ j (hj : j < data.size), j ≠ k → j ≠ k₂ → Num.lt data[k₂] data[j] = true)
    (s2 : Step α) (h : Admissible .single (merge .single (init .single n data) r c) s2) :
    s2 = ⟨min (C07_label n r c r₂) (C07_label n r c c₂),
      max (C07_label n r c r₂) (C07_label n r c c₂), data[k₂],
      C07_csize r c r₂ + C07_csize r c c₂⟩ := by
  obtain ⟨hrc, hcn, -⟩ := C07_slot_entry n data Num.infinity k hk r c hp
  obtain ⟨hrc₂, hcn₂, hek₂⟩ := C07_slot_entry n data Num.infinity k₂ hk₂ r₂ c₂ hp₂
  have hrn₂ : r₂ < n := by omega
  have hne := C07_slots_ne n k k₂ hkk r c r₂ c₂ hp hp₂
  have hlive : ∀ x, x ∈ (merge .single (init .single n data) r c).live ↔ Live n r c x := by
    intro x
    rw [mem_merge_live]
    simp [init, Live]
  have hsz : ∀ x, (merge .single (init .single n data) r c).size x = if x = n then 2 else 1 :=
    fun _ => rfl
  have hrep := merged_rep L n data hrc hcn
  -- an entry of the merged table is `data[k₂]` (between the labels of `r₂, c₂`) or above it
  have key : ∀ x ∈ (merge .single (init .single n data) r c).live,
      ∀ y ∈ (merge .single (init .single n data) r c).live, x ≠ y →
      (pairEq x y (C07_label n r c r₂) (C07_label n r c c₂) ∧
        (merge .single (init .single n data) r c).D x y = data[k₂]) ∨
      Num.lt data[k₂] ((merge .single (init .single n data) r c).D x y) = true := by
    intro x hx y hy hxy
    obtain ⟨⟨u, v, hu, hv, rfl, rfl, he⟩, -⟩ := hrep x hx y hy hxy
    have huv : u ≠ v := fun h => hxy (by rw [h])
    have hnrc : ¬ pairEq u v r c := by
      rintro (⟨rfl, rfl⟩ | ⟨rfl, rfl⟩) <;> exact hxy (by rw [label_r, label_c])
    rw [he]
    by_cases hp' : pairEq u v r₂ c₂
    · refine Or.inl ⟨pairEq_label hp', ?_⟩
      rcases hp' with ⟨rfl, rfl⟩ | ⟨rfl, rfl⟩
      · exact hek₂
      · rw [entry_symm]; exact hek₂
    · obtain ⟨j, hj, hej, hjk⟩ := entry_slot_ne n data hl Num.infinity u v hu hv huv
      rw [hej]
      exact Or.inr (hmin₂ j hj (hjk k r c hp hnrc) (hjk k₂ r₂ c₂ hp₂ hp'))
  have h₁ := (hlive _).2 (live_label (r := r) (c := c) hrn₂)
  have h₂ := (hlive _).2 (live_label (r := r) (c := c) hcn₂)
  have h₁₂ := label_ne (r := r) (c := c) hrn₂ hcn₂ (by omega) ⟨hne, by omega⟩
  have T1 : (merge .single (init .single n data) r c).D (C07_label n r c r₂) (C07_label n r c c₂)
      = data[k₂] := by
    rcases key _ h₁ _ h₂ h₁₂ with ⟨-, h⟩ | h
    · exact h
    · -- `data[k₂]` is one of the entries the merged value is a minimum of
      have := (hrep _ h₁ _ h₂ h₁₂).2 r₂ c₂ hrn₂ hcn₂ rfl rfl
      rw [hek₂, h] at this; cases this
  rw [step_of_strict_min' (merge_DSymm .single _ r c (init_DSymm .single n data)) h₁ h₂ h₁₂ ?_ h,
    T1, hsz, hsz, csize_eq n r c r₂ hrn₂, csize_eq n r c c₂ hcn₂]
  · rfl
  · intro x hx y hy hxy hnp
    rw [T1]
    exact (key x hx y hy hxy).resolve_left fun hp' => hnp hp'.1

/-- Slot `k` holds the unique strictly smallest entry
and slot `k₂ ≠ k` the unique second-smallest one (strictly below every entry other than slot `k`).
Then every greedy single-linkage run starts with `(r, c, data[k], 2)` and continues with the merge of
the clusters containing `r₂` and `c₂` — label `n` for an observation in `{r, c}`, the observation
itself otherwise, smaller label first — at height exactly `data[k₂]`, with the merged size
(2 if the two pairs are disjoint, 3 if they share an observation: `C07_second_size`).
Only `OrderLaws.asymm` is used (`Gen.single x d₂` must select `d₂` when `d₂ < x`).
`3 ≤ n` is implied by the existence of two distinct slots. -/
theorem C07_second_step_single_of_greedy (L : OrderLaws α) (n : Nat) (data : Array α)
    (steps : List (Step α)) (hl : 2 * data.size = n * (n - 1))
    (hv : GreedyValid .single n data steps)
    (k : Nat) (hk : k < data.size) (r c : Nat) (hp : (pairs n)[k]? = some (r, c))
    (hmin : ∀ j (hj : j < data.size), j ≠ k → Num.lt data[k] data[j] = true)
    (k₂ : Nat) (hk₂ : k₂ < data.size) (hkk : k₂ ≠ k) (r₂ c₂ : Nat)
    (hp₂ : (pairs n)[k₂]? = some (r₂, c₂))
    (hmin₂ : ∀ j (hj : j < data.size), j ≠ k → j ≠ k₂ → Num.lt data[k₂] data[j] = true) :
    ∃ rest, steps = ⟨r, c, data[k], 2⟩ ::
      ⟨min (C07_label n r c r₂) (C07_label n r c c₂), max (C07_label n r c r₂) (C07_label n r c c₂),
        data[k₂], C07_csize r c r₂ + C07_csize r c c₂⟩ :: rest := by
  have h3 := three_le_of_slots hl hk hk₂ hkk
  obtain ⟨rest1, hs⟩ :=
    C07_first_step_of_greedy_plain .single rfl n data steps hl hv k hk r c hp hmin
  subst hs
  obtain ⟨hlen, -, hg⟩ := hv
  cases rest1 with
  | nil => simp at hlen; omega
  | cons s2 rest =>
    exact ⟨rest, by rw [second_step_unique L n data hl k hk r c hp k₂ hk₂ hkk r₂ c₂ hp₂ hmin₂
      s2 hg.1]⟩

/-- The size recorded by the second step: 3 when the two pairs share an observation, 2 when they
are disjoint (they cannot share both). -/
theorem C07_second_size (r c r₂ c₂ : Nat) (hrc : r < c) (hrc₂ : r₂ < c₂)
    (hne : ¬ (r₂ = r ∧ c₂ = c)) :
    C07_csize r c r₂ + C07_csize r c c₂ =
      if r₂ = r ∨ r₂ = c ∨ c₂ = r ∨ c₂ = c then 3 else 2 := by
  unfold C07_csize
  by_cases h1 : r₂ = r ∨ r₂ = c
  · rw [if_pos h1, if_neg (by omega), if_pos (by omega)]
  · rw [if_neg h1]
    by_cases h2 : c₂ = r ∨ c₂ = c
    · rw [if_pos h2, if_pos (by omega)]
    · rw [if_neg h2, if_neg (by omega)]

/-! ### The same two steps from `Spec.GreedyValidUpTo` (heights up to order-equivalence)

`Spec.GreedyValidUpTo` (`Lemmas/SpecUpTo.lean`) is `Spec.GreedyValid` with the height clause
weakened to "recorded height and table value are incomparable"; it is what `C03_mst_upTo` proves
about `mst_with` WITHOUT `LtTrichotomy`, i.e. under hypotheses that are true of IEEE floats.  The
labels and sizes of the first two steps are determined exactly as before; the heights are
order-equivalent (`C07_equiv`; for floats: equal, or zeros of different sign) to the two entries. -/

/-- Order-equivalence: neither value is strictly below the other. -/
def C07_equiv (a b : α) : Prop := Num.lt a b = false ∧ Num.lt b a = false

/-- Where incomparable values are equal, order-equivalence is equality. -/
theorem C07_equiv_eq (T : LtTrichotomy α) {a b : α} (h : C07_equiv a b) : a = b := T a b h.1 h.2

/-- First step from `GreedyValidUpTo`: pair and size exact, height order-equivalent. -/
theorem C07_first_step_of_greedy_upTo (m : Method) (n : Nat) (data : Array α)
    (steps : List (Step α)) (hl : 2 * data.size = n * (n - 1))
    (hv : GreedyValidUpTo m n data steps) (k : Nat) (hk : k < data.size) (r c : Nat)
    (hp : (pairs n)[k]? = some (r, c))
    (hmin : ∀ j (hj : j < data.size), j ≠ k → Num.lt data[k] data[j] = true)
    (hsq : m.onSquares = true → ∀ j (hj : j < data.size), Num.lt data[k] data[j] = true →
      Num.lt (Num.mul data[k] data[k]) (Num.mul data[j] data[j]) = true) :
    ∃ s₁ rest, steps = s₁ :: rest ∧ s₁.c1 = r ∧ s₁.c2 = c ∧ s₁.size = 2 ∧
      C07_equiv s₁.d (C07_height m data[k]) := by
  obtain ⟨hlen, hg⟩ := hv
  cases steps with
  | nil => have := two_le_of_slot hl hk; simp at hlen; omega
  | cons st rest =>
    obtain ⟨ha, -⟩ := hg
    have e := first_step_unique m n data hl k hk r c hp (tab_lt m data k hk hmin hsq) _
      (admissible_of_upTo ha)
    injection e with e1 e2 e3 e4
    obtain ⟨-, -, -, -, ⟨h5, h5'⟩, -⟩ := ha
    rw [e3] at h5 h5'
    exact ⟨st, rest, rfl, e1, e2, e4, h5, h5'⟩

/-- First and second step under single linkage from `GreedyValidUpTo`. -/
theorem C07_second_step_single_of_greedy_upTo (L : OrderLaws α) (n : Nat) (data : Array α)
    (steps : List (Step α)) (hl : 2 * data.size = n * (n - 1))
    (hv : GreedyValidUpTo .single n data steps)
    (k : Nat) (hk : k < data.size) (r c : Nat) (hp : (pairs n)[k]? = some (r, c))
    (hmin : ∀ j (hj : j < data.size), j ≠ k → Num.lt data[k] data[j] = true)
    (k₂ : Nat) (hk₂ : k₂ < data.size) (hkk : k₂ ≠ k) (r₂ c₂ : Nat)
    (hp₂ : (pairs n)[k₂]? = some (r₂, c₂))
    (hmin₂ : ∀ j (hj : j < data.size), j ≠ k → j ≠ k₂ → Num.lt data[k₂] data[j] = true) :
    ∃ s₁ s₂ rest, steps = s₁ :: s₂ :: rest ∧
      (s₁.c1 = r ∧ s₁.c2 = c ∧ s₁.size = 2 ∧ C07_equiv s₁.d data[k]) ∧
      (s₂.c1 = min (C07_label n r c r₂) (C07_label n r c c₂) ∧
       s₂.c2 = max (C07_label n r c r₂) (C07_label n r c c₂) ∧
       s₂.size = C07_csize r c r₂ + C07_csize r c c₂ ∧ C07_equiv s₂.d data[k₂]) := by
  have h3 := three_le_of_slots hl hk hk₂ hkk
  obtain ⟨s₁, rest1, hs, f1, f2, f3, f4⟩ := C07_first_step_of_greedy_upTo .single n data steps hl hv
    k hk r c hp hmin (fun h => by cases h)
  rw [C07_height_plain rfl] at f4
  subst hs
  obtain ⟨hlen, -, hg⟩ := hv
  cases rest1 with
  | nil => simp at hlen; omega
  | cons s2 rest =>
    obtain ⟨ha, -⟩ := hg
    rw [f1, f2] at ha
    have e := second_step_unique L n data hl k hk r c hp k₂ hk₂ hkk r₂ c₂ hp₂ hmin₂ _
      (admissible_of_upTo ha)
    injection e with e1 e2 e3 e4
    obtain ⟨-, -, -, -, ⟨a5, a5'⟩, -⟩ := ha
    rw [e3] at a5 a5'
    exact ⟨s₁, s2, rest, rfl, ⟨f1, f2, f3, f4⟩, e1, e2, e4, a5, a5'⟩

/-! ## 3. Entry points (composition with the C03 theorems) -/

/-- `mst_with` returns a dendrogram that is greedy-valid up to order-equivalence of the heights,
without `LtTrichotomy` (`C04_mst_total`, `C03_mst_upTo`). -/
private theorem mst_upTo_total (L : OrderLaws α) (chk : Bool) (st : State α) (d : Dendrogram α)
    (data : Array α) (n : Nat) (h2 : 2 ≤ n) (hs : n < 2147483648)
    (hl : 2 * data.size = n * (n - 1)) (hnan : NoNaN n data) (hinf : InfTop n data) :
    ∃ st' d' M', mstWith chk st d data n = .ok (st', d', M') ∧
      GreedyValidUpTo .single n data d'.steps.toList := by
  obtain ⟨⟨st', d', M'⟩, hr⟩ := C04_mst_total L chk st d data n h2 hs hl hnan hinf
  exact ⟨st', d', M', hr, C03_mst_upTo L chk st st' d d' data n M' h2 hs hl hnan hinf hr⟩

/-- `mst_with` returns and its first step merges the pair of the unique smallest entry at exactly
that value.  Hypotheses of `C03_mst_total`. -/
theorem C07_first_step_mst (L : OrderLaws α) (T : LtTrichotomy α) (chk : Bool) (st : State α)
    (d : Dendrogram α) (data : Array α) (n : Nat) (hs : n < 2147483648)
    (hl : 2 * data.size = n * (n - 1)) (hnan : NoNaN n data) (hinf : InfTop n data)
    (k : Nat) (hk : k < data.size) (r c : Nat) (hp : (pairs n)[k]? = some (r, c))
    (hmin : ∀ j (hj : j < data.size), j ≠ k → Num.lt data[k] data[j] = true) :
    ∃ st' d' M', mstWith chk st d data n = .ok (st', d', M') ∧
      ∃ rest, d'.steps.toList = ⟨r, c, data[k], 2⟩ :: rest :=
  exists_ok_imp (C03_mst_total L T chk st d data n (two_le_of_slot hl hk) hs hl hnan hinf)
    (fun _ hv => C07_first_step_of_greedy_plain .single rfl n data _ hl hv k hk r c hp hmin)

theorem C07_second_step_mst (L : OrderLaws α) (T : LtTrichotomy α) (chk : Bool) (st : State α)
    (d : Dendrogram α) (data : Array α) (n : Nat) (hs : n < 2147483648)
    (hl : 2 * data.size = n * (n - 1)) (hnan : NoNaN n data) (hinf : InfTop n data)
    (k : Nat) (hk : k < data.size) (r c : Nat) (hp : (pairs n)[k]? = some (r, c))
    (hmin : ∀ j (hj : j < data.size), j ≠ k → Num.lt data[k] data[j] = true)
    (k₂ : Nat) (hk₂ : k₂ < data.size) (hkk : k₂ ≠ k) (r₂ c₂ : Nat)
    (hp₂ : (pairs n)[k₂]? = some (r₂, c₂))
    (hmin₂ : ∀ j (hj : j < data.size), j ≠ k → j ≠ k₂ → Num.lt data[k₂] data[j] = true) :
    ∃ st' d' M', mstWith chk st d data n = .ok (st', d', M') ∧
      ∃ rest, d'.steps.toList = ⟨r, c, data[k], 2⟩ ::
        ⟨min (C07_label n r c r₂) (C07_label n r c c₂),
          max (C07_label n r c r₂) (C07_label n r c c₂),
          data[k₂], C07_csize r c r₂ + C07_csize r c c₂⟩ :: rest :=
  exists_ok_imp (C03_mst_total L T chk st d data n (two_le_of_slot hl hk) hs hl hnan hinf)
    (fun _ hv => C07_second_step_single_of_greedy L n data _ hl hv k hk r c hp hmin
      k₂ hk₂ hkk r₂ c₂ hp₂ hmin₂)

theorem C07_first_step_linkage_single (L : OrderLaws α) (T : LtTrichotomy α) (chk : Bool)
    (st : State α) (d : Dendrogram α) (data : Array α) (n : Nat) (hs : n < 2147483648)
    (hl : 2 * data.size = n * (n - 1)) (hnan : NoNaN n data) (hinf : InfTop n data)
    (k : Nat) (hk : k < data.size) (r c : Nat) (hp : (pairs n)[k]? = some (r, c))
    (hmin : ∀ j (hj : j < data.size), j ≠ k → Num.lt data[k] data[j] = true) :
    ∃ st' d' M', linkageWith chk .single st d data n = .ok (st', d', M') ∧
      ∃ rest, d'.steps.toList = ⟨r, c, data[k], 2⟩ :: rest := by
  rw [linkage_single_eq]
  exact C07_first_step_mst L T chk st d data n hs hl hnan hinf k hk r c hp hmin

theorem C07_second_step_linkage_single (L : OrderLaws α) (T : LtTrichotomy α) (chk : Bool)
    (st : State α) (d : Dendrogram α) (data : Array α) (n : Nat) (hs : n < 2147483648)
    (hl : 2 * data.size = n * (n - 1)) (hnan : NoNaN n data) (hinf : InfTop n data)
    (k : Nat) (hk : k < data.size) (r c : Nat) (hp : (pairs n)[k]? = some (r, c))
    (hmin : ∀ j (hj : j < data.size), j ≠ k → Num.lt data[k] data[j] = true)
    (k₂ : Nat) (hk₂ : k₂ < data.size) (hkk : k₂ ≠ k) (r₂ c₂ : Nat)
    (hp₂ : (pairs n)[k₂]? = some (r₂, c₂))
    (hmin₂ : ∀ j (hj : j < data.size), j ≠ k → j ≠ k₂ → Num.lt data[k₂] data[j] = true) :
    ∃ st' d' M', linkageWith chk .single st d data n = .ok (st', d', M') ∧
      ∃ rest, d'.steps.toList = ⟨r, c, data[k], 2⟩ ::
        ⟨min (C07_label n r c r₂) (C07_label n r c c₂),
          max (C07_label n r c r₂) (C07_label n r c c₂),
          data[k₂], C07_csize r c r₂ + C07_csize r c c₂⟩ :: rest := by
  rw [linkage_single_eq]
  exact C07_second_step_mst L T chk st d data n hs hl hnan hinf k hk r c hp hmin
    k₂ hk₂ hkk r₂ c₂ hp₂ hmin₂

/-- `mst_with` WITHOUT `LtTrichotomy` (hypotheses true of IEEE floats on NaN-free input: `OrderLaws`,
`NoNaN`, `InfTop`): the call returns, its first step merges exactly the pair of the unique smallest
entry with size 2, and the recorded height is order-equivalent to that entry. -/
theorem C07_first_step_mst_upTo (L : OrderLaws α) (chk : Bool) (st : State α)
    (d : Dendrogram α) (data : Array α) (n : Nat) (hs : n < 2147483648)
    (hl : 2 * data.size = n * (n - 1)) (hnan : NoNaN n data) (hinf : InfTop n data)
    (k : Nat) (hk : k < data.size) (r c : Nat) (hp : (pairs n)[k]? = some (r, c))
    (hmin : ∀ j (hj : j < data.size), j ≠ k → Num.lt data[k] data[j] = true) :
    ∃ st' d' M', mstWith chk st d data n = .ok (st', d', M') ∧
      ∃ s₁ rest, d'.steps.toList = s₁ :: rest ∧ s₁.c1 = r ∧ s₁.c2 = c ∧ s₁.size = 2 ∧
        C07_equiv s₁.d data[k] :=
  exists_ok_imp (mst_upTo_total L chk st d data n (two_le_of_slot hl hk) hs hl hnan hinf)
    (fun _ hv => by
      have := C07_first_step_of_greedy_upTo .single n data _ hl hv k hk r c hp hmin
        (fun h => by cases h)
      rwa [C07_height_plain rfl] at this)

theorem C07_second_step_mst_upTo (L : OrderLaws α) (chk : Bool) (st : State α)
    (d : Dendrogram α) (data : Array α) (n : Nat) (hs : n < 2147483648)
    (hl : 2 * data.size = n * (n - 1)) (hnan : NoNaN n data) (hinf : InfTop n data)
    (k : Nat) (hk : k < data.size) (r c : Nat) (hp : (pairs n)[k]? = some (r, c))
    (hmin : ∀ j (hj : j < data.size), j ≠ k → Num.lt data[k] data[j] = true)
    (k₂ : Nat) (hk₂ : k₂ < data.size) (hkk : k₂ ≠ k) (r₂ c₂ : Nat)
    (hp₂ : (pairs n)[k₂]? = some (r₂, c₂))
    (hmin₂ : ∀ j (hj : j < data.size), j ≠ k → j ≠ k₂ → Num.lt data[k₂] data[j] = true) :
    ∃ st' d' M', mstWith chk st d data n = .ok (st', d', M') ∧
      ∃ s₁ s₂ rest, d'.steps.toList = s₁ :: s₂ :: rest ∧
        (s₁.c1 = r ∧ s₁.c2 = c ∧ s₁.size = 2 ∧ C07_equiv s₁.d data[k]) ∧
        (s₂.c1 = min (C07_label n r c r₂) (C07_label n r c c₂) ∧
         s₂.c2 = max (C07_label n r c r₂) (C07_label n r c c₂) ∧
         s₂.size = C07_csize r c r₂ + C07_csize r c c₂ ∧ C07_equiv s₂.d data[k₂]) :=
  exists_ok_imp (mst_upTo_total L chk st d data n (two_le_of_slot hl hk) hs hl hnan hinf)
    (fun _ hv => C07_second_step_single_of_greedy_upTo L n data _ hl hv k hk r c hp hmin
      k₂ hk₂ hkk r₂ c₂ hp₂ hmin₂)

theorem C07_first_step_linkage_single_upTo (L : OrderLaws α) (chk : Bool) (st : State α)
    (d : Dendrogram α) (data : Array α) (n : Nat) (hs : n < 2147483648)
    (hl : 2 * data.size = n * (n - 1)) (hnan : NoNaN n data) (hinf : InfTop n data)
    (k : Nat) (hk : k < data.size) (r c : Nat) (hp : (pairs n)[k]? = some (r, c))
    (hmin : ∀ j (hj : j < data.size), j ≠ k → Num.lt data[k] data[j] = true) :
    ∃ st' d' M', linkageWith chk .single st d data n = .ok (st', d', M') ∧
      ∃ s₁ rest, d'.steps.toList = s₁ :: rest ∧ s₁.c1 = r ∧ s₁.c2 = c ∧ s₁.size = 2 ∧
        C07_equiv s₁.d data[k] := by
  rw [linkage_single_eq]
  exact C07_first_step_mst_upTo L chk st d data n hs hl hnan hinf k hk r c hp hmin

theorem C07_second_step_linkage_single_upTo (L : OrderLaws α) (chk : Bool) (st : State α)
    (d : Dendrogram α) (data : Array α) (n : Nat) (hs : n < 2147483648)
    (hl : 2 * data.size = n * (n - 1)) (hnan : NoNaN n data) (hinf : InfTop n data)
    (k : Nat) (hk : k < data.size) (r c : Nat) (hp : (pairs n)[k]? = some (r, c))
    (hmin : ∀ j (hj : j < data.size), j ≠ k → Num.lt data[k] data[j] = true)
    (k₂ : Nat) (hk₂ : k₂ < data.size) (hkk : k₂ ≠ k) (r₂ c₂ : Nat)
    (hp₂ : (pairs n)[k₂]? = some (r₂, c₂))
    (hmin₂ : ∀ j (hj : j < data.size), j ≠ k → j ≠ k₂ → Num.lt data[k₂] data[j] = true) :
    ∃ st' d' M', linkageWith chk .single st d data n = .ok (st', d', M') ∧
      ∃ s₁ s₂ rest, d'.steps.toList = s₁ :: s₂ :: rest ∧
        (s₁.c1 = r ∧ s₁.c2 = c ∧ s₁.size = 2 ∧ C07_equiv s₁.d data[k]) ∧
        (s₂.c1 = min (C07_label n r c r₂) (C07_label n r c c₂) ∧
         s₂.c2 = max (C07_label n r c r₂) (C07_label n r c c₂) ∧
         s₂.size = C07_csize r c r₂ + C07_csize r c c₂ ∧ C07_equiv s₂.d data[k₂]) := by
  rw [linkage_single_eq]
  exact C07_second_step_mst_upTo L chk st d data n hs hl hnan hinf k hk r c hp hmin
    k₂ hk₂ hkk r₂ c₂ hp₂ hmin₂

/-- `primitive_with`, single linkage, abstract number type (hypotheses of `C03_primitive_single`):
first step. -/
theorem C07_first_step_primitive_single (L : OrderLaws α) (T : LtTrichotomy α) (chk : Bool)
    (st : State α) (d : Dendrogram α) (data : Array α) (n : Nat) (hs : n < 2147483648)
    (hl : 2 * data.size = n * (n - 1)) (h0 : InitNoNaN .single n data)
    (k : Nat) (hk : k < data.size) (r c : Nat) (hp : (pairs n)[k]? = some (r, c))
    (hmin : ∀ j (hj : j < data.size), j ≠ k → Num.lt data[k] data[j] = true) :
    ∃ st' d' M', primitiveWith chk .single st d data n = .ok (st', d', M') ∧
      ∃ rest, d'.steps.toList = ⟨r, c, data[k], 2⟩ :: rest :=
  exists_ok_imp (C03_primitive_single L T chk st d data n (two_le_of_slot hl hk) hs hl h0)
    (fun _ hv => C07_first_step_of_greedy_plain .single rfl n data _ hl hv k hk r c hp hmin)

theorem C07_first_step_primitive_complete (L : OrderLaws α) (T : LtTrichotomy α) (chk : Bool)
    (st : State α) (d : Dendrogram α) (data : Array α) (n : Nat) (hs : n < 2147483648)
    (hl : 2 * data.size = n * (n - 1)) (h0 : InitNoNaN .complete n data)
    (k : Nat) (hk : k < data.size) (r c : Nat) (hp : (pairs n)[k]? = some (r, c))
    (hmin : ∀ j (hj : j < data.size), j ≠ k → Num.lt data[k] data[j] = true) :
    ∃ st' d' M', primitiveWith chk .complete st d data n = .ok (st', d', M') ∧
      ∃ rest, d'.steps.toList = ⟨r, c, data[k], 2⟩ :: rest :=
  exists_ok_imp (C03_primitive_complete L T chk st d data n (two_le_of_slot hl hk) hs hl h0)
    (fun _ hv =>
      C07_first_step_of_greedy_plain .complete rfl n data _ hl hv k hk r c hp hmin)

theorem C07_second_step_primitive_single (L : OrderLaws α) (T : LtTrichotomy α) (chk : Bool)
    (st : State α) (d : Dendrogram α) (data : Array α) (n : Nat) (hs : n < 2147483648)
    (hl : 2 * data.size = n * (n - 1)) (h0 : InitNoNaN .single n data)
    (k : Nat) (hk : k < data.size) (r c : Nat) (hp : (pairs n)[k]? = some (r, c))
    (hmin : ∀ j (hj : j < data.size), j ≠ k → Num.lt data[k] data[j] = true)
    (k₂ : Nat) (hk₂ : k₂ < data.size) (hkk : k₂ ≠ k) (r₂ c₂ : Nat)
    (hp₂ : (pairs n)[k₂]? = some (r₂, c₂))
    (hmin₂ : ∀ j (hj : j < data.size), j ≠ k → j ≠ k₂ → Num.lt data[k₂] data[j] = true) :
    ∃ st' d' M', primitiveWith chk .single st d data n = .ok (st', d', M') ∧
      ∃ rest, d'.steps.toList = ⟨r, c, data[k], 2⟩ ::
        ⟨min (C07_label n r c r₂) (C07_label n r c c₂),
          max (C07_label n r c r₂) (C07_label n r c c₂),
          data[k₂], C07_csize r c r₂ + C07_csize r c c₂⟩ :: rest :=
  exists_ok_imp (C03_primitive_single L T chk st d data n (two_le_of_slot hl hk) hs hl h0)
    (fun _ hv => C07_second_step_single_of_greedy L n data _ hl hv k hk r c hp hmin
      k₂ hk₂ hkk r₂ c₂ hp₂ hmin₂)

section Generic
variable {G : α → Prop}

/-- `generic_with`, any method under the hypotheses of `C03_generic_reducible` (single, complete
unconditionally — see `C07_first_step_generic_single`; average and Ward: `hred` / `hlbc` are discharged by
`reducible_average`, `reducible_ward`, `lbClosed_average`, `lbClosed_ward` from `OrderLaws`; weighted: they
are genuine hypotheses): first step.  `hsq` as in
`C07_first_step_of_greedy`. -/
theorem C07_first_step_generic (L : OrderLaws α) (hbeq : BeqLe α) (gs : GoodSet G)
    (chk : Bool) (m : Method) (hcl : UpdClosed G m) (hlbc : l1Mode m = .fix → LBClosed G m)
    (hsym : LwSymm α m) (hred : Reducible α m) (hmax : Num.isNaN (Num.maxValue : α) = false)
    (st : State α) (d : Dendrogram α) (data : Array α) (n : Nat)
    (hs : n < 2147483648) (hl : 2 * data.size = n * (n - 1))
    (hin : ∀ i (h : i < (squareData m data).size), G (squareData m data)[i])
    (k : Nat) (hk : k < data.size) (r c : Nat) (hp : (pairs n)[k]? = some (r, c))
    (hmin : ∀ j (hj : j < data.size), j ≠ k → Num.lt data[k] data[j] = true)
    (hsq : m.onSquares = true → ∀ j (hj : j < data.size), Num.lt data[k] data[j] = true →
      Num.lt (Num.mul data[k] data[k]) (Num.mul data[j] data[j]) = true) :
    ∃ st' d' M', genericWith chk m st d data n = .ok (st', d', M') ∧
      ∃ rest, d'.steps.toList = ⟨r, c, C07_height m data[k], 2⟩ :: rest :=
  exists_ok_imp (C03_generic_reducible L hbeq gs chk m hcl hlbc hsym hred hmax st d data n
      (two_le_of_slot hl hk) hs hl hin)
    (fun _ hv => C07_first_step_of_greedy m n data _ hl hv k hk r c hp hmin hsq)

/-- `generic_with`, centroid and median (hypotheses of `C03_generic_unsorted`): first step, height
`sqrt (data[k]·data[k])`. -/
theorem C07_first_step_generic_unsorted (L : OrderLaws α) (hbeq : BeqLe α) (gs : GoodSet G)
    (chk : Bool) (m : Method) (hm : m.requiresSorting = false) (hcl : UpdClosed G m)
    (hsym : LwSymm α m) (hmax : Num.isNaN (Num.maxValue : α) = false)
    (st : State α) (d : Dendrogram α) (data : Array α) (n : Nat)
    (hs : n < 2147483648) (hl : 2 * data.size = n * (n - 1))
    (hin : ∀ i (h : i < (squareData m data).size), G (squareData m data)[i])
    (k : Nat) (hk : k < data.size) (r c : Nat) (hp : (pairs n)[k]? = some (r, c))
    (hmin : ∀ j (hj : j < data.size), j ≠ k → Num.lt data[k] data[j] = true)
    (hsq : m.onSquares = true → ∀ j (hj : j < data.size), Num.lt data[k] data[j] = true →
      Num.lt (Num.mul data[k] data[k]) (Num.mul data[j] data[j]) = true) :
    ∃ st' d' M', genericWith chk m st d data n = .ok (st', d', M') ∧
      ∃ rest, d'.steps.toList = ⟨r, c, C07_height m data[k], 2⟩ :: rest :=
  exists_ok_imp (C03_generic_unsorted L hbeq gs chk m hm hcl hsym hmax st d data n
      (two_le_of_slot hl hk) hs hl hin)
    (fun _ hv => C07_first_step_of_greedy m n data _ hl hv k hk r c hp hmin hsq)

/-- `generic_with`, single linkage (hypotheses of `C03_generic_single`): first step. -/
theorem C07_first_step_generic_single (L : OrderLaws α) (T : LtTrichotomy α) (hbeq : BeqLe α)
    (gs : GoodSet G) (chk : Bool) (hmax : Num.isNaN (Num.maxValue : α) = false)
    (st : State α) (d : Dendrogram α) (data : Array α) (n : Nat)
    (hs : n < 2147483648) (hl : 2 * data.size = n * (n - 1))
    (hin : ∀ i (h : i < (squareData .single data).size), G (squareData .single data)[i])
    (k : Nat) (hk : k < data.size) (r c : Nat) (hp : (pairs n)[k]? = some (r, c))
    (hmin : ∀ j (hj : j < data.size), j ≠ k → Num.lt data[k] data[j] = true) :
    ∃ st' d' M', genericWith chk .single st d data n = .ok (st', d', M') ∧
      ∃ rest, d'.steps.toList = ⟨r, c, data[k], 2⟩ :: rest :=
  exists_ok_imp
    (C03_generic_single L T hbeq gs chk hmax st d data n (two_le_of_slot hl hk) hs hl hin)
    (fun _ hv => C07_first_step_of_greedy_plain .single rfl n data _ hl hv k hk r c hp hmin)

theorem C07_second_step_generic_single (L : OrderLaws α) (T : LtTrichotomy α) (hbeq : BeqLe α)
    (gs : GoodSet G) (chk : Bool) (hmax : Num.isNaN (Num.maxValue : α) = false)
    (st : State α) (d : Dendrogram α) (data : Array α) (n : Nat)
    (hs : n < 2147483648) (hl : 2 * data.size = n * (n - 1))
    (hin : ∀ i (h : i < (squareData .single data).size), G (squareData .single data)[i])
    (k : Nat) (hk : k < data.size) (r c : Nat) (hp : (pairs n)[k]? = some (r, c))
    (hmin : ∀ j (hj : j < data.size), j ≠ k → Num.lt data[k] data[j] = true)
    (k₂ : Nat) (hk₂ : k₂ < data.size) (hkk : k₂ ≠ k) (r₂ c₂ : Nat)
    (hp₂ : (pairs n)[k₂]? = some (r₂, c₂))
    (hmin₂ : ∀ j (hj : j < data.size), j ≠ k → j ≠ k₂ → Num.lt data[k₂] data[j] = true) :
    ∃ st' d' M', genericWith chk .single st d data n = .ok (st', d', M') ∧
      ∃ rest, d'.steps.toList = ⟨r, c, data[k], 2⟩ ::
        ⟨min (C07_label n r c r₂) (C07_label n r c c₂),
          max (C07_label n r c r₂) (C07_label n r c c₂),
          data[k₂], C07_csize r c r₂ + C07_csize r c c₂⟩ :: rest :=
  exists_ok_imp
    (C03_generic_single L T hbeq gs chk hmax st d data n (two_le_of_slot hl hk) hs hl hin)
    (fun _ hv => C07_second_step_single_of_greedy L n data _ hl hv k hk r c hp hmin
      k₂ hk₂ hkk r₂ c₂ hp₂ hmin₂)

end Generic

/-! ### `nnchain_with`, single linkage, abstract number type -/

/-- `nnchain_with`, single linkage (hypotheses of `C03_nnchain_single_laws`: `<` is a linear order
without NaN): first step. -/
theorem C07_first_step_nnchain_single (L : OrderLaws α) (T : LtTrichotomy α)
    (hnan : ∀ x : α, Num.isNaN x = false) (chk : Bool)
    (st : State α) (d : Dendrogram α) (data : Array α) (n : Nat)
    (hs : n < 2147483648) (hl : 2 * data.size = n * (n - 1))
    (k : Nat) (hk : k < data.size) (r c : Nat) (hp : (pairs n)[k]? = some (r, c))
    (hmin : ∀ j (hj : j < data.size), j ≠ k → Num.lt data[k] data[j] = true) :
    ∃ st' d' M', nnchainWith chk .single st d data n = .ok (st', d', M') ∧
      ∃ rest, d'.steps.toList = ⟨r, c, data[k], 2⟩ :: rest :=
  exists_ok_imp (C03_nnchain_single_laws L T hnan chk st d data n (two_le_of_slot hl hk) hs hl)
    (fun _ hv => C07_first_step_of_greedy_plain .single rfl n data _ hl hv k hk r c hp hmin)

theorem C07_second_step_nnchain_single (L : OrderLaws α) (T : LtTrichotomy α)
    (hnan : ∀ x : α, Num.isNaN x = false) (chk : Bool)
    (st : State α) (d : Dendrogram α) (data : Array α) (n : Nat)
    (hs : n < 2147483648) (hl : 2 * data.size = n * (n - 1))
    (k : Nat) (hk : k < data.size) (r c : Nat) (hp : (pairs n)[k]? = some (r, c))
    (hmin : ∀ j (hj : j < data.size), j ≠ k → Num.lt data[k] data[j] = true)
    (k₂ : Nat) (hk₂ : k₂ < data.size) (hkk : k₂ ≠ k) (r₂ c₂ : Nat)
    (hp₂ : (pairs n)[k₂]? = some (r₂, c₂))
    (hmin₂ : ∀ j (hj : j < data.size), j ≠ k → j ≠ k₂ → Num.lt data[k₂] data[j] = true) :
    ∃ st' d' M', nnchainWith chk .single st d data n = .ok (st', d', M') ∧
      ∃ rest, d'.steps.toList = ⟨r, c, data[k], 2⟩ ::
        ⟨min (C07_label n r c r₂) (C07_label n r c c₂),
          max (C07_label n r c r₂) (C07_label n r c c₂),
          data[k₂], C07_csize r c r₂ + C07_csize r c c₂⟩ :: rest :=
  exists_ok_imp (C03_nnchain_single_laws L T hnan chk st d data n (two_le_of_slot hl hk) hs hl)
    (fun _ hv => C07_second_step_single_of_greedy L n data _ hl hv k hk r c hp hmin
      k₂ hk₂ hkk r₂ c₂ hp₂ hmin₂)

section Exact
variable {K : Type} [Field K] [LinearOrder K] [IsStrictOrderedRing K] [Num K]

/-- In exact arithmetic squaring is strictly monotone from a non-negative value upwards. -/
theorem C07_sq_lt_exact (F : FieldLaws K) (a b : K) (ha : 0 ≤ a) (h : Num.lt a b = true) :
    Num.lt (Num.mul a a) (Num.mul b b) = true := by
  rw [F.lt_true] at h ⊢
  rw [F.mul, F.mul]
  exact mul_self_lt_mul_self ha h

/-- Exact arithmetic, all seven methods.  For the methods on squares the
smallest entry must be non-negative (otherwise squaring reorders the entries). -/
theorem C07_first_step_of_greedy_exact (F : FieldLaws K) (m : Method) (n : Nat) (data : Array K)
    (steps : List (Step K)) (hl : 2 * data.size = n * (n - 1))
    (hv : GreedyValid m n data steps) (k : Nat) (hk : k < data.size) (r c : Nat)
    (hp : (pairs n)[k]? = some (r, c))
    (hmin : ∀ j (hj : j < data.size), j ≠ k → Num.lt data[k] data[j] = true)
    (h0 : m.onSquares = true → 0 ≤ data[k]) :
    ∃ rest, steps = ⟨r, c, C07_height m data[k], 2⟩ :: rest :=
  C07_first_step_of_greedy m n data steps hl hv k hk r c hp hmin
    (fun hm _ _ h => C07_sq_lt_exact F _ _ (h0 hm) h)

/-! ### Entry points in exact arithmetic (all methods) -/

/-- `primitive_with`, all seven methods, exact arithmetic (`C03_primitive_exact`): first step. -/
theorem C07_first_step_primitive (E : ExactLaws K) (chk : Bool) (m : Method) (st : State K)
    (d : Dendrogram K) (data : Array K) (n : Nat) (hs : n < 2147483648)
    (hl : 2 * data.size = n * (n - 1))
    (k : Nat) (hk : k < data.size) (r c : Nat) (hp : (pairs n)[k]? = some (r, c))
    (hmin : ∀ j (hj : j < data.size), j ≠ k → Num.lt data[k] data[j] = true)
    (h0 : m.onSquares = true → 0 ≤ data[k]) :
    ∃ st' d' M', primitiveWith chk m st d data n = .ok (st', d', M') ∧
      ∃ rest, d'.steps.toList = ⟨r, c, C07_height m data[k], 2⟩ :: rest :=
  exists_ok_imp (C03_primitive_exact E chk m st d data n (two_le_of_slot hl hk) hs hl)
    (fun _ hv =>
      C07_first_step_of_greedy_exact E.field m n data _ hl hv k hk r c hp hmin h0)

/-- `nnchain_with`, all five methods it accepts, exact arithmetic (`C03_nnchain_exact`): first
step. -/
theorem C07_first_step_nnchain (E : ExactLaws K) (chk : Bool) (mc : MethodChain) (st : State K)
    (d : Dendrogram K) (data : Array K) (n : Nat) (hs : n < 2147483648)
    (hl : 2 * data.size = n * (n - 1))
    (k : Nat) (hk : k < data.size) (r c : Nat) (hp : (pairs n)[k]? = some (r, c))
    (hmin : ∀ j (hj : j < data.size), j ≠ k → Num.lt data[k] data[j] = true)
    (h0 : mc.intoMethod.onSquares = true → 0 ≤ data[k]) :
    ∃ st' d' M', nnchainWith chk mc st d data n = .ok (st', d', M') ∧
      ∃ rest, d'.steps.toList = ⟨r, c, C07_height mc.intoMethod data[k], 2⟩ :: rest :=
  exists_ok_imp (C03_nnchain_exact E chk mc st d data n (two_le_of_slot hl hk) hs hl)
    (fun _ hv =>
      C07_first_step_of_greedy_exact E.field mc.intoMethod n data _ hl hv k hk r c hp hmin h0)

/-- `linkage_with` returns a greedy-valid dendrogram for every method in exact arithmetic: single
through `mst_with` (needs `InfTop`: the sentinel is not below an entry), complete / average /
weighted / Ward through `nnchain_with`, centroid / median through `generic_with` (needs the value
hypotheses of `C03_linkage_centroid_median` for some good set `G`). -/
theorem C07_linkage_greedy_exact (E : ExactLaws K) (chk : Bool) (m : Method) (st : State K)
    (d : Dendrogram K) (data : Array K) (n : Nat) (h2 : 2 ≤ n) (hs : n < 2147483648)
    (hl : 2 * data.size = n * (n - 1))
    (hinf : m = .single → InfTop n data)
    (hgen : m = .centroid ∨ m = .median → ∃ G : K → Prop, BeqLe K ∧ GoodSet G ∧ UpdClosed G m ∧
      Num.isNaN (Num.maxValue : K) = false ∧
      ∀ i (h : i < (squareData m data).size), G (squareData m data)[i]) :
    ∃ st' d' M', linkageWith chk m st d data n = .ok (st', d', M') ∧
      GreedyValid m n data d'.steps.toList := by
  refine linkageWith_cases (P := fun f => ∃ st' d' M', f st d data n = .ok (st', d', M') ∧
    GreedyValid m n data d'.steps.toList) chk m ?_ ?_ ?_
  · rintro rfl
    exact C03_mst_total E.field.orderLaws E.field.ltTrichotomy chk st d data n h2 hs hl
      (E.noNaN_data n data) (hinf rfl)
  · rintro mc - - rfl
    exact C03_nnchain_exact E chk mc st d data n h2 hs hl
  · intro hm
    obtain ⟨G, hbeq, gs, hcl, hmax, hin⟩ := hgen hm
    exact C03_generic_unsorted E.field.orderLaws hbeq gs chk m (by rcases hm with rfl | rfl <;> rfl)
      hcl (E.field.lwSymm m) hmax st d data n h2 hs hl hin

theorem C07_first_step_linkage (E : ExactLaws K) (chk : Bool) (m : Method) (st : State K)
    (d : Dendrogram K) (data : Array K) (n : Nat) (hs : n < 2147483648)
    (hl : 2 * data.size = n * (n - 1))
    (hinf : m = .single → InfTop n data)
    (hgen : m = .centroid ∨ m = .median → ∃ G : K → Prop, BeqLe K ∧ GoodSet G ∧ UpdClosed G m ∧
      Num.isNaN (Num.maxValue : K) = false ∧
      ∀ i (h : i < (squareData m data).size), G (squareData m data)[i])
    (k : Nat) (hk : k < data.size) (r c : Nat) (hp : (pairs n)[k]? = some (r, c))
    (hmin : ∀ j (hj : j < data.size), j ≠ k → Num.lt data[k] data[j] = true)
    (h0 : m.onSquares = true → 0 ≤ data[k]) :
    ∃ st' d' M', linkageWith chk m st d data n = .ok (st', d', M') ∧
      ∃ rest, d'.steps.toList = ⟨r, c, C07_height m data[k], 2⟩ :: rest :=
  exists_ok_imp
    (C07_linkage_greedy_exact E chk m st d data n (two_le_of_slot hl hk) hs hl hinf hgen)
    (fun _ hv =>
      C07_first_step_of_greedy_exact E.field m n data _ hl hv k hk r c hp hmin h0)

end Exact

/-! ## 4. Non-vacuity -/

section Example
attribute [local instance] Toy.natNum

/-- Condensed matrix `d01=5 d02=9 d03=7 d12=8 d13=6 d23=1` (`n = 4`): the unique smallest entry
sits in slot 5 = pair `(2,3)`, the unique second-smallest in slot 0 = pair `(0,1)` (disjoint pairs:
size 2, labels `0` and `1`). -/
private def exA : Array Nat := #[5, 9, 7, 8, 6, 1]

/-- `d01=1 d02=2 d03=5 d12=6 d13=7 d23=8`: smallest in slot 0 = `(0,1)`, second-smallest in slot
1 = `(0,2)` (shared observation `0`: the second step joins label `2` with the new label `4`,
size 3). -/
private def exB : Array Nat := #[1, 2, 5, 6, 7, 8]

/-- The hypotheses of theorem 1 hold on `exA` for a greedy-valid list, and its conclusion is what
that list starts with. -/
example : ∃ rest, ([⟨2, 3, 1, 2⟩, ⟨0, 1, 5, 2⟩, ⟨4, 5, 6, 4⟩] : List (Step Nat))
    = ⟨2, 3, exA[5], 2⟩ :: rest :=
  C07_first_step_of_greedy_plain .single rfl 4 exA _ (by decide) Toy.ex6_single_valid 5 (by decide)
    2 3 (by decide) (by decide)

/-- Theorem 1 for a method on squares over the toy numbers (`sqrt` is the identity there, so the
"height" is the squared entry): centroid on `exA`. -/
example : ∃ rest, ([⟨2, 3, 1, 2⟩, ⟨0, 1, 25, 2⟩, ⟨4, 5, 51, 4⟩] : List (Step Nat))
    = ⟨2, 3, C07_height .centroid exA[5], 2⟩ :: rest :=
  C07_first_step_of_greedy .centroid 4 exA _ (by decide) (by decide) 5 (by decide) 2 3
    (by decide) (by decide) (by decide)

/-- Theorem 2 on `exA` (disjoint pairs). -/
example : ∃ rest, ([⟨2, 3, 1, 2⟩, ⟨0, 1, 5, 2⟩, ⟨4, 5, 6, 4⟩] : List (Step Nat))
    = ⟨2, 3, exA[5], 2⟩ :: ⟨min (C07_label 4 2 3 0) (C07_label 4 2 3 1),
        max (C07_label 4 2 3 0) (C07_label 4 2 3 1), exA[0],
        C07_csize 2 3 0 + C07_csize 2 3 1⟩ :: rest :=
  C07_second_step_single_of_greedy Toy.natOrderLaws 4 exA _ (by decide) Toy.ex6_single_valid
    5 (by decide) 2 3 (by decide) (by decide) 0 (by decide) (by decide) 0 1 (by decide) (by decide)

/-- Theorem 2 on `exB` (the pairs share observation `0`): second step `(2, 4, 2, 3)`. -/
example : ∃ rest, ([⟨0, 1, 1, 2⟩, ⟨2, 4, 2, 3⟩, ⟨3, 5, 5, 4⟩] : List (Step Nat))
    = ⟨0, 1, exB[0], 2⟩ :: ⟨min (C07_label 4 0 1 0) (C07_label 4 0 1 2),
        max (C07_label 4 0 1 0) (C07_label 4 0 1 2), exB[1],
        C07_csize 0 1 0 + C07_csize 0 1 2⟩ :: rest :=
  C07_second_step_single_of_greedy Toy.natOrderLaws 4 exB _ (by decide) (by decide)
    0 (by decide) 0 1 (by decide) (by decide) 1 (by decide) (by decide) 0 2 (by decide) (by decide)

example : (C07_label 4 0 1 0, C07_label 4 0 1 2, C07_csize 0 1 0 + C07_csize 0 1 2) = (4, 2, 3) := by
  decide

private theorem exA_noNaN : NoNaN 4 exA := fun _ _ _ _ _ => rfl

private theorem exA_infTop : InfTop 4 exA := Toy.ex6_infTop

/-- Through an entry point: all hypotheses of `C07_second_step_mst` hold on `exA`. -/
example : ∃ st' d' M', mstWith true State.new (Dendrogram.new 0) exA 4 = .ok (st', d', M') ∧
    ∃ rest, d'.steps.toList = ⟨2, 3, 1, 2⟩ :: ⟨0, 1, 5, 2⟩ :: rest :=
  C07_second_step_mst Toy.natOrderLaws Toy.natTrichotomy true State.new (Dendrogram.new 0) exA 4
    (by decide) (by decide) exA_noNaN exA_infTop 5 (by decide) 2 3 (by decide) (by decide)
    0 (by decide) (by decide) 0 1 (by decide) (by decide)

/-- … and of the trichotomy-free form. -/
example := C07_second_step_linkage_single_upTo Toy.natOrderLaws false State.new (Dendrogram.new 0)
  exA 4 (by decide) (by decide) exA_noNaN exA_infTop 5 (by decide) 2 3 (by decide) (by decide)
  0 (by decide) (by decide) 0 1 (by decide) (by decide)

end Example

section ExactExample

/-- A `sqrt` on `ℚ` that is right at the one value needed. -/
private def sq4 (x : ℚ) : ℚ := if x = 4 then 2 else 0

/-- Ward through `primitive_with` over `ℚ` on `d01=2 d02=9 d12=4`: the first step is `(0, 1, ·, 2)`
with height `sqrt (2·2)`, which is the entry `2` itself for a `sqrt` that undoes that square. -/
example : ∃ st' d' M',
    @primitiveWith ℚ (fieldNumWith ℚ sq4) true .ward State.new (Dendrogram.new 0) #[2, 9, 4] 3
      = .ok (st', d', M') ∧
    ∃ rest, d'.steps.toList = ⟨0, 1, 2, 2⟩ :: rest := by
  have h := @C07_first_step_primitive ℚ _ _ _ (fieldNumWith ℚ sq4) (exactLaws_fieldNumWith ℚ sq4)
    true .ward State.new (Dendrogram.new 0) #[2, 9, 4] 3 (by decide) (by decide) 0 (by decide) 0 1
    (by decide) (by decide) (fun _ => by norm_num)
  have e : @C07_height ℚ (fieldNumWith ℚ sq4) .ward (#[2, 9, 4] : Array ℚ)[0] = 2 := by
    refine @C07_height_eq ℚ (fieldNumWith ℚ sq4) .ward _ (fun _ => ?_)
    simp [Num.sqrt, Num.mul, sq4]
    norm_num
  rw [e] at h
  exact h

end ExactExample

end Kodama
