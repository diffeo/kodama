/-
C04 WITHOUT `LtTrichotomy` — single linkage through `nnchain_with` and `generic_with` is exact also on
inputs that contain both `+0.0` and `−0.0` (or any other pair of distinct but order-equivalent values).

`Props/C04Single.lean` proves the threshold theorem for these two entry points through
`Spec.GreedyValid`, whose replay demands recorded heights EQUAL to table values; that needs
"incomparable ⇒ equal" (`LtTrichotomy α`), which is false for IEEE floats because of `±0`.  Here
trichotomy is removed by a QUOTIENT + NATURALITY argument on top of those theorems:

* `OrdQ L hnan` is `α` modulo order-equivalence (`a ~ b :⇔ ¬ a < b ∧ ¬ b < a`), with the comparison
  lifted; it satisfies `OrderLaws` AND `LtTrichotomy` by construction (`ordQ_orderLaws`,
  `ordQ_trichotomy`);
* the projection `α → OrdQ` is an order homomorphism (`ordQ_ordHom`; uses `BeqOrd α`: `==` is
  order-equivalence — true of IEEE `==` on non-NaN values, `±0` included) that maps the sentinels to the
  sentinels, so by the naturality theorem `C10` (every model function commutes with order homomorphisms
  for single/complete) the run on `α` returns iff the run on the quotient does, with the same labels
  and sizes and the projected heights;
* `SameCluster` and `Reach` only compare (`sameCluster_map`, `reach_map`), so the threshold theorem
  proved on the quotient (`C04_nnchain_single`, `C04_generic_single`) IS the threshold theorem on `α`.

Results: `C04_nnchain_single_noTri`, `C04_nnchain_single_count_noTri` (heights sorted; #steps ≤ h = n − #components),
`C04_generic_single_noTri`, `C04_generic_single_count_noTri` — hypotheses `OrderLaws α`, `BeqOrd α` (generic: in
addition every entry strictly below `T::max_value()`), NO trichotomy, but still the TYPE-level
`∀ x : α, Num.isNaN x = false`, which no float type satisfies; `Props/C04NaNFree.lean` replaces it by "no entry
of the matrix is NaN".  `C04_mst` and `C04_linkage_single` need neither hypothesis.  NOT covered:
`primitive_with(Single)` — `C04_primitive` (`Props/C04.lean`) takes `LtTrichotomy α`, and no trichotomy-free form
of it is proved.
-/
import Kodama.Props.C04Single
import Kodama.Props.C10
namespace Kodama
open Spec
variable {α : Type} [Num α]

/-- `==` is order-equivalence (IEEE `==` on non-NaN values; `+0 == −0`). -/
def BeqOrd (α : Type) [Num α] : Prop :=
  ∀ a b : α, Num.beq a b = (!Num.lt a b && !Num.lt b a)

/-! ## The quotient -/

def ordSetoid (L : OrderLaws α) (hnan : ∀ x : α, Num.isNaN x = false) : Setoid α where
  r a b := Num.lt a b = false ∧ Num.lt b a = false
  iseqv := by
    refine ⟨fun a => ?_, fun h => ⟨h.2, h.1⟩, fun {a b c} h1 h2 => ?_⟩
    · have : Num.lt a a = false := by
        cases h : Num.lt a a
        · rfl
        · have := L.asymm a a h; rw [h] at this; cases this
      exact ⟨this, this⟩
    · constructor
      · cases h : Num.lt a c
        · rfl
        · rcases L.cotrans a b c (hnan b) h with h' | h'
          · rw [h1.1] at h'; cases h'
          · rw [h2.1] at h'; cases h'
      · cases h : Num.lt c a
        · rfl
        · rcases L.cotrans c b a (hnan b) h with h' | h'
          · rw [h2.2] at h'; cases h'
          · rw [h1.2] at h'; cases h'

def OrdQ (L : OrderLaws α) (hnan : ∀ x : α, Num.isNaN x = false) : Type :=
  Quotient (ordSetoid L hnan)


theorem lt_congr (L : OrderLaws α) (hnan : ∀ x : α, Num.isNaN x = false) {a a' b b' : α} (ha : Num.lt a a' = false ∧ Num.lt a' a = false)
    (hb : Num.lt b b' = false ∧ Num.lt b' b = false) : Num.lt a b = Num.lt a' b' := by
  -- `¬ x' < y'` gives `¬ x < y` through `y ≤ y' ≤ x' ≤ x`
  have key : ∀ {x x' y y' : α}, (Num.lt x x' = false ∧ Num.lt x' x = false) →
      (Num.lt y y' = false ∧ Num.lt y' y = false) → Num.lt x' y' = false → Num.lt x y = false :=
    fun hx hy h => L.le_trans _ _ _ (hnan _) (L.le_trans _ _ _ (hnan _) hy.2 h) hx.1
  cases h' : Num.lt a' b'
  · exact key ha hb h'
  · cases h : Num.lt a b
    · rw [key ⟨ha.2, ha.1⟩ ⟨hb.2, hb.1⟩ h] at h'; cases h'
    · rfl

def OrdQ.lt (L : OrderLaws α) (hnan : ∀ x : α, Num.isNaN x = false) (x y : OrdQ L hnan) : Bool :=
  Quotient.liftOn₂ x y (fun a b => Num.lt a b) (fun _ _ _ _ ha hb => lt_congr L hnan ha hb)

/-- The number structure of the quotient: the comparison is lifted, `==` is equality of classes, there is
no NaN, the sentinels are the classes of the sentinels; the arithmetic operations (never used by single
and complete linkage) act on representatives. -/
@[instance_reducible] noncomputable def ordQNum (L : OrderLaws α) (hnan : ∀ x : α, Num.isNaN x = false) :
    Num (OrdQ L hnan) where
  lt := OrdQ.lt L hnan
  beq x y := !OrdQ.lt L hnan x y && !OrdQ.lt L hnan y x
  add x y := Quotient.mk _ (Num.add x.out y.out)
  sub x y := Quotient.mk _ (Num.sub x.out y.out)
  mul x y := Quotient.mk _ (Num.mul x.out y.out)
  div x y := Quotient.mk _ (Num.div x.out y.out)
  ofNat k := Quotient.mk _ (Num.ofNat k)
  half := Quotient.mk _ Num.half
  quarter := Quotient.mk _ Num.quarter
  sqrt x := Quotient.mk _ (Num.sqrt x.out)
  abs x := Quotient.mk _ (Num.abs x.out)
  maxValue := Quotient.mk _ Num.maxValue
  infinity := Quotient.mk _ Num.infinity
  isNaN _ := false

def OrdQ.mk (L : OrderLaws α) (hnan : ∀ x : α, Num.isNaN x = false) (a : α) : OrdQ L hnan :=
  Quotient.mk _ a

theorem ordQ_lt_mk (L : OrderLaws α) (hnan : ∀ x : α, Num.isNaN x = false) (a b : α) :
    @Num.lt _ (ordQNum L hnan) (OrdQ.mk L hnan a) (OrdQ.mk L hnan b) = Num.lt a b := rfl

theorem ordQ_orderLaws (L : OrderLaws α) (hnan : ∀ x : α, Num.isNaN x = false) : @OrderLaws (OrdQ L hnan) (ordQNum L hnan) := by
  refine @OrderLaws.mk _ (ordQNum L hnan) ?_ ?_
  · intro x y
    induction x using Quotient.ind with | _ a =>
    induction y using Quotient.ind with | _ b =>
    exact L.asymm a b
  · intro x y z _
    induction x using Quotient.ind with | _ a =>
    induction y using Quotient.ind with | _ b =>
    induction z using Quotient.ind with | _ c =>
    exact L.cotrans a b c (hnan b)

theorem ordQ_trichotomy (L : OrderLaws α) (hnan : ∀ x : α, Num.isNaN x = false) : @LtTrichotomy (OrdQ L hnan) (ordQNum L hnan) := by
  intro x y
  induction x using Quotient.ind with | _ a =>
  induction y using Quotient.ind with | _ b =>
  intro h1 h2
  exact Quotient.sound ⟨h1, h2⟩

theorem ordQ_noNaN (L : OrderLaws α) (hnan : ∀ x : α, Num.isNaN x = false) (x : OrdQ L hnan) : @Num.isNaN _ (ordQNum L hnan) x = false := rfl

theorem ordQ_ordHom (L : OrderLaws α) (hnan : ∀ x : α, Num.isNaN x = false) (B : BeqOrd α) : @OrdHom α (OrdQ L hnan) _ (ordQNum L hnan) (OrdQ.mk L hnan) := by
  refine @OrdHom.mk α (OrdQ L hnan) _ (ordQNum L hnan) _ (fun _ _ => rfl) (fun a b => ?_)
    (fun a => (hnan a).symm)
  show (!Num.lt a b && !Num.lt b a) = Num.beq a b
  exact (B a b).symm

/-! ## Transfer of the two relations of the threshold theorem -/

section Transfer
variable {β : Type} [Num β]

set_option linter.unusedSectionVars false in
theorem entry_map (g : α → β) (n : Nat) (data : Array α) (dflt : α) (i j : Nat) :
    entry n (data.map g) (g dflt) i j = g (entry n data dflt i j) := by
  unfold entry
  dsimp only
  generalize (pairs n).findIdx? (fun x => x == if i < j then (i, j) else (j, i)) = o
  cases o with
  | none => rfl
  | some k =>
    simp only [Array.getD_eq_getD_getElem?, Array.getElem?_map]
    cases data[k]? <;> rfl

theorem reach_map {g : α → β} (G : OrdHom g) (hinf : g Num.infinity = Num.infinity) (n : Nat)
    (data : Array α) (h : α) (u v : Nat) :
    Reach n (data.map g) (g h) u v ↔ Reach n data h u v := by
  have thr : ∀ a b, Thr n (data.map g) (g h) a b ↔ Thr n data h a b := by
    intro a b
    unfold Thr
    rw [← hinf, entry_map, G.lt]
  unfold Reach
  constructor
  · intro r
    induction r with
    | refl => exact Relation.ReflTransGen.refl
    | tail _ e ih => exact Relation.ReflTransGen.tail ih ((thr _ _).mp e)
  · intro r
    induction r with
    | refl => exact Relation.ReflTransGen.refl
    | tail _ e ih => exact Relation.ReflTransGen.tail ih ((thr _ _).mpr e)

omit [Num α] [Num β] in
/-- Observation sets do not look at heights. -/
theorem leaves_mapHeights (g : α → β) (n : Nat) (steps : List (Step α)) (fuel l : Nat) :
    leaves n (steps.map (mapStep g)) fuel l = leaves n steps fuel l := by
  fun_induction leaves n steps fuel l with
  | case1 l h => exact leaves_of_lt h _ _
  | case2 l h => exact leaves_zero h _
  | case3 fuel l h => exact leaves_of_lt h _ _
  | case4 fuel l h s hs ih1 ih2 =>
    rw [leaves_succ h (by rw [List.getElem?_map, hs]; rfl), mapStep_c1, mapStep_c2, ih1, ih2]
  | case5 fuel l h hs => exact leaves_of_get_none h (by rw [List.getElem?_map, hs]; rfl) _

theorem sameCluster_map {g : α → β} (G : OrdHom g) (n : Nat) (steps : List (Step α)) (h : α)
    (u v : Nat) :
    SameCluster n (steps.map (mapStep g)) (g h) u v ↔ SameCluster n steps h u v := by
  unfold SameCluster
  constructor
  · rintro (e | ⟨k, st', hk, hlt, hu, hv⟩)
    · exact Or.inl e
    · rw [List.getElem?_map] at hk
      cases hs : steps[k]? with
      | none => rw [hs] at hk; cases hk
      | some st =>
        rw [hs] at hk
        simp only [Option.map_some, Option.some.injEq] at hk
        subst hk
        rw [mapStep_d, G.lt] at hlt
        rw [List.length_map, leaves_mapHeights] at hu hv
        exact Or.inr ⟨k, st, hs, hlt, hu, hv⟩
  · rintro (e | ⟨k, st, hk, hlt, hu, hv⟩)
    · exact Or.inl e
    · refine Or.inr ⟨k, mapStep g st, by rw [List.getElem?_map, hk]; rfl, ?_, ?_, ?_⟩
      · rw [mapStep_d, G.lt]; exact hlt
      · rw [List.length_map, leaves_mapHeights]; exact hu
      · rw [List.length_map, leaves_mapHeights]; exact hv

/-- The threshold characterisation read on the image says the same as on the source. -/
theorem threshold_map {g : α → β} (G : OrdHom g) (hinf : g Num.infinity = Num.infinity) (n : Nat)
    (data : Array α) (steps : List (Step α)) (h : α) (u v : Nat) :
    (SameCluster n (steps.map (mapStep g)) (g h) u v ↔ Reach n (data.map g) (g h) u v) ↔
      (SameCluster n steps h u v ↔ Reach n data h u v) := by
  rw [sameCluster_map G, reach_map G hinf]

/-- The threshold characterisation of the steps `l` of a dendrogram over `data`: at every level two
observations are in one cluster iff they are connected in the threshold graph. -/
def IsThreshold (n : Nat) (data : Array α) (l : List (Step α)) : Prop :=
  ∀ (h : α) (u v : Nat), u < n → (SameCluster n l h u v ↔ Reach n data h u v)

theorem IsThreshold.reflect {g : α → β} (G : OrdHom g) (hinf : g Num.infinity = Num.infinity)
    {n : Nat} {data : Array α} (l : List (Step α))
    (h : IsThreshold n (data.map g) (l.map (mapStep g))) : IsThreshold n data l :=
  fun t u v hu => (threshold_map G hinf ..).mp (h (g t) u v hu)

/-- On the image the characterisation holds at the levels that are images. -/
theorem IsThreshold.map {g : α → β} (G : OrdHom g) (hinf : g Num.infinity = Num.infinity)
    {n : Nat} {data : Array α} (l : List (Step α)) (h : IsThreshold n data l) (t : α) (u v : Nat)
    (hu : u < n) :
    SameCluster n (l.map (mapStep g)) (g t) u v ↔ Reach n (data.map g) (g t) u v :=
  (threshold_map G hinf ..).mpr (h t u v hu)

end Transfer

/-! ## `nnchain_with(.., Single, ..)` without trichotomy -/

theorem C04_nnchain_single_noTri (L : OrderLaws α) (hnan : ∀ x : α, Num.isNaN x = false) (B : BeqOrd α)
    (chk : Bool) (st : State α) (d : Dendrogram α)
    (data : Array α) (n : Nat) (h2 : 2 ≤ n) (hs : n < 2147483648)
    (hl : 2 * data.size = n * (n - 1)) :
    ∃ st' d' M', nnchainWith chk .single st d data n = .ok (st', d', M') ∧
      ∀ (h : α) (u v : Nat), u < n →
        (SameCluster n d'.steps.toList h u v ↔ Reach n data h u v) := by
  let _ : Num (OrdQ L hnan) := ordQNum L hnan
  have G := ordQ_ordHom L hnan B
  exact G.run_pullback (.inl rfl) chk .nnchain (fun h => by cases h) (fun _ => rfl)
    st State.new d (Dendrogram.new 0) data n (IsThreshold.reflect G rfl)
    (C04_nnchain_single (ordQ_orderLaws L hnan) (ordQ_trichotomy L hnan) (ordQ_noNaN L hnan) chk
      State.new (Dendrogram.new 0) (data.map (OrdQ.mk L hnan)) n h2 hs
      (by rw [Array.size_map]; exact hl))

/-! ## The counting form (heights sorted; #steps ≤ h = n − #components) without trichotomy -/

section Count
variable {β : Type} [Num β]

theorem pairwise_sorted_map {g : α → β} (G : OrdHom g) (steps : List (Step α)) :
    (steps.map (mapStep g)).Pairwise (fun s t => Num.lt t.d s.d = false) ↔
      steps.Pairwise (fun s t => Num.lt t.d s.d = false) := by
  rw [List.pairwise_map]
  simp only [mapStep_d, G.lt]

theorem filter_le_map {g : α → β} (G : OrdHom g) (steps : List (Step α)) (h : α) :
    ((steps.map (mapStep g)).filter (fun st => !Num.lt (g h) st.d)).length =
      (steps.filter (fun st => !Num.lt h st.d)).length := by
  rw [List.filter_map, List.length_map]
  congr 2
  funext st
  simp only [Function.comp, mapStep_d, G.lt]

/-- The counting form of the threshold characterisation: the heights are sorted, and at every
level `h` the number of steps of height `≤ h` is `n` minus the number of components of the
threshold graph (given by representatives). -/
def IsCounted (n : Nat) (data : Array α) (l : List (Step α)) : Prop :=
  l.Pairwise (fun s t => Num.lt t.d s.d = false) ∧
  ∀ h : α, ∃ reps : List Nat,
    (l.filter (fun st => !Num.lt h st.d)).length + reps.length = n ∧
    (∀ r ∈ reps, r < n) ∧
    reps.Pairwise (fun r r' => ¬ Reach n data h r r') ∧
    (∀ u, u < n → ∃ r ∈ reps, Reach n data h u r)

theorem IsCounted.reflect {g : α → β} (G : OrdHom g) (hinf : g Num.infinity = Num.infinity)
    {n : Nat} {data : Array α} (l : List (Step α))
    (h : IsCounted n (data.map g) (l.map (mapStep g))) : IsCounted n data l := by
  refine ⟨(pairwise_sorted_map G _).mp h.1, fun t => ?_⟩
  obtain ⟨reps, h1, h2, h3, h4⟩ := h.2 (g t)
  rw [filter_le_map G] at h1
  simp only [reach_map G hinf] at h3 h4
  exact ⟨reps, h1, h2, h3, h4⟩

end Count

/-- The returned heights are non-decreasing and for every level `h` the number of steps of height `≤ h` is
`n` minus the number of connected components of the threshold graph at `h` (components given by a list of
pairwise unconnected representatives that reach every observation). -/
theorem C04_nnchain_single_count_noTri (L : OrderLaws α) (hnan : ∀ x : α, Num.isNaN x = false)
    (B : BeqOrd α) (chk : Bool) (st : State α) (d : Dendrogram α)
    (data : Array α) (n : Nat) (h2 : 2 ≤ n) (hs : n < 2147483648)
    (hl : 2 * data.size = n * (n - 1)) :
    ∃ st' d' M', nnchainWith chk .single st d data n = .ok (st', d', M') ∧
      d'.steps.toList.Pairwise (fun s t => Num.lt t.d s.d = false) ∧
      ∀ h : α, ∃ reps : List Nat,
        (d'.steps.toList.filter (fun st => !Num.lt h st.d)).length + reps.length = n ∧
        (∀ r ∈ reps, r < n) ∧
        reps.Pairwise (fun r r' => ¬ Reach n data h r r') ∧
        (∀ u, u < n → ∃ r ∈ reps, Reach n data h u r) := by
  let _ : Num (OrdQ L hnan) := ordQNum L hnan
  have G := ordQ_ordHom L hnan B
  exact G.run_pullback (.inl rfl) chk .nnchain (fun h => by cases h) (fun _ => rfl)
    st State.new d (Dendrogram.new 0) data n (IsCounted.reflect G rfl)
    (C04_nnchain_single_count (ordQ_orderLaws L hnan) (ordQ_trichotomy L hnan) (ordQ_noNaN L hnan)
      chk State.new (Dendrogram.new 0) (data.map (OrdQ.mk L hnan)) n h2 hs
      (by rw [Array.size_map]; exact hl))

/-! ## `generic_with(.., Single, ..)` without trichotomy -/

theorem ordQ_beqLe (L : OrderLaws α) (hnan : ∀ x : α, Num.isNaN x = false) :
    @BeqLe (OrdQ L hnan) (ordQNum L hnan) := by
  intro x y h
  change (!OrdQ.lt L hnan x y && !OrdQ.lt L hnan y x) = true at h
  simp only [Bool.and_eq_true, Bool.not_eq_true'] at h
  exact h.2

/-- On the quotient: the classes strictly below the class of `T::max_value()`. -/
def ordQGood (L : OrderLaws α) (hnan : ∀ x : α, Num.isNaN x = false) (x : OrdQ L hnan) : Prop :=
  @Num.lt _ (ordQNum L hnan) x (@Num.maxValue _ (ordQNum L hnan)) = true

theorem ordQ_goodSet (L : OrderLaws α) (hnan : ∀ x : α, Num.isNaN x = false) :
    @GoodSet (OrdQ L hnan) (ordQNum L hnan) (ordQGood L hnan) := by
  refine @GoodSet.mk _ (ordQNum L hnan) _ (fun _ _ => rfl) (fun _ h => h) (fun v _ => ?_)
  induction v using Quotient.ind with | _ a =>
  show (!Num.lt a a && !Num.lt a a) = true
  rw [L.irrefl a]; rfl

/-- Entries strictly below `T::max_value()` project to good classes. -/
theorem ordQGood_data (L : OrderLaws α) (hnan : ∀ x : α, Num.isNaN x = false) (data : Array α)
    (hin : ∀ i (h : i < data.size), Num.lt data[i] (Num.maxValue : α) = true) :
    ∀ i (h : i < (@squareData _ (ordQNum L hnan) .single (data.map (OrdQ.mk L hnan))).size),
      ordQGood L hnan (@squareData _ (ordQNum L hnan) .single (data.map (OrdQ.mk L hnan)))[i] := by
  have hsq : @squareData _ (ordQNum L hnan) .single (data.map (OrdQ.mk L hnan))
      = data.map (OrdQ.mk L hnan) := by
    simp [squareData, Method.onSquares]
  rw [hsq]
  intro i hi
  simp only [Array.getElem_map]
  exact hin i (by simpa using hi)

/-- `hin`: every entry strictly below `T::max_value()` — what `generic_with` needs to run at all. -/
theorem C04_generic_single_noTri (L : OrderLaws α) (hnan : ∀ x : α, Num.isNaN x = false)
    (B : BeqOrd α) (chk : Bool) (st : State α) (d : Dendrogram α)
    (data : Array α) (n : Nat) (h2 : 2 ≤ n) (hs : n < 2147483648)
    (hl : 2 * data.size = n * (n - 1))
    (hin : ∀ i (h : i < data.size), Num.lt data[i] (Num.maxValue : α) = true) :
    ∃ st' d' M', genericWith chk .single st d data n = .ok (st', d', M') ∧
      ∀ (h : α) (u v : Nat), u < n →
        (SameCluster n d'.steps.toList h u v ↔ Reach n data h u v) := by
  let _ : Num (OrdQ L hnan) := ordQNum L hnan
  have G := ordQ_ordHom L hnan B
  exact G.run_pullback (.inl rfl) chk .generic (fun _ => SentinelSafe.of_fix G rfl) (fun _ => rfl)
    st State.new d (Dendrogram.new 0) data n (IsThreshold.reflect G rfl)
    (C04_generic_single (ordQ_orderLaws L hnan) (ordQ_trichotomy L hnan) (ordQ_beqLe L hnan)
      (ordQ_goodSet L hnan) chk rfl State.new (Dendrogram.new 0) (data.map (OrdQ.mk L hnan)) n h2 hs
      (by rw [Array.size_map]; exact hl) (ordQGood_data L hnan data hin))

theorem C04_generic_single_count_noTri (L : OrderLaws α) (hnan : ∀ x : α, Num.isNaN x = false)
    (B : BeqOrd α) (chk : Bool) (st : State α) (d : Dendrogram α)
    (data : Array α) (n : Nat) (h2 : 2 ≤ n) (hs : n < 2147483648)
    (hl : 2 * data.size = n * (n - 1))
    (hin : ∀ i (h : i < data.size), Num.lt data[i] (Num.maxValue : α) = true) :
    ∃ st' d' M', genericWith chk .single st d data n = .ok (st', d', M') ∧
      d'.steps.toList.Pairwise (fun s t => Num.lt t.d s.d = false) ∧
      ∀ h : α, ∃ reps : List Nat,
        (d'.steps.toList.filter (fun st => !Num.lt h st.d)).length + reps.length = n ∧
        (∀ r ∈ reps, r < n) ∧
        reps.Pairwise (fun r r' => ¬ Reach n data h r r') ∧
        (∀ u, u < n → ∃ r ∈ reps, Reach n data h u r) := by
  let _ : Num (OrdQ L hnan) := ordQNum L hnan
  have G := ordQ_ordHom L hnan B
  exact G.run_pullback (.inl rfl) chk .generic (fun _ => SentinelSafe.of_fix G rfl) (fun _ => rfl)
    st State.new d (Dendrogram.new 0) data n (IsCounted.reflect G rfl)
    (C04_generic_single_count (ordQ_orderLaws L hnan) (ordQ_trichotomy L hnan) (ordQ_beqLe L hnan)
      (ordQ_goodSet L hnan) chk rfl State.new (Dendrogram.new 0) (data.map (OrdQ.mk L hnan)) n h2 hs
      (by rw [Array.size_map]; exact hl) (ordQGood_data L hnan data hin))

/-- Single linkage cuts identically through `nnchain_with` and `generic_with` at every level, `±0`
included: both cuts are the threshold components. -/
theorem C04_nnchain_generic_same_cuts_noTri (L : OrderLaws α) (hnan : ∀ x : α, Num.isNaN x = false)
    (B : BeqOrd α) (chk₁ chk₂ : Bool) (st₁ st₂ : State α) (d₁ d₂ : Dendrogram α)
    (data : Array α) (n : Nat) (h2 : 2 ≤ n) (hs : n < 2147483648)
    (hl : 2 * data.size = n * (n - 1))
    (hin : ∀ i (h : i < data.size), Num.lt data[i] (Num.maxValue : α) = true) :
    ∃ s₁ e₁ M₁ s₂ e₂ M₂,
      nnchainWith chk₁ .single st₁ d₁ data n = .ok (s₁, e₁, M₁) ∧
      genericWith chk₂ .single st₂ d₂ data n = .ok (s₂, e₂, M₂) ∧
      ∀ (h : α) (u v : Nat), u < n →
        (SameCluster n e₁.steps.toList h u v ↔ SameCluster n e₂.steps.toList h u v) := by
  obtain ⟨s₁, e₁, M₁, r₁, h₁⟩ := C04_nnchain_single_noTri L hnan B chk₁ st₁ d₁ data n h2 hs hl
  obtain ⟨s₂, e₂, M₂, r₂, h₂⟩ := C04_generic_single_noTri L hnan B chk₂ st₂ d₂ data n h2 hs hl hin
  exact ⟨s₁, e₁, M₁, s₂, e₂, M₂, r₁, r₂, fun h u v hu => (h₁ h u v hu).trans (h₂ h u v hu).symm⟩

/-- A number type whose comparison and `==` are those of a linear order on keys, with the NaNs the
values without a key, satisfies the order laws, and `==` is order-equivalence on non-NaN values. -/
theorem keyedLaws {ι : Type} [LinearOrder ι] (key : α → Option ι)
    (hlt : ∀ a b, Num.lt a b =
      match key a, key b with | some x, some y => decide (x < y) | _, _ => false)
    (hbeq : ∀ a b, Num.beq a b =
      match key a, key b with | some x, some y => decide (x = y) | _, _ => false)
    (hnan : ∀ a, Num.isNaN a = (key a).isNone) :
    OrderLaws α ∧ ∀ a b : α, Num.isNaN a = false → Num.isNaN b = false →
      Num.beq a b = (!Num.lt a b && !Num.lt b a) := by
  refine ⟨⟨fun a b => ?_, fun a b c => ?_⟩, fun a b => ?_⟩
  · rw [hlt, hlt]
    rcases key a with _ | x
    · intro h; cases h
    rcases key b with _ | y
    · intro h; cases h
    simp only [decide_eq_true_eq, decide_eq_false_iff_not]
    exact fun h => lt_asymm h
  · rw [hnan, hlt, hlt, hlt]
    rcases key b with _ | y
    · intro h; cases h
    rcases key a with _ | x
    · intro _ h; cases h
    rcases key c with _ | z
    · intro _ h; cases h
    simp only [decide_eq_true_eq]
    exact fun _ h => (lt_or_ge x y).imp id (fun hyx => lt_of_le_of_lt hyx h)
  · rw [hnan, hnan, hlt, hlt, hbeq]
    rcases key a with _ | x
    · intro h; cases h
    rcases key b with _ | y
    · intro _ h; cases h
    intro _ _
    simp only [← decide_not, ← Bool.decide_and, not_lt]
    exact decide_eq_decide.mpr ⟨fun h => ⟨h.ge, h.le⟩, fun h => le_antisymm h.2 h.1⟩

/-! ## Non-vacuity: a number type with two order-equivalent zeros -/

section Example

/-- Naturals with a sign bit that the comparison ignores: `(0, true)` and `(0, false)` play `−0`, `+0`. -/
@[reducible] def Toy.signedNum : Num (Nat × Bool) where
  lt a b := decide (a.1 < b.1)
  beq a b := decide (a.1 = b.1)
  add a b := (a.1 + b.1, a.2)
  sub a b := (a.1 - b.1, a.2)
  mul a b := (a.1 * b.1, a.2)
  div a b := (a.1 / b.1, a.2)
  ofNat k := (k, false)
  half := (0, false)
  quarter := (0, false)
  sqrt a := a
  abs a := (a.1, false)
  maxValue := (1000000, false)
  infinity := (1000000, false)
  isNaN _ := false

attribute [local instance] Toy.signedNum

theorem Toy.signedKeyed : OrderLaws (Nat × Bool) ∧ ∀ a b : Nat × Bool, Num.isNaN a = false →
    Num.isNaN b = false → Num.beq a b = (!Num.lt a b && !Num.lt b a) :=
  keyedLaws (fun a => some a.1) (fun _ _ => rfl) (fun _ _ => rfl) (fun _ => rfl)

theorem Toy.signedOrderLaws : OrderLaws (Nat × Bool) := Toy.signedKeyed.1

theorem Toy.signedBeqOrd : BeqOrd (Nat × Bool) := fun a b => Toy.signedKeyed.2 a b rfl rfl

/-- Trichotomy FAILS on this type … -/
example : ¬ LtTrichotomy (Nat × Bool) := by
  intro T
  have := T (0, true) (0, false) rfl rfl
  cases this

/-- … and the theorems apply: a matrix holding both zeros (`d01 = −0`, `d02 = +0`, `d12 = 1`). -/
example : ∃ st' d' M',
    nnchainWith true .single State.new (Dendrogram.new 0)
      (#[(0, true), (0, false), (1, false)] : Array (Nat × Bool)) 3 = .ok (st', d', M') ∧
    ∀ (h : Nat × Bool) (u v : Nat), u < 3 →
      (SameCluster 3 d'.steps.toList h u v ↔
        Reach 3 (#[(0, true), (0, false), (1, false)] : Array (Nat × Bool)) h u v) :=
  C04_nnchain_single_noTri Toy.signedOrderLaws (fun _ => rfl) Toy.signedBeqOrd true State.new
    (Dendrogram.new 0) _ 3 (by decide) (by decide) (by decide)

end Example

end Kodama
