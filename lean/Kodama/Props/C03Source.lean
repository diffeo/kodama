/-
C03 (tie to the source) — fingerprints of the hand-modelled functions this property's theorems are about.

The model of these functions is written by hand and tied to the crate by the bit-exact correspondence
run, which is bounded by the sizes it generates.  `Generated/Bodies.lean` is re-emitted from /repo on
every run with a fingerprint of each function's NORMALISED body (comments, attributes, cfg(test) items
and whitespace removed; parameters and local bindings alpha-renamed; tools/extract_bodies.py); each
theorem below pins the fingerprint of the text the model was written against.  A theorem that no longer
checks names the function that was edited: the model may no longer describe it (for instance on sizes the
correspondence run does not reach), and `check` searches for a failing input.  A fingerprint is proved
by exhibiting its row of the table (`Gen.bodyHash_of_row`); functions that other properties rest on
too are proved once, in `Lemmas/Fingerprint/`.  Written by
tools/mk_source_snapshot.py — by hand, after the model has been brought up to date, never by a check.
-/
import Kodama.Lemmas.Fingerprint.Active
import Kodama.Lemmas.Fingerprint.ChainMethods
import Kodama.Lemmas.Fingerprint.Generic
import Kodama.Lemmas.Fingerprint.GenericMethods
import Kodama.Lemmas.Fingerprint.Nnchain
import Kodama.Lemmas.Fingerprint.Primitive
import Kodama.Lemmas.Fingerprint.Queue
namespace Kodama

theorem C03_source_queue_LinkageHeap_is_empty : Gen.bodyHash "queue.rs::LinkageHeap::is_empty" = some 541810837262901355 := Fingerprint.queue_LinkageHeap_is_empty
theorem C03_source_queue_LinkageHeap_len : Gen.bodyHash "queue.rs::LinkageHeap::len" = some 356601399460223757 := Fingerprint.queue_LinkageHeap_len
theorem C03_source_queue_LinkageHeap_pop : Gen.bodyHash "queue.rs::LinkageHeap::pop" = some 581318552547960198 := Fingerprint.queue_LinkageHeap_pop
theorem C03_source_queue_LinkageHeap_peek : Gen.bodyHash "queue.rs::LinkageHeap::peek" = some 14713158983686933 := Fingerprint.queue_LinkageHeap_peek
theorem C03_source_queue_LinkageHeap_heapify : Gen.bodyHash "queue.rs::LinkageHeap::heapify" = some 626637675946396237 := Fingerprint.queue_LinkageHeap_heapify
theorem C03_source_queue_LinkageHeap_priority : Gen.bodyHash "queue.rs::LinkageHeap::priority" = some 1022848217240348545 := Fingerprint.queue_LinkageHeap_priority
theorem C03_source_queue_LinkageHeap_set_priority : Gen.bodyHash "queue.rs::LinkageHeap::set_priority" = some 396773740064790583 := Fingerprint.queue_LinkageHeap_set_priority
theorem C03_source_queue_LinkageHeap_sift_up : Gen.bodyHash "queue.rs::LinkageHeap::sift_up" = some 405030374798999656 := Fingerprint.queue_LinkageHeap_sift_up
theorem C03_source_queue_LinkageHeap_sift_down : Gen.bodyHash "queue.rs::LinkageHeap::sift_down" = some 480213012234795859 := Fingerprint.queue_LinkageHeap_sift_down
theorem C03_source_queue_LinkageHeap_swap : Gen.bodyHash "queue.rs::LinkageHeap::swap" = some 546835196994282615 := Fingerprint.queue_LinkageHeap_swap
theorem C03_source_queue_LinkageHeap_parent : Gen.bodyHash "queue.rs::LinkageHeap::parent" = some 414042300786923807 := Fingerprint.queue_LinkageHeap_parent
theorem C03_source_queue_LinkageHeap_children : Gen.bodyHash "queue.rs::LinkageHeap::children" = some 140235334618584006 := Fingerprint.queue_LinkageHeap_children
theorem C03_source_active_Active_contains : Gen.bodyHash "active.rs::Active::contains" = some 654886494140433379 := Fingerprint.active_Active_contains
theorem C03_source_active_Active_remove : Gen.bodyHash "active.rs::Active::remove" = some 386005549530244905 := Fingerprint.active_Active_remove
theorem C03_source_active_Active_iter : Gen.bodyHash "active.rs::Active::iter" = some 515319513971985362 := Fingerprint.active_Active_iter
theorem C03_source_active_Active_range : Gen.bodyHash "active.rs::Active::range" = some 148316777747368857 := Fingerprint.active_Active_range
theorem C03_source_active_ActiveIter_next : Gen.bodyHash "active.rs::ActiveIter::next" = some 1007075780930307687 := Fingerprint.active_ActiveIter_next
theorem C03_source_active_ActiveRange_next : Gen.bodyHash "active.rs::ActiveRange::next" = some 547352909114454429 := Fingerprint.active_ActiveRange_next
theorem C03_source_primitive_primitive_with : Gen.bodyHash "primitive.rs::primitive_with" = some 761770269870546089 := Fingerprint.primitive_primitive_with
theorem C03_source_primitive_argmin : Gen.bodyHash "primitive.rs::argmin" = some 1121607890787478695 := Fingerprint.primitive_argmin
theorem C03_source_chain_nnchain_with : Gen.bodyHash "chain.rs::nnchain_with" = some 106125546475694288 := Fingerprint.chain_nnchain_with
theorem C03_source_generic_generic_with : Gen.bodyHash "generic.rs::generic_with" = some 666595537043039253 := Fingerprint.generic_generic_with
theorem C03_source_chain_single : Gen.bodyHash "chain.rs::single" = some 548024668511678133 := Fingerprint.chain_single
theorem C03_source_chain_complete : Gen.bodyHash "chain.rs::complete" = some 1032925656827140883 := Fingerprint.chain_complete
theorem C03_source_chain_average : Gen.bodyHash "chain.rs::average" = some 618677340003473376 := Fingerprint.chain_average
theorem C03_source_chain_weighted : Gen.bodyHash "chain.rs::weighted" = some 147808584175107373 := Fingerprint.chain_weighted
theorem C03_source_chain_ward : Gen.bodyHash "chain.rs::ward" = some 947791683857424921 := Fingerprint.chain_ward
theorem C03_source_generic_single : Gen.bodyHash "generic.rs::single" = some 644996484007636956 := Fingerprint.generic_single
theorem C03_source_generic_complete : Gen.bodyHash "generic.rs::complete" = some 1037487414753074802 := Fingerprint.generic_complete
theorem C03_source_generic_average : Gen.bodyHash "generic.rs::average" = some 1116265116762071441 := Fingerprint.generic_average
theorem C03_source_generic_weighted : Gen.bodyHash "generic.rs::weighted" = some 935098845084524492 := Fingerprint.generic_weighted
theorem C03_source_generic_ward : Gen.bodyHash "generic.rs::ward" = some 874016737665832682 := Fingerprint.generic_ward
theorem C03_source_generic_centroid : Gen.bodyHash "generic.rs::centroid" = some 107088843728231042 := Fingerprint.generic_centroid
theorem C03_source_generic_median : Gen.bodyHash "generic.rs::median" = some 356816801408632543 := Fingerprint.generic_median
theorem C03_source_primitive_primitive : Gen.bodyHash "primitive.rs::primitive" = some 1103101677825009426 := Fingerprint.primitive_primitive
theorem C03_source_chain_nnchain : Gen.bodyHash "chain.rs::nnchain" = some 24852539402900289 := Fingerprint.chain_nnchain
theorem C03_source_generic_generic : Gen.bodyHash "generic.rs::generic" = some 580816253015378521 := Fingerprint.generic_generic

end Kodama
