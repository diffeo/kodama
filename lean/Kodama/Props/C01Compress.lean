/-
C01 (union–find part) — `relabel` with the REAL `find`, path compression included.

`Model/UnionFind.lean` models `LinkageUnionFind::find` without its second, compressing loop, and the
C01 theorems are about that abstraction ("compression never changes a root").  This file justifies
the abstraction by theorems about the faithful model `Model/UnionFindC.lean` (`UF.findC`, `UF.unionC`, `relabelC`: both `while
let` loops of src/union.rs:73-89, the rewritten `parents` array threaded through `union` and the
relabel loop), whose `parents` arrays are ALSO compared with the real `LinkageUnionFind` after every
operation (unit-level session `uf` through the hook `verif::VUnionFind`):

* `C01_compress_invisible`  for every method, prior union–find and every raw dendrogram whose labels
  are observation indices, `relabelC` and `relabel` panic alike or return the same dendrogram;
* `C01_findC_root`          on a well-shaped union–find `findC` returns exactly what `find` returns
  and leaves every label's root unchanged (so compression can never be observed through `find`);
* `C01_relabelC`            whenever the raw steps form a spanning tree, the compressing `relabelC`
  returns a `Spec.WellFormed` dendrogram with `observations = n` — C01 for the real relabel;
* `C01_relabelC_total`      and it does return (no panic, fuel of both loops suffices).

Non-vacuity: `example`s below — a union–find on which compression really rewrites `parents`, and the
toy raw tree of `Lemmas/RelabelWF.lean` relabelled by `relabelC`.
-/
import Kodama.Lemmas.UnionFindCompress
import Kodama.Lemmas.RelabelWF
import Kodama.Lemmas.MstInv
namespace Kodama
open Spec
variable {α : Type} [Num α]

theorem C01_compress_invisible (m : Method) (uf0 : UF) (d : Dendrogram α)
    (hlab : ∀ s ∈ d.steps.toList, s.c1 < d.obs ∧ s.c2 < d.obs) :
    (Prod.snd <$> relabelC m uf0 d) = (Prod.snd <$> relabel m uf0 d) :=
  (relabelC_rel m uf0 d hlab).map_eq.symm

theorem C01_findC_root {u : UF} (w : UFW u) (x : Nat) :
    (∀ p, u.find x = .error p → u.findC x = .error p) ∧
    (∀ r, u.find x = .ok r → ∃ u', u.findC x = .ok (r, u') ∧ u'.next = u.next ∧
      u'.parents.size = u.parents.size ∧ UFW u' ∧
      ∀ y ry, RootOf u.parents y ry ↔ RootOf u'.parents y ry) := by
  rcases (findC_rel w x).cases with ⟨p, hf, hc⟩ | ⟨r, ⟨_, u'⟩, hf, hc, rfl, e⟩
  · refine ⟨fun p' h => ?_, fun r h => ?_⟩
    · rw [hf] at h; cases h; exact hc
    · rw [hf] at h; cases h
  · refine ⟨fun p' h => ?_, fun r' h => ?_⟩
    · rw [hf] at h; cases h
    · rw [hf] at h; cases h
      exact ⟨u', hc, e.next.symm, e.same.1.symm, e.wv, e.same.2⟩

omit [Num α] in
/-- Raw steps that form a spanning tree of `0..n` mention observation indices only. -/
theorem labels_of_rawTree {n : Nat} {d : Dendrogram α} (hobs : d.obs = n)
    (hraw : RawTree n (rawOf d)) : ∀ s ∈ d.steps.toList, s.c1 < d.obs ∧ s.c2 < d.obs := by
  intro s hs
  have := hraw.inRange (s.c1, s.c2) (by
    unfold rawOf; exact List.mem_map.mpr ⟨s, hs, rfl⟩)
  rw [hobs]; exact this

theorem C01_relabelC (m : Method) (uf0 uf : UF) (d d' : Dendrogram α) (n : Nat) (hn : 2 ≤ n)
    (hobs : d.obs = n) (hraw : RawTree n (rawOf d))
    (h : relabelC m uf0 d = .ok (uf, d')) : d'.obs = n ∧ WellFormed n d'.steps.toList := by
  rcases (relabelC_rel m uf0 d (labels_of_rawTree hobs hraw)).cases with
    ⟨p, _, hc⟩ | ⟨⟨uf', d''⟩, _, hr, hc, e⟩
  · rw [h] at hc; cases hc
  · rw [h] at hc; cases hc
    cases e
    exact relabel_wellFormed m uf0 uf' d d' n hn hobs hraw hr

theorem C01_relabelC_total (m : Method) (uf0 : UF) (d : Dendrogram α) (n : Nat) (hn : 2 ≤ n)
    (hobs : d.obs = n) (hraw : RawTree n (rawOf d))
    (hsort : m.requiresSorting = false ∨ d.steps.size < 2 ∨
      ∀ s ∈ d.steps.toList, Num.isNaN s.d = false) :
    ∃ r, relabelC m uf0 d = .ok r := by
  obtain ⟨r, hr⟩ := relabel_total m uf0 d n hn hobs hraw hsort
  rcases (relabelC_rel m uf0 d (labels_of_rawTree hobs hraw)).cases with ⟨p, he, _⟩ | ⟨_, r', _, hc, _⟩
  · rw [hr] at he; cases he
  · exact ⟨r', hc⟩

/-! ### Non-vacuity -/

/-- Compression really rewrites `parents`: 0 → 3 → 4 becomes 0 → 4. -/
example : (UF.mk #[3, 3, 4, 4, 4, 5, 6] 5).findC 0 = .ok (4, UF.mk #[4, 3, 4, 4, 4, 5, 6] 5) := by
  rfl

/-- … on a union–find that meets the hypothesis of `C01_findC_root`. -/
example : UFW (UF.mk #[3, 3, 4, 4, 4, 5, 6] 5) := by
  refine ⟨by decide, ?_, ?_⟩
  · intro x y h
    have hx : x < 7 := (Array.getElem?_eq_some_iff.mp h).1
    have : ∀ x < 7, ∀ y, (#[3, 3, 4, 4, 4, 5, 6] : Array Nat)[x]? = some y → y = x ∨ (x < y ∧ y < 5) := by
      decide
    exact this x hx y h
  · intro x h1 h2
    have : ∀ x < 7, 5 ≤ x → (#[3, 3, 4, 4, 4, 5, 6] : Array Nat)[x]? = some x := by decide
    exact this x h2 h1

/-- The toy raw tree of `Lemmas/RelabelWF.lean` through the compressing relabel: same dendrogram as
through `relabel` (`toy_relabel_single`). -/
example : (Prod.snd <$> @relabelC Nat toyNum .single ⟨#[9, 9], 3⟩ toyRaw) =
    (Prod.snd <$> @relabel Nat toyNum .single ⟨#[9, 9], 3⟩ toyRaw) :=
  @C01_compress_invisible Nat toyNum .single ⟨#[9, 9], 3⟩ toyRaw (by decide)

end Kodama
