/-
C09 (tie to the source) — fingerprints of the hand-modelled functions this property's theorems are about.

The model of these functions is written by hand and tied to the crate by the bit-exact correspondence
run, which is bounded by the sizes it generates.  `Generated/Bodies.lean` is re-emitted from /repo on
every run with a fingerprint of each function's NORMALISED body (comments, attributes, cfg(test) items
and whitespace removed; parameters and local bindings alpha-renamed; tools/extract_bodies.py); each
theorem below pins the fingerprint of the text the model was written against.  A theorem that no longer
checks names the function that was edited: the model may no longer describe it (for instance on sizes the
correspondence run does not reach), and `check` searches for a failing input.  A fingerprint is proved
by exhibiting its row of the table (`Gen.bodyHash_of_row`); functions that other properties rest on
too are proved once, in `Lemmas/Fingerprint/`.  Written by
tools/mk_source_snapshot.py — by hand, after the model has been brought up to date, never by a check.
-/
import Kodama.Lemmas.Fingerprint.Generic
import Kodama.Lemmas.Fingerprint.Queue
namespace Kodama

theorem C09_source_queue_LinkageHeap_is_empty : Gen.bodyHash "queue.rs::LinkageHeap::is_empty" = some 541810837262901355 := Fingerprint.queue_LinkageHeap_is_empty
theorem C09_source_queue_LinkageHeap_len : Gen.bodyHash "queue.rs::LinkageHeap::len" = some 356601399460223757 := Fingerprint.queue_LinkageHeap_len
theorem C09_source_queue_LinkageHeap_pop : Gen.bodyHash "queue.rs::LinkageHeap::pop" = some 581318552547960198 := Fingerprint.queue_LinkageHeap_pop
theorem C09_source_queue_LinkageHeap_peek : Gen.bodyHash "queue.rs::LinkageHeap::peek" = some 14713158983686933 := Fingerprint.queue_LinkageHeap_peek
theorem C09_source_queue_LinkageHeap_heapify : Gen.bodyHash "queue.rs::LinkageHeap::heapify" = some 626637675946396237 := Fingerprint.queue_LinkageHeap_heapify
theorem C09_source_queue_LinkageHeap_priority : Gen.bodyHash "queue.rs::LinkageHeap::priority" = some 1022848217240348545 := Fingerprint.queue_LinkageHeap_priority
theorem C09_source_queue_LinkageHeap_set_priority : Gen.bodyHash "queue.rs::LinkageHeap::set_priority" = some 396773740064790583 := Fingerprint.queue_LinkageHeap_set_priority
theorem C09_source_queue_LinkageHeap_sift_up : Gen.bodyHash "queue.rs::LinkageHeap::sift_up" = some 405030374798999656 := Fingerprint.queue_LinkageHeap_sift_up
theorem C09_source_queue_LinkageHeap_sift_down : Gen.bodyHash "queue.rs::LinkageHeap::sift_down" = some 480213012234795859 := Fingerprint.queue_LinkageHeap_sift_down
theorem C09_source_queue_LinkageHeap_swap : Gen.bodyHash "queue.rs::LinkageHeap::swap" = some 546835196994282615 := Fingerprint.queue_LinkageHeap_swap
theorem C09_source_queue_LinkageHeap_parent : Gen.bodyHash "queue.rs::LinkageHeap::parent" = some 414042300786923807 := Fingerprint.queue_LinkageHeap_parent
theorem C09_source_queue_LinkageHeap_children : Gen.bodyHash "queue.rs::LinkageHeap::children" = some 140235334618584006 := Fingerprint.queue_LinkageHeap_children
theorem C09_source_generic_generic_with : Gen.bodyHash "generic.rs::generic_with" = some 666595537043039253 := Fingerprint.generic_generic_with
theorem C09_source_generic_generic : Gen.bodyHash "generic.rs::generic" = some 580816253015378521 := Fingerprint.generic_generic

end Kodama
