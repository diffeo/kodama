/-
C11 for `generic_with` and for `linkage_with` (all seven methods): renumbering the observations
renumbers the returned dendrogram, on tie-free input.

## Scope
EXACT ARITHMETIC ONLY: `K` a linearly ordered field whose `Num K` instance computes the field
operations and has no NaN (`ExactLaws K`; IEEE floats are not a field).  The entry point is called
twice — on `data` and on the renumbered matrix `data'` — with arbitrary (possibly different) build
modes and prior states; both matrices of valid shape `2 ≤ n < 2^31`, `2·len = n(n−1)`.

Setting as in `Props/C11.lean`: `π` a permutation of `0 … n−1` with inverse `ρ` (`IsPerm n π ρ`);
`data'` is characterised entrywise by `hperm : entry n data' ∞ i j = entry n data ∞ (π i) (π j)`;
`σ π n` is `π` on observations and the identity on internal labels; `mapStep (σ π n)` relabels the two
children of a step, smaller label first.

## Hypotheses beyond `ExactLaws K` and the shape
* tie-freeness — in `C11_generic` / `C11_linkage` of ANY greedy-valid reference run `steps₀` of `data`,
  in the `_self` forms of the run of either returned dendrogram.  With ties two greedy runs may
  legitimately differ, so no such statement holds without it.
* the sentinel hypotheses of `Props/C03Generic.lean`, on `data` ONLY (they are inherited by `data'`:
  `genericSafe_perm`, `infSafe_perm`, `Lemmas/ComposePerm.lean`):
  `C11_generic`: `BeqExact K`, `GenericSafe m data`;
  `C11_linkage`: `InfSafe n data` if `m` is routed to mst (single), `BeqExact K ∧ GenericSafe m data`
  if routed to generic (centroid, median), nothing for complete / average / weighted / Ward.
  (`GenericSafe` for Ward/centroid/median: see the limitation stated in `Props/C03Generic.lean`.)

## Conclusion
Both calls return; the steps returned on `data` are the steps returned on `data'` relabelled by
`σ π n`; hence same heights, same sizes, and the leaf set of every internal label `n+i` in the first
is the `π`-image of its leaf set in the second.
(`C03_generic_exact` / `C03_linkage_exact` twice + `C11_spec_unique` / `C11_spec_unique'`.)

NOT proved: anything with ties; anything about floats.
-/
import Kodama.Props.C03Generic
import Kodama.Props.C11
import Kodama.Lemmas.ComposePerm
import Kodama.Lemmas.ExampleRuns
namespace Kodama
open Spec
variable {K : Type} [Field K] [LinearOrder K] [IsStrictOrderedRing K] [Num K]

theorem C11_generic (E : ExactLaws K) (B : BeqExact K) (chk chk' : Bool) (m : Method)
    (st st' : State K) (d d' : Dendrogram K) (data data' : Array K) (n : Nat) (h2 : 2 ≤ n)
    (hs : n < 2147483648) (hl : 2 * data.size = n * (n - 1))
    (hl' : 2 * data'.size = n * (n - 1)) {π ρ : Nat → Nat} (hπ : IsPerm n π ρ)
    (hperm : ∀ i j, i < n → j < n →
      entry n data' Num.infinity i j = entry n data Num.infinity (π i) (π j))
    (S : GenericSafe m data)
    (steps₀ : List (Step K)) (h₀ : GreedyValid m n data steps₀)
    (ht : TieFreeFrom m (init m n data) steps₀) :
    ∃ s₁ e M₁ s₂ e' M₂,
      genericWith chk m st d data n = .ok (s₁, e, M₁) ∧
      genericWith chk' m st' d' data' n = .ok (s₂, e', M₂) ∧
      e.steps.toList = e'.steps.toList.map (mapStep (σ π n)) ∧
      e.steps.toList.map (·.d) = e'.steps.toList.map (·.d) ∧
      e.steps.toList.map (·.size) = e'.steps.toList.map (·.size) ∧
      ∀ i, (leaves n e.steps.toList e.steps.toList.length (n + i)).Perm
        ((leaves n e'.steps.toList e'.steps.toList.length (n + i)).map π) :=
  ReturnsGreedy.renumber (C03_generic_exact E B chk m st d data n h2 hs hl S)
    (C03_generic_exact E B chk' m st' d' data' n h2 hs hl' (genericSafe_perm hπ hl hl' hperm S))
    hπ (E.field.lwSymm m) hperm steps₀ h₀ ht

/-- The same with the tie-freeness hypothesis on the run of either returned dendrogram. -/
theorem C11_generic_self (E : ExactLaws K) (B : BeqExact K) (chk chk' : Bool) (m : Method)
    (st st' : State K) (d d' : Dendrogram K) (data data' : Array K) (n : Nat) (h2 : 2 ≤ n)
    (hs : n < 2147483648) (hl : 2 * data.size = n * (n - 1))
    (hl' : 2 * data'.size = n * (n - 1)) {π ρ : Nat → Nat} (hπ : IsPerm n π ρ)
    (hperm : ∀ i j, i < n → j < n →
      entry n data' Num.infinity i j = entry n data Num.infinity (π i) (π j))
    (S : GenericSafe m data) :
    ∃ s₁ e M₁ s₂ e' M₂,
      genericWith chk m st d data n = .ok (s₁, e, M₁) ∧
      genericWith chk' m st' d' data' n = .ok (s₂, e', M₂) ∧
      (TieFreeFrom m (init m n data) e.steps.toList ∨
          TieFreeFrom m (init m n data') e'.steps.toList →
        e.steps.toList = e'.steps.toList.map (mapStep (σ π n)) ∧
        e.steps.toList.map (·.d) = e'.steps.toList.map (·.d) ∧
        e.steps.toList.map (·.size) = e'.steps.toList.map (·.size) ∧
        ∀ i, (leaves n e.steps.toList e.steps.toList.length (n + i)).Perm
          ((leaves n e'.steps.toList e'.steps.toList.length (n + i)).map π)) :=
  ReturnsGreedy.renumber_self (C03_generic_exact E B chk m st d data n h2 hs hl S)
    (C03_generic_exact E B chk' m st' d' data' n h2 hs hl' (genericSafe_perm hπ hl hl' hperm S))
    hπ (E.field.lwSymm m) hperm

theorem C11_linkage (E : ExactLaws K) (chk chk' : Bool) (m : Method)
    (st st' : State K) (d d' : Dendrogram K) (data data' : Array K) (n : Nat) (h2 : 2 ≤ n)
    (hs : n < 2147483648) (hl : 2 * data.size = n * (n - 1))
    (hl' : 2 * data'.size = n * (n - 1)) {π ρ : Nat → Nat} (hπ : IsPerm n π ρ)
    (hperm : ∀ i j, i < n → j < n →
      entry n data' Num.infinity i j = entry n data Num.infinity (π i) (π j))
    (hinf : dispatch m = .mst → InfSafe n data)
    (hgen : dispatch m = .generic → BeqExact K ∧ GenericSafe m data)
    (steps₀ : List (Step K)) (h₀ : GreedyValid m n data steps₀)
    (ht : TieFreeFrom m (init m n data) steps₀) :
    ∃ s₁ e M₁ s₂ e' M₂,
      linkageWith chk m st d data n = .ok (s₁, e, M₁) ∧
      linkageWith chk' m st' d' data' n = .ok (s₂, e', M₂) ∧
      e.steps.toList = e'.steps.toList.map (mapStep (σ π n)) ∧
      e.steps.toList.map (·.d) = e'.steps.toList.map (·.d) ∧
      e.steps.toList.map (·.size) = e'.steps.toList.map (·.size) ∧
      ∀ i, (leaves n e.steps.toList e.steps.toList.length (n + i)).Perm
        ((leaves n e'.steps.toList e'.steps.toList.length (n + i)).map π) :=
  ReturnsGreedy.renumber (C03_linkage_exact E chk m st d data n h2 hs hl hinf hgen)
    (C03_linkage_exact E chk' m st' d' data' n h2 hs hl' (fun h => infSafe_perm hπ hperm (hinf h))
      (fun h => ⟨(hgen h).1, genericSafe_perm hπ hl hl' hperm (hgen h).2⟩))
    hπ (E.field.lwSymm m) hperm steps₀ h₀ ht

/-- The same with the tie-freeness hypothesis on the run of either returned dendrogram. -/
theorem C11_linkage_self (E : ExactLaws K) (chk chk' : Bool) (m : Method)
    (st st' : State K) (d d' : Dendrogram K) (data data' : Array K) (n : Nat) (h2 : 2 ≤ n)
    (hs : n < 2147483648) (hl : 2 * data.size = n * (n - 1))
    (hl' : 2 * data'.size = n * (n - 1)) {π ρ : Nat → Nat} (hπ : IsPerm n π ρ)
    (hperm : ∀ i j, i < n → j < n →
      entry n data' Num.infinity i j = entry n data Num.infinity (π i) (π j))
    (hinf : dispatch m = .mst → InfSafe n data)
    (hgen : dispatch m = .generic → BeqExact K ∧ GenericSafe m data) :
    ∃ s₁ e M₁ s₂ e' M₂,
      linkageWith chk m st d data n = .ok (s₁, e, M₁) ∧
      linkageWith chk' m st' d' data' n = .ok (s₂, e', M₂) ∧
      (TieFreeFrom m (init m n data) e.steps.toList ∨
          TieFreeFrom m (init m n data') e'.steps.toList →
        e.steps.toList = e'.steps.toList.map (mapStep (σ π n)) ∧
        e.steps.toList.map (·.d) = e'.steps.toList.map (·.d) ∧
        e.steps.toList.map (·.size) = e'.steps.toList.map (·.size) ∧
        ∀ i, (leaves n e.steps.toList e.steps.toList.length (n + i)).Perm
          ((leaves n e'.steps.toList e'.steps.toList.length (n + i)).map π)) :=
  ReturnsGreedy.renumber_self (C03_linkage_exact E chk m st d data n h2 hs hl hinf hgen)
    (C03_linkage_exact E chk' m st' d' data' n h2 hs hl' (fun h => infSafe_perm hπ hperm (hinf h))
      (fun h => ⟨(hgen h).1, genericSafe_perm hπ hl hl' hperm (hgen h).2⟩))
    hπ (E.field.lwSymm m) hperm

/-! ### Non-vacuity over `ℚ` (`ratNumMax 1000`) -/

section Example
@[reducible] private def qNum : Num ℚ := ratNumMax 1000
attribute [local instance] qNum

/-- The 3-cycle `0 ↦ 1 ↦ 2 ↦ 0` and its inverse. -/
private def cyc : Nat → Nat
  | 0 => 1 | 1 => 2 | 2 => 0 | k => k
private def cycInv : Nat → Nat
  | 0 => 2 | 1 => 0 | 2 => 1 | k => k

private theorem cyc_isPerm : IsPerm 3 cyc cycInv := by
  refine ⟨?_, ?_, ?_, ?_⟩ <;> decide

/-- `d(0,1) = 5, d(0,2) = 2, d(1,2) = 9` and its renumbering by `cyc`. -/
private def exQ : Array ℚ := #[5, 2, 9]
private def exQ' : Array ℚ := #[9, 5, 2]
private def exQSteps : List (Step ℚ) := [⟨0, 2, 2, 2⟩, ⟨1, 3, 5, 3⟩]

private theorem exQ_hperm : ∀ i j, i < 3 → j < 3 →
    entry 3 exQ' Num.infinity i j = entry 3 exQ Num.infinity (cyc i) (cyc j) :=
  forall_lt_pairs (by decide)

private theorem exQ_lt : ∀ v ∈ exQ.toList, v < (Num.maxValue : ℚ) := by decide

private theorem exQ_inf : InfSafe 3 exQ := exQ_entry_le_1000

/-- All hypotheses of `C11_generic` hold of a concrete rational instance with a non-trivial
permutation (single linkage through `generic_with`; different build modes for the two calls). -/
example : ∃ s₁ e M₁ s₂ e' M₂,
    genericWith true .single State.new (Dendrogram.new 0) exQ 3 = .ok (s₁, e, M₁) ∧
    genericWith false .single State.new (Dendrogram.new 3) exQ' 3 = .ok (s₂, e', M₂) ∧
    e.steps.toList = e'.steps.toList.map (mapStep (σ cyc 3)) ∧
    e.steps.toList.map (·.d) = e'.steps.toList.map (·.d) ∧
    e.steps.toList.map (·.size) = e'.steps.toList.map (·.size) ∧
    ∀ i, (leaves 3 e.steps.toList e.steps.toList.length (3 + i)).Perm
      ((leaves 3 e'.steps.toList e'.steps.toList.length (3 + i)).map cyc) :=
  C11_generic (ratNumMax_exact 1000) (ratNumMax_beq 1000) true false .single _ _ _ _ exQ exQ' 3
    (by decide) (by decide) (by decide) (by decide) cyc_isPerm exQ_hperm
    (genericSafe_of_lt_max (ratNumMax_exact 1000) .single rfl exQ exQ_lt)
    exQSteps exQ_single_valid1000 exQ_single_tieFree1000

/-- The same through `linkage_with` (single: routed to `mst_with`, hypothesis `InfSafe`). -/
example : ∃ s₁ e M₁ s₂ e' M₂,
    linkageWith true .single State.new (Dendrogram.new 0) exQ 3 = .ok (s₁, e, M₁) ∧
    linkageWith false .single State.new (Dendrogram.new 3) exQ' 3 = .ok (s₂, e', M₂) ∧
    e.steps.toList = e'.steps.toList.map (mapStep (σ cyc 3)) ∧
    e.steps.toList.map (·.d) = e'.steps.toList.map (·.d) ∧
    e.steps.toList.map (·.size) = e'.steps.toList.map (·.size) ∧
    ∀ i, (leaves 3 e.steps.toList e.steps.toList.length (3 + i)).Perm
      ((leaves 3 e'.steps.toList e'.steps.toList.length (3 + i)).map cyc) :=
  C11_linkage (ratNumMax_exact 1000) true false .single _ _ _ _ exQ exQ' 3
    (by decide) (by decide) (by decide) (by decide) cyc_isPerm exQ_hperm
    (fun _ => exQ_inf) (fun h => by cases h) exQSteps exQ_single_valid1000
    exQ_single_tieFree1000

end Example

end Kodama
