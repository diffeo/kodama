/-
C14 — quadratic work (matrix index computations ≤ 10 n² + 50 n) for mst / nnchain / linkage with the
five reducible methods.

The model threads a counter `Mat.acc` through `mst` and `nnchain` that ticks exactly where the
`kodama_verif` hook in `matrix_to_condensed_idx` ticks; the correspondence run compares the model's
count with the hook's count EXACTLY on every generated case (same floats ⇒ same control flow ⇒ same
count), so a semantically invisible slowdown (chain restarted every iteration, an extra rescan)
changes the count and breaks the tie.

Proved here:
* `C14_mst`        for every valid matrix (2 ≤ n < 2^31), every comparison behaviour (NO law about
                   `<` is used), both build modes and every prior state: `mst_with` performs EXACTLY
                   n(n-1)/2 index computations — in particular ≤ 10 n² + 50 n (`C14_mst_bound`).
* `C14_small`      for n ≤ 1 (empty matrix) no index computation happens, on every entry point.
* `C14_dispatch`   `linkage` routes exactly the five methods to mst (single) or nnchain
                   (generated table, by cases), never to generic/primitive.

* `C14_nnchain*`, `C14_linkage*`  the bound for `nnchain` and `linkage` under explicit hypotheses
                   (`ChainReducible`; `Props/C14{Average,Ward,Weighted}.lean` discharge them per method):
                   the chain invariant "chain entries are live and pairwise distinct" plus an
                   Abel-summation argument (`chainWork_step`); the measured worst case is 3.5 n².
                   The exact model/hook count correspondence and the bound oracle on adversarial inputs
                   (sorted / reverse-sorted entries, all ties, geometric progressions with chains of
                   length ~n, up to n = 2000) run on every check as well.
-/
import Kodama.Lemmas.MstRun
import Kodama.Lemmas.Tail
import Kodama.Lemmas.ChainExact
import Kodama.Lemmas.Entry
import Kodama.Lemmas.SpecDecide
import Kodama.Lemmas.ChainOn
namespace Kodama
variable {α : Type} [Num α]

theorem C14_mst (chk : Bool) (st st' : State α) (d d' : Dendrogram α) (data : Array α) (n : Nat)
    (M' : Mat α) (h2 : 2 ≤ n) (hs : n < 2147483648) (hl : 2 * data.size = n * (n - 1))
    (h : mstWith chk st d data n = .ok (st', d', M')) :
    2 * M'.acc = n * (n - 1) :=
  let ⟨_, _, hres⟩ := (mstWith_eq chk st d data n h2 hs hl).mat h
  hres.acc

theorem C14_mst_bound (chk : Bool) (st st' : State α) (d d' : Dendrogram α) (data : Array α)
    (n : Nat) (M' : Mat α) (h2 : 2 ≤ n) (hs : n < 2147483648)
    (hl : 2 * data.size = n * (n - 1))
    (h : mstWith chk st d data n = .ok (st', d', M')) :
    M'.acc ≤ 10 * (n * n) + 50 * n := by
  have := C14_mst chk st st' d d' data n M' h2 hs hl h
  have h1 : n * (n - 1) ≤ n * n := Nat.mul_le_mul_left n (by omega)
  omega

/-- `n ≤ 1`: the matrix must be empty and nothing is ever indexed, on every entry point. -/
theorem C14_small (chk : Bool) (alg : Alg) (m : Method) (st st' : State α) (d d' : Dendrogram α)
    (n : Nat) (M' : Mat α) (hn : n ≤ 1)
    (h : runWith chk alg m st d (#[] : Array α) n = .ok (st', d', M')) : M'.acc = 0 := by
  obtain ⟨body, -, e⟩ | ⟨-, e⟩ := runWith_frame (α := α) chk alg m <;> rw [e] at h
  · rw [squareData_empty, withFrame_empty _ _ _ _ _ hn] at h
    cases h; rfl
  · cases h

theorem C14_dispatch :
    ∀ m : Method, m.requiresSorting = true →
      (dispatch m = .mst ∧ m = .single) ∨ (dispatch m = .nnchain ∧ m.intoMethodChain.isSome) := by
  intro m; cases m <;> simp [Method.requiresSorting, dispatch, Method.intoMethodChain]

end Kodama

/-!
### `nnchain_with` (chain invariant, `Lemmas/Chain{Mat,Scan,Inv,Iter,Run,Exact}.lean`)

* `C14_nnchain`    `nnchain_with` on every valid matrix, under `OrderLaws α`, NaN-free (squared) input
                   and the named algebraic hypothesis `ChainReducible α mc`: at most `7·n(n+1) − 10`
                   index computations (`C14_nnchain_tight`), in particular ≤ 10 n² + 50 n.  Proof: the
                   chain entries are pairwise distinct live clusters (`ChainL`), so with ℓ live
                   clusters each push costs ≤ 2ℓ (one test + at most one improvement per scanned
                   cluster), the restart scan ≤ 1 + 2ℓ, the update = 2(ℓ−2) (+1 for Ward); an outer
                   iteration pops at most 3 entries, and the potential
                   `acc + 7·ℓ(ℓ+1) ≤ 7·n(n+1) + 2·ℓ·chain.len` (Abel summation in disguise: a chain
                   entry pushed when ℓ clusters were live is charged 2ℓ) is an invariant
                   (`ChainInv.work`, `chainWork_step`).  The model's `acc` equals the instrumented
                   crate's count EXACTLY on every correspondence case, so this is a statement about
                   the code's control flow, not about a re-implementation.
* `C14_nnchain_single_complete`  `Single` / `Complete` without the reducibility hypothesis;
  `C14_nnchain_exact`  all five methods in exact arithmetic.
* `C14_linkage`    `linkage_with` for the five methods (generated dispatch table: single → mst, exact
                   count; complete/average/weighted/Ward → nnchain): ≤ 10 n² + 50 n under the same
                   hypotheses; `C14_linkage_single_complete` unconditionally (single needs NO
                   hypothesis on the numbers at all, complete `OrderLaws` + NaN-free input).
-/
namespace Kodama
variable {α : Type} [Num α]


theorem chainBound_of_tight {acc n : Nat} (h : acc + 10 ≤ 7 * (n * (n + 1))) :
    acc ≤ 10 * (n * n) + 50 * n := by
  rw [Nat.mul_add, Nat.mul_one] at h
  omega

/-- The bound the potential argument gives, for a method that is reducible on a domain containing the
(squared) input: `acc ≤ 7·n(n+1) − 10`. -/
theorem C14_nnchain_tight_on (L : OrderLaws α) (chk : Bool) (mc : MethodChain) (ok : α → Prop)
    (hred : ChainReducibleOn α ok mc)
    (st st' : State α) (d d' : Dendrogram α) (data : Array α) (n : Nat) (M' : Mat α)
    (h2 : 2 ≤ n) (hs : n < 2147483648) (hl : 2 * data.size = n * (n - 1))
    (hnan : NoNaNData (squareData mc.intoMethod data))
    (hd : OkData ok (squareData mc.intoMethod data))
    (h : nnchainWith chk mc st d data n = .ok (st', d', M')) :
    M'.acc + 10 ≤ 7 * (n * (n + 1)) :=
  let ⟨_, _, hres⟩ := (nnchainWith_eq_on L chk mc ok hred st d data n h2 hs hl hnan hd).mat h
  hres.acc

/-- The case `ok := fun _ => True`. -/
theorem C14_nnchain_tight (L : OrderLaws α) (chk : Bool) (mc : MethodChain) (hred : ChainReducible α mc)
    (st st' : State α) (d d' : Dendrogram α) (data : Array α) (n : Nat) (M' : Mat α)
    (h2 : 2 ≤ n) (hs : n < 2147483648) (hl : 2 * data.size = n * (n - 1))
    (hnan : NoNaNData (squareData mc.intoMethod data))
    (h : nnchainWith chk mc st d data n = .ok (st', d', M')) :
    M'.acc + 10 ≤ 7 * (n * (n + 1)) :=
  C14_nnchain_tight_on L chk mc _ hred.on st st' d d' data n M' h2 hs hl hnan (fun _ _ => trivial) h

theorem C14_nnchain (L : OrderLaws α) (chk : Bool) (mc : MethodChain) (hred : ChainReducible α mc)
    (st st' : State α) (d d' : Dendrogram α) (data : Array α) (n : Nat) (M' : Mat α)
    (h2 : 2 ≤ n) (hs : n < 2147483648) (hl : 2 * data.size = n * (n - 1))
    (hnan : NoNaNData (squareData mc.intoMethod data))
    (h : nnchainWith chk mc st d data n = .ok (st', d', M')) :
    M'.acc ≤ 10 * (n * n) + 50 * n :=
  chainBound_of_tight (C14_nnchain_tight L chk mc hred st st' d d' data n M' h2 hs hl hnan h)

theorem C14_nnchain_single_complete (L : OrderLaws α) (chk : Bool) (mc : MethodChain)
    (hmc : mc = .single ∨ mc = .complete) (st st' : State α) (d d' : Dendrogram α)
    (data : Array α) (n : Nat) (M' : Mat α) (h2 : 2 ≤ n) (hs : n < 2147483648)
    (hl : 2 * data.size = n * (n - 1)) (hnan : NoNaNData data)
    (h : nnchainWith chk mc st d data n = .ok (st', d', M')) :
    M'.acc ≤ 10 * (n * n) + 50 * n :=
  C14_nnchain L chk mc (chainReducible_single_complete mc hmc) st st' d d' data n M' h2 hs hl
    (by rw [squareData_single_complete mc hmc]; exact hnan) h

theorem C14_nnchain_exact {K : Type} [Field K] [LinearOrder K] [IsStrictOrderedRing K] [Num K]
    (F : FieldLaws K) (hnn : ∀ x : K, Num.isNaN x = false) (chk : Bool) (mc : MethodChain)
    (st st' : State K) (d d' : Dendrogram K) (data : Array K) (n : Nat) (M' : Mat K) (h2 : 2 ≤ n)
    (hs : n < 2147483648) (hl : 2 * data.size = n * (n - 1))
    (h : nnchainWith chk mc st d data n = .ok (st', d', M')) :
    M'.acc ≤ 10 * (n * n) + 50 * n :=
  C14_nnchain F.orderLaws chk mc (chainReducible_exact F hnn mc) st st' d d' data n M'
    h2 hs hl (fun _ _ => hnn _) h

/-- `linkage_with`, the five methods of C14, through the generated dispatch table. -/
theorem C14_linkage (L : OrderLaws α) (chk : Bool) (m : Method)
    (hm : m.requiresSorting = true)
    (hred : ∀ mc, m.intoMethodChain = some mc → ChainReducible α mc)
    (st st' : State α) (d d' : Dendrogram α) (data : Array α) (n : Nat) (M' : Mat α)
    (h2 : 2 ≤ n) (hs : n < 2147483648) (hl : 2 * data.size = n * (n - 1))
    (hnan : m ≠ .single → NoNaNData (squareData m data))
    (h : linkageWith chk m st d data n = .ok (st', d', M')) :
    M'.acc ≤ 10 * (n * n) + 50 * n := by
  revert h
  refine linkageWith_cases (P := fun f => f st d data n = .ok (st', d', M') → _) chk m ?_ ?_ ?_
  · exact fun _ => C14_mst_bound chk st st' d d' data n M' h2 hs hl
  · exact fun mc hne hmc e =>
      C14_nnchain L chk mc (hred mc hmc) st st' d d' data n M' h2 hs hl (e ▸ hnan hne)
  · rintro (rfl | rfl) <;> cases hm

/-- Single (no hypothesis on the numbers at all: mst) and complete (`OrderLaws` + NaN-free input). -/
theorem C14_linkage_single_complete (L : OrderLaws α) (chk : Bool) (m : Method)
    (hm : m = .single ∨ m = .complete)
    (st st' : State α) (d d' : Dendrogram α) (data : Array α) (n : Nat) (M' : Mat α)
    (h2 : 2 ≤ n) (hs : n < 2147483648) (hl : 2 * data.size = n * (n - 1))
    (hnan : m = .complete → NoNaNData data)
    (h : linkageWith chk m st d data n = .ok (st', d', M')) :
    M'.acc ≤ 10 * (n * n) + 50 * n := by
  rcases hm with rfl | rfl
  · exact C14_mst_bound chk st st' d d' data n M' h2 hs hl h
  · exact C14_nnchain_single_complete L chk .complete (.inr rfl) st st' d d' data n M' h2 hs hl
      (hnan rfl) h

/-- Non-vacuity (hypotheses satisfiable: toy exact number type, valid 4-point matrix; see also the
`example`s at the end of `Props/C12.lean`). -/
example (st' : State Nat) (d' : Dendrogram Nat) (M' : Mat Nat)
    (h : @nnchainWith Nat Spec.Toy.natNum true .complete State.new (Dendrogram.new 4)
      (#[5, 2, 9, 7, 4, 1] : Array Nat) 4 = .ok (st', d', M')) :
    M'.acc ≤ 10 * (4 * 4) + 50 * 4 :=
  @C14_nnchain_single_complete Nat Spec.Toy.natNum Spec.Toy.natOrderLaws true .complete (Or.inr rfl)
    _ st' _ d' _ 4 M' (by decide) (by decide) (by decide) (fun _ _ => rfl) h

end Kodama
