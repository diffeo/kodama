/-
C07 — condensed layout.

Proved here, for ALL n, r, c (no bound except the 2^31 guard on usize arithmetic), against the
index expression and debug assertions *regenerated from src/condensed.rs on every run*:

* `C07_layout`      entry `Gen.idxN n r c` of the row-major pair enumeration `Spec.pairs n`
                    (two nested ranges, no formula) is the pair `(r, c)`.
* `C07_bij`         the index is injective on `{r < c < n}`, lands below `n(n-1)/2`, and the
                    enumeration has exactly `n(n-1)/2` entries (so it is a bijection).
* `C07_no_underflow` for `r < c < n < 2^31` the `usize` evaluation of the expression neither
                    underflows nor overflows, in checked and unchecked builds alike, and equals the
                    `Nat` reading.
* `C07_get` / `C07_set` the model's `dis[[r,c]]` reads/writes exactly that slot of the caller's slice.
* `C07_debug_ok`    the debug assertions hold exactly on `r < c < n`.

The "observable consequence" part of the property (the first step merges the pair of the unique
smallest entry; the second step under single linkage) is proved in `Props/C07Steps.lean`, and is
also *checked* on the implementation by the probe-matrix oracle of the correspondence run (every
slot for n <= 24 quick / n <= 64 thorough, random slots up to n = 3000).
-/
import Kodama.Lemmas.Layout
import Kodama.Model.Mat
namespace Kodama
open Spec

theorem C07_layout (n r c : Nat) (hrc : r < c) (hcn : c < n) :
    (pairs n)[Gen.idxN n r c]? = some (r, c) :=
  pairs_idxN n r c hrc hcn

theorem C07_bij (n : Nat) :
    2 * (pairs n).length = n * (n - 1) ∧
    (∀ r c, r < c → c < n → Gen.idxN n r c < (pairs n).length) ∧
    (∀ r c r' c', r < c → c < n → r' < c' → c' < n →
        Gen.idxN n r c = Gen.idxN n r' c' → r = r' ∧ c = c') ∧
    (∀ k (h : k < (pairs n).length),
        (pairs n)[k].1 < (pairs n)[k].2 ∧ (pairs n)[k].2 < n ∧
        Gen.idxN n (pairs n)[k].1 (pairs n)[k].2 = k) :=
  ⟨pairs_length n,
    fun r c hrc hcn => (List.getElem?_eq_some_iff.mp (pairs_idxN n r c hrc hcn)).1,
    idxN_injective n, pairs_getElem_idxN n⟩

theorem C07_no_underflow (chk : Bool) (n r c : Nat) (hrc : r < c) (hcn : c < n)
    (hn : n < 2147483648) : Gen.idxM chk n r c = .ok (Gen.idxN n r c) :=
  idxM_eq_idxN chk n r c hrc hcn hn

theorem C07_debug_ok (n r c : Nat) : Gen.idxDebugOk n r c = true ↔ r < c ∧ c < n := by
  simp [Gen.idxDebugOk]

/-- `dis[[r, c]]` reads the slot that the row-major enumeration assigns to `(r, c)`. -/
theorem C07_get {α : Type} (chk : Bool) (M : Mat α) (r c : Nat) (hrc : r < c) (hcn : c < M.n)
    (hn : M.n < 2147483648) :
    M.get chk r c = aget M.data (Gen.idxN M.n r c) ∧
    (pairs M.n)[Gen.idxN M.n r c]? = some (r, c) :=
  ⟨Mat.get_eq_aget chk M r c hrc hcn hn, pairs_idxN _ _ _ hrc hcn⟩

/-- `dis[[r, c]] = v` writes that slot and nothing else. -/
theorem C07_set {α : Type} (chk : Bool) (M : Mat α) (r c : Nat) (v : α) (hrc : r < c)
    (hcn : c < M.n) (hn : M.n < 2147483648) :
    M.set chk r c v = (aset M.data (Gen.idxN M.n r c) v).map (fun d => { M with data := d }) :=
  Mat.set_eq_aset chk M r c v hrc hcn hn

/-- Non-vacuity: a concrete instance of the hypotheses and of the conclusion. -/
example : (pairs 5)[Gen.idxN 5 1 3]? = some (1, 3) := by decide

end Kodama
