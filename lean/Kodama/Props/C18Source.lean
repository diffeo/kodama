/-
C18 (tie to the source) — fingerprints of the hand-modelled functions this property's theorems are about.

The model of these functions is written by hand and tied to the crate by the bit-exact correspondence
run, which is bounded by the sizes it generates.  `Generated/Bodies.lean` is re-emitted from /repo on
every run with a fingerprint of each function's NORMALISED body (comments, attributes, cfg(test) items
and whitespace removed; parameters and local bindings alpha-renamed; tools/extract_bodies.py); each
theorem below pins the fingerprint of the text the model was written against.  A theorem that no longer
checks names the function that was edited: the model may no longer describe it (for instance on sizes the
correspondence run does not reach), and `check` searches for a failing input.  A fingerprint is proved
by exhibiting its row of the table (`Gen.bodyHash_of_row`); functions that other properties rest on
too are proved once, in `Lemmas/Fingerprint/`.  Written by
tools/mk_source_snapshot.py — by hand, after the model has been brought up to date, never by a check.
-/
import Kodama.Lemmas.Fingerprint.Table
namespace Kodama

theorem C18_source_locations_parse_csv : Gen.bodyHash "locations.rs::parse_csv" = some 1144687331912683259 := Gen.bodyHash_of_row (i := 58) rfl
theorem C18_source_locations_haversine : Gen.bodyHash "locations.rs::haversine" = some 821127512965112566 := Gen.bodyHash_of_row (i := 59) rfl
theorem C18_source_locations_condensed_distance_matrix : Gen.bodyHash "locations.rs::condensed_distance_matrix" = some 17542018274466823 := Gen.bodyHash_of_row (i := 60) rfl
theorem C18_source_locations_run : Gen.bodyHash "locations.rs::run" = some 1002521549618140644 := Gen.bodyHash_of_row (i := 61) rfl
theorem C18_source_locations_main : Gen.bodyHash "locations.rs::main" = some 310570631244868488 := Gen.bodyHash_of_row (i := 62) rfl
theorem C18_source_locations_vec_f64_from_file : Gen.bodyHash "locations.rs::vec_f64_from_file" = some 894567470244353663 := Gen.bodyHash_of_row (i := 63) rfl
theorem C18_source_locations_vec_f64_to_file : Gen.bodyHash "locations.rs::vec_f64_to_file" = some 1101432952975330267 := Gen.bodyHash_of_row (i := 64) rfl

end Kodama
