/-
C06 for `mst_with` / `linkage_with(.., Method::Single, ..)` — on tie-free input they return THE
greedy-valid dendrogram, hence agree with `primitive_with(.., Method::Single, ..)` and with every
greedy-valid reference, step for step (labels, sizes and heights).

Entry points: `mst_with` (model `mstWith`), `linkage_with` with `Method::Single`, compared with
`primitive_with` with `Method::Single` (model `primitiveWith … .single`); both build modes, every
prior state, every valid shape `2 ≤ n < 2^31`, `2·len = n(n-1)`.

Hypotheses (explicit): `OrderLaws α`, `LtTrichotomy α` (incomparable ⇒ equal; FALSE for IEEE floats
because of `±0` and NaN — these are exact-order statements, as `C03_mst` and `C03_primitive_single`
are), `NoNaN n data`, `InfTop n data` (the sentinel `T::infinity()` is not NaN and not strictly
below an entry), and TIE-FREENESS (`Spec.TieFreeFrom`: at every state of the replay the merged pair
is the strict minimum over the live pairs) of one greedy-valid run — a reference, or either output.
With ties two greedy runs may legitimately differ, so nothing is claimed without it.

* `C06_mst_unique`          `mstWith`'s steps ARE the steps of any tie-free greedy-valid reference
                            (`C03_mst` + `C06_unique`).
* `C06_mst_unique_self`     tie-freeness placed on the run of the output itself: every greedy-valid
                            list equals the output.
* `C06_mst_modes`           on tie-free input the returned steps depend neither on the build mode
                            nor on the prior state.
* `C06_mst_primitive_agree` both `primitiveWith … .single` and `mstWith` return, both outputs are
                            greedy-valid, and if the run of either is tie-free the two step lists are
                            EQUAL.  `C06_mst_primitive_agree_of_runs`: the same for given runs.
* `C06_mst_linkage_single`  the same for `linkageWith … .single` against a reference.
* `C06_mst_primitive_agree_exact`  exact arithmetic (`ExactLaws K`): the only hypotheses left are
                            the shape, "no entry exceeds the sentinel" and tie-freeness.  This is
                            `C06_primitive_mst_statement` of `Props/C06.lean` with the sentinel
                            hypothesis it lacks (for `fieldNum K` the sentinel is `0`).
-/
import Kodama.Props.C03Mst
import Kodama.Props.C06
import Kodama.Lemmas.ExampleRuns
namespace Kodama
open Spec
variable {α : Type} [Num α]

/-- **C06 for `mst_with`**: on tie-free input the returned steps are the steps of any greedy-valid
dendrogram of the same matrix. -/
theorem C06_mst_unique (L : OrderLaws α) (T : LtTrichotomy α) (chk : Bool) (st st' : State α)
    (d d' : Dendrogram α) (data : Array α) (n : Nat) (M' : Mat α) (h2 : 2 ≤ n)
    (hs : n < 2147483648) (hl : 2 * data.size = n * (n - 1)) (hnan : NoNaN n data)
    (hinf : InfTop n data) (hrun : mstWith chk st d data n = .ok (st', d', M'))
    (steps₀ : List (Step α)) (h₀ : GreedyValid .single n data steps₀)
    (htf : TieFreeFrom .single (init .single n data) steps₀) : d'.steps.toList = steps₀ :=
  (C06_unique .single n data steps₀ _ h₀
    (C03_mst L T chk st st' d d' data n M' h2 hs hl hnan hinf hrun) htf).symm

/-- The same with the tie-freeness hypothesis on the run of the returned steps. -/
theorem C06_mst_unique_self (L : OrderLaws α) (T : LtTrichotomy α) (chk : Bool) (st st' : State α)
    (d d' : Dendrogram α) (data : Array α) (n : Nat) (M' : Mat α) (h2 : 2 ≤ n)
    (hs : n < 2147483648) (hl : 2 * data.size = n * (n - 1)) (hnan : NoNaN n data)
    (hinf : InfTop n data) (hrun : mstWith chk st d data n = .ok (st', d', M'))
    (htf : TieFreeFrom .single (init .single n data) d'.steps.toList)
    (steps₂ : List (Step α)) (h₂ : GreedyValid .single n data steps₂) :
    steps₂ = d'.steps.toList :=
  (C06_unique .single n data _ steps₂
    (C03_mst L T chk st st' d d' data n M' h2 hs hl hnan hinf hrun) h₂ htf).symm

/-- On tie-free input the steps returned by `mst_with` depend neither on the build mode nor on the
prior state. -/
theorem C06_mst_modes (L : OrderLaws α) (T : LtTrichotomy α) (chk₁ chk₂ : Bool)
    (st₁ st₂ : State α) (d₁ d₂ : Dendrogram α) (data : Array α) (n : Nat) (h2 : 2 ≤ n)
    (hs : n < 2147483648) (hl : 2 * data.size = n * (n - 1)) (hnan : NoNaN n data)
    (hinf : InfTop n data) (steps₀ : List (Step α)) (h₀ : GreedyValid .single n data steps₀)
    (htf : TieFreeFrom .single (init .single n data) steps₀) :
    ∃ r₁ r₂, mstWith chk₁ st₁ d₁ data n = .ok r₁ ∧ mstWith chk₂ st₂ d₂ data n = .ok r₂ ∧
      r₁.2.1.steps.toList = steps₀ ∧ r₂.2.1.steps.toList = steps₀ := by
  obtain ⟨⟨s1, e1, M1⟩, hr1⟩ := C04_mst_total L chk₁ st₁ d₁ data n h2 hs hl hnan hinf
  obtain ⟨⟨s2, e2, M2⟩, hr2⟩ := C04_mst_total L chk₂ st₂ d₂ data n h2 hs hl hnan hinf
  exact ⟨_, _, hr1, hr2,
    C06_mst_unique L T chk₁ st₁ s1 d₁ e1 data n M1 h2 hs hl hnan hinf hr1 steps₀ h₀ htf,
    C06_mst_unique L T chk₂ st₂ s2 d₂ e2 data n M2 h2 hs hl hnan hinf hr2 steps₀ h₀ htf⟩

/-- **`primitive_with(Single)` and `mst_with` agree on tie-free input**: both return, both outputs
are greedy runs of the specification, and if the run of either output never meets a tie the two
step lists are equal. -/
theorem C06_mst_primitive_agree (L : OrderLaws α) (T : LtTrichotomy α) (chk₁ chk₂ : Bool)
    (st₁ st₂ : State α) (d₁ d₂ : Dendrogram α) (data : Array α) (n : Nat) (h2 : 2 ≤ n)
    (hs : n < 2147483648) (hl : 2 * data.size = n * (n - 1)) (hnan : NoNaN n data)
    (hinf : InfTop n data) :
    ∃ sp dp Mp sm dm Mm,
      primitiveWith chk₁ .single st₁ d₁ data n = .ok (sp, dp, Mp) ∧
      mstWith chk₂ st₂ d₂ data n = .ok (sm, dm, Mm) ∧
      GreedyValid .single n data dp.steps.toList ∧
      GreedyValid .single n data dm.steps.toList ∧
      (TieFreeFrom .single (init .single n data) dp.steps.toList ∨
          TieFreeFrom .single (init .single n data) dm.steps.toList →
        dp.steps.toList = dm.steps.toList) :=
  ReturnsGreedy.agree
    (C03_primitive_single L T chk₁ st₁ d₁ data n h2 hs hl (initNoNaN_single_of_noNaN hnan))
    (C03_mst_total L T chk₂ st₂ d₂ data n h2 hs hl hnan hinf)

/-- The same for given successful runs and a tie-free greedy-valid reference: both outputs ARE the
reference. -/
theorem C06_mst_primitive_agree_of_runs (L : OrderLaws α) (T : LtTrichotomy α)
    (chk₁ chk₂ : Bool) (st₁ st₂ sp sm : State α) (d₁ d₂ dp dm : Dendrogram α) (data : Array α)
    (n : Nat) (Mp Mm : Mat α) (h2 : 2 ≤ n) (hs : n < 2147483648)
    (hl : 2 * data.size = n * (n - 1)) (hnan : NoNaN n data) (hinf : InfTop n data)
    (hp : primitiveWith chk₁ .single st₁ d₁ data n = .ok (sp, dp, Mp))
    (hm : mstWith chk₂ st₂ d₂ data n = .ok (sm, dm, Mm))
    (steps₀ : List (Step α)) (h₀ : GreedyValid .single n data steps₀)
    (htf : TieFreeFrom .single (init .single n data) steps₀) :
    dp.steps.toList = steps₀ ∧ dm.steps.toList = steps₀ := by
  have hgp := of_exists_ok (C03_primitive_single L T chk₁ st₁ d₁ data n h2 hs hl
    (initNoNaN_single_of_noNaN hnan)) hp
  exact ⟨(C06_unique .single n data steps₀ _ h₀ hgp htf).symm,
    C06_mst_unique L T chk₂ st₂ sm d₂ dm data n Mm h2 hs hl hnan hinf hm steps₀ h₀ htf⟩

theorem C06_mst_linkage_single (L : OrderLaws α) (T : LtTrichotomy α) (chk : Bool)
    (st st' : State α) (d d' : Dendrogram α) (data : Array α) (n : Nat) (M' : Mat α) (h2 : 2 ≤ n)
    (hs : n < 2147483648) (hl : 2 * data.size = n * (n - 1)) (hnan : NoNaN n data)
    (hinf : InfTop n data) (hrun : linkageWith chk .single st d data n = .ok (st', d', M'))
    (steps₀ : List (Step α)) (h₀ : GreedyValid .single n data steps₀)
    (htf : TieFreeFrom .single (init .single n data) steps₀) : d'.steps.toList = steps₀ :=
  C06_mst_unique L T chk st st' d d' data n M' h2 hs hl hnan hinf hrun steps₀ h₀ htf

/-! ## Exact arithmetic -/

section Exact
variable {K : Type} [Field K] [LinearOrder K] [Num K]

/-- `C06_mst_primitive_agree` in exact arithmetic; `hinf`: no entry exceeds the sentinel. -/
theorem C06_mst_primitive_agree_exact (E : ExactLaws K) (chk₁ chk₂ : Bool) (st₁ st₂ : State K)
    (d₁ d₂ : Dendrogram K) (data : Array K) (n : Nat) (h2 : 2 ≤ n) (hs : n < 2147483648)
    (hl : 2 * data.size = n * (n - 1))
    (hinf : ∀ u v, u < n → v < n → u ≠ v →
      entry n data Num.infinity u v ≤ (Num.infinity : K))
    (steps₀ : List (Step K)) (h₀ : GreedyValid .single n data steps₀)
    (htf : TieFreeFrom .single (init .single n data) steps₀) :
    ∃ sp dp Mp sm dm Mm,
      primitiveWith chk₁ .single st₁ d₁ data n = .ok (sp, dp, Mp) ∧
      mstWith chk₂ st₂ d₂ data n = .ok (sm, dm, Mm) ∧
      dp.steps.toList = steps₀ ∧ dm.steps.toList = steps₀ := by
  have hnan : NoNaN n data := fun _ _ _ _ _ => E.noNaN _
  have hinf' : InfTop n data :=
    ⟨E.noNaN _, fun u v hu hv huv => E.field.lt_false.2 (hinf u v hu hv huv)⟩
  obtain ⟨sp, dp, Mp, sm, dm, Mm, hp, hm, -, -, -⟩ :=
    C06_mst_primitive_agree E.field.orderLaws E.field.ltTrichotomy chk₁ chk₂ st₁ st₂ d₁ d₂ data n
      h2 hs hl hnan hinf'
  obtain ⟨e1, e2⟩ := C06_mst_primitive_agree_of_runs E.field.orderLaws E.field.ltTrichotomy
    chk₁ chk₂ st₁ st₂ sp sm d₁ d₂ dp dm data n Mp Mm h2 hs hl hnan hinf' hp hm steps₀ h₀ htf
  exact ⟨sp, dp, Mp, sm, dm, Mm, hp, hm, e1, e2⟩

end Exact

/-! ### Non-vacuity -/

section NonVacuity
attribute [local instance] Toy.natNum

/-- Condensed matrix `d01=5 d02=9 d03=7 d12=8 d13=6 d23=1` (tie-free). -/
private def exData : Array Nat := #[5, 9, 7, 8, 6, 1]
private def exSteps : List (Step Nat) := [⟨2, 3, 1, 2⟩, ⟨0, 1, 5, 2⟩, ⟨4, 5, 6, 4⟩]

private theorem exNoNaN : NoNaN 4 exData := fun _ _ _ _ _ => rfl

private theorem exInfTop : InfTop 4 exData := Toy.ex6_infTop

/-- All hypotheses hold of a concrete tie-free instance: `mstWith` and `primitiveWith … .single`
both return exactly the hand-written greedy run. -/
example : ∃ sp dp Mp sm dm Mm,
    primitiveWith true .single State.new (Dendrogram.new 0) exData 4 = .ok (sp, dp, Mp) ∧
    mstWith false State.new (Dendrogram.new 4) exData 4 = .ok (sm, dm, Mm) ∧
    dp.steps.toList = exSteps ∧ dm.steps.toList = exSteps := by
  obtain ⟨sp, dp, Mp, sm, dm, Mm, hp, hm, -, -, -⟩ :=
    C06_mst_primitive_agree Toy.natOrderLaws Toy.natTrichotomy true false State.new State.new
      (Dendrogram.new 0) (Dendrogram.new 4) exData 4 (by decide) (by decide) (by decide)
      exNoNaN exInfTop
  obtain ⟨e1, e2⟩ := C06_mst_primitive_agree_of_runs Toy.natOrderLaws Toy.natTrichotomy true false
    _ _ sp sm _ _ dp dm exData 4 Mp Mm (by decide) (by decide) (by decide) exNoNaN exInfTop hp hm
    exSteps Toy.ex6_single_valid Toy.ex6_single_tieFree
  exact ⟨sp, dp, Mp, sm, dm, Mm, hp, hm, e1, e2⟩

end NonVacuity

/-! ### Non-vacuity over `ℚ` (an exact instance with sentinel `1000`) -/

section ExactExample

/-- `fieldNum ℚ` with the sentinels set to `1000`. -/
@[reducible] private def qNumInf : Num ℚ := { fieldNum ℚ with maxValue := 1000, infinity := 1000 }

private theorem qNumInf_exact : @ExactLaws ℚ _ _ qNumInf := ratNumMax_exact 1000

attribute [local instance] qNumInf

/-- `d01 = 5, d02 = 2, d12 = 9`. -/
private def exQ : Array ℚ := #[5, 2, 9]
private def exQSteps : List (Step ℚ) := [⟨0, 2, 2, 2⟩, ⟨1, 3, 5, 3⟩]

private theorem exQ_inf : ∀ u v, u < 3 → v < 3 → u ≠ v →
    entry 3 exQ Num.infinity u v ≤ (Num.infinity : ℚ) := exQ_entry_le_1000

/-- The exact corollary on a rational instance: both algorithms return the reference run. -/
example : ∃ sp dp Mp sm dm Mm,
    primitiveWith true .single State.new (Dendrogram.new 0) exQ 3 = .ok (sp, dp, Mp) ∧
    mstWith false State.new (Dendrogram.new 3) exQ 3 = .ok (sm, dm, Mm) ∧
    dp.steps.toList = exQSteps ∧ dm.steps.toList = exQSteps :=
  C06_mst_primitive_agree_exact qNumInf_exact true false _ _ _ _ exQ 3 (by decide) (by decide)
    (by decide) exQ_inf exQSteps exQ_single_valid1000 exQ_single_tieFree1000

end ExactExample

end Kodama
