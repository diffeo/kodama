/-
C03 for SINGLE and COMPLETE linkage under hypotheses an IEEE float type satisfies (companion of
`Props/C04NaNFree.lean`): no type-level "no NaN", no `LtTrichotomy`.

* `nonNaN_transfer`   for single / complete and an entry point that compares no sentinel: if the run over
  the subtype `NonNaN α` (the NaN-free matrix read as a matrix over the subtype) returns steps with property
  `P`, the run over `α` returns exactly the images of such steps (inclusion `NonNaN α → α`; `C10`).
* `C03_single_complete_float`   `primitive_with` and `nnchain_with` on a matrix WITHOUT NaN ENTRIES return, their
  heights are not NaN, and — read over `NonNaN α` modulo order-equivalence (`OrdQ`) — the returned steps are
  `Spec.GreedyValid` for the projected input: every step merges a closest pair of the clusters then present, at
  that pair's dissimilarity up to order-equivalence (`±0`).

Hypotheses: `OrderLaws α`, `BeqOrdOn α` (`==` is order-equivalence on non-NaN values), the two sentinels not
NaN, `∀ x ∈ data, ¬NaN x` — all true of `f32` / `f64` (sampled on every run).
-/
import Kodama.Props.C04NaNFree
import Kodama.Props.C03Quotient
namespace Kodama
open Spec
variable {α : Type} [Num α]

theorem nonNaN_transfer (hmax : Num.isNaN (Num.maxValue : α) = false)
    (hinf : Num.isNaN (Num.infinity : α) = false) {m : Method} (hm : m.selectsOnly) (alg : Alg)
    (hmaxU : usesMax alg m = false) (hinfU : usesInf alg m = false) (chk : Bool) (st : State α)
    (d : Dendrogram α) (data : Array α) (n : Nat) (hdata : ∀ x ∈ data, Num.isNaN x = false)
    (P : List (Step (NonNaN α)) → Prop)
    (hq : ∃ sS dS MS, @runWith _ (nnNum hmax hinf) chk alg m (State.new : State (NonNaN α))
        (Dendrogram.new 0) (nnData data hdata) n = .ok (sS, dS, MS) ∧ P dS.steps.toList) :
    ∃ st' d' M', runWith chk alg m st d data n = .ok (st', d', M') ∧
      ∃ l : List (Step (NonNaN α)), P l ∧ d'.steps.toList = l.map (mapStep Subtype.val) := by
  let _ : Num (NonNaN α) := nnNum hmax hinf
  have k := (nn_ordHom hmax hinf).run_push hm chk alg (fun h => by rw [hmaxU] at h; cases h)
    (fun h => by rw [hinfU] at h; cases h) State.new st (Dendrogram.new 0) d (nnData data hdata) n
    (Q := fun l' => ∃ l, P l ∧ l' = l.map (mapStep Subtype.val)) (fun l hl => ⟨l, hl, rfl⟩) hq
  rwa [nnData_map] at k

/-- `nonNaN_transfer` for the two entry points that compare no sentinel, `primitive_with` and
`nnchain_with`, side by side. -/
theorem nonNaN_transfer_pair (hmax : Num.isNaN (Num.maxValue : α) = false)
    (hinf : Num.isNaN (Num.infinity : α) = false) {m : Method} (hm : m.selectsOnly) (chk : Bool)
    (st : State α) (d : Dendrogram α) (data : Array α) (n : Nat)
    (hdata : ∀ x ∈ data, Num.isNaN x = false) (P : List (Step (NonNaN α)) → Prop)
    (hq : ∀ alg, alg = .primitive ∨ alg = .nnchain →
      ∃ sS dS MS, @runWith _ (nnNum hmax hinf) chk alg m (State.new : State (NonNaN α))
        (Dendrogram.new 0) (nnData data hdata) n = .ok (sS, dS, MS) ∧ P dS.steps.toList) :
    (∃ st' d' M', primitiveWith chk m st d data n = .ok (st', d', M') ∧
      ∃ l : List (Step (NonNaN α)), d'.steps.toList = l.map (mapStep Subtype.val) ∧ P l) ∧
    (∀ mc : MethodChain, m.intoMethodChain = some mc →
      ∃ st' d' M', nnchainWith chk mc st d data n = .ok (st', d', M') ∧
        ∃ l : List (Step (NonNaN α)), d'.steps.toList = l.map (mapStep Subtype.val) ∧ P l) := by
  have key : ∀ alg, alg = .primitive ∨ alg = .nnchain →
      ∃ st' d' M', runWith chk alg m st d data n = .ok (st', d', M') ∧
        ∃ l : List (Step (NonNaN α)), d'.steps.toList = l.map (mapStep Subtype.val) ∧ P l :=
    fun alg ha =>
      exists_ok_imp (nonNaN_transfer hmax hinf hm alg (by rcases ha with rfl | rfl <;> rfl)
        (by rcases ha with rfl | rfl <;> rfl) chk st d data n hdata P (hq alg ha))
        fun _ ⟨l, hP, hl'⟩ => ⟨l, hl', hP⟩
  exact ⟨key .primitive (Or.inl rfl), fun mc hmc =>
    runWith_nnchain hmc chk st d data n ▸ key .nnchain (Or.inr rfl)⟩

theorem C03_single_complete_float (L : OrderLaws α) (B : BeqOrdOn α)
    (hmax : Num.isNaN (Num.maxValue : α) = false) (hinf : Num.isNaN (Num.infinity : α) = false)
    {m : Method} (hm : m.selectsOnly) (chk : Bool) (st : State α) (d : Dendrogram α)
    (data : Array α) (n : Nat) (h2 : 2 ≤ n) (hs : n < 2147483648)
    (hl : 2 * data.size = n * (n - 1)) (hdata : ∀ x ∈ data, Num.isNaN x = false) :
    letI : Num (NonNaN α) := nnNum hmax hinf
    let Ls := nn_orderLaws hmax hinf L
    let hn := nn_noNaN hmax hinf (α := α)
    (∃ st' d' M', primitiveWith chk m st d data n = .ok (st', d', M') ∧
      ∃ l : List (Step (NonNaN α)), d'.steps.toList = l.map (mapStep Subtype.val) ∧
        @GreedyValid _ (ordQNum Ls hn) m n ((nnData data hdata).map (OrdQ.mk Ls hn))
          (l.map (mapStep (OrdQ.mk Ls hn)))) ∧
    (∀ mc : MethodChain, m.intoMethodChain = some mc →
      ∃ st' d' M', nnchainWith chk mc st d data n = .ok (st', d', M') ∧
        ∃ l : List (Step (NonNaN α)), d'.steps.toList = l.map (mapStep Subtype.val) ∧
          @GreedyValid _ (ordQNum Ls hn) m n ((nnData data hdata).map (OrdQ.mk Ls hn))
            (l.map (mapStep (OrdQ.mk Ls hn)))) := by
  intro Ls hn
  let : Num (NonNaN α) := nnNum hmax hinf
  exact nonNaN_transfer_pair hmax hinf hm chk st d data n hdata
    (fun l => @GreedyValid _ (ordQNum Ls hn) m n ((nnData data hdata).map (OrdQ.mk Ls hn))
      (l.map (mapStep (OrdQ.mk Ls hn))))
    fun alg ha => greedyValid_upTo Ls hn (nn_beqOrd hmax hinf B) hm ha chk State.new
      (Dendrogram.new 0) (nnData data hdata) n h2 hs (by rw [nnData_size]; exact hl)

/-! ## Non-vacuity (the toy type with a NaN of `Props/C04NaNFree.lean`) -/

section Example
attribute [local instance] Toy.nanNum

example : ∃ st' d' M',
    primitiveWith true .complete State.new (Dendrogram.new 0)
      (#[some 0, some 5, some 3] : Array (Option Nat)) 3 = .ok (st', d', M') :=
  let h := (C03_single_complete_float Toy.nanOrderLaws Toy.nanBeqOrdOn rfl rfl (m := .complete)
    (Or.inr rfl) true State.new (Dendrogram.new 0) (#[some 0, some 5, some 3] : Array (Option Nat)) 3
    (by decide) (by decide) (by decide) (by decide)).1
  ⟨h.choose, h.choose_spec.choose, h.choose_spec.choose_spec.choose,
    h.choose_spec.choose_spec.choose_spec.1⟩

end Example

end Kodama
