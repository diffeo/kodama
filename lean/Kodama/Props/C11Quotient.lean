/-
C11 for SINGLE and COMPLETE linkage WITHOUT `LtTrichotomy` (quotient + naturality, as `Props/C03Quotient.lean`).

* `C11_single_complete_upTo`   `data'` is the matrix of the renumbered observations; if the input is tie-free in
  the quotient by order-equivalence (`TieFreeFrom` along a greedy-valid reference run `steps₀` of the PROJECTED
  `data`), then `primitive_with` and `nnchain_with` applied to `data'` return steps whose projection `e'` satisfies
  `steps₀ = e'.map (mapStep (σ π n))`: renumbering only renumbers — same sizes, order-equivalent heights, and
  the cluster created by step `i`, mapped back through `π`, is the cluster created by step `i` of the reference.
  Hypotheses: `OrderLaws α`, no NaN, `BeqOrd α`.
-/
import Kodama.Props.C11Order
import Kodama.Props.C03Quotient
namespace Kodama
open Spec
variable {α : Type} [Num α]

/-- `C11_single_complete_upTo` for both entry points at once. -/
theorem renumber_upTo (L : OrderLaws α) (hnan : ∀ x : α, Num.isNaN x = false)
    (B : BeqOrd α) {m : Method} (hm : m.selectsOnly) (data data' : Array α) (n : Nat) (h2 : 2 ≤ n)
    (hs : n < 2147483648) (hl' : 2 * data'.size = n * (n - 1))
    {π ρ : Nat → Nat} (hπ : IsPerm n π ρ)
    (hperm : ∀ i j, i < n → j < n →
      entry n data' Num.infinity i j = entry n data Num.infinity (π i) (π j))
    (steps₀ : List (Step (OrdQ L hnan)))
    (h₀ : @GreedyValid _ (ordQNum L hnan) m n (data.map (OrdQ.mk L hnan)) steps₀)
    (ht : @TieFreeFrom _ (ordQNum L hnan) m
      (@init _ (ordQNum L hnan) m n (data.map (OrdQ.mk L hnan))) steps₀)
    {alg : Alg} (ha : alg = .primitive ∨ alg = .nnchain) (chk : Bool) (st : State α)
    (d : Dendrogram α) :
    ∃ st' e' M', runWith chk alg m st d data' n = .ok (st', e', M') ∧
      steps₀ = (e'.steps.toList.map (mapStep (OrdQ.mk L hnan))).map (Spec.mapStep (σ π n)) := by
  let : Num (OrdQ L hnan) := ordQNum L hnan
  -- the renumbering relation between the two projected matrices
  have hpermq : ∀ i j, i < n → j < n →
      entry n (data'.map (OrdQ.mk L hnan)) Num.infinity i j =
        entry n (data.map (OrdQ.mk L hnan)) Num.infinity (π i) (π j) := by
    intro i j hi hj
    have e1 := entry_map (OrdQ.mk L hnan) n data' Num.infinity i j
    have e2 := entry_map (OrdQ.mk L hnan) n data Num.infinity (π i) (π j)
    change entry n (data'.map (OrdQ.mk L hnan)) (OrdQ.mk L hnan Num.infinity) i j = _
    rw [e1, hperm i j hi hj, ← e2]
    rfl
  refine quotient_transfer L hnan B hm alg (by rcases ha with rfl | rfl <;> rfl)
    (by rcases ha with rfl | rfl <;> rfl) chk st d data' n
    (fun l => steps₀ = l.map (Spec.mapStep (σ π n))) ?_
  obtain ⟨a, b, c, hr, he, _⟩ := renumber_order (ordQ_orderLaws L hnan) (ordQ_trichotomy L hnan)
    (ordQ_noNaN L hnan) m hm (data.map (OrdQ.mk L hnan)) (data'.map (OrdQ.mk L hnan)) n h2 hs
    (by rw [Array.size_map]; exact hl') hπ hpermq steps₀ h₀ ht ha chk State.new (Dendrogram.new 0)
  exact ⟨a, b, c, hr, he⟩

theorem C11_single_complete_upTo (L : OrderLaws α) (hnan : ∀ x : α, Num.isNaN x = false)
    (B : BeqOrd α) {m : Method} (hm : m.selectsOnly) (data data' : Array α) (n : Nat) (h2 : 2 ≤ n)
    (hs : n < 2147483648) (hl' : 2 * data'.size = n * (n - 1))
    {π ρ : Nat → Nat} (hπ : IsPerm n π ρ)
    (hperm : ∀ i j, i < n → j < n →
      entry n data' Num.infinity i j = entry n data Num.infinity (π i) (π j))
    (steps₀ : List (Step (OrdQ L hnan)))
    (h₀ : @GreedyValid _ (ordQNum L hnan) m n (data.map (OrdQ.mk L hnan)) steps₀)
    (ht : @TieFreeFrom _ (ordQNum L hnan) m
      (@init _ (ordQNum L hnan) m n (data.map (OrdQ.mk L hnan))) steps₀) :
    (∀ (chk : Bool) (st : State α) (d : Dendrogram α),
      ∃ st' e' M', primitiveWith chk m st d data' n = .ok (st', e', M') ∧
        steps₀ = (e'.steps.toList.map (mapStep (OrdQ.mk L hnan))).map (Spec.mapStep (σ π n))) ∧
    (∀ mc : MethodChain, m.intoMethodChain = some mc → ∀ (chk : Bool) (st : State α) (d : Dendrogram α),
      ∃ st' e' M', nnchainWith chk mc st d data' n = .ok (st', e', M') ∧
        steps₀ = (e'.steps.toList.map (mapStep (OrdQ.mk L hnan))).map (Spec.mapStep (σ π n))) :=
  ⟨renumber_upTo L hnan B hm data data' n h2 hs hl' hπ hperm steps₀ h₀ ht (Or.inl rfl),
    fun _ hmc chk st d => runWith_nnchain hmc chk st d data' n ▸
      renumber_upTo L hnan B hm data data' n h2 hs hl' hπ hperm steps₀ h₀ ht (Or.inr rfl)
        chk st d⟩

end Kodama
