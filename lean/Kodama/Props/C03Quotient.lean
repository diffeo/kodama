/-
C03 for SINGLE and COMPLETE linkage WITHOUT `LtTrichotomy` — by the quotient + naturality argument
of `Props/C04Quotient.lean`.

`Props/C03*.lean` / `Props/C06Order.lean` prove, for single and complete linkage over any ordered number
type, that every entry point returns a `Spec.GreedyValid` dendrogram and that on a tie-free input they all
return exactly the reference run — under `LtTrichotomy α` ("incomparable ⇒ equal"), because `GreedyValid`
demands recorded heights EQUAL to table values.  That hypothesis fails for a type with two
order-equivalent values (IEEE `+0`, `−0`).  Here the same statements are obtained READ MODULO
ORDER-EQUIVALENCE OF HEIGHTS, with no trichotomy:

* `quotient_transfer`   for single / complete and an entry point that compares no sentinel with data
  (`usesMax = false`, `usesInf = false`: primitive, nnchain, `linkage_with(Complete)`): if the run on the
  quotient `OrdQ` (the input projected) returns a dendrogram with property `P`, the run on `α` returns a
  dendrogram whose projection (labels and sizes unchanged, heights projected) has `P`.
  (`OrdHom.run_iff` + `ordQ_ordHom`.)
* `C03_single_complete_upTo`   `primitive_with` and `nnchain_with` return, and the projection of the
  returned steps is `GreedyValid` for the projected input: every step merges a closest pair, heights are
  the pair's dissimilarity up to order-equivalence (`±0`).
* (`Props/C06Quotient.lean`) `C06_single_complete_agree_upTo`   on an input that is tie-free in the quotient
  (`TieFreeFrom` along a greedy-valid reference run `steps₀` of the projected input), `primitive_with` and
  `nnchain_with` return the SAME labels and sizes in the same order and order-equivalent heights: the
  projections of both outputs ARE `steps₀`.

Hypotheses: `OrderLaws α`, no NaN, `BeqOrd α` (`==` is order-equivalence; sampled).  `generic_with` and
`mst_with` are not restated (their sentinel hypotheses on the quotient follow as in
`C04_generic_single_noTri`).
-/
import Kodama.Props.C04Quotient
import Kodama.Props.C03SingleComplete
namespace Kodama
open Spec
variable {α : Type} [Num α]

theorem quotient_transfer (L : OrderLaws α) (hnan : ∀ x : α, Num.isNaN x = false) (B : BeqOrd α)
    {m : Method} (hm : m.selectsOnly) (alg : Alg) (hmax : usesMax alg m = false)
    (hinf : usesInf alg m = false) (chk : Bool) (st : State α) (d : Dendrogram α) (data : Array α)
    (n : Nat) (P : List (Step (OrdQ L hnan)) → Prop)
    (hq : ∃ stq dq Mq, @runWith _ (ordQNum L hnan) chk alg m (State.new : State (OrdQ L hnan))
        (Dendrogram.new 0) (data.map (OrdQ.mk L hnan)) n = .ok (stq, dq, Mq) ∧ P dq.steps.toList) :
    ∃ st' d' M', runWith chk alg m st d data n = .ok (st', d', M') ∧
      P (d'.steps.toList.map (mapStep (OrdQ.mk L hnan))) := by
  let _ : Num (OrdQ L hnan) := ordQNum L hnan
  exact ((ordQ_ordHom L hnan B).run_iff hm chk alg (fun h => by rw [hmax] at h; cases h)
    (fun h => by rw [hinf] at h; cases h) st State.new d (Dendrogram.new 0) data n P).mp hq

/-- `C03_single_complete_upTo` for both entry points at once. -/
theorem greedyValid_upTo (L : OrderLaws α) (hnan : ∀ x : α, Num.isNaN x = false) (B : BeqOrd α)
    {m : Method} (hm : m.selectsOnly) {alg : Alg} (ha : alg = .primitive ∨ alg = .nnchain)
    (chk : Bool) (st : State α) (d : Dendrogram α) (data : Array α) (n : Nat) (h2 : 2 ≤ n)
    (hs : n < 2147483648) (hl : 2 * data.size = n * (n - 1)) :
    ∃ st' d' M', runWith chk alg m st d data n = .ok (st', d', M') ∧
      @GreedyValid _ (ordQNum L hnan) m n (data.map (OrdQ.mk L hnan))
        (d'.steps.toList.map (mapStep (OrdQ.mk L hnan))) :=
  let _ : Num (OrdQ L hnan) := ordQNum L hnan
  quotient_transfer L hnan B hm alg (by rcases ha with rfl | rfl <;> rfl)
    (by rcases ha with rfl | rfl <;> rfl) chk st d data n _
    (greedyValid_single_complete (ordQ_orderLaws L hnan) (ordQ_trichotomy L hnan)
      (ordQ_noNaN L hnan) hm ha chk State.new (Dendrogram.new 0) _ n h2 hs
      (by rw [Array.size_map]; exact hl))

theorem C03_single_complete_upTo (L : OrderLaws α) (hnan : ∀ x : α, Num.isNaN x = false)
    (B : BeqOrd α) {m : Method} (hm : m.selectsOnly) (chk : Bool) (st : State α) (d : Dendrogram α)
    (data : Array α) (n : Nat) (h2 : 2 ≤ n) (hs : n < 2147483648)
    (hl : 2 * data.size = n * (n - 1)) :
    (∃ st' d' M', primitiveWith chk m st d data n = .ok (st', d', M') ∧
      @GreedyValid _ (ordQNum L hnan) m n (data.map (OrdQ.mk L hnan))
        (d'.steps.toList.map (mapStep (OrdQ.mk L hnan)))) ∧
    (∀ mc : MethodChain, m.intoMethodChain = some mc →
      ∃ st' d' M', nnchainWith chk mc st d data n = .ok (st', d', M') ∧
        @GreedyValid _ (ordQNum L hnan) m n (data.map (OrdQ.mk L hnan))
          (d'.steps.toList.map (mapStep (OrdQ.mk L hnan)))) :=
  ⟨greedyValid_upTo L hnan B hm (Or.inl rfl) chk st d data n h2 hs hl, fun _ hmc =>
    runWith_nnchain hmc chk st d data n ▸
      greedyValid_upTo L hnan B hm (Or.inr rfl) chk st d data n h2 hs hl⟩

/-! ## Non-vacuity (the two-zeros toy type of `Props/C04Quotient.lean`, on which trichotomy is false) -/

section Example
attribute [local instance] Toy.signedNum

example : ∃ st' d' M',
    primitiveWith true .complete State.new (Dendrogram.new 0)
      (#[(0, true), (0, false), (1, false)] : Array (Nat × Bool)) 3 = .ok (st', d', M') ∧
    @GreedyValid _ (ordQNum Toy.signedOrderLaws (fun _ => rfl)) .complete 3
      ((#[(0, true), (0, false), (1, false)] : Array (Nat × Bool)).map
        (OrdQ.mk Toy.signedOrderLaws (fun _ => rfl)))
      (d'.steps.toList.map (mapStep (OrdQ.mk Toy.signedOrderLaws (fun _ => rfl)))) :=
  (C03_single_complete_upTo Toy.signedOrderLaws (fun _ => rfl) Toy.signedBeqOrd (Or.inr rfl) true
    State.new (Dendrogram.new 0) _ 3 (by decide) (by decide) (by decide)).1

end Example

end Kodama
