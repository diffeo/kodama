/-
C02 — the seven Lance–Williams update formulas compute the documented linkage criteria.

EXACT-ARITHMETIC theorems.  Everything below the single/complete block is stated over an arbitrary
linearly ordered field `K` (`[Field K] [LinearOrder K] [IsStrictOrderedRing K]`) whose `Num K`
instance computes the field operations (`FieldLaws K`, a hypothesis bundle — satisfied by
`fieldNum K` / `fieldNumWith K sqrt`, see `Lemmas/FieldNum.lean`).  IEEE floats do NOT satisfy field
laws; for average and weighted linkage the float gap is bounded in `Props/C02Rounding*.lean`, for the other
methods it is only MEASURED by the oracles (tolerances 1e-9·scale for f64 / 1e-3·scale for f32 as in the
property).

Proved here, against the formulas *regenerated from `src/method.rs`* (`Gen.single … Gen.median`; the
proofs unfold them and close by `field_simp`/`ring`, so a changed coefficient, a swapped size or a
dropped term breaks the build).  Notation: clusters are `Finset`s of observations,
`d` a symmetric base dissimilarity (already squared for Ward/centroid/median),
`S(A,B) = Σ_{a∈A,b∈B} d a b`, `W(A) = Σ_{unordered pairs of distinct a,a' ∈ A} d a a'`
(`Lemmas/Criteria.lean`).

* `C02_single`, `C02_complete`     `Gen.single a b = min a b`, `Gen.complete a b = max a b` (any linear
                    order whose `Num.lt` is `<`: `OrderNum`); `C02_single_criterion`,
                    `C02_complete_criterion`: if `a`, `b` are the attained min (max) of `d` over
                    `A×X`, `B×X` then the update is the attained min (max) over `(A∪B)×X`.
* `C02_average`     `Gen.average (avg A X) (avg B X) |A| |B| = avg (A∪B) X`, `avg A B = S(A,B)/(|A||B|)`;
                    `C02_average_recurrence` has the sums abstracted to field elements.
* `C02_weighted`, `C02_weighted_comm`, `C02_weighted_tree`   `Gen.weighted a b = (a+b)/2`; it computes
                    the tree recursion `wdist` whichever side is split, and `wdist` is a function of
                    the two merge trees only (`Crit.wdist_node_right`, `Crit.wdist_symm`).
* `C02_median`, `C02_median_comm`, `C02_median_tree`   `Gen.median a b c = a/2 + b/2 − c/4`; same
                    statements for `mdist` (`Crit.mdist_node_right`, `Crit.mdist_symm`).
* `C02_centroid_recurrence`, `C02_centroid`   with `cen A B = S(A,B)/(|A||B|) − W(A)/|A|² − W(B)/|B|²`
                    (= squared distance of the centroids when `d` is a squared Euclidean distance):
                    `Gen.centroid (cen A X) (cen B X) (cen A B) |A| |B| = cen (A∪B) X`; the
                    `_recurrence` form has the sums abstracted to field elements.
* `C02_ward_recurrence`, `C02_ward`   with `wardc A B = 2|A||B|/(|A|+|B|) · cen A B`:
                    `Gen.ward (wardc A X) (wardc B X) (wardc A B) |A| |B| |X| = wardc (A∪B) X`.
* `C02_lw_criterion`, `C02_spec_invariant`   for ALL seven methods, one `Spec.merge` of the
                    label-based specification (`Spec/Naive.lean`) keeps "every live table entry is the
                    criterion of the two clusters, computed from the base matrix" (`Crit.Inv`,
                    `Crit.Criterion`).
* `C02_greedy_heights`, `C02_greedy_heights_closed`, `C02_greedy_clusters`   for every
                    `Spec.GreedyValid m n data steps` and every step, the recorded height is
                    `Spec.post m` (= `Num.sqrt` for the methods on squares, identity otherwise; `sqrt`
                    completely abstract) of the criterion of the two merged clusters — the clusters
                    of `Spec.leaves` — computed from the ORIGINAL matrix `(Spec.init m n data).D`;
                    `C02_base_matrix`: that matrix is the input entry, squared iff `m.onSquares`.

That the Rust algorithms produce a `GreedyValid` dendrogram is C03; the composition with
`C02_greedy_heights_closed` is `C02_primitive` (`Props/C02Primitive.lean`) and, for the other entry
points, `Props/C02Nnchain.lean`, `Props/C02Generic.lean` — all in exact arithmetic.

NOT proved: anything about floats here (see above); `height² = criterion` for the squared methods (needs
`sqrt v * sqrt v = v` and `0 ≤ criterion`, which fails for centroid/median on non-Euclidean input —
the theorems say `height = Num.sqrt criterion`); that `cen` is a squared
centroid distance for Euclidean input (geometry, outside the crate: the crate only sees `d`).

Trusted: the translator (`tools/extract.py`) for `Generated/Method.lean` and `Generated/Tables.lean`
(`Method.onSquares`), additionally exercised by the bit-exact correspondence run; Lean kernel +
Mathlib (`propext`, `Classical.choice`, `Quot.sound`).
-/
import Kodama.Lemmas.FieldNum
import Kodama.Lemmas.Criteria
import Kodama.Lemmas.CriteriaSpec
import Kodama.Generated.Method
import Kodama.Spec.Naive
import Kodama.Lemmas.AverageExact
import Kodama.Lemmas.WardExact
import Mathlib.Tactic.NormNum.Basic
import Mathlib.Algebra.Order.Field.Rat
namespace Kodama
open Crit Finset

section order
variable {α : Type} [LinearOrder α] [Num α]

theorem C02_single (L : OrderNum α) (a b : α) : Gen.single a b = min a b := by
  unfold Gen.single
  simp only [L.lt, decide_eq_true_eq]
  by_cases h : a < b
  · rw [if_pos h, min_eq_left h.le]
  · rw [if_neg h, min_eq_right (not_lt.mp h)]

theorem C02_complete (L : OrderNum α) (a b : α) : Gen.complete a b = max a b := by
  unfold Gen.complete
  simp only [L.lt, decide_eq_true_eq]
  by_cases h : b < a
  · rw [if_pos h, max_eq_left h.le]
  · rw [if_neg h, max_eq_right (not_lt.mp h)]

variable {ι : Type} [DecidableEq ι] {d : ι → ι → α} {A B X : Finset ι} {a b : α}

theorem C02_single_criterion (L : OrderNum α) (ha : IsMinOver d A X a) (hb : IsMinOver d B X b) :
    IsMinOver d (A ∪ B) X (Gen.single a b) := by
  rw [C02_single L]; exact ha.union_left hb

theorem C02_complete_criterion (L : OrderNum α) (ha : IsMaxOver d A X a) (hb : IsMaxOver d B X b) :
    IsMaxOver d (A ∪ B) X (Gen.complete a b) := by
  rw [C02_complete L]; exact ha.union_left hb

end order

section field
variable {K : Type} [Field K] [LinearOrder K] [IsStrictOrderedRing K] [Num K]
variable {ι : Type} [DecidableEq ι]

omit [Num K] in
private theorem cast_ne {n : Nat} (h : 0 < n) : (n : K) ≠ 0 := Nat.cast_ne_zero.mpr (by omega)
omit [Num K] in
private theorem cast_add_ne {n m : Nat} (h : 0 < n) : (n : K) + (m : K) ≠ 0 := by
  exact_mod_cast (by omega : n + m ≠ 0)

theorem C02_average_recurrence (L : FieldLaws K) (sAX sBX : K) (na nb nx : Nat)
    (ha : 0 < na) (hb : 0 < nb) (hx : 0 < nx) :
    Gen.average (sAX / ((na : K) * nx)) (sBX / ((nb : K) * nx)) na nb
      = (sAX + sBX) / (((na : K) + nb) * nx) := by
  rw [L.average_eq_mean _ _ na nb (by omega)]
  have h1 := cast_ne (K := K) ha
  have h2 := cast_ne (K := K) hb
  have h3 := cast_ne (K := K) hx
  have h4 := cast_add_ne (K := K) (m := nb) ha
  field_simp

theorem C02_average (L : FieldLaws K) (d : ι → ι → K) (A B X : Finset ι) (hAB : Disjoint A B)
    (hA : A.Nonempty) (hB : B.Nonempty) (hX : X.Nonempty) :
    Gen.average (avg d A X) (avg d B X) A.card B.card = avg d (A ∪ B) X := by
  -- exact arithmetic, positive sizes: the clamp of `method::average` is a no-op
  rw [L.average_eq_mean _ _ _ _ (Nat.add_pos_left hA.card_pos _), avg_union_left hAB hA hB hX]

theorem C02_weighted (L : FieldLaws K) (a b : K) : Gen.weighted a b = (a + b) / 2 := by
  simp only [Gen.weighted, L.add, L.mul, L.half]; ring

theorem C02_weighted_comm (L : FieldLaws K) (a b : K) : Gen.weighted a b = Gen.weighted b a := by
  rw [C02_weighted L, C02_weighted L, add_comm]

omit [DecidableEq ι] in
theorem C02_weighted_tree (L : FieldLaws K) (d : ι → ι → K) (l r x : MTree ι) :
    Gen.weighted (wdist d l x) (wdist d r x) = wdist d (.node l r) x ∧
    Gen.weighted (wdist d x l) (wdist d x r) = wdist d x (.node l r) := by
  rw [C02_weighted L, C02_weighted L, wdist_node_left, wdist_node_right]; exact ⟨rfl, rfl⟩

theorem C02_median (L : FieldLaws K) (a b dab : K) :
    Gen.median a b dab = a / 2 + b / 2 - dab / 4 := by
  simp only [Gen.median, L.add, L.sub, L.mul, L.half, L.quarter]; ring

theorem C02_median_comm (L : FieldLaws K) (a b dab : K) :
    Gen.median a b dab = Gen.median b a dab := by
  rw [C02_median L, C02_median L]; ring

omit [DecidableEq ι] in
theorem C02_median_tree (L : FieldLaws K) (d : ι → ι → K) (l r x : MTree ι) :
    Gen.median (mdist d l x) (mdist d r x) (mdist d l r) = mdist d (.node l r) x ∧
    Gen.median (mdist d x l) (mdist d x r) (mdist d l r) = mdist d x (.node l r) := by
  rw [C02_median L, C02_median L, mdist_node_left, mdist_node_right]; exact ⟨rfl, rfl⟩

omit [IsStrictOrderedRing K] in
theorem centroid_eq (L : FieldLaws K) (x y z : K) (na nb : Nat) :
    Gen.centroid x y z na nb =
      ((na : K) * x + nb * y) / ((na : K) + nb)
        - (na : K) * nb * z / (((na : K) + nb) * ((na : K) + nb)) := by
  simp only [Gen.centroid, L.add, L.sub, L.mul, L.div, L.ofNat]

/-- Algebraic core: the sums are arbitrary field elements, the sizes positive naturals. -/
theorem C02_centroid_recurrence (L : FieldLaws K) (sAX sBX sAB wA wB wX : K) (na nb nx : Nat)
    (ha : 0 < na) (hb : 0 < nb) (hx : 0 < nx) :
    Gen.centroid
        (sAX / ((na : K) * nx) - wA / (na : K) ^ 2 - wX / (nx : K) ^ 2)
        (sBX / ((nb : K) * nx) - wB / (nb : K) ^ 2 - wX / (nx : K) ^ 2)
        (sAB / ((na : K) * nb) - wA / (na : K) ^ 2 - wB / (nb : K) ^ 2) na nb
      = (sAX + sBX) / (((na : K) + nb) * nx) - (wA + wB + sAB) / ((na : K) + nb) ^ 2
          - wX / (nx : K) ^ 2 := by
  simp only [Gen.centroid, L.add, L.sub, L.mul, L.div, L.ofNat]
  have h1 := cast_ne (K := K) ha
  have h2 := cast_ne (K := K) hb
  have h3 := cast_ne (K := K) hx
  have h4 := cast_add_ne (K := K) (m := nb) ha
  field_simp
  ring

theorem C02_centroid (L : FieldLaws K) (d : ι → ι → K) (hd : ∀ i j, d i j = d j i)
    (A B X : Finset ι) (hAB : Disjoint A B) (hA : A.Nonempty) (hB : B.Nonempty)
    (hX : X.Nonempty) :
    Gen.centroid (cen d A X) (cen d B X) (cen d A B) A.card B.card = cen d (A ∪ B) X := by
  unfold cen
  rw [C02_centroid_recurrence L _ _ _ _ _ _ _ _ _ hA.card_pos hB.card_pos hX.card_pos,
    S_union_left hAB, W_union hd hAB, card_union_of_disjoint hAB, Nat.cast_add]

/-- Ward's update is the centroid update between the rescaled arguments: `wardc` is `cen` times
`2|A||B|/(|A|+|B|)`, and the factors pass through the formula. -/
theorem ward_scaled_centroid (L : FieldLaws K) (x y z : K) (na nb nx : Nat)
    (ha : 0 < na) (hb : 0 < nb) (hx : 0 < nx) :
    Gen.ward (2 * (na : K) * nx / ((na : K) + nx) * x) (2 * (nb : K) * nx / ((nb : K) + nx) * y)
        (2 * (na : K) * nb / ((na : K) + nb) * z) na nb nx
      = 2 * ((na : K) + nb) * nx / (((na : K) + nb) + nx) * Gen.centroid x y z na nb := by
  -- exact arithmetic: the guarded clamp of `method::ward` is a no-op
  rw [L.ward_eq_formula _ _ _ na nb nx (by omega), centroid_eq L]
  have h4 := cast_add_ne (K := K) (m := nb) ha
  have h5 := cast_add_ne (K := K) (m := nx) ha
  have h6 := cast_add_ne (K := K) (m := nx) hb
  have h7 : (na : K) + nb + nx ≠ 0 := by exact_mod_cast (by omega : na + nb + nx ≠ 0)
  field_simp
  ring

theorem C02_ward_recurrence (L : FieldLaws K) (sAX sBX sAB wA wB wX : K) (na nb nx : Nat)
    (ha : 0 < na) (hb : 0 < nb) (hx : 0 < nx) :
    Gen.ward
        (2 * (na : K) * nx / ((na : K) + nx) *
          (sAX / ((na : K) * nx) - wA / (na : K) ^ 2 - wX / (nx : K) ^ 2))
        (2 * (nb : K) * nx / ((nb : K) + nx) *
          (sBX / ((nb : K) * nx) - wB / (nb : K) ^ 2 - wX / (nx : K) ^ 2))
        (2 * (na : K) * nb / ((na : K) + nb) *
          (sAB / ((na : K) * nb) - wA / (na : K) ^ 2 - wB / (nb : K) ^ 2)) na nb nx
      = 2 * ((na : K) + nb) * nx / (((na : K) + nb) + nx) *
          ((sAX + sBX) / (((na : K) + nb) * nx) - (wA + wB + sAB) / ((na : K) + nb) ^ 2
            - wX / (nx : K) ^ 2) := by
  rw [ward_scaled_centroid L _ _ _ _ _ _ ha hb hx,
    C02_centroid_recurrence L _ _ _ _ _ _ _ _ _ ha hb hx]

theorem C02_ward (L : FieldLaws K) (d : ι → ι → K) (hd : ∀ i j, d i j = d j i)
    (A B X : Finset ι) (hAB : Disjoint A B) (hA : A.Nonempty) (hB : B.Nonempty)
    (hX : X.Nonempty) :
    Gen.ward (wardc d A X) (wardc d B X) (wardc d A B) A.card B.card X.card
      = wardc d (A ∪ B) X := by
  unfold wardc cen
  rw [C02_ward_recurrence L _ _ _ _ _ _ _ _ _ hA.card_pos hB.card_pos hX.card_pos,
    S_union_left hAB, W_union hd hAB, card_union_of_disjoint hAB, Nat.cast_add]

/-- All seven generated formulas propagate their documented criterion (and the criteria are
symmetric): the hypothesis `LWCompat` of the generic invariant. -/
theorem C02_lw_criterion (L : FieldLaws K) (m : Method) (d : Nat → Nat → K)
    (hd : ∀ i j, d i j = d j i) : LWCompat m (Criterion m d) := by
  refine ⟨Criterion.symm hd m, ?_⟩
  intro ta tb tx va vb vab hab hax hbx ha hb hab'
  have nA := ta.leaves_nonempty
  have nB := tb.leaves_nonempty
  have nX := tx.leaves_nonempty
  cases m <;> simp only [Criterion, Spec.lw, MTree.leaves_node] at ha hb hab' ⊢
  · exact C02_single_criterion L.toOrderNum ha hb
  · exact C02_complete_criterion L.toOrderNum ha hb
  · rw [ha, hb]; exact C02_average L d _ _ _ hab nA nB nX
  · rw [ha, hb]; exact (C02_weighted_tree L d ta tb tx).1
  · rw [ha, hb, hab']; exact C02_ward L d hd _ _ _ hab nA nB nX
  · rw [ha, hb, hab']; exact C02_centroid L d hd _ _ _ hab nA nB nX
  · rw [ha, hb, hab']; exact (C02_median_tree L d ta tb tx).1

/-- One merge of the label-based specification: if every live table entry is the criterion of
the two clusters, computed from the base matrix `d`, the same holds after `Spec.merge` with the
new label standing for the union (tree `node (cl a) (cl b)`).  All seven methods. -/
theorem C02_spec_invariant (L : FieldLaws K) (m : Method) (d : Nat → Nat → K)
    (hd : ∀ i j, d i j = d j i) {s : Spec.NState K} {cl : Nat → MTree Nat}
    (h : Inv (Criterion m d) s cl) {a b : Nat} (ha : a ∈ s.live) (hb : b ∈ s.live) (hab : a ≠ b) :
    Inv (Criterion m d) (Spec.merge m s a b) (mergeCl cl s.next a b) :=
  h.merge (C02_lw_criterion L m d hd) ha hb hab

/-- Every height of a greedy-valid dendrogram is (`post m` of) the documented criterion of the
two clusters it merges, computed from the ORIGINAL matrix (`(Spec.init m n data).D`: the input,
squared iff `m.onSquares`); `post m v = Num.sqrt v` for the methods on squares, `v` otherwise,
with `Num.sqrt` completely abstract. -/
theorem C02_greedy_heights (L : FieldLaws K) (m : Method) (n : Nat) (data : Array K)
    (steps : List (Step K)) (hg : Spec.GreedyValid m n data steps)
    (i : Nat) (st : Step K) (hi : steps[i]? = some st) :
    ∃ v, Criterion m (Spec.init m n data).D (clusterTree n steps st.c1) (clusterTree n steps st.c2) v
      ∧ st.d = Spec.post m v :=
  greedy_heights (C02_lw_criterion L m _ (Spec.init_DSymm m n data)) n data
    (fun i j _ => Criterion.leaf m i j) steps hg.2 i st hi

omit [Field K] [LinearOrder K] [IsStrictOrderedRing K] in
/-- The clusters in `C02_greedy_heights` are the ones of `Spec.leaves`. -/
theorem C02_greedy_clusters (m : Method) (n : Nat) (data : Array K)
    (steps : List (Step K)) (hg : Spec.GreedyValid m n data steps) (l : Nat)
    (hl : l < n + steps.length) :
    (clusterTree n steps l).leaves = (Spec.leaves n steps steps.length l).toFinset :=
  clusterTree_leaves n steps
    (labelsOrdered_of_greedy hg.2)
    steps.length l (by omega)

omit [IsStrictOrderedRing K] in
/-- The base matrix of `C02_greedy_heights`: the input entry, squared iff the method works on
squares. -/
theorem C02_base_matrix (L : FieldLaws K) (m : Method) (n : Nat) (data : Array K) (i j : Nat) :
    (Spec.init m n data).D i j =
      if m.onSquares then Spec.entry n data Num.infinity i j * Spec.entry n data Num.infinity i j
      else Spec.entry n data Num.infinity i j := by
  show (let x := Spec.entry n data Num.infinity i j; if m.onSquares then Num.mul x x else x) = _
  simp only [L.mul]

/-- `C02_greedy_heights` spelled out per method, with the clusters of `Spec.leaves`. -/
theorem C02_greedy_heights_closed (L : FieldLaws K) (m : Method) (n : Nat) (data : Array K)
    (steps : List (Step K)) (hg : Spec.GreedyValid m n data steps)
    (i : Nat) (st : Step K) (hi : steps[i]? = some st) :
    let d := (Spec.init m n data).D
    let A := (Spec.leaves n steps steps.length st.c1).toFinset
    let B := (Spec.leaves n steps steps.length st.c2).toFinset
    let T₁ := clusterTree n steps st.c1
    let T₂ := clusterTree n steps st.c2
    match m with
    | .single => IsMinOver d A B st.d
    | .complete => IsMaxOver d A B st.d
    | .average => st.d = avg d A B
    | .weighted => st.d = wdist d T₁ T₂
    | .ward => st.d = Num.sqrt (wardc d A B)
    | .centroid => st.d = Num.sqrt (cen d A B)
    | .median => st.d = Num.sqrt (mdist d T₁ T₂) := by
  obtain ⟨v, hv, hd⟩ := C02_greedy_heights L m n data steps hg i st hi
  have ho := labelsOrdered_of_greedy hg.2 i st hi
  have hlen : i < steps.length := Spec.getElem?_lt hi
  have e1 := C02_greedy_clusters m n data steps hg st.c1 (by omega)
  have e2 := C02_greedy_clusters m n data steps hg st.c2 (by omega)
  intro d A B T₁ T₂
  cases m <;>
    simp only [Criterion, Spec.post, Method.onSquares, if_true, Bool.false_eq_true, if_false,
      e1, e2] at hv hd ⊢
  · rw [hd]; exact hv
  · rw [hd]; exact hv
  · rw [hd, hv]
  · rw [hd, hv]
  · rw [hd, hv]
  · rw [hd, hv]
  · rw [hd, hv]

end field

/-! ## Non-vacuity (over `ℚ`) -/

section examples

example : @FieldLaws ℚ _ _ (fieldNum ℚ) ∧ @OrderNum ℚ _ (fieldNum ℚ) :=
  ⟨fieldNum_laws ℚ, @FieldLaws.toOrderNum ℚ _ _ (fieldNum ℚ) (fieldNum_laws ℚ)⟩

example : @Gen.single ℚ (fieldNum ℚ) 3 5 = 3 ∧ @Gen.complete ℚ (fieldNum ℚ) 3 5 = 5 := by
  norm_num [Gen.single, Gen.complete, fieldNumWith, Num.lt]
example : @Gen.average ℚ (fieldNum ℚ) 3 5 1 2 = 13 / 3 := by
  norm_num [Gen.average, fieldNumWith, Num.add, Num.mul, Num.div, Num.ofNat, Num.lt]
example : @Gen.weighted ℚ (fieldNum ℚ) 3 5 = 4 := by
  norm_num [Gen.weighted, fieldNumWith, Num.add, Num.mul, Num.half]
example : @Gen.median ℚ (fieldNum ℚ) 3 5 4 = 3 := by
  norm_num [Gen.median, fieldNumWith, Num.add, Num.sub, Num.mul, Num.half, Num.quarter]
example : @Gen.centroid ℚ (fieldNum ℚ) 3 5 4 1 2 = 31 / 9 := by
  norm_num [Gen.centroid, fieldNumWith, Num.add, Num.sub, Num.mul, Num.div, Num.ofNat]
example : @Gen.ward ℚ (fieldNum ℚ) 3 5 4 1 2 3 = 25 / 6 := by
  norm_num [Gen.ward, fieldNumWith, Num.add, Num.sub, Num.mul, Num.div, Num.ofNat, Num.lt]

/-- Squared distances of the three points 0, 1, 3 on a line. -/
private def dex : Nat → Nat → ℚ := fun i j =>
  if (i = 0 ∧ j = 1) ∨ (i = 1 ∧ j = 0) then 1
  else if (i = 0 ∧ j = 2) ∨ (i = 2 ∧ j = 0) then 9
  else if (i = 1 ∧ j = 2) ∨ (i = 2 ∧ j = 1) then 4 else 0

/-- `cen` is the squared centroid distance there: centroid of {0,1} is 1/2, `(3 - 1/2)² = 25/4`;
Ward: `2·2·1/3 · 25/4 = 25/3`; and the centroid update reproduces it from the singleton values. -/
example : cen dex {0, 1} {2} = 25 / 4 ∧ wardc dex {0, 1} {2} = 25 / 3 ∧
    @Gen.centroid ℚ (fieldNum ℚ) (cen dex {0} {2}) (cen dex {1} {2}) (cen dex {0} {1}) 1 1 = 25 / 4 := by
  have h1 : ({0, 1} : Finset ℕ).offDiag = {(0, 1), (1, 0)} := by decide
  have h2 : ({2} : Finset ℕ).offDiag = ∅ := by decide
  have hc : cen dex {0, 1} {2} = 25 / 4 := by norm_num [cen, S, W, dex, h1, h2]
  refine ⟨hc, ?_, ?_⟩
  · rw [wardc, hc]; norm_num
  · norm_num [Gen.centroid, fieldNumWith, Num.add, Num.sub, Num.mul, Num.div, Num.ofNat, dex]

/-- Weighted / median tree recursions on a three-leaf tree. -/
example : wdist dex (.node (.leaf 0) (.leaf 1)) (.leaf 2) = 13 / 2 ∧
    mdist dex (.node (.leaf 0) (.leaf 1)) (.leaf 2) = 25 / 4 := by
  refine ⟨?_, ?_⟩
  · norm_num [wdist, wdistLeaf, dex]
  · rw [mdist_node_left]; norm_num [dex]

@[reducible] private def exNum : Num ℚ := fieldNum ℚ
attribute [local instance] exNum

private def exData : Array ℚ := #[1, 9, 4]
private def exSteps : List (Step ℚ) := [⟨0, 1, 1, 2⟩, ⟨2, 3, 13 / 2, 3⟩]

private theorem e01 : Spec.entry 3 exData 0 0 1 = 1 := by decide
private theorem e02 : Spec.entry 3 exData 0 0 2 = 9 := by decide
private theorem e12 : Spec.entry 3 exData 0 1 2 = 4 := by decide
private theorem e10 : Spec.entry 3 exData 0 1 0 = 1 := by decide
private theorem e20 : Spec.entry 3 exData 0 2 0 = 9 := by decide
private theorem e21 : Spec.entry 3 exData 0 2 1 = 4 := by decide

/-- The hypothesis of `C02_greedy_heights` is satisfiable with a non-trivial second step: average
linkage on the matrix `d01 = 1, d02 = 9, d12 = 4` merges `{0,1}` at 1, then `{2}` with `{0,1}` at
`(9+4)/2`. -/
private theorem exGreedy : Spec.GreedyValid .average 3 exData exSteps := by
  refine ⟨rfl, ?_⟩
  simp only [exSteps, Spec.GreedyFrom, Spec.Admissible, and_true]
  simp [Spec.init, Spec.merge, Spec.post, Spec.lw, Gen.average, Method.onSquares, List.range,
    List.range.loop, Num.add, Num.mul, Num.div, Num.ofNat, Num.lt, Num.infinity,
    e01, e02, e12, e10, e20, e21]
  norm_num

example : ∃ v : ℚ, Criterion .average (Spec.init .average 3 exData).D
    (clusterTree 3 exSteps 2) (clusterTree 3 exSteps 3) v ∧ 13 / 2 = v :=
  C02_greedy_heights (fieldNum_laws ℚ) .average 3 exData exSteps exGreedy 1 ⟨2, 3, 13 / 2, 3⟩ rfl

end examples

end Kodama
