/-
C02 (tie to the source) — fingerprints of the hand-modelled functions this property's theorems are about.

The model of these functions is written by hand and tied to the crate by the bit-exact correspondence
run, which is bounded by the sizes it generates.  `Generated/Bodies.lean` is re-emitted from /repo on
every run with a fingerprint of each function's NORMALISED body (comments, attributes, cfg(test) items
and whitespace removed; parameters and local bindings alpha-renamed; tools/extract_bodies.py); each
theorem below pins the fingerprint of the text the model was written against.  A theorem that no longer
checks names the function that was edited: the model may no longer describe it (for instance on sizes the
correspondence run does not reach), and `check` searches for a failing input.  A fingerprint is proved
by exhibiting its row of the table (`Gen.bodyHash_of_row`); functions that other properties rest on
too are proved once, in `Lemmas/Fingerprint/`.  Written by
tools/mk_source_snapshot.py — by hand, after the model has been brought up to date, never by a check.
-/
import Kodama.Lemmas.Fingerprint.ChainMethods
import Kodama.Lemmas.Fingerprint.Generic
import Kodama.Lemmas.Fingerprint.GenericMethods
import Kodama.Lemmas.Fingerprint.Nnchain
import Kodama.Lemmas.Fingerprint.Table
namespace Kodama

theorem C02_source_chain_nnchain_with : Gen.bodyHash "chain.rs::nnchain_with" = some 106125546475694288 := Fingerprint.chain_nnchain_with
theorem C02_source_generic_generic_with : Gen.bodyHash "generic.rs::generic_with" = some 666595537043039253 := Fingerprint.generic_generic_with
theorem C02_source_chain_single : Gen.bodyHash "chain.rs::single" = some 548024668511678133 := Fingerprint.chain_single
theorem C02_source_chain_complete : Gen.bodyHash "chain.rs::complete" = some 1032925656827140883 := Fingerprint.chain_complete
theorem C02_source_chain_average : Gen.bodyHash "chain.rs::average" = some 618677340003473376 := Fingerprint.chain_average
theorem C02_source_chain_weighted : Gen.bodyHash "chain.rs::weighted" = some 147808584175107373 := Fingerprint.chain_weighted
theorem C02_source_chain_ward : Gen.bodyHash "chain.rs::ward" = some 947791683857424921 := Fingerprint.chain_ward
theorem C02_source_generic_single : Gen.bodyHash "generic.rs::single" = some 644996484007636956 := Fingerprint.generic_single
theorem C02_source_generic_complete : Gen.bodyHash "generic.rs::complete" = some 1037487414753074802 := Fingerprint.generic_complete
theorem C02_source_generic_average : Gen.bodyHash "generic.rs::average" = some 1116265116762071441 := Fingerprint.generic_average
theorem C02_source_generic_weighted : Gen.bodyHash "generic.rs::weighted" = some 935098845084524492 := Fingerprint.generic_weighted
theorem C02_source_generic_ward : Gen.bodyHash "generic.rs::ward" = some 874016737665832682 := Fingerprint.generic_ward
theorem C02_source_generic_centroid : Gen.bodyHash "generic.rs::centroid" = some 107088843728231042 := Fingerprint.generic_centroid
theorem C02_source_generic_median : Gen.bodyHash "generic.rs::median" = some 356816801408632543 := Fingerprint.generic_median
theorem C02_source_chain_nnchain : Gen.bodyHash "chain.rs::nnchain" = some 24852539402900289 := Fingerprint.chain_nnchain
theorem C02_source_generic_generic : Gen.bodyHash "generic.rs::generic" = some 580816253015378521 := Fingerprint.generic_generic
theorem C02_source_lib_Method_square : Gen.bodyHash "lib.rs::Method::square" = some 182235919696160391 := Gen.bodyHash_of_row (i := 56) rfl
theorem C02_source_lib_Method_sqrt : Gen.bodyHash "lib.rs::Method::sqrt" = some 571966038718100224 := Gen.bodyHash_of_row (i := 57) rfl

end Kodama
