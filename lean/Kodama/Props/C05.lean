/-
C05 — no inversions for single, complete, average, weighted and Ward.

Proved here (FULL statement, for the model): for every entry point (`runWith`: the five algorithms
in `_with` form; the allocating wrappers are the instance `State.new`, `Dendrogram.new n`), every
build mode, every input array and `n`, every prior state and dendrogram, and every method whose
*generated* table entry `requiresSorting` is true:

* `C05_sorted`      whenever the call returns, the step dissimilarities are pairwise `≤` in step
                    order (exactly: `¬ (later < earlier)`).
* `C05_tables`      `requiresSorting m = false ↔ m ∈ {centroid, median}` and nnchain's method
                    conversion round-trips (finite tables, by cases).
* `C05_unsorted_order` (about `relabel` and `sqrtSteps` on an ARBITRARY raw dendrogram, no entry point
                    mentioned) for centroid/median no permutation is applied: the output heights are
                    the raw heights in the order they were pushed (then `sqrt`).

* `C05_epilogue`    (translated call sites) every `_with` in the SOURCE ends with
                    `state.set.relabel(steps, <its method>)` (then `sqrt` for the three that square),
                    and `relabel` in the source has the shape reset; `if requires_sorting { sort_by
                    partial_cmp .expect }`; the seven-statement relabel loop — so a refactor that
                    bypasses or replaces the sort in one entry point breaks the build.

Number laws used (hypotheses, not axioms): `OrderLaws` (`<` is a strict weak order on non-NaN
values) and `MonoSqrt`.  Both are true of IEEE f32/f64 including NaN handling; the sort itself
panics (model: `Panic.nanInSort`) when a NaN height is present.

Trusted/modelled: `slice::sort_by` is a stable sort (modelled by `List.mergeSort`); the position of
sort / relabel / sqrt in each `_with` is hand-modelled and tied by the bit-exact correspondence run.
-/
import Kodama.Lemmas.Relabel
import Kodama.Lemmas.Tail
import Kodama.Generated.Shape
namespace Kodama
variable {α : Type} [Num α]

theorem C05_sorted (L : OrderLaws α) (S : MonoSqrt α) (chk : Bool) (alg : Alg) (m : Method)
    (hm : m.requiresSorting = true) (st : State α) (d : Dendrogram α) (data : Array α) (n : Nat)
    (st' : State α) (d' : Dendrogram α) (M' : Mat α)
    (h : runWith chk alg m st d data n = .ok (st', d', M')) :
    (heights d'.steps).Pairwise HLe := by
  rcases runWith_tail chk alg m st d data n st' d' M' h with h0 | ⟨raw, uf0, uf, rel, hrel, rfl⟩
  · simp [heights, h0]
  · exact sqrtSteps_sorted S m rel (relabel_sorted L m hm raw rel uf0 uf hrel)

theorem C05_tables :
    (∀ m : Method, m.requiresSorting = false ↔ (m = .centroid ∨ m = .median)) ∧
    (∀ (m : Method) (mc : MethodChain), m.intoMethodChain = some mc → mc.intoMethod = m ∧ m.requiresSorting = true) := by
  constructor
  · intro m; cases m <;> simp [Method.requiresSorting]
  · intro m mc h
    cases m <;> cases mc <;> simp [Method.intoMethodChain, MethodChain.intoMethod, Method.requiresSorting] at h ⊢

/-- Centroid / median: heights come out in the order the merges were pushed. -/
theorem C05_unsorted_order (m : Method) (hm : m.requiresSorting = false) (raw rel : Dendrogram α)
    (uf0 uf : UF) (h : relabel m uf0 raw = .ok (uf, rel)) :
    heights (sqrtSteps m rel).steps =
      (heights raw.steps).map (fun x => if m.onSquares then Num.sqrt x else x) := by
  obtain ⟨s0, st', hs0, hfold, heq⟩ := (relabel_ok_iff m uf0 raw _).mp h
  rw [hm, if_neg Bool.false_ne_true] at hs0
  cases pure_ok.mp hs0
  cases heq
  rw [heights_sqrtSteps, relabelFold_heights raw.obs _ _ _ _ _ hfold]

theorem C05_epilogue :
    Gen.epilogue = [("primitive_with", ["relabel method", "sqrt method"]),
                    ("nnchain_with", ["relabel method.into_method()", "sqrt method"]),
                    ("generic_with", ["relabel method", "sqrt method"]),
                    ("mst_with", ["relabel Method::Single"])] ∧
    Gen.relabelShape = ["reset", "if requires_sorting", "sort_by partial_cmp expect", "for i in 0..len"] ∧
    Gen.relabelLoop = ["let new_cluster1 = self.find(dendrogram[i].cluster1)",
                       "let new_cluster2 = self.find(dendrogram[i].cluster2)",
                       "self.union(new_cluster1, new_cluster2)",
                       "let size1 = dendrogram.cluster_size(new_cluster1)",
                       "let size2 = dendrogram.cluster_size(new_cluster2)",
                       "dendrogram[i].set_clusters(new_cluster1, new_cluster2)",
                       "dendrogram[i].size = size1 + size2"] :=
  ⟨rfl, rfl, rfl⟩

/-- Non-vacuity of the law bundles: a three-element strict order satisfies them. -/
instance : Num (Fin 3) where
  lt a b := decide (a < b)
  beq a b := decide (a = b)
  add a _ := a
  sub a _ := a
  mul a _ := a
  div a _ := a
  ofNat _ := 0
  half := 0
  quarter := 0
  sqrt a := a
  abs a := a
  maxValue := 2
  infinity := 2
  isNaN _ := false

example : OrderLaws (Fin 3) ∧ MonoSqrt (Fin 3) := by
  refine ⟨⟨by decide, by decide⟩, ⟨by decide⟩⟩

end Kodama
