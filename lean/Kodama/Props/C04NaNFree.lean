/-
C04 for single linkage with hypotheses that an IEEE float type actually satisfies.

The theorems about `nnchain_with` / `generic_with` in `Props/C04Single.lean` and `Props/C04Quotient.lean` assume
`∀ x : α, Num.isNaN x = false` — no NaN in the TYPE — which no float type satisfies.  Here that
type-level hypothesis is replaced by hypotheses on the DATA and on non-NaN values only, by one more
application of the naturality theorem `C10`:

* `NonNaN α` is the subtype of non-NaN values with the comparison and `==` restricted, the sentinels (assumed
  non-NaN) and junk-totalised arithmetic (single linkage never calls it); it has no NaN by construction
  (`nn_noNaN`), inherits `OrderLaws` (`nn_orderLaws`) and `BeqOrd` from `BeqOrdOn α` — `==` is
  order-equivalence ON NON-NaN VALUES (`nn_beqOrd`);
* the inclusion `NonNaN α → α` is an order homomorphism that maps the sentinels to the sentinels
  (`nn_ordHom`), so the run on `α` of a NaN-free matrix is the image of the run on `NonNaN α`;
* `C04_nnchain_single_noTri` / `C04_generic_single_noTri` on `NonNaN α` (no trichotomy) transfer back through
  `sameCluster_map` / `reach_map`.

Results — `C04_nnchain_single_float`, `C04_generic_single_float`: hypotheses `OrderLaws α` (true of IEEE
`<`, NaN included), `BeqOrdOn α`, `max_value` / `infinity` not NaN, every ENTRY of the matrix not NaN (`∀ x ∈ data`)
(generic: and strictly below `max_value`).  No type-level "no NaN", no trichotomy.
-/
import Kodama.Props.C04Quotient
namespace Kodama
open Spec
variable {α : Type} [Num α]

/-- `==` is order-equivalence on non-NaN values. -/
def BeqOrdOn (α : Type) [Num α] : Prop :=
  ∀ a b : α, Num.isNaN a = false → Num.isNaN b = false →
    Num.beq a b = (!Num.lt a b && !Num.lt b a)

/-- The non-NaN values. -/
abbrev NonNaN (α : Type) [Num α] : Type := { x : α // Num.isNaN x = false }

/-- Totalise an operation into `NonNaN α` (the junk branch is never reached by single / complete linkage,
which do no arithmetic). -/
def NonNaN.lift (dflt : NonNaN α) (v : α) : NonNaN α :=
  if h : Num.isNaN v = false then ⟨v, h⟩ else dflt

@[instance_reducible] def nnNum (hmax : Num.isNaN (Num.maxValue : α) = false)
    (hinf : Num.isNaN (Num.infinity : α) = false) : Num (NonNaN α) where
  lt a b := Num.lt a.1 b.1
  beq a b := Num.beq a.1 b.1
  add a b := NonNaN.lift a (Num.add a.1 b.1)
  sub a b := NonNaN.lift a (Num.sub a.1 b.1)
  mul a b := NonNaN.lift a (Num.mul a.1 b.1)
  div a b := NonNaN.lift a (Num.div a.1 b.1)
  ofNat k := NonNaN.lift ⟨Num.maxValue, hmax⟩ (Num.ofNat k)
  half := NonNaN.lift ⟨Num.maxValue, hmax⟩ Num.half
  quarter := NonNaN.lift ⟨Num.maxValue, hmax⟩ Num.quarter
  sqrt a := NonNaN.lift a (Num.sqrt a.1)
  abs a := NonNaN.lift a (Num.abs a.1)
  maxValue := ⟨Num.maxValue, hmax⟩
  infinity := ⟨Num.infinity, hinf⟩
  isNaN _ := false

section
variable (hmax : Num.isNaN (Num.maxValue : α) = false) (hinf : Num.isNaN (Num.infinity : α) = false)

theorem nn_noNaN (x : NonNaN α) : @Num.isNaN _ (nnNum hmax hinf) x = false := rfl

theorem nn_orderLaws (L : OrderLaws α) : @OrderLaws (NonNaN α) (nnNum hmax hinf) :=
  @OrderLaws.mk _ (nnNum hmax hinf) (fun a b => L.asymm a.1 b.1)
    (fun a b c _ => L.cotrans a.1 b.1 c.1 b.2)

theorem nn_beqOrd (B : BeqOrdOn α) : @BeqOrd (NonNaN α) (nnNum hmax hinf) :=
  fun a b => B a.1 b.1 a.2 b.2

theorem nn_ordHom : @OrdHom (NonNaN α) α (nnNum hmax hinf) _ Subtype.val :=
  @OrdHom.mk (NonNaN α) α (nnNum hmax hinf) _ _ (fun _ _ => rfl) (fun _ _ => rfl) (fun a => a.2)

end

/-- A NaN-free array as an array over `NonNaN α`. -/
def nnData (data : Array α) (h : ∀ x ∈ data, Num.isNaN x = false) : Array (NonNaN α) :=
  data.attach.map (fun x => ⟨x.1, h x.1 x.2⟩)

theorem nnData_map (data : Array α) (h : ∀ x ∈ data, Num.isNaN x = false) :
    (nnData data h).map Subtype.val = data := by
  simp [nnData, Array.map_map, Function.comp_def]

theorem nnData_size (data : Array α) (h : ∀ x ∈ data, Num.isNaN x = false) :
    (nnData data h).size = data.size := by simp [nnData]

theorem nnData_get (data : Array α) (h : ∀ x ∈ data, Num.isNaN x = false) (i : Nat)
    (hi : i < (nnData data h).size) :
    ((nnData data h)[i]).1 = data[i]'(by simpa [nnData] using hi) := by
  simp [nnData]

theorem C04_nnchain_single_float (L : OrderLaws α) (B : BeqOrdOn α)
    (hmax : Num.isNaN (Num.maxValue : α) = false) (hinf : Num.isNaN (Num.infinity : α) = false)
    (chk : Bool) (st : State α) (d : Dendrogram α) (data : Array α) (n : Nat) (h2 : 2 ≤ n)
    (hs : n < 2147483648) (hl : 2 * data.size = n * (n - 1))
    (hdata : ∀ x ∈ data, Num.isNaN x = false) :
    ∃ st' d' M', nnchainWith chk .single st d data n = .ok (st', d', M') ∧
      ∀ (h : α) (u v : Nat), Num.isNaN h = false → u < n →
        (SameCluster n d'.steps.toList h u v ↔ Reach n data h u v) := by
  let _ : Num (NonNaN α) := nnNum hmax hinf
  have G := nn_ordHom hmax hinf
  obtain ⟨st2, d2, M2, hr, hP⟩ := G.run_push (.inl rfl) chk .nnchain (fun h => by cases h)
    (fun _ => rfl) State.new st (Dendrogram.new 0) d (nnData data hdata) n
    (Q := fun l' => ∀ (t : NonNaN α) (u v : Nat), u < n →
      (SameCluster n l' t.1 u v ↔ Reach n ((nnData data hdata).map Subtype.val) t.1 u v))
    (IsThreshold.map G rfl)
    (C04_nnchain_single_noTri (nn_orderLaws hmax hinf L) (nn_noNaN hmax hinf)
      (nn_beqOrd hmax hinf B) chk State.new (Dendrogram.new 0) (nnData data hdata) n h2 hs
      (by rw [nnData_size]; exact hl))
  simp only [nnData_map] at hr hP
  exact ⟨st2, d2, M2, hr, fun h u v hh hu => hP ⟨h, hh⟩ u v hu⟩

theorem C04_generic_single_float (L : OrderLaws α) (B : BeqOrdOn α)
    (hmax : Num.isNaN (Num.maxValue : α) = false) (hinf : Num.isNaN (Num.infinity : α) = false)
    (chk : Bool) (st : State α) (d : Dendrogram α) (data : Array α) (n : Nat) (h2 : 2 ≤ n)
    (hs : n < 2147483648) (hl : 2 * data.size = n * (n - 1))
    (hdata : ∀ x ∈ data, Num.isNaN x = false)
    (hin : ∀ i (hi : i < data.size), Num.lt data[i] (Num.maxValue : α) = true) :
    ∃ st' d' M', genericWith chk .single st d data n = .ok (st', d', M') ∧
      ∀ (h : α) (u v : Nat), Num.isNaN h = false → u < n →
        (SameCluster n d'.steps.toList h u v ↔ Reach n data h u v) := by
  let _ : Num (NonNaN α) := nnNum hmax hinf
  have G := nn_ordHom hmax hinf
  obtain ⟨st2, d2, M2, hr, hP⟩ := G.run_push (.inl rfl) chk .generic
    (fun _ => SentinelSafe.of_fix G rfl) (fun _ => rfl) State.new st (Dendrogram.new 0) d
    (nnData data hdata) n
    (Q := fun l' => ∀ (t : NonNaN α) (u v : Nat), u < n →
      (SameCluster n l' t.1 u v ↔ Reach n ((nnData data hdata).map Subtype.val) t.1 u v))
    (IsThreshold.map G rfl)
    (C04_generic_single_noTri (nn_orderLaws hmax hinf L) (nn_noNaN hmax hinf)
      (nn_beqOrd hmax hinf B) chk State.new (Dendrogram.new 0) (nnData data hdata) n h2 hs
      (by rw [nnData_size]; exact hl) (fun i hi => by
        show Num.lt ((nnData data hdata)[i]).1 (Num.maxValue : α) = true
        rw [nnData_get]
        exact hin i (by rw [nnData_size] at hi; exact hi)))
  simp only [nnData_map] at hr hP
  exact ⟨st2, d2, M2, hr, fun h u v hh hu => hP ⟨h, hh⟩ u v hu⟩

/-! ## Non-vacuity: a number type that HAS a NaN -/

section Example

/-- Naturals with a NaN (`none`): every comparison with it is false, it is not equal to itself. -/
@[reducible] def Toy.nanNum : Num (Option Nat) where
  lt a b := match a, b with | some x, some y => decide (x < y) | _, _ => false
  beq a b := match a, b with | some x, some y => decide (x = y) | _, _ => false
  add a b := match a, b with | some x, some y => some (x + y) | _, _ => none
  sub a b := match a, b with | some x, some y => if y ≤ x then some (x - y) else none | _, _ => none
  mul a b := match a, b with | some x, some y => some (x * y) | _, _ => none
  div a b := match a, b with | some x, some y => if y = 0 then none else some (x / y) | _, _ => none
  ofNat k := some k
  half := some 0
  quarter := some 0
  sqrt a := a
  abs a := a
  maxValue := some 1000000
  infinity := some 1000000
  isNaN a := a.isNone

attribute [local instance] Toy.nanNum

theorem Toy.nanKeyed : OrderLaws (Option Nat) ∧ BeqOrdOn (Option Nat) :=
  keyedLaws id (fun a b => by cases a <;> cases b <;> rfl)
    (fun a b => by cases a <;> cases b <;> rfl) (fun _ => rfl)

theorem Toy.nanOrderLaws : OrderLaws (Option Nat) := Toy.nanKeyed.1

theorem Toy.nanBeqOrdOn : BeqOrdOn (Option Nat) := Toy.nanKeyed.2

/-- The type-level hypothesis of the earlier theorems is FALSE here … -/
example : ¬ ∀ x : Option Nat, Num.isNaN x = false := fun h => by
  have := h none
  cases this

/-- … and the theorem applies to a NaN-free matrix over it. -/
example : ∃ st' d' M',
    nnchainWith true .single State.new (Dendrogram.new 0)
      (#[some 0, some 5, some 3] : Array (Option Nat)) 3 = .ok (st', d', M') ∧
    ∀ (h : Option Nat) (u v : Nat), Num.isNaN h = false → u < 3 →
      (SameCluster 3 d'.steps.toList h u v ↔
        Reach 3 (#[some 0, some 5, some 3] : Array (Option Nat)) h u v) :=
  C04_nnchain_single_float Toy.nanOrderLaws Toy.nanBeqOrdOn rfl rfl true State.new
    (Dendrogram.new 0) _ 3 (by decide) (by decide) (by decide) (by decide)

end Example

/-! ## Non-vacuity, stronger: a comparison-faithful miniature of IEEE values — a NaN AND two zeros -/

section Example2

/-- `nan`, or an integer value with a sign-of-zero flag (`num 0 true` is `−0`, `num 0 false` is `+0`; the
flag is ignored by every comparison, as IEEE `<` and `==` ignore the sign of zero). -/
inductive Toy.Cmp where
  | nan
  | num (v : Int) (negZero : Bool)
  deriving DecidableEq

@[reducible] def Toy.cmpNum : Num Toy.Cmp where
  lt a b := match a, b with | .num x _, .num y _ => decide (x < y) | _, _ => false
  beq a b := match a, b with | .num x _, .num y _ => decide (x = y) | _, _ => false
  add a b := match a, b with | .num x _, .num y _ => .num (x + y) false | _, _ => .nan
  sub a b := match a, b with | .num x _, .num y _ => .num (x - y) false | _, _ => .nan
  mul a b := match a, b with | .num x _, .num y _ => .num (x * y) false | _, _ => .nan
  div a b := match a, b with | .num x _, .num y _ => if y = 0 then .nan else .num (x / y) false | _, _ => .nan
  ofNat k := .num k false
  half := .num 0 false
  quarter := .num 0 false
  sqrt a := a
  abs a := match a with | .num x _ => .num x.natAbs false | .nan => .nan
  maxValue := .num 1000000 false
  infinity := .num 1000001 false
  isNaN a := match a with | .nan => true | _ => false

attribute [local instance] Toy.cmpNum

theorem Toy.cmpKeyed : OrderLaws Toy.Cmp ∧ BeqOrdOn Toy.Cmp :=
  keyedLaws (fun | .nan => none | .num v _ => some v) (fun a b => by cases a <;> cases b <;> rfl)
    (fun a b => by cases a <;> cases b <;> rfl) (fun a => by cases a <;> rfl)

theorem Toy.cmpOrderLaws : OrderLaws Toy.Cmp := Toy.cmpKeyed.1

theorem Toy.cmpBeqOrdOn : BeqOrdOn Toy.Cmp := Toy.cmpKeyed.2

/-- Neither type-level hypothesis of the earlier theorems holds here … -/
example : (¬ ∀ x : Toy.Cmp, Num.isNaN x = false) ∧ ¬ LtTrichotomy Toy.Cmp := by
  constructor
  · intro h; have := h .nan; cases this
  · intro T
    have := T (.num 0 true) (.num 0 false) rfl rfl
    cases this

/-- … and the threshold theorem applies to a matrix holding `−0`, `+0` and a negative entry. -/
example : ∃ st' d' M',
    nnchainWith true .single State.new (Dendrogram.new 0)
      (#[.num 0 true, .num 0 false, .num (-3) false] : Array Toy.Cmp) 3 = .ok (st', d', M') ∧
    ∀ (h : Toy.Cmp) (u v : Nat), Num.isNaN h = false → u < 3 →
      (SameCluster 3 d'.steps.toList h u v ↔
        Reach 3 (#[.num 0 true, .num 0 false, .num (-3) false] : Array Toy.Cmp) h u v) :=
  C04_nnchain_single_float Toy.cmpOrderLaws Toy.cmpBeqOrdOn rfl rfl true State.new
    (Dendrogram.new 0) _ 3 (by decide) (by decide) (by decide) (by decide)

end Example2

end Kodama
