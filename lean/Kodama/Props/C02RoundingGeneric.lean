/-
C02 UNDER FLOATING-POINT ROUNDING, ENTRY POINT `generic_with` — the rounding-error theorems of
`Props/C02Rounding.lean` (nnchain / linkage) and `Props/C02RoundingPrim.lean` (primitive) for
Müllner's generic algorithm (`src/generic.rs`), which also accepts `Method::Average` and
`Method::Weighted`.  The three entry points that accept these two methods have the SAME conclusion,
so any two of them compose (`C02_average_rounded_agree`).

## What is proved

* `C02_generic_average_rounded`   for every valid matrix the call `genericWith chk .average st d data n`
      RETURNS, and EVERY returned step `(c1, c2, h, size)` satisfies, with `A`, `B` the observation sets
      (`Spec.leaves`) of the labels `c1`, `c2` and `mean` the EXACT mean of the original values over the
      cross pairs:
          h finite,   A ∩ B = ∅,   size = |A| + |B| ≤ n,   0 ≤ mean,
          Round.Near u (4·(size − 2)) mean (val h)
      — word for word the conclusion of `C02_nnchain_average_rounded` / `C02_primitive_average_rounded`.
* `C02_generic_average_rounded_bounds`, `_gamma`, `_1e9`, `_1e3`   `Near` unfolded, and the numeric
      corollaries (`u ≤ 2⁻⁵³`, `n ≤ 10⁶` ⇒ relative error `≤ 10⁻⁹`; `u ≤ 2⁻²⁴`, `n ≤ 2000` ⇒ `≤ 10⁻³`).
* `C02_generic_weighted_rounded`, `_of_halfAdd`   weighted linkage: every returned height is within
      `2·(size − 2)` factors of the recursively halved mean `Crit.wdist` over the merge trees of the two
      merged labels (as `C02_nnchain_weighted_rounded`).
* Non-vacuity: exact `ℚ` with sentinel `1000` (`ratNumMax 1000`, `u = 0`: heights ARE the means /
  halved means), and a round-down toy type with sentinel `1000` (`u = 1/1000`, average).

## Hypotheses

Those of the nnchain / primitive theorems (`OrderLaws α`, `Round.Model`, valid matrix, entries finite
and `0` or in `[dlo, dhi]` resp. in `[dlo, dhi]`, `Round.RangeOk` / `RangeOkW`; for weighted:
reducibility `ChainGeOn G .weighted`), PLUS what `generic_with` needs to run at all — unlike
`primitive_with` and `nnchain_with` it is not total for arbitrary number operations: it leaves its
repair loop on `==`, starts every row scan from `T::max_value()`, and relies on the heap priorities
being lower bounds of the row minima.  These are exactly the hypotheses of the exact and the
closure-based theorems about `generic_with` (`Props/C03GenericRun.lean`, `C12Generic.lean`); none is
part of the standard model of floating-point arithmetic:

* `BeqLe α`            `a == b → ¬ (b < a)` (true of IEEE floats);
* `max_value` is not NaN;
* `GoodSet G`          a set `G` of values that are not NaN, strictly below `max_value`, `v == v`;
* `hG`                 `G` contains every FINITE value in the range of the run
                       (average: `0` or in `[dlo/n²·(1−u)^(4n), dhi/(1−u)^(4n)]`, `Round.RAvg.range`;
                       weighted: `[dlo·(1−u)^(2n), dhi/(1−u)^(2n)]`, `Round.RWgt.range`).
  For IEEE floats: `G` = "finite, below `f64::MAX`"; `hG` holds because the run's range is far below the
  largest finite number by `RangeOk` (`n·dhi ≤ hi·(1−u)^(4n+3)`) — but `val v < val max_value ⇒
  v < max_value` is a statement about the order on finite floats, i.e. `Round.Model.lt` applied to
  `max_value`; it is kept as the hypothesis `hG` so that `max_value` need not be `fin`.
* the lower-bound closure `LBClosed G m` of the generic algorithm is DERIVED: for the clamped average
  from `OrderLaws` (`lbClosed_average`), for weighted from `ChainGeOn G .weighted`
  (`lbClosed_weighted_of_chainGeOn`).

## What is NOT proved

As in `Props/C02Rounding.lean` / `C02RoundingPrim.lean`: that IEEE arithmetic satisfies `Round.Model`,
`BeqLe`, `HalfAddLaws`; Ward / centroid / median (cancellation).  That two entry points return the
same clusters (under rounding they need not).

## Proof

`Lemmas/GenericRun.lean`: one iteration of `generic_with` satisfies `MergeFacts` (`genIter_facts`: the
popped pair is a global minimum, `generic_pop_min`; the three ranges act on the matrix as `updateRows`,
`genericUpdate_spec`) while `GenInv` (totality) and `LB` (lower bounds) are maintained as in
`Lemmas/GenericGreedySim.lean`; the run-dependent goodness hypothesis `UpdGoodAt` of the update is
discharged FROM THE ROUNDING RELATION (the value about to be written is `RAvg`/`RWgt`-related to the
merged trees, hence finite and in range, hence in `G`).  `roundLoop_of_step` (`Lemmas/RoundCore.lean`)
then carries the entry-point independent invariant `RoundCore`, and `greedySw_of_core`
(`Lemmas/RoundGreedyChain.lean`) the sort/relabel stage; the whole call is `genericWith_greedy`
(`Lemmas/RoundGeneric.lean`), instantiated in `generic_average_greedySw` /
`generic_weighted_greedySw` (`Lemmas/RoundRuns.lean`).
-/
import Kodama.Lemmas.RoundRuns
import Kodama.Lemmas.RoundExamples
import Kodama.Lemmas.RoundBound
import Kodama.Lemmas.WeightedMono
namespace Kodama
open Spec Crit MTree Finset Round

variable {K : Type} [Field K] [LinearOrder K] [IsStrictOrderedRing K]
variable {α : Type} [Num α]

/-- **C02 for average linkage through `generic_with`, under the standard model of floating-point
arithmetic.**  Same conclusion as `C02_nnchain_average_rounded`; see the file header for the extra
hypotheses (`BeqLe`, `GoodSet G`, `hG`, `max_value` not NaN) and why `generic_with` needs them. -/
theorem C02_generic_average_rounded (L : OrderLaws α) (hbeq : BeqLe α) {val : α → K}
    {fin : α → Prop} {u lo hi : K} {N : Nat} (RM : Round.Model val fin u lo hi N)
    (hmax : Num.isNaN (Num.maxValue : α) = false) {G : α → Prop} (gs : GoodSet G)
    (chk : Bool) (st : State α) (d : Dendrogram α) (data : Array α) (n : Nat)
    (h2 : 2 ≤ n) (hs : n < 2147483648) (hl : 2 * data.size = n * (n - 1))
    {dlo dhi : K} (hdlo : 0 < dlo) (hdle : dlo ≤ dhi)
    (hdata : ∀ (k : Nat) (h : k < data.size), fin data[k] ∧ In0 dlo dhi (val data[k]))
    (Rg : RangeOk u lo hi N n dlo dhi)
    (hG : ∀ v, fin v → In0 (vlo u n dlo) (vhi u n dhi) (val v) → G v) :
    ∃ st' d' M', genericWith chk .average st d data n = .ok (st', d', M') ∧
      ∀ (i : Nat) (s : Step α), d'.steps.toList[i]? = some s →
        let steps := d'.steps.toList
        let A := (Spec.leaves n steps steps.length s.c1).toFinset
        let B := (Spec.leaves n steps steps.length s.c2).toFinset
        fin s.d ∧ Disjoint A B ∧ s.size = A.card + B.card ∧ s.size ≤ n ∧
          0 ≤ avg (valD val n data) A B ∧
          Near u (4 * (s.size - 2)) (avg (valD val n data) A B) (val s.d) :=
  exists_ok_imp (generic_average_greedySw L RM chk st d data n h2 hs hl hdlo hdle hdata Rg hbeq hmax gs hG)
    fun _ h i s hi =>
      avgNear_of_sw (baseOk_valD data n h2 hs hl hdlo hdle hdata) h.1 hi (h.2 i s hi).1

theorem C02_generic_average_rounded_bounds (L : OrderLaws α) (hbeq : BeqLe α) {val : α → K}
    {fin : α → Prop} {u lo hi : K} {N : Nat} (RM : Round.Model val fin u lo hi N)
    (hmax : Num.isNaN (Num.maxValue : α) = false) {G : α → Prop} (gs : GoodSet G)
    (chk : Bool) (st : State α) (d : Dendrogram α) (data : Array α) (n : Nat)
    (h2 : 2 ≤ n) (hs : n < 2147483648) (hl : 2 * data.size = n * (n - 1))
    {dlo dhi : K} (hdlo : 0 < dlo) (hdle : dlo ≤ dhi)
    (hdata : ∀ (k : Nat) (h : k < data.size), fin data[k] ∧ In0 dlo dhi (val data[k]))
    (Rg : RangeOk u lo hi N n dlo dhi)
    (hG : ∀ v, fin v → In0 (vlo u n dlo) (vhi u n dhi) (val v) → G v) :
    ∃ st' d' M', genericWith chk .average st d data n = .ok (st', d', M') ∧
      ∀ (i : Nat) (s : Step α), d'.steps.toList[i]? = some s →
        let steps := d'.steps.toList
        let A := (Spec.leaves n steps steps.length s.c1).toFinset
        let B := (Spec.leaves n steps steps.length s.c2).toFinset
        let mean := avg (valD val n data) A B
        mean * (1 - u) ^ (4 * (s.size - 2)) ≤ val s.d ∧
          val s.d * (1 - u) ^ (4 * (s.size - 2)) ≤ mean :=
  exists_ok_imp (C02_generic_average_rounded L hbeq RM hmax gs chk st d data n h2 hs hl hdlo hdle hdata Rg hG)
    fun _ h i s hi => (h i s hi).2.2.2.2.2

/-! ## Numeric corollaries -/

/-- **Relative-error form**: every height returned by `generic_with` is within `γ · mean` of the
exact mean whenever `4·n·u ≤ c` and `1 ≤ (1+γ)(1−c)`. -/
theorem C02_generic_average_rounded_gamma (L : OrderLaws α) (hbeq : BeqLe α) {val : α → K}
    {fin : α → Prop} {u lo hi : K} {N : Nat} (RM : Round.Model val fin u lo hi N)
    (hmax : Num.isNaN (Num.maxValue : α) = false) {G : α → Prop} (gs : GoodSet G)
    (chk : Bool) (st : State α) (d : Dendrogram α) (data : Array α) (n : Nat)
    (h2 : 2 ≤ n) (hs : n < 2147483648) (hl : 2 * data.size = n * (n - 1))
    {dlo dhi : K} (hdlo : 0 < dlo) (hdle : dlo ≤ dhi)
    (hdata : ∀ (k : Nat) (h : k < data.size), fin data[k] ∧ In0 dlo dhi (val data[k]))
    (Rg : RangeOk u lo hi N n dlo dhi)
    (hG : ∀ v, fin v → In0 (vlo u n dlo) (vhi u n dhi) (val v) → G v)
    {c γ : K} (hc : 4 * (n : K) * u ≤ c) (hγ0 : 0 ≤ γ) (hγ : 1 ≤ (1 + γ) * (1 - c)) :
    ∃ st' d' M', genericWith chk .average st d data n = .ok (st', d', M') ∧
      ∀ (i : Nat) (s : Step α), d'.steps.toList[i]? = some s →
        let steps := d'.steps.toList
        let A := (Spec.leaves n steps steps.length s.c1).toFinset
        let B := (Spec.leaves n steps steps.length s.c2).toFinset
        |val s.d - avg (valD val n data) A B| ≤ γ * avg (valD val n data) A B :=
  exists_ok_imp (C02_generic_average_rounded L hbeq RM hmax gs chk st d data n h2 hs hl hdlo hdle hdata Rg hG)
    fun _ h i s hi => avgNear_step_tol RM.u_nonneg RM.u_lt_one (fun _ hk =>
      one_le_mul_pow_w (m := 4 * n) RM.u_nonneg RM.u_lt_one hk
        (by rwa [Nat.cast_mul, Nat.cast_ofNat]) hγ0 hγ) (h i s hi)

/-- **The tolerance of the property for `f64`, entry point `generic_with`**: `u ≤ 2⁻⁵³`, `n ≤ 10⁶`
⇒ every returned height is within `10⁻⁹` (relative) of the exact mean. -/
theorem C02_generic_average_rounded_1e9 (L : OrderLaws α) (hbeq : BeqLe α) {val : α → K}
    {fin : α → Prop} {u lo hi : K} {N : Nat} (RM : Round.Model val fin u lo hi N)
    (hmax : Num.isNaN (Num.maxValue : α) = false) {G : α → Prop} (gs : GoodSet G)
    (chk : Bool) (st : State α) (d : Dendrogram α) (data : Array α) (n : Nat)
    (h2 : 2 ≤ n) (hs : n < 2147483648) (hl : 2 * data.size = n * (n - 1))
    {dlo dhi : K} (hdlo : 0 < dlo) (hdle : dlo ≤ dhi)
    (hdata : ∀ (k : Nat) (h : k < data.size), fin data[k] ∧ In0 dlo dhi (val data[k]))
    (Rg : RangeOk u lo hi N n dlo dhi)
    (hG : ∀ v, fin v → In0 (vlo u n dlo) (vhi u n dhi) (val v) → G v)
    (hu : u ≤ 1 / 2 ^ 53) (hn : n ≤ 1000000) :
    ∃ st' d' M', genericWith chk .average st d data n = .ok (st', d', M') ∧
      ∀ (i : Nat) (s : Step α), d'.steps.toList[i]? = some s →
        let steps := d'.steps.toList
        let A := (Spec.leaves n steps steps.length s.c1).toFinset
        let B := (Spec.leaves n steps steps.length s.c2).toFinset
        |val s.d - avg (valD val n data) A B| ≤ 1 / 1000000000 * avg (valD val n data) A B :=
  exists_ok_imp (C02_generic_average_rounded L hbeq RM hmax gs chk st d data n h2 hs hl hdlo hdle hdata Rg hG)
    fun _ h i s hi => avgNear_step_tol RM.u_nonneg RM.u_lt_one (fun _ hk =>
      f64_one_le_mul_pow_w RM.u_nonneg hu hn (by omega)) (h i s hi)

/-- **The tolerance of the property for `f32`, entry point `generic_with`**: `u ≤ 2⁻²⁴`, `n ≤ 2000`
⇒ relative error at most `10⁻³`. -/
theorem C02_generic_average_rounded_1e3 (L : OrderLaws α) (hbeq : BeqLe α) {val : α → K}
    {fin : α → Prop} {u lo hi : K} {N : Nat} (RM : Round.Model val fin u lo hi N)
    (hmax : Num.isNaN (Num.maxValue : α) = false) {G : α → Prop} (gs : GoodSet G)
    (chk : Bool) (st : State α) (d : Dendrogram α) (data : Array α) (n : Nat)
    (h2 : 2 ≤ n) (hs : n < 2147483648) (hl : 2 * data.size = n * (n - 1))
    {dlo dhi : K} (hdlo : 0 < dlo) (hdle : dlo ≤ dhi)
    (hdata : ∀ (k : Nat) (h : k < data.size), fin data[k] ∧ In0 dlo dhi (val data[k]))
    (Rg : RangeOk u lo hi N n dlo dhi)
    (hG : ∀ v, fin v → In0 (vlo u n dlo) (vhi u n dhi) (val v) → G v)
    (hu : u ≤ 1 / 2 ^ 24) (hn : n ≤ 2000) :
    ∃ st' d' M', genericWith chk .average st d data n = .ok (st', d', M') ∧
      ∀ (i : Nat) (s : Step α), d'.steps.toList[i]? = some s →
        let steps := d'.steps.toList
        let A := (Spec.leaves n steps steps.length s.c1).toFinset
        let B := (Spec.leaves n steps steps.length s.c2).toFinset
        |val s.d - avg (valD val n data) A B| ≤ 1 / 1000 * avg (valD val n data) A B :=
  exists_ok_imp (C02_generic_average_rounded L hbeq RM hmax gs chk st d data n h2 hs hl hdlo hdle hdata Rg hG)
    fun _ h i s hi => avgNear_step_tol RM.u_nonneg RM.u_lt_one (fun _ hk =>
      f32_one_le_mul_pow_w RM.u_nonneg hu hn (by omega)) (h i s hi)

/-! ## Weighted linkage -/

/-- **C02 for weighted linkage through `generic_with`, under the standard model AND reducibility of
the weighted update on the good set `G`** (`hge : ChainGeOn G .weighted`; `hG`: `G` contains every
finite value in `[dlo·(1−u)^(2n), dhi/(1−u)^(2n)]`, the range of the run).  Same conclusion as
`C02_nnchain_weighted_rounded`.  Here reducibility is used twice: for the lower-bound invariant of
the heap (`LBClosed`) and for the legality of the sort. -/
theorem C02_generic_weighted_rounded (L : OrderLaws α) (hbeq : BeqLe α) {val : α → K}
    {fin : α → Prop} {u lo hi : K} {N : Nat} (RM : Round.Model val fin u lo hi N)
    (hmax : Num.isNaN (Num.maxValue : α) = false) {G : α → Prop} (gs : GoodSet G)
    (hge : ChainGeOn G .weighted)
    (chk : Bool) (st : State α) (d : Dendrogram α) (data : Array α) (n : Nat)
    (h2 : 2 ≤ n) (hs : n < 2147483648) (hl : 2 * data.size = n * (n - 1))
    {dlo dhi : K} (hdlo : 0 < dlo)
    (hdata : ∀ (k : Nat) (h : k < data.size),
      fin data[k] ∧ dlo ≤ val data[k] ∧ val data[k] ≤ dhi)
    (Rg : RangeOkW u lo hi n dlo dhi)
    (hG : ∀ v, fin v → dlo * (1 - u) ^ (2 * n) ≤ val v → val v ≤ dhi / (1 - u) ^ (2 * n) → G v) :
    ∃ st' d' M', genericWith chk .weighted st d data n = .ok (st', d', M') ∧
      ∀ (i : Nat) (s : Step α), d'.steps.toList[i]? = some s →
        let steps := d'.steps.toList
        let w := wdist (valD val n data) (clusterTree n steps s.c1) (clusterTree n steps s.c2)
        fin s.d ∧ s.size ≤ n ∧ 0 ≤ w ∧ Near u (2 * (s.size - 2)) w (val s.d) :=
  exists_ok_imp (generic_weighted_greedySw L RM hge chk st d data n h2 hs hl hdlo hdata Rg hG hbeq hmax gs)
    fun _ h i s hi => wgtNear_of_sw (baseOkW_valD data n hs hl hdlo hdata) (h.2 i s hi).1

/-- `C02_generic_weighted_rounded` with reducibility obtained from the monotonicity laws of `+` and
`½·` on the good set (`HalfAddLaws α G`, `Lemmas/WeightedMono.lean`). -/
theorem C02_generic_weighted_rounded_of_halfAdd (L : OrderLaws α) (hbeq : BeqLe α) {val : α → K}
    {fin : α → Prop} {u lo hi : K} {N : Nat} (RM : Round.Model val fin u lo hi N)
    (hmax : Num.isNaN (Num.maxValue : α) = false) {G : α → Prop} (gs : GoodSet G)
    (H : HalfAddLaws α G)
    (chk : Bool) (st : State α) (d : Dendrogram α) (data : Array α) (n : Nat)
    (h2 : 2 ≤ n) (hs : n < 2147483648) (hl : 2 * data.size = n * (n - 1))
    {dlo dhi : K} (hdlo : 0 < dlo)
    (hdata : ∀ (k : Nat) (h : k < data.size),
      fin data[k] ∧ dlo ≤ val data[k] ∧ val data[k] ≤ dhi)
    (Rg : RangeOkW u lo hi n dlo dhi)
    (hG : ∀ v, fin v → dlo * (1 - u) ^ (2 * n) ≤ val v → val v ≤ dhi / (1 - u) ^ (2 * n) → G v) :
    ∃ st' d' M', genericWith chk .weighted st d data n = .ok (st', d', M') ∧
      ∀ (i : Nat) (s : Step α), d'.steps.toList[i]? = some s →
        let steps := d'.steps.toList
        let w := wdist (valD val n data) (clusterTree n steps s.c1) (clusterTree n steps s.c2)
        fin s.d ∧ s.size ≤ n ∧ 0 ≤ w ∧ Near u (2 * (s.size - 2)) w (val s.d) :=
  C02_generic_weighted_rounded L hbeq RM hmax gs (chainReducibleOn_weighted L H).chainGeOn chk st d
    data n h2 hs hl hdlo hdata Rg hG

/-! ## Non-vacuity

`generic_with` needs a sentinel above the data, so the exact type is `ratNumMax 1000` (`fieldNum ℚ` with
`max_value = 1000`, `Lemmas/ComposeExample.lean`) and the rounding toy type is `downNum` of
`Lemmas/RoundExamples.lean` with `max_value = 1000`.  Good set: `G v := v < 1000`. -/

section Examples

section ExactRat
attribute [local instance] ratNum1000

/-- Exact `ℚ` (sentinel `1000`): all hypotheses hold, and (with `u = 0`) every height returned by
`generic_with` IS the mean over the cross pairs. -/
example : ∃ st' d' M',
    genericWith true .average State.new (Dendrogram.new 0) (#[1, 9, 4] : Array ℚ) 3
      = .ok (st', d', M') ∧
    ∀ (i : Nat) (s : Step ℚ), d'.steps.toList[i]? = some s →
      s.d = avg (valD (fun x : ℚ => x) 3 #[1, 9, 4])
        (Spec.leaves 3 d'.steps.toList d'.steps.toList.length s.c1).toFinset
        (Spec.leaves 3 d'.steps.toList d'.steps.toList.length s.c2).toFinset := by
  have E := ratNumMax_exact 1000
  obtain ⟨st', d', M', hrun, h⟩ := C02_generic_average_rounded_bounds E.field.orderLaws
    ratNum1000_beqLe ratNum1000_model_ex (E.noNaN _) ratNum1000_goodSet
    true State.new (Dendrogram.new 0) #[1, 9, 4] 3
    (by decide) (by decide) (by decide) (dlo := 1) (dhi := 9) (by norm_num) (by norm_num)
    example_data_ok rangeOk_ex_exact run_range_lt_1000_exact
  refine ⟨st', d', M', hrun, fun i s hi => ?_⟩
  exact Round.Near.eq_of_zero (h i s hi)

/-- Exact `ℚ` (sentinel `1000`), weighted linkage through `generic_with`: every returned height IS the
recursively halved mean. -/
example : ∃ st' d' M',
    genericWith true .weighted State.new (Dendrogram.new 0) (#[1, 9, 4] : Array ℚ) 3
      = .ok (st', d', M') ∧
    ∀ (i : Nat) (s : Step ℚ), d'.steps.toList[i]? = some s →
      s.d = wdist (valD (fun x : ℚ => x) 3 #[1, 9, 4])
        (clusterTree 3 d'.steps.toList s.c1) (clusterTree 3 d'.steps.toList s.c2) := by
  have E := ratNumMax_exact 1000
  obtain ⟨st', d', M', hrun, h⟩ := C02_generic_weighted_rounded E.field.orderLaws
    ratNum1000_beqLe ratNum1000_model_ex (E.noNaN _) ratNum1000_goodSet
    (LwGeOn.chainGeOn (m := .weighted) (E.field.lwGeOn _ .weighted rfl))
    true State.new (Dendrogram.new 0) #[1, 9, 4] 3 (by decide) (by decide) (by decide)
    (dlo := 1) (dhi := 9) (by norm_num) example_data_pos rangeOkW_ex_exact
    (by
      intro v _ _ h
      have e : (9 : ℚ) / (1 - 0) ^ (2 * 3) = 9 := by norm_num
      rw [e] at h
      show v < 1000
      linarith)
  refine ⟨st', d', M', hrun, fun i s hi => ?_⟩
  exact (h i s hi).2.2.2.eq_of_zero

end ExactRat

section RoundDown
attribute [local instance] downNum1000

/-- The round-down toy type with sentinel `1000`: all hypotheses hold (standard model with
`u = 1/1000`; `==` is equality; `G v := v < 1000` contains the range of the run), so `generic_with`
returns and every returned height is within `4·(size − 2)` factors `(1 − 1/1000)` of the exact mean
over the cross pairs. -/
example : ∃ st' d' M',
    genericWith true .average State.new (Dendrogram.new 0) (#[1, 9, 4] : Array ℚ) 3
      = .ok (st', d', M') ∧
    ∀ (i : Nat) (s : Step ℚ), d'.steps.toList[i]? = some s →
      let A := (Spec.leaves 3 d'.steps.toList d'.steps.toList.length s.c1).toFinset
      let B := (Spec.leaves 3 d'.steps.toList d'.steps.toList.length s.c2).toFinset
      let mean := avg (valD (fun x : ℚ => x) 3 #[1, 9, 4]) A B
      mean * (1 - 1 / 1000) ^ (4 * (s.size - 2)) ≤ s.d ∧
        s.d * (1 - 1 / 1000) ^ (4 * (s.size - 2)) ≤ mean :=
  C02_generic_average_rounded_bounds downNum1000_orderLaws downNum1000_beqLe
    downNum1000_model_ex rfl downNum1000_goodSet
    true State.new (Dendrogram.new 0) #[1, 9, 4] 3 (by decide) (by decide) (by decide)
    (dlo := 1) (dhi := 9) (by norm_num) (by norm_num)
    example_data_ok rangeOk_ex run_range_lt_1000

end RoundDown

end Examples

end Kodama
