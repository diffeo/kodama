/-
C14 (tie to the source) — fingerprints of the hand-modelled functions this property's theorems are about.

The model of these functions is written by hand and tied to the crate by the bit-exact correspondence
run, which is bounded by the sizes it generates.  `Generated/Bodies.lean` is re-emitted from /repo on
every run with a fingerprint of each function's NORMALISED body (comments, attributes, cfg(test) items
and whitespace removed; parameters and local bindings alpha-renamed; tools/extract_bodies.py); each
theorem below pins the fingerprint of the text the model was written against.  A theorem that no longer
checks names the function that was edited: the model may no longer describe it (for instance on sizes the
correspondence run does not reach), and `check` searches for a failing input.  A fingerprint is proved
by exhibiting its row of the table (`Gen.bodyHash_of_row`); functions that other properties rest on
too are proved once, in `Lemmas/Fingerprint/`.  Written by
tools/mk_source_snapshot.py — by hand, after the model has been brought up to date, never by a check.
-/
import Kodama.Lemmas.Fingerprint.Linkage
import Kodama.Lemmas.Fingerprint.Nnchain
import Kodama.Lemmas.Fingerprint.Spanning
namespace Kodama

theorem C14_source_chain_nnchain_with : Gen.bodyHash "chain.rs::nnchain_with" = some 106125546475694288 := Fingerprint.chain_nnchain_with
theorem C14_source_spanning_mst_with : Gen.bodyHash "spanning.rs::mst_with" = some 666729020279403072 := Fingerprint.spanning_mst_with
theorem C14_source_chain_nnchain : Gen.bodyHash "chain.rs::nnchain" = some 24852539402900289 := Fingerprint.chain_nnchain
theorem C14_source_spanning_mst : Gen.bodyHash "spanning.rs::mst" = some 18907340084940961 := Fingerprint.spanning_mst
theorem C14_source_lib_linkage : Gen.bodyHash "lib.rs::linkage" = some 1100865002720859849 := Fingerprint.lib_linkage
theorem C14_source_lib_linkage_with : Gen.bodyHash "lib.rs::linkage_with" = some 71898259211120550 := Fingerprint.lib_linkage_with

end Kodama
