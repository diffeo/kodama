/-
C08 — results are a pure function of the input.

Proved here (FULL statement for histories and prior states, for the model):

* `C08_state_irrelevant`  for every entry point, method, build mode, input and `n`, and for ANY
      two prior `LinkageState`s and `Dendrogram`s — every buffer an arbitrary array of arbitrary
      length, active list / heap / union-find in any (inconsistent) condition, as left by a
      completed, differently sized or *panicked* call — the call returns the same dendrogram
      (steps, bit for bit, and observation count) and leaves the same matrix, or panics with the
      same class.
* `C08_repeat`            the same call made twice in a row on the same objects gives the same
      result both times (instance of the above).
* `C08_history`           after ANY sequence of earlier `_with` calls (whatever they returned or
      however they panicked), a call returns what it returns on fresh objects.
* `C08_reset_bodies`      the reset bodies *translated from the source on every run*
      (`LinkageState::reset`, `Active::reset`, `LinkageHeap::reset`, `LinkageUnionFind::reset`,
      `Dendrogram::reset`) produce one canonical value from every prior value.
* `C08_prologue`          every `_with` in the source calls `steps.reset` and `state.reset` (and
      nnchain `chain.clear`) before its main loop, after the shape guard (translated call-site table).
* `C08_no_shared_state`   the library crate contains no `static`, `thread_local!`, `unsafe`, interior
      mutability or atomics (translated scan), so by Rust's aliasing rules calls on different
      objects cannot influence each other — the "threads" part of the property.

Trusted: soundness of safe Rust for the threads argument; that nothing between the translated
reset bodies and the loops reads the old state is hand-modelled and tied by the history
correspondence run (shared objects vs. fresh objects vs. model, incl. panicking calls, and the same
histories run concurrently on 16 threads).
-/
import Kodama.Lemmas.Reset
import Kodama.Lemmas.Tail
import Kodama.Generated.Purity
namespace Kodama
variable {α : Type} [Num α]

theorem C08_reset_bodies (st : State α) (a : Active) (h : Heap α) (u : UF) (d : Dendrogram α)
    (n : Nat) :
    st.reset n = State.fresh n ∧ Gen.activeReset a n = Active.fresh n ∧
    Gen.heapReset h n = Heap.fresh n ∧ Gen.ufReset u n = UF.fresh n ∧
    d.reset n = Dendrogram.new n :=
  ⟨State.reset_eq_fresh st n, activeReset_eq_fresh a n, heapReset_eq_fresh h n,
   ufReset_eq_fresh u n, dendrogramReset_eq d n⟩

theorem C08_state_irrelevant (chk : Bool) (alg : Alg) (m : Method) (st st' : State α)
    (d d' : Dendrogram α) (data : Array α) (n : Nat) :
    out <$> runWith chk alg m st d data n = out <$> runWith chk alg m st' d' data n :=
  runWith_state_irrelevant chk alg m st st' d d' data n

/-- One `_with` request of a history. -/
structure Call (α : Type) where
  chk : Bool
  alg : Alg
  m : Method
  data : Array α
  n : Nat

/-- The objects a caller holds after a call: on success those left by the call; after a panic
*anything* — modelled by an arbitrary function of the old objects and the request. -/
def after (junk : State α × Dendrogram α → Call α → State α × Dendrogram α)
    (objs : State α × Dendrogram α) (c : Call α) : State α × Dendrogram α :=
  match runWith c.chk c.alg c.m objs.1 objs.2 c.data c.n with
  | .ok (st, d, _) => (st, d)
  | .error _ => junk objs c

theorem C08_history (junk : State α × Dendrogram α → Call α → State α × Dendrogram α)
    (hist : List (Call α)) (c : Call α) :
    let objs := hist.foldl (after junk) (State.new, Dendrogram.new 0)
    out <$> runWith c.chk c.alg c.m objs.1 objs.2 c.data c.n
      = out <$> run c.chk c.alg c.m c.data c.n := by
  intro objs
  exact C08_state_irrelevant ..

theorem C08_repeat (c : Call α) (st : State α) (d : Dendrogram α)
    (st1 : State α) (d1 : Dendrogram α) (M1 : Mat α)
    (h : runWith c.chk c.alg c.m st d c.data c.n = .ok (st1, d1, M1)) :
    out <$> runWith c.chk c.alg c.m st1 d1 c.data c.n = .ok (d1, M1) := by
  rw [C08_state_irrelevant c.chk c.alg c.m st1 st d1 d, h]
  rfl

theorem C08_prologue :
    ∀ e ∈ Gen.prologue,
      (e.2.filter (fun s => s ≠ "square" ∧ s ≠ "chain.clear")
        = ["new", "steps.reset", "return-if-empty", "state.reset"]) ∧
      (e.1 = "nnchain_with" → e.2.getLast? = some "chain.clear") := by
  decide +kernel

theorem C08_prologue_complete :
    Gen.prologue.map (·.1) = ["primitive_with", "nnchain_with", "generic_with", "mst_with"] :=
  rfl

theorem C08_no_shared_state : Gen.sharedStateSites = [] := rfl

end Kodama
