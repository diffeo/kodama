/-
C14 (work bound: number of condensed-index computations) for WEIGHTED linkage through `nnchain_with` /
`linkage_with`, for every ordered number type whose `+` and `½·` satisfy `HalfAddLaws` on a domain `ok`
that contains the input.

`C14_nnchain` / `C14_linkage` need `ChainReducible α .weighted`, a statement about ALL non-NaN values,
false for IEEE floats through overflow (`a = b = t = −max_value`) and `∞ + (−∞)` only — NOT through
rounding.  On a domain `ok` on which the textbook laws `HalfAddLaws α ok`
hold (`Lemmas/WeightedMono.lean`) the weighted update is reducible (`chainReducibleOn_weighted`) and
the chain invariant — including the potential `acc + 7·ℓ(ℓ+1) ≤ 7·n(n+1) + 2·ℓ·chain.size` — goes
through with "every live matrix entry is `ok`" as an extra invariant (`Lemmas/ChainOn.lean`).

Proved here (from `C14_nnchain_tight_on`, `Props/C14.lean`: any chain method, any domain, under
`ChainReducibleOn α ok mc`), for every valid matrix (2 ≤ n < 2^31, 2·len = n(n−1)), both build modes,
every prior state, whenever the call returns `(st', d', M')` (it does: `C12_nnchain_weighted_ok`):

* `C14_nnchain_weighted_tight`  at most `7·n(n+1) − 10` index computations;
* `C14_nnchain_weighted`        hence `≤ 10 n² + 50 n`;
* `C14_linkage_weighted`        the same through `linkageWith chk .weighted`.

Hypotheses (explicit): `OrderLaws α` (true of IEEE `<`), `NoNaNData data`, `OkData ok data`,
`HalfAddLaws α ok`.

TRUSTED, not proved: `HalfAddLaws` for IEEE `f32`/`f64` on `ok := moderate` — sampled by `kodama-laws`
(`check_HalfAddLaws_*`), no counterexample; see the header of `Props/C01Weighted.lean`.  PROVED for
exact arithmetic (`halfAddLaws_of_fieldLaws`).
-/
import Kodama.Props.C14
import Kodama.Props.C01Weighted
namespace Kodama
open Spec
variable {α : Type} [Num α]

theorem C14_nnchain_weighted_tight (L : OrderLaws α) (ok : α → Prop) (H : HalfAddLaws α ok)
    (chk : Bool) (st st' : State α) (d d' : Dendrogram α) (data : Array α) (n : Nat) (M' : Mat α)
    (h2 : 2 ≤ n) (hs : n < 2147483648) (hl : 2 * data.size = n * (n - 1))
    (hnan : NoNaNData data) (hd : OkData ok data)
    (h : nnchainWith chk .weighted st d data n = .ok (st', d', M')) :
    M'.acc + 10 ≤ 7 * (n * (n + 1)) :=
  C14_nnchain_tight_on L chk .weighted ok (chainReducibleOn_weighted L H) st st' d d' data n M' h2 hs
    hl (by rw [squareData_weighted]; exact hnan) (by rw [squareData_weighted]; exact hd) h

theorem C14_nnchain_weighted (L : OrderLaws α) (ok : α → Prop) (H : HalfAddLaws α ok)
    (chk : Bool) (st st' : State α) (d d' : Dendrogram α) (data : Array α) (n : Nat) (M' : Mat α)
    (h2 : 2 ≤ n) (hs : n < 2147483648) (hl : 2 * data.size = n * (n - 1))
    (hnan : NoNaNData data) (hd : OkData ok data)
    (h : nnchainWith chk .weighted st d data n = .ok (st', d', M')) :
    M'.acc ≤ 10 * (n * n) + 50 * n :=
  chainBound_of_tight
    (C14_nnchain_weighted_tight L ok H chk st st' d d' data n M' h2 hs hl hnan hd h)

theorem C14_linkage_weighted (L : OrderLaws α) (ok : α → Prop) (H : HalfAddLaws α ok)
    (chk : Bool) (st st' : State α) (d d' : Dendrogram α) (data : Array α) (n : Nat) (M' : Mat α)
    (h2 : 2 ≤ n) (hs : n < 2147483648) (hl : 2 * data.size = n * (n - 1))
    (hnan : NoNaNData data) (hd : OkData ok data)
    (h : linkageWith chk .weighted st d data n = .ok (st', d', M')) :
    M'.acc ≤ 10 * (n * n) + 50 * n := by
  rw [linkageWith_nnchain chk .weighted .weighted (by decide) rfl] at h
  exact C14_nnchain_weighted L ok H chk st st' d d' data n M' h2 hs hl hnan hd h

/-! ### Non-vacuity (ℚ with its field operations, a valid 4-point matrix, the domain `0 ≤ ·`) -/

section NonVacuity
attribute [local instance] fieldNum

example (st' : State ℚ) (d' : Dendrogram ℚ) (M' : Mat ℚ)
    (h : nnchainWith true .weighted State.new (Dendrogram.new 4)
      (#[5, 2, 9, 7, 4, 1] : Array ℚ) 4 = .ok (st', d', M')) :
    M'.acc ≤ 10 * (4 * 4) + 50 * 4 :=
  C14_nnchain_weighted Toy.ratOrderLaws _ Toy.ratHalfAddLaws true _ st' _ d' _ 4 M'
    (by decide) (by decide) (by decide) (fun _ _ => rfl) Toy.ratOkData h

end NonVacuity

end Kodama
