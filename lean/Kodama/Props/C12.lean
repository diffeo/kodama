/-
C12 — total and terminating on the valid domain; outputs finite.

Model: every `assert!`, `debug_assert!`, `unwrap/expect`, slice index, usize overflow (checked
builds) and every potentially unbounded Rust loop (fuel) is a `Panic` constructor; "returns
normally" is `= .ok _`.

Proved here:
* `C12_empty`          n ≤ 1 with an empty matrix: every entry point, method, build mode and prior
                       state returns normally with an EMPTY dendrogram.
* `C12_mst_total`, `C12_primitive_total`  for every valid matrix (2 ≤ n < 2^31), both build modes,
                       every prior state, all methods (primitive) and ANY behaviour of the number
                       operations: the call either returns normally or stops in the ONE documented
                       panic "NaNs not allowed in dendrogram" (a NaN height reaching the sort).
                       No index out of bounds, no failed (debug) assertion, no `unwrap` on `None`,
                       no usize overflow, no exhausted fuel is reachable.  With non-NaN heights the
                       call returns normally (`relabel_total`).
* `C12_mst_loop_total` for every valid matrix (2 ≤ n < 2^31), both build modes, every prior state
                       and — crucially — ANY behaviour of the comparisons (no law about `<` is
                       assumed, so NaN, ties, ±0, ∞ are all covered): the whole main loop of
                       `mst_with` (shape guard, resets, n-1 Prim iterations with their index
                       computations, `merge`, `push`, active-list removal) never panics, and
                       `mst_with` IS that loop followed by `relabel`.
* `C12_generic_total`, `C12_generic_ok`, `C12_nnchain_ok`, `C12_nnchain_total`, … (sections
                       further down, each with its hypotheses): `generic_with` and `nnchain_with`
                       under explicit value hypotheses (`GoodSet` / `UpdClosed`; `OrderLaws`, NaN-free
                       input and `ChainReducible`, which is a theorem for single / complete and —
                       `method::average` clamps the mean from below, `method::ward` is guarded and
                       clamped — up to its NaN clause for average and Ward: `Props/C12Average.lean`,
                       `Props/C12Ward.lean`;
                       weighted, whose update is not clamped: `Props/C12Weighted.lean`, from the sampled
                       laws `HalfAddLaws`).
  The heap used by `generic` is proved panic-free, fuel-sufficient and order-preserving on its own
  (`Lemmas/HeapInv*.lean`).

Finiteness / non-NaN-ness / non-negativity of the heights is `Props/C12NonNeg.lean`: exact arithmetic for
all methods, single / complete over any ordered type, average / weighted under the standard model of
floating-point arithmetic, median / centroid / Ward through `generic_with` under a run-dependent
"no over/underflow" hypothesis.  NOT proved: that IEEE arithmetic satisfies that model.  Fuel
exhaustion is `Panic.fuel` in the model, so a hang of the real code shows up as a
model/implementation difference or as the harness watchdog firing.  All entry points are covered
by the correspondence run in BOTH build profiles (dev: debug assertions + overflow checks; release)
and by the oracle (finite, non-negative, returns within a polynomial watchdog) on tie-saturated,
all-zero, negative, 1e±150, duplicate-point and collinear inputs.
-/
import Kodama.Lemmas.MstRun
import Kodama.Lemmas.Entry
import Kodama.Lemmas.PrimRun
import Kodama.Lemmas.GenericRun
import Kodama.Lemmas.GenericExample
import Kodama.Lemmas.ChainOn
import Kodama.Lemmas.ChainExact
import Kodama.Lemmas.SpecDecide
namespace Kodama
variable {α : Type} [Num α]

theorem C12_empty (chk : Bool) (alg : Alg) (m : Method) (hacc : alg.accepts m = true)
    (st : State α) (d : Dendrogram α) (n : Nat) (hn : n ≤ 1) :
    ∃ st' M', runWith chk alg m st d (#[] : Array α) n = .ok (st', ⟨#[], 0⟩, M') := by
  obtain ⟨body, -, e⟩ | ⟨hf, -⟩ := runWith_frame (α := α) chk alg m
  · exact ⟨st, _, by rw [e, squareData_empty, withFrame_empty _ _ _ _ _ hn]; rfl⟩
  · rw [hacc] at hf; cases hf

theorem C12_mst_loop_total (chk : Bool) (st : State α) (d : Dendrogram α) (data : Array α)
    (n : Nat) (h2 : 2 ≤ n) (hs : n < 2147483648) (hl : 2 * data.size = n * (n - 1)) :
    ∃ st1 dend1 M1, MstLoopResult n data st1 dend1 M1 ∧
      mstWith chk st d data n =
        (relabel .single st1.set dend1 >>= fun r => pure ({ st1 with set := r.1 }, r.2, M1)) :=
  mstWith_eq chk st d data n h2 hs hl

theorem C12_mst_total (chk : Bool) (st : State α) (d : Dendrogram α) (data : Array α)
    (n : Nat) (h2 : 2 ≤ n) (hs : n < 2147483648) (hl : 2 * data.size = n * (n - 1)) :
    (∃ r, mstWith chk st d data n = .ok r) ∨ mstWith chk st d data n = .error .nanInSort :=
  (mstWith_eq chk st d data n h2 hs hl).total (fun _ _ _ h => ⟨h.obs, h.raw⟩) h2

theorem C12_primitive_total (chk : Bool) (m : Method) (st : State α) (d : Dendrogram α)
    (data : Array α) (n : Nat) (h2 : 2 ≤ n) (hs : n < 2147483648)
    (hl : 2 * data.size = n * (n - 1)) :
    (∃ r, primitiveWith chk m st d data n = .ok r) ∨
      primitiveWith chk m st d data n = .error .nanInSort :=
  (primitiveWith_eq chk m st d data n h2 hs hl).total (fun _ _ _ h => ⟨h.obs, h.raw⟩) h2

/-- Non-vacuity: a valid shape. -/
example : (2 : Nat) ≤ 4 ∧ 4 < 2147483648 ∧ 2 * (#[1, 2, 3, 4, 5, 6] : Array Nat).size = 4 * (4 - 1) := by
  decide

end Kodama

/-!
### `generic_with`

Under the explicit value hypotheses of `Lemmas/GenericInv.lean` (`GoodSet G`, `UpdClosed G m`,
every (squared) input in `G`, `max_value` not NaN, `OrderLaws`):

* `C12_generic_total`  `generic_with` returns normally or stops in the sort's NaN panic — no index
                       out of bounds, failed (debug) assertion, `unwrap` on `None`, usize overflow or
                       exhausted fuel (the lazy repair `loop` terminates within `n + 2` rounds).
* `C12_generic_ok`     … and, since every recorded height is a matrix entry and hence in `G`
                       (not NaN), it in fact always returns normally.
-/
namespace Kodama
variable {α : Type} [Num α]

theorem C12_generic_total {G : α → Prop} (L : OrderLaws α) (gs : GoodSet G) (chk : Bool)
    (m : Method) (hcl : UpdClosed G m) (hmax : Num.isNaN (Num.maxValue : α) = false)
    (st : State α) (d : Dendrogram α) (data : Array α) (n : Nat) (h2 : 2 ≤ n)
    (hs : n < 2147483648) (hl : 2 * data.size = n * (n - 1))
    (hin : ∀ i (h : i < (squareData m data).size), G (squareData m data)[i]) :
    (∃ r, genericWith chk m st d data n = .ok r) ∨
      genericWith chk m st d data n = .error .nanInSort :=
  (genericWith_eq L gs chk m hcl hmax st d data n h2 hs hl hin).total
    (fun _ _ _ h => ⟨h.1.obs, h.1.raw⟩) h2

theorem C12_generic_ok {G : α → Prop} (L : OrderLaws α) (gs : GoodSet G) (chk : Bool)
    (m : Method) (hcl : UpdClosed G m) (hmax : Num.isNaN (Num.maxValue : α) = false)
    (st : State α) (d : Dendrogram α) (data : Array α) (n : Nat) (h2 : 2 ≤ n)
    (hs : n < 2147483648) (hl : 2 * data.size = n * (n - 1))
    (hin : ∀ i (h : i < (squareData m data).size), G (squareData m data)[i]) :
    ∃ r, genericWith chk m st d data n = .ok r :=
  (genericWith_eq L gs chk m hcl hmax st d data n h2 hs hl hin).ok
    (fun _ _ _ h => ⟨h.1.obs, h.1.raw, fun s hs' => gs.notNaN _ (h.2 s hs')⟩) h2

end Kodama

/-! Non-vacuity of the `generic_with` hypotheses: on the toy exact number type every method has a
good set closed under its update (`GenericExample.hyps_satisfiable`), and the totality theorem
applies to a concrete 5-point average-linkage run. -/
section GenericNonVacuity
open Kodama Kodama.Spec Kodama.GenericExample
attribute [local instance] Toy.natNum

example : ∃ r, genericWith true .average State.new (Dendrogram.new 0)
    #[3, 1, 4, 1, 5, 9, 2, 6, 5, 3] 5 = .ok r :=
  C12_generic_ok Toy.natOrderLaws goodSet_G true .average closed_average GenericExample.hmax
    State.new (Dendrogram.new 0) _ 5 (by decide) (by decide) (by decide)
    (squareData_good .average _ (by simp [G_iff, Method.onSquares]))

end GenericNonVacuity

/-!
### `nnchain_with` (chain invariant, `Lemmas/Chain{Mat,Scan,Inv,Iter,Run,Exact}.lean`)

Hypotheses: (i) `OrderLaws α` (`<` is a strict weak order on the non-NaN values; IEEE `<` satisfies
it), (ii) `NoNaNData`: no NaN among the (squared, for Ward) input distances, (iii) the named ALGEBRAIC
hypothesis `ChainReducible α mc` (`Lemmas/ChainIter.lean`): whenever `d(a,b) ≤ t ≤ d(a,x), d(b,x)`
(non-NaN, positive sizes) the Lance–Williams update `d(a∪b,x)` is non-NaN and `≥ t`.

* `C12_nnchain_ok`, `C12_nnchain_total`  `nnchain_with` on every valid matrix (2 ≤ n < 2^31), both
      build modes, every prior state, under (i)–(iii): the call RETURNS NORMALLY — no index out of
      bounds, no failed (debug) assertion, no `unwrap` on `None`, no overflow, the fuel
      `data.size + 2` of the inner `loop` is never exhausted (the chain entries are pairwise distinct
      live clusters, `ChainL`), and no NaN reaches the sort (every height is a matrix entry between
      live clusters).  `C12_nnchain_total` is the same in the "ok or nanInSort" form.
* `C12_nnchain_ok_single_complete`, `C12_nnchain_total_single_complete`  `Single` / `Complete`
      WITHOUT (iii): their update returns one of its arguments (`chainReducible_single/complete`).
* `C12_nnchain_ok_exact`  all five chain methods in exact arithmetic (`FieldLaws K`, no NaN):
      (i) and (iii) are theorems there (`Lemmas/ChainExact.lean`).
* `C12_linkage_ok`  the same through `linkage_with` for the four methods it routes to nnchain.

`ChainReducible` over IEEE floats.  Weighted: `Props/C12Weighted.lean`, reducible on floats under the
sampled laws `HalfAddLaws`.  Average: the order clause is a theorem for every `OrderLaws α` because
`method::average` clamps the mean from below; the NaN clause stays the hypothesis `AverageNoNaN α`
(`Props/C12Average.lean`, `C12_nnchain_average_ok/_total`).  Ward: likewise, because `method::ward` clamps
the guarded quotient from below — without the clamp rounding breaks reducibility in ~11% of tied updates;
up to the NaN clause `WardNoNaN α` it is a
theorem for every `OrderLaws α`: `Props/C12Ward.lean` (`C12_nnchain_ward_ok/_total`).
-/
namespace Kodama
variable {α : Type} [Num α]


/-- `nnchain_with` returns normally on every valid NaN-free matrix with entries in `ok`, for a method
that is reducible on `ok`. -/
theorem C12_nnchain_ok_on (L : OrderLaws α) (chk : Bool) (mc : MethodChain) (ok : α → Prop)
    (hred : ChainReducibleOn α ok mc)
    (st : State α) (d : Dendrogram α) (data : Array α) (n : Nat) (h2 : 2 ≤ n)
    (hs : n < 2147483648) (hl : 2 * data.size = n * (n - 1))
    (hnan : NoNaNData (squareData mc.intoMethod data))
    (hd : OkData ok (squareData mc.intoMethod data)) :
    ∃ r, nnchainWith chk mc st d data n = .ok r :=
  (nnchainWith_eq_on L chk mc ok hred st d data n h2 hs hl hnan hd).ok
    (fun _ _ _ h => ⟨h.obs, h.raw, h.heights⟩) h2

theorem C12_nnchain_ok (L : OrderLaws α) (chk : Bool) (mc : MethodChain) (hred : ChainReducible α mc)
    (st : State α) (d : Dendrogram α) (data : Array α) (n : Nat) (h2 : 2 ≤ n)
    (hs : n < 2147483648) (hl : 2 * data.size = n * (n - 1))
    (hnan : NoNaNData (squareData mc.intoMethod data)) :
    ∃ r, nnchainWith chk mc st d data n = .ok r :=
  C12_nnchain_ok_on L chk mc _ hred.on st d data n h2 hs hl hnan (fun _ _ => trivial)

/-- The same in the form of `C12_mst_total` / `C12_primitive_total`. -/
theorem C12_nnchain_total (L : OrderLaws α) (chk : Bool) (mc : MethodChain)
    (hred : ChainReducible α mc) (st : State α) (d : Dendrogram α) (data : Array α) (n : Nat)
    (h2 : 2 ≤ n) (hs : n < 2147483648) (hl : 2 * data.size = n * (n - 1))
    (hnan : NoNaNData (squareData mc.intoMethod data)) :
    (∃ r, nnchainWith chk mc st d data n = .ok r) ∨
      nnchainWith chk mc st d data n = .error .nanInSort :=
  Or.inl (C12_nnchain_ok L chk mc hred st d data n h2 hs hl hnan)

/-- Single and complete linkage: no reducibility hypothesis. -/
theorem C12_nnchain_ok_single_complete (L : OrderLaws α) (chk : Bool) (mc : MethodChain)
    (hmc : mc = .single ∨ mc = .complete) (st : State α) (d : Dendrogram α) (data : Array α)
    (n : Nat) (h2 : 2 ≤ n) (hs : n < 2147483648) (hl : 2 * data.size = n * (n - 1))
    (hnan : NoNaNData data) :
    ∃ r, nnchainWith chk mc st d data n = .ok r :=
  C12_nnchain_ok L chk mc (chainReducible_single_complete mc hmc) st d data n h2 hs hl
    (by rw [squareData_single_complete mc hmc]; exact hnan)

theorem C12_nnchain_total_single_complete (L : OrderLaws α) (chk : Bool) (mc : MethodChain)
    (hmc : mc = .single ∨ mc = .complete) (st : State α) (d : Dendrogram α) (data : Array α)
    (n : Nat) (h2 : 2 ≤ n) (hs : n < 2147483648) (hl : 2 * data.size = n * (n - 1))
    (hnan : NoNaNData data) :
    (∃ r, nnchainWith chk mc st d data n = .ok r) ∨
      nnchainWith chk mc st d data n = .error .nanInSort :=
  Or.inl (C12_nnchain_ok_single_complete L chk mc hmc st d data n h2 hs hl hnan)

/-- All five chain methods in exact arithmetic (a linearly ordered field without NaN). -/
theorem C12_nnchain_ok_exact {K : Type} [Field K] [LinearOrder K] [IsStrictOrderedRing K] [Num K]
    (F : FieldLaws K) (hnn : ∀ x : K, Num.isNaN x = false) (chk : Bool) (mc : MethodChain)
    (st : State K) (d : Dendrogram K) (data : Array K) (n : Nat) (h2 : 2 ≤ n)
    (hs : n < 2147483648) (hl : 2 * data.size = n * (n - 1)) :
    ∃ r, nnchainWith chk mc st d data n = .ok r :=
  C12_nnchain_ok F.orderLaws chk mc (chainReducible_exact F hnn mc) st d data n h2 hs hl
    (fun _ _ => hnn _)

theorem C12_linkage_ok (L : OrderLaws α) (chk : Bool) (m : Method) (mc : MethodChain)
    (hm : m ≠ .single) (hmc : m.intoMethodChain = some mc) (hred : ChainReducible α mc)
    (st : State α) (d : Dendrogram α) (data : Array α) (n : Nat) (h2 : 2 ≤ n)
    (hs : n < 2147483648) (hl : 2 * data.size = n * (n - 1))
    (hnan : NoNaNData (squareData mc.intoMethod data)) :
    ∃ r, linkageWith chk m st d data n = .ok r := by
  rw [linkageWith_nnchain chk m mc hm hmc]
  exact C12_nnchain_ok L chk mc hred st d data n h2 hs hl hnan

/-! Non-vacuity: the hypotheses of the nnchain theorems are satisfiable — a toy exact number type,
a valid 4-point matrix, and the theorem applied to it. -/
section NonVacuity
open Spec
attribute [local instance] Toy.natNum

example : ∃ r, nnchainWith true .complete State.new (Dendrogram.new 4)
    (#[5, 2, 9, 7, 4, 1] : Array Nat) 4 = .ok r :=
  C12_nnchain_ok_single_complete Toy.natOrderLaws true .complete (Or.inr rfl) _ _ _ 4
    (by decide) (by decide) (by decide) (fun _ _ => rfl)

/-- `ChainReducible` is satisfiable beyond single/complete: the toy `Nat` average (floor division,
clamped from below as in `method::average`); see `Props/C12Average.lean`. -/
example : ChainReducible Nat .average :=
  chainReducible_average Toy.natOrderLaws (averageNoNaN_of_noNaN fun _ => rfl)

end NonVacuity

end Kodama
