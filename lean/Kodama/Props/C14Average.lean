/-
C14 (work bound: number of condensed-index computations) for AVERAGE linkage through `nnchain_with` /
`linkage_with`, for EVERY ordered number type.

`C14_nnchain` / `C14_linkage` take the hypothesis `ChainReducible α .average`, FALSE for IEEE floats for
the plain mean (`Props/C01Average.lean`): the chain entries are then not pairwise distinct live
clusters, which is what the potential argument of `C14_nnchain_tight` charges against.
`method::average` clamps the mean from below by the smaller argument; for that
formula `ChainReducible α .average` is a THEOREM from `OrderLaws α` plus the no-NaN-generation hypothesis
(`chainReducible_average`, `Lemmas/ChainIter.lean`) — no field law, no exact arithmetic.

Proved here (by instantiating `C14_nnchain_tight` / `C14_nnchain` / `C14_linkage`), for every valid
matrix (2 ≤ n < 2^31, 2·len = n(n−1)), both build modes, every prior state, whenever the call returns
`(st', d', M')` (it does: `C12_nnchain_average_ok`):

* `C14_nnchain_average_tight`  at most `7·n(n+1) − 10` index computations;
* `C14_nnchain_average`        hence `≤ 10 n² + 50 n`;
* `C14_linkage_average`        the same through `linkageWith chk .average`.

Hypotheses (explicit): `OrderLaws α` (true of IEEE `<`), `NoNaNData data`, `AverageNoNaN α` (the update
of two non-NaN values with positive sizes is not NaN; hypothesis, not proved for floats).
-/
import Kodama.Props.C14
import Kodama.Props.C01Average
namespace Kodama
open Spec
variable {α : Type} [Num α]

theorem C14_nnchain_average_tight (L : OrderLaws α) (hn : AverageNoNaN α) (chk : Bool)
    (st st' : State α) (d d' : Dendrogram α) (data : Array α) (n : Nat) (M' : Mat α)
    (h2 : 2 ≤ n) (hs : n < 2147483648) (hl : 2 * data.size = n * (n - 1))
    (hnan : NoNaNData data)
    (h : nnchainWith chk .average st d data n = .ok (st', d', M')) :
    M'.acc + 10 ≤ 7 * (n * (n + 1)) :=
  C14_nnchain_tight L chk .average (chainReducible_average L hn) st st' d d' data n M' h2 hs hl
    (by rw [squareData_average]; exact hnan) h

theorem C14_nnchain_average (L : OrderLaws α) (hn : AverageNoNaN α) (chk : Bool)
    (st st' : State α) (d d' : Dendrogram α) (data : Array α) (n : Nat) (M' : Mat α)
    (h2 : 2 ≤ n) (hs : n < 2147483648) (hl : 2 * data.size = n * (n - 1))
    (hnan : NoNaNData data)
    (h : nnchainWith chk .average st d data n = .ok (st', d', M')) :
    M'.acc ≤ 10 * (n * n) + 50 * n :=
  C14_nnchain L chk .average (chainReducible_average L hn) st st' d d' data n M' h2 hs hl
    (by rw [squareData_average]; exact hnan) h

theorem C14_linkage_average (L : OrderLaws α) (hn : AverageNoNaN α) (chk : Bool)
    (st st' : State α) (d d' : Dendrogram α) (data : Array α) (n : Nat) (M' : Mat α)
    (h2 : 2 ≤ n) (hs : n < 2147483648) (hl : 2 * data.size = n * (n - 1))
    (hnan : NoNaNData data)
    (h : linkageWith chk .average st d data n = .ok (st', d', M')) :
    M'.acc ≤ 10 * (n * n) + 50 * n := by
  rw [linkageWith_nnchain chk .average .average (by decide) rfl] at h
  exact C14_nnchain_average L hn chk st st' d d' data n M' h2 hs hl hnan h

/-! ### Non-vacuity (toy exact number type, a valid 4-point matrix) -/

section NonVacuity
attribute [local instance] Toy.natNum

example (st' : State Nat) (d' : Dendrogram Nat) (M' : Mat Nat)
    (h : nnchainWith true .average State.new (Dendrogram.new 4)
      (#[5, 2, 9, 7, 4, 1] : Array Nat) 4 = .ok (st', d', M')) :
    M'.acc ≤ 10 * (4 * 4) + 50 * 4 :=
  C14_nnchain_average Toy.natOrderLaws (averageNoNaN_of_noNaN fun _ => rfl) true _ st' _ d'
    _ 4 M' (by decide) (by decide) (by decide) (fun _ _ => rfl) h

end NonVacuity

end Kodama
