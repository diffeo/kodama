/-
C15 — the C API returns exactly what Rust `linkage` returns, n = 0 and n = 1 included.

All statements are about `capiLinkageDouble` / `capiLinkageFloat` (Model/CApi.lean), which are
assembled from the pieces the translator regenerates from kodama-capi/src/lib.rs and macros.rs on
every run (Generated/CApi.lean): the NULL assertion, the `dis_len` expression with its `usize`
arithmetic made explicit, the enumerator conversion, the field-copy function with its casts, the
`observations` assignment.  `run chk .linkage m data n` is the model of Rust `linkage`.

Proved here (FULL statement, for the model):

* `C15_len_ok`   for every n < 2^32 and BOTH build modes the `dis_len` expression of both functions
                 evaluates to `n(n-1)/2` (truncated subtraction) without panicking — in particular 0
                 for n = 0 and n = 1.
* `C15_enum`     enumerator k of `kodama_method` is converted to the k-th constructor of `Method`,
                 which has the same name; there are exactly 7; the header lists the enumerators in
                 the same order under the names `kodama_method_<constructor in lower case>`
                 (explicit list); the translator's flag "the enum is `repr(C)`" is set (that there
                 are no explicit discriminants is recorded by the translator in `Gen.CApi.methodCtors`,
                 not stated here).
* `C15_copy`     the generated copy functions store cluster1←cluster1, cluster2←cluster2,
                 size←size, dissimilarity←dissimilarity (identity for double, exact widening
                 `Float32.toFloat` for float), and `observations` ← the parameter.
* `C15_full` (= `C15`; per width `C15_double`, `C15_float`)
                 for every build mode, both widths, every n < 2^32, every enumerator k < 7 and every
                 caller buffer with at least n(n-1)/2 entries: the wrapper's result is the result
                 of `linkage` on the first n(n-1)/2 entries with the namesake method, steps copied
                 field for field (heights widened exactly), `observations = n`.  A panic of
                 `linkage` is the wrapper's panic (→ abort); the wrapper adds no panic of its own.
* `C15_nonnull`  hence: whenever `linkage` returns, the C call returns a dendrogram (non-NULL) with
                 `len` = number of steps of the Rust result, `observations` = n, same steps.
* `C15_modes`    hence: if `linkage` returns the same dendrogram in both build modes, so does the C
                 call (the wrapper itself is mode independent).
* `C15_null`     a NULL matrix pointer is a deterministic abort (assertion), not undefined behaviour.
* `C15_abort`    the translator's flag "macros.rs turns every panic into `abort()`" is set, and the list of
                 `extern` functions it found is the expected six.  (That each of them goes through the
                 macro is the translator's check, not a statement here.)

NOT proved here: that `linkage` itself is mode independent / total on valid matrices (C12), and
that `len = n - 1` (C01); that the compiled library behaves like the model — observed by the
correspondence run (C driver linked with libkodama.a from dev and release profiles, compared with
this model and with the real Rust `linkage`).  n ≥ 2^32 is outside the statement (the product
n(n-1) may wrap / panic; such a matrix cannot be allocated).
-/
import Kodama.Model.CApi
import Kodama.Lemmas.Layout
namespace Kodama

/-- The C view of a Rust dendrogram for a call with `n` observations: steps copied field for field,
heights widened exactly, `observations` = the `n` that was passed in. -/
def cView {α : Type} [Widen α] (n : Nat) (d : Dendrogram α) : CDend :=
  { steps := d.steps.map (fun s => ⟨s.c1, s.c2, Widen.widen s.d, s.size⟩), observations := n }

/-- The full statement for one wrapper. -/
def C15_statement {α : Type} [Num α] [Widen α]
    (capi : Bool → Option (Array α) → Nat → Nat → R CDend) : Prop :=
  ∀ (chk : Bool) (n : Nat), n < 4294967296 → ∀ (k : Nat), k < 7 →
  ∀ (buf : Array α), n * (n - 1) / 2 ≤ buf.size →
    ∃ m, Method.all[k]? = some m ∧
      capi chk (some buf) n k
        = (fun r => cView n r.2.1) <$> run chk .linkage m (buf.extract 0 (n * (n - 1) / 2)) n

/-- Holds because `dis_len` is written with `saturating_sub`: a plain `observations - 1` is rendered by
the translator as `usub chk observations 1`, which for `chk = true, n = 0` is `.error .arith` (→ abort),
not `.ok 0`. -/
theorem C15_len_ok (chk : Bool) (n : Nat) (hn : n < 4294967296) :
    Gen.CApi.disLenDouble chk n = .ok (n * (n - 1) / 2) ∧
    Gen.CApi.disLenFloat chk n = .ok (n * (n - 1) / 2) := by
  have h : (pure (n - 1) >>= fun t1 => umul chk n t1 >>= fun t2 => udiv chk t2 2 >>= pure)
      = .ok (n * (n - 1) / 2) := by
    rw [pure_bind, umul_ok chk (mul_pred_lt hn), ok_bind, udiv_ok chk _ (by decide), ok_bind]
    rfl
  exact ⟨h, h⟩

theorem C15_enum :
    (∀ k, k < 7 → Gen.CApi.intoMethod k = Method.all[k]?) ∧
    (∀ k, 7 ≤ k → Gen.CApi.intoMethod k = none) ∧
    Gen.CApi.methodCtors = Method.all.map Method.name ∧
    Gen.CApi.headerEnumerators
      = ["kodama_method_single", "kodama_method_complete", "kodama_method_average",
         "kodama_method_weighted", "kodama_method_ward", "kodama_method_centroid",
         "kodama_method_median"] ∧
    Gen.CApi.enumReprC = true := by
  refine ⟨?_, ?_, rfl, rfl, rfl⟩
  · intro k hk
    match k, hk with
    | 0, _ | 1, _ | 2, _ | 3, _ | 4, _ | 5, _ | 6, _ => rfl
  · intro k hk
    match k, hk with
    | k + 7, _ => rfl

theorem C15_copy :
    (∀ c1 c2 (d : Float) sz, CStep.ofTuple (Gen.CApi.copyDouble c1 c2 d sz) = ⟨c1, c2, d, sz⟩) ∧
    (∀ c1 c2 (d : Float32) sz,
      CStep.ofTuple (Gen.CApi.copyFloat c1 c2 d sz) = ⟨c1, c2, d.toFloat, sz⟩) ∧
    (∀ n o, Gen.CApi.obsDouble n o = n) ∧ (∀ n o, Gen.CApi.obsFloat n o = n) ∧
    Gen.CApi.stepFields
      = [("cluster1", "usize"), ("cluster2", "usize"), ("dissimilarity", "f64"), ("size", "usize")] :=
  ⟨fun _ _ _ _ => rfl, fun _ _ _ _ => rfl, fun _ _ => rfl, fun _ _ => rfl, rfl⟩

/-- The wrapper, for any pieces that satisfy what `C15_len_ok` / `C15_copy` establish. -/
private theorem capiLinkageW_eq {α : Type} [Num α] [Widen α] (w : Wrapper α)
    (hlen : ∀ chk n, n < 4294967296 → w.disLen chk n = .ok (n * (n - 1) / 2))
    (hcopy : ∀ c1 c2 d sz, CStep.ofTuple (w.copy c1 c2 d sz) = ⟨c1, c2, Widen.widen d, sz⟩)
    (hobs : ∀ n o, w.obs n o = n) :
    C15_statement (capiLinkageW w) := by
  intro chk n hn k hk buf hvalid
  have hm : ∃ m, Method.all[k]? = some m ∧ Gen.CApi.intoMethod k = some m := by
    refine ⟨Method.all[k]'(by simpa [Method.all] using hk), ?_, ?_⟩
    · simp
    · rw [C15_enum.1 k hk]; simp
  obtain ⟨m, hm1, hm2⟩ := hm
  refine ⟨m, hm1, ?_⟩
  have hnot : ¬ buf.size < n * (n - 1) / 2 := by omega
  unfold capiLinkageW
  simp only [Option.isNone_some, Bool.and_false, Bool.false_eq_true, if_false, hlen chk n hn,
    hm2, Option.getD_some, hcopy, hobs, cView]
  simp only [bind, Except.bind, pure, Except.pure, hnot, if_false]
  cases run chk .linkage m (buf.extract 0 (n * (n - 1) / 2)) n with
  | error p => rfl
  | ok r => rfl

theorem C15_double : C15_statement capiLinkageDouble :=
  capiLinkageW_eq wrapperDouble (fun chk n hn => (C15_len_ok chk n hn).1) C15_copy.1
    C15_copy.2.2.1

theorem C15_float : C15_statement capiLinkageFloat :=
  capiLinkageW_eq wrapperFloat (fun chk n hn => (C15_len_ok chk n hn).2) C15_copy.2.1
    C15_copy.2.2.2.1

theorem C15_full : C15_statement capiLinkageDouble ∧ C15_statement capiLinkageFloat :=
  ⟨C15_double, C15_float⟩

/-- Alias under the property's own name (`C15_full` is the one the check's audit counts). -/
theorem C15 : C15_statement capiLinkageDouble ∧ C15_statement capiLinkageFloat := C15_full

/-- Non-NULL with the Rust result's length, the `n` passed in, and the Rust result's steps. -/
theorem C15_nonnull {α : Type} [Num α] [Widen α]
    {capi : Bool → Option (Array α) → Nat → Nat → R CDend} (hc : C15_statement capi)
    (chk : Bool) (n : Nat) (hn : n < 4294967296) (k : Nat) (hk : k < 7) (buf : Array α)
    (hvalid : n * (n - 1) / 2 ≤ buf.size) :
    ∃ m, Method.all[k]? = some m ∧
      ∀ r, run chk .linkage m (buf.extract 0 (n * (n - 1) / 2)) n = .ok r →
        ∃ h, capi chk (some buf) n k = .ok h ∧ h.steps.size = r.2.1.len ∧ h.observations = n ∧
          h.steps = r.2.1.steps.map (fun s => ⟨s.c1, s.c2, Widen.widen s.d, s.size⟩) := by
  obtain ⟨m, hm, h⟩ := hc chk n hn k hk buf hvalid
  refine ⟨m, hm, ?_⟩
  intro r hr
  rw [hr] at h
  exact ⟨cView n r.2.1, h, by simp [cView, Dendrogram.len], rfl, rfl⟩

/-- The wrapper has no mode dependence of its own. -/
theorem C15_modes {α : Type} [Num α] [Widen α]
    {capi : Bool → Option (Array α) → Nat → Nat → R CDend} (hc : C15_statement capi)
    (n : Nat) (hn : n < 4294967296) (k : Nat) (hk : k < 7) (buf : Array α)
    (hvalid : n * (n - 1) / 2 ≤ buf.size)
    (hlink : ∀ m, (fun r => r.2.1) <$> run true .linkage m (buf.extract 0 (n * (n - 1) / 2)) n
                = (fun r => r.2.1) <$> run false .linkage m (buf.extract 0 (n * (n - 1) / 2)) n) :
    capi true (some buf) n k = capi false (some buf) n k := by
  obtain ⟨m, hm, h1⟩ := hc true n hn k hk buf hvalid
  obtain ⟨m', hm', h2⟩ := hc false n hn k hk buf hvalid
  have : m = m' := by rw [hm] at hm'; exact Option.some.inj hm'
  subst this
  -- the C view is a function of the dendrogram alone
  have e : ∀ X : R (State α × Dendrogram α × Mat α),
      (fun r => cView n r.2.1) <$> X = cView n <$> (fun r => r.2.1) <$> X :=
    fun X => (Functor.map_map _ _ X).symm
  rw [h1, h2, e, e, hlink m]

theorem C15_null (chk : Bool) (n k : Nat) :
    capiLinkageDouble chk none n k = .error .assertFail ∧
    capiLinkageFloat chk none n k = .error .assertFail :=
  ⟨rfl, rfl⟩

theorem C15_abort :
    Gen.CApi.panicBecomesAbort = true ∧
    Gen.CApi.externFns = ["kodama_linkage_double", "kodama_linkage_float", "kodama_dendrogram_free",
      "kodama_dendrogram_len", "kodama_dendrogram_observations", "kodama_dendrogram_steps"] :=
  ⟨rfl, rfl⟩

/-- Non-vacuity: n = 0, 1 (empty dendrogram, `observations` = n, both modes) and the enumerators. -/
example :
    Gen.CApi.disLenDouble true 0 = .ok 0 ∧ Gen.CApi.disLenFloat true 0 = .ok 0 ∧
    Gen.CApi.disLenDouble true 1 = .ok 0 ∧ Gen.CApi.disLenDouble false 200 = .ok 19900 ∧
    Gen.CApi.intoMethod 4 = some .ward ∧ Gen.CApi.intoMethod 7 = none :=
  ⟨rfl, rfl, rfl, rfl, rfl, rfl⟩

end Kodama
