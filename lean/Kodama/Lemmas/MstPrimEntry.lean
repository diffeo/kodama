/-
The slot that the model's `dis[[r, c]]` reads holds the entry `Spec.entry` of the matrix (the
specification looks the pair up in the row-major enumeration; the model computes the index formula):
`entry_eq_getD` (so entries and slots of a valid array correspond: `entry_is_slot`, `slot_is_entry`),
and `Mat.dval_eq_entry` for the stored value of an unordered pair.  `init_get`: a read
of the input matrix (squared, for the methods on squares) returns the entry of the specification's
initial table `(Spec.init m n data).D`.
-/
import Kodama.Lemmas.Layout
import Kodama.Lemmas.SpecReplay
import Kodama.Model.Relabel
namespace Kodama
open Spec
variable {α : Type}

theorem findIdx_pairs (n r c : Nat) (hrc : r < c) (hcn : c < n) :
    (pairs n).findIdx? (· == (r, c)) = some (Gen.idxN n r c) := by
  have hl := pairs_idxN n r c hrc hcn
  obtain ⟨hlt, he⟩ := List.getElem?_eq_some_iff.mp hl
  rw [List.findIdx?_eq_some_iff_getElem]
  refine ⟨hlt, by simp [he], ?_⟩
  intro j hj hp
  have hjl : j < (pairs n).length := by omega
  have hpj : (pairs n)[j] = (r, c) := by simpa using hp
  have := (pairs_getElem_idxN n j hjl).2.2
  rw [hpj] at this
  simp only at this
  omega

theorem entry_eq_getD (n : Nat) (data : Array α) (dflt : α) (r c : Nat) (hrc : r < c)
    (hcn : c < n) : entry n data dflt r c = data.getD (Gen.idxN n r c) dflt := by
  unfold entry
  simp only [hrc, if_true, findIdx_pairs n r c hrc hcn]

/-- The table entry of two distinct observations is the slot of their ordered pair. -/
theorem entry_is_slot (n : Nat) (data : Array α) (dflt : α) (hl : 2 * data.size = n * (n - 1))
    (a b : Nat) (ha : a < n) (hb : b < n) (hab : a ≠ b) :
    ∃ k, ∃ h : k < data.size, (pairs n)[k]? = some (min a b, max a b) ∧
      entry n data dflt a b = data[k] := by
  have key : ∀ x y, x < y → y < n → ∃ k, ∃ h : k < data.size, (pairs n)[k]? = some (x, y) ∧
      entry n data dflt x y = data[k] := by
    intro x y hxy hyn
    have h1 := idxN_lt n x y hxy hyn
    have hlt : Gen.idxN n x y < data.size := by omega
    refine ⟨_, hlt, pairs_idxN n x y hxy hyn, ?_⟩
    rw [entry_eq_getD n data dflt x y hxy hyn]
    simp [Array.getD, hlt]
  rcases Nat.lt_or_gt_of_ne hab with h | h
  · rw [Nat.min_eq_left (by omega), Nat.max_eq_right (by omega)]
    exact key a b h hb
  · rw [Nat.min_eq_right (by omega), Nat.max_eq_left (by omega), entry_symm]
    exact key b a h ha

/-- Slot `k` of the condensed array is a pair `r < c < n`, and the table entry of that pair is
`data[k]`. -/
theorem slot_is_entry (n : Nat) (data : Array α) (dflt : α) (k : Nat) (hk : k < data.size)
    (r c : Nat) (hp : (pairs n)[k]? = some (r, c)) :
    r < c ∧ c < n ∧ entry n data dflt r c = data[k] := by
  obtain ⟨hkl, he⟩ := List.getElem?_eq_some_iff.mp hp
  have hb := pairs_getElem_idxN n k hkl
  rw [he] at hb
  obtain ⟨hrc, hcn, hidx⟩ := hb
  simp only at hrc hcn hidx
  refine ⟨hrc, hcn, ?_⟩
  rw [entry_eq_getD n data dflt r c hrc hcn, hidx]
  simp [Array.getD, hk]

theorem Mat.dval_eq_entry [Num α] (M : Mat α) (x y : Nat) (hxy : x ≠ y) (hx : x < M.n)
    (hy : y < M.n) : M.dval x y = entry M.n M.data Num.infinity x y := by
  rcases Nat.lt_or_gt_of_ne hxy with h | h
  · rw [entry_eq_getD _ _ _ x y h hy, Mat.dval, Nat.min_eq_left (Nat.le_of_lt h),
      Nat.max_eq_right (Nat.le_of_lt h)]
  · rw [entry_symm, entry_eq_getD _ _ _ y x h hx, Mat.dval, Nat.min_eq_right (Nat.le_of_lt h),
      Nat.max_eq_left (Nat.le_of_lt h)]
theorem init_get [Num α] (chk : Bool) (m : Method) (data : Array α) (n : Nat) (hs : n < 2147483648)
    (hl : 2 * data.size = n * (n - 1)) (x y : Nat) (hxy : x < y) (hyn : y < n) :
    ({ data := squareData m data, n := n, acc := 0 } : Mat α).get chk x y
      = .ok ((init m n data).D x y) := by
  have g := Mat.get_eq_aget chk ({ data := squareData m data, n := n, acc := 0 } : Mat α) x y hxy hyn hs
  rw [g]
  simp only
  have h1 := idxN_lt n x y hxy hyn
  have hlt : Gen.idxN n x y < data.size := by omega
  simp only [init, entry_eq_getD n data _ x y hxy hyn]
  unfold squareData
  cases m.onSquares
  · simp [aget, hlt, Array.getD]
  · simp [aget, hlt, Array.getD]

end Kodama
