/- `foldlM` and `iterM` (`Model/Primitive.lean`) in `Except Panic`: a loop whose steps succeed under
an invariant succeeds (`_ok` lemmas; `foldlM_ok_rem_proj` is the general one for lists,
`iterM_ok_reach` for `iterM`), and what a successful loop preserves (`iterM_inv`, `_const`;
`foldlM_inv` is in `Lemmas/Except.lean`).  `foldlM_ok_pre` is the form for an invariant that speaks
of the elements already processed; `foldlM_scanMin` is the running minimum of a scan.  Also here:
a list that loses one member (`mem_filter_ne`, `filter_ne_pairwise`) and `OrderLaws.lt_trans`. -/
import Kodama.Model.Primitive
import Kodama.Lemmas.Except
import Kodama.Laws
import Kodama.Lemmas.SortedList
namespace Kodama

theorem mem_filter_ne {l : List Nat} {a x : Nat} : x ∈ l.filter (· ≠ a) ↔ x ∈ l ∧ x ≠ a := by
  simp [List.mem_filter]

/-- `pairwise_of_merge` for a merge of index `a` into index `b` (the new member is `b` itself). -/
theorem filter_ne_pairwise {live : List Nat} {a b : Nat} {P : Nat → Nat → Prop}
    (hsymm : ∀ x y, P x y → P y x)
    (hold : ∀ x ∈ live, ∀ y ∈ live, x ≠ y → x ≠ a → y ≠ a → x ≠ b → y ≠ b → P x y)
    (hnew : ∀ y ∈ live, y ≠ a → y ≠ b → P b y) :
    ∀ x ∈ live.filter (· ≠ a), ∀ y ∈ live.filter (· ≠ a), x ≠ y → P x y := fun x hx y hy =>
  pairwise_of_merge (O := fun x => x ∈ live ∧ x ≠ a) (c := b) (fun _ hx _ => mem_filter_ne.mp hx)
    (fun x y hx hy hxy cx cy => hold x hx.1 y hy.1 hxy hx.2 hy.2 cx cy)
    (fun y hy hc => ⟨hnew y hy.1 hy.2 hc, hsymm _ _ (hnew y hy.1 hy.2 hc)⟩) x y hx hy

/-- `foldlM` succeeds under an invariant that sees the not yet processed suffix, and each step of
`f` is a step of `g` on the projected state: the fold of `f` projects to the fold of `g`. -/
theorem foldlM_ok_rem_proj {σ τ β : Type} (P : List β → σ → Prop) (f : σ → β → R σ)
    (g : τ → β → R τ) (π : σ → τ) :
    ∀ (l : List β) (s : σ),
      (∀ x rest s, x ∈ l → P (x :: rest) s →
        ∃ s', f s x = .ok s' ∧ g (π s) x = .ok (π s') ∧ P rest s') →
      P l s → ∃ s', l.foldlM f s = .ok s' ∧ l.foldlM g (π s) = .ok (π s') ∧ P [] s' := by
  intro l
  induction l with
  | nil => intro s _ hs; exact ⟨s, rfl, rfl, hs⟩
  | cons x xs ih =>
    intro s hstep hs
    obtain ⟨s1, h1, g1, hp1⟩ := hstep x xs s List.mem_cons_self hs
    obtain ⟨s2, h2, g2, hp2⟩ := ih s1
      (fun y rest s hy hp => hstep y rest s (List.mem_cons_of_mem _ hy) hp) hp1
    refine ⟨s2, ?_, ?_, hp2⟩
    · rw [List.foldlM_cons, h1]; exact h2
    · rw [List.foldlM_cons, g1]; exact g2

theorem foldlM_ok {σ β : Type} (P : σ → Prop) (f : σ → β → R σ) (l : List β)
    (hstep : ∀ s x, x ∈ l → P s → ∃ s', f s x = .ok s' ∧ P s') :
    ∀ s, P s → ∃ s', l.foldlM f s = .ok s' ∧ P s' := by
  intro s hs
  obtain ⟨s', h, _, hp⟩ := foldlM_ok_rem_proj (fun _ => P) f f id l s
    (fun x _ s hx hp => let ⟨s', h, hp'⟩ := hstep s x hx hp; ⟨s', h, h, hp'⟩) hs
  exact ⟨s', h, hp⟩

/-- `foldlM` succeeds under an invariant that sees the prefix already processed; the step is told
where in the list it stands. -/
theorem foldlM_ok_pre {σ β : Type} (P : List β → σ → Prop) (f : σ → β → R σ) (l : List β)
    (hstep : ∀ pre x rest s, l = pre ++ x :: rest → P pre s →
      ∃ s', f s x = .ok s' ∧ P (pre ++ [x]) s')
    (s : σ) (hs : P [] s) : ∃ s', l.foldlM f s = .ok s' ∧ P l s' := by
  obtain ⟨s', h, _, pre, e, hp⟩ := foldlM_ok_rem_proj
    (fun rest s => ∃ pre, l = pre ++ rest ∧ P pre s) f f id l s
    (by
      rintro x rest s - ⟨pre, e, hp⟩
      obtain ⟨s', h, hp'⟩ := hstep pre x rest s e hp
      exact ⟨s', h, h, pre ++ [x], by rw [e, List.append_assoc]; rfl, hp'⟩)
    ⟨[], rfl, hs⟩
  rw [List.append_nil] at e
  exact ⟨s', h, e ▸ hp⟩

theorem foldlM_range_ok {σ : Type} (P : Nat → σ → Prop) (f : σ → Nat → R σ) (N : Nat)
    (hstep : ∀ i s, i < N → P i s → ∃ s', f s i = .ok s' ∧ P (i + 1) s') (s : σ) (h0 : P 0 s) :
    ∃ s', (List.range N).foldlM f s = .ok s' ∧ P N s' := by
  have := foldlM_ok_pre (fun pre s => P pre.length s) f (List.range N)
    (fun pre x rest s e hp => by
      -- the element after the prefix `pre` of `range N` is `pre.length`
      have hx : (List.range N)[pre.length]? = some x := by
        rw [e, List.getElem?_append_right (Nat.le_refl _), Nat.sub_self]; rfl
      obtain ⟨hi, rfl⟩ := List.getElem?_eq_some_iff.mp hx
      rw [List.length_range] at hi
      rw [List.getElem_range, List.length_append]
      exact hstep _ s hi hp) s h0
  rwa [List.length_range] at this

theorem OrderLaws.lt_trans {α : Type} [Num α] (L : OrderLaws α) (x y z : α) (hz : Num.isNaN z = false)
    (h1 : Num.lt x y = true) (h2 : Num.lt y z = true) : Num.lt x z = true := by
  rcases L.cotrans x z y hz h1 with h | h
  · exact h
  · have := L.asymm y z h2; rw [h] at this; cases this

/-- The running minimum of a scan.  The step succeeds, keeps an invariant `I` that sees the prefix
already scanned, the smaller of `val x` and the key of the accumulator, and with the key a tag.  The
scan succeeds; the final key is not NaN, `≤` the start key and every value read; key and tag are
those of the start, or those of an `x` of the list whose value is strictly below the start key. -/
theorem foldlM_scanMin {α : Type} [Num α] (L : OrderLaws α) {σ β τ : Type} (I : List β → σ → Prop)
    (key : σ → α) (tag : σ → τ) (val : β → α) (tg : β → τ) (l : List β) (f : σ → β → R σ)
    (hf : ∀ pre acc x, x ∈ l → I pre acc → ∃ acc', f acc x = .ok acc' ∧ I (pre ++ [x]) acc' ∧
      (key acc', tag acc') = if Num.lt (val x) (key acc) then (val x, tg x) else (key acc, tag acc))
    (hnn : ∀ x ∈ l, Num.isNaN (val x) = false) (acc : σ) (hI : I [] acc)
    (hacc : Num.isNaN (key acc) = false) :
    ∃ r, l.foldlM f acc = .ok r ∧ I l r ∧ Num.isNaN (key r) = false ∧
      Num.lt (key acc) (key r) = false ∧ (∀ x ∈ l, Num.lt (val x) (key r) = false) ∧
      ((key r = key acc ∧ tag r = tag acc) ∨
        ∃ x ∈ l, key r = val x ∧ tag r = tg x ∧ Num.lt (key r) (key acc) = true) := by
  refine foldlM_ok_pre (fun pre r => I pre r ∧ Num.isNaN (key r) = false ∧
    Num.lt (key acc) (key r) = false ∧ (∀ x ∈ pre, Num.lt (val x) (key r) = false) ∧
    ((key r = key acc ∧ tag r = tag acc) ∨
      ∃ x ∈ l, key r = val x ∧ tag r = tg x ∧ Num.lt (key r) (key acc) = true)) f l ?_
    acc ⟨hI, hacc, L.irrefl _, nofun, .inl ⟨rfl, rfl⟩⟩
  intro pre x rest s e ⟨hi, h1, h2, h3, h4⟩
  have hx : x ∈ l := e ▸ List.mem_append_cons_self
  obtain ⟨s', hs', hi', hk⟩ := hf pre s x hx hi
  refine ⟨s', hs', hi', ?_⟩
  split at hk
  · next hlt =>
    -- `val x` is the new minimum
    obtain ⟨hk1, hk2⟩ := Prod.mk.inj hk
    have hle := L.asymm _ _ hlt
    rw [hk1, hk2]
    refine ⟨hnn x hx, L.le_trans _ _ _ h1 hle h2, fun y hy => (List.mem_append.mp hy).elim
      (fun hy => L.le_trans _ _ _ h1 hle (h3 y hy))
      (fun hy => by rw [List.mem_singleton.mp hy]; exact L.irrefl _), .inr ⟨x, hx, rfl, rfl, ?_⟩⟩
    rcases h4 with ⟨e1, _⟩ | ⟨y, _, _, _, hy⟩
    · rw [← e1]; exact hlt
    · exact L.lt_trans _ _ _ hacc hlt hy
  · next hlt =>
    obtain ⟨hk1, hk2⟩ := Prod.mk.inj hk
    rw [hk1, hk2]
    exact ⟨h1, h2, fun y hy => (List.mem_append.mp hy).elim (h3 y)
      (fun hy => by rw [List.mem_singleton.mp hy]; simpa using hlt), h4⟩

theorem iterM_succ_right {σ : Type} (f : σ → R σ) : ∀ (k : Nat) (s : σ),
    iterM f (k + 1) s = iterM f k s >>= f := by
  intro k
  induction k with
  | zero =>
    intro s
    simp only [iterM, bind, Except.bind, pure, Except.pure]
    cases f s <;> rfl
  | succ k ih =>
    intro s
    show (f s >>= fun s' => iterM f (k + 1) s') = (f s >>= fun s' => iterM f k s') >>= f
    cases h : f s with
    | error e => rfl
    | ok s' => exact ih s'

/-- `iterM` succeeds and advances an invariant whose step may use that the current state has been
REACHED from the start state. -/
theorem iterM_ok_reach {σ : Type} (P : Nat → σ → Prop) (f : σ → R σ) (s0 : σ) :
    ∀ (k : Nat),
      (∀ j s, j < k → iterM f j s0 = .ok s → P j s → ∃ s', f s = .ok s' ∧ P (j + 1) s') →
      P 0 s0 → ∃ s', iterM f k s0 = .ok s' ∧ P k s' := by
  intro k
  induction k with
  | zero => intro _ h0; exact ⟨s0, rfl, h0⟩
  | succ k ih =>
    intro hstep h0
    obtain ⟨s, e, hp⟩ := ih (fun j s hj => hstep j s (by omega)) h0
    obtain ⟨s', e', hp'⟩ := hstep k s (by omega) e hp
    refine ⟨s', ?_, hp'⟩
    rw [iterM_succ_right, e]
    exact e'

theorem iterM_ok {σ : Type} (P : Nat → σ → Prop) (f : σ → R σ) (k : Nat) (s : σ)
    (hstep : ∀ j s, j < k → P j s → ∃ s', f s = .ok s' ∧ P (j + 1) s')
    (hs : P 0 s) : ∃ s', iterM f k s = .ok s' ∧ P k s' :=
  iterM_ok_reach P f s k (fun j s hj _ hp => hstep j s hj hp) hs

theorem iterM_inv {σ : Type} (P : σ → Prop) (f : σ → R σ)
    (hstep : ∀ s s', P s → f s = .ok s' → P s') :
    ∀ (k : Nat) (s s' : σ), P s → iterM f k s = .ok s' → P s' := by
  intro k
  induction k with
  | zero => intro s s' hs h; exact pure_ok.mp h ▸ hs
  | succ k ih =>
    intro s s' hs h
    obtain ⟨s1, h1, h2⟩ := bind_ok.mp h
    exact ih s1 s' (hstep s s1 hs h1) h2

theorem foldlM_const {σ β γ : Type} (g : σ → γ) {f : σ → β → R σ} {l : List β}
    (hstep : ∀ s x s', f s x = .ok s' → g s' = g s) {s s' : σ} (h : l.foldlM f s = .ok s') :
    g s' = g s :=
  foldlM_inv (fun t => g t = g s) f l (fun t x t' _ ht hx => (hstep t x t' hx).trans ht) s s' rfl h

theorem iterM_const {σ γ : Type} (g : σ → γ) {f : σ → R σ}
    (hstep : ∀ s s', f s = .ok s' → g s' = g s) {k : Nat} {s s' : σ} (h : iterM f k s = .ok s') :
    g s' = g s :=
  iterM_inv (fun t => g t = g s) f (fun t t' ht hx => (hstep t t' hx).trans ht) k s s' rfl h

end Kodama
