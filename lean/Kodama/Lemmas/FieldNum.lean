/-
Exact-arithmetic number instances for the theorems that need field laws.

* `fieldNumWith K sq` / `fieldNum K` : the `Num` structure of a linearly ordered field `K`
  (`<`, `=`, `+ - * /`, `Nat.cast`, `1/2`, `1/4`); `sqrt` is a parameter (`fieldNum` takes `id`:
  the Lance–Williams formulas never call it), the sentinel fields are irrelevant.  These are `def`s,
  not instances: use `@Gen.average K (fieldNum K) …`, `letI := fieldNum K`, or a `local instance`.
* `FieldLaws K` : the *law bundle* form of the same thing — "the `Num K` instance in scope computes
  the field operations of `K`".  Theorems are stated against the bundle (a hypothesis, never a
  postulate), so they apply to `fieldNum K`, to `fieldNumWith K sq` for any `sq`, and to any other exact
  instance (e.g. a `Rat` run instance) once `FieldLaws` is shown for it.  `sqrt`, `abs`, `beq` and
  the sentinels are left completely unconstrained.

IEEE floats do NOT satisfy `FieldLaws` (no `Field Float`); everything proved from it is a statement
about exact arithmetic.
-/
import Kodama.Num
import Mathlib.Tactic.Ring
import Mathlib.Tactic.Linarith
namespace Kodama

@[reducible] def fieldNumWith (K : Type) [Field K] [LinearOrder K] (sq : K → K) : Num K where
  lt a b := decide (a < b)
  beq a b := decide (a = b)
  add := (· + ·)
  sub := (· - ·)
  mul := (· * ·)
  div := (· / ·)
  ofNat n := (n : K)
  half := 1 / 2
  quarter := 1 / 4
  sqrt := sq
  abs := fun x => |x|
  maxValue := 0
  infinity := 0
  isNaN _ := false

@[reducible] def fieldNum (K : Type) [Field K] [LinearOrder K] : Num K := fieldNumWith K id

/-- `Num.lt` is the strict order of `α` (all that single/complete linkage need). -/
structure OrderNum (α : Type) [LinearOrder α] [Num α] : Prop where
  lt : ∀ a b : α, Num.lt a b = decide (a < b)

structure FieldLaws (K : Type) [Field K] [LinearOrder K] [Num K] : Prop where
  lt : ∀ a b : K, Num.lt a b = decide (a < b)
  add : ∀ a b : K, Num.add a b = a + b
  sub : ∀ a b : K, Num.sub a b = a - b
  mul : ∀ a b : K, Num.mul a b = a * b
  div : ∀ a b : K, Num.div a b = a / b
  ofNat : ∀ n : Nat, (Num.ofNat n : K) = (n : K)
  half : (Num.half : K) = 1 / 2
  quarter : (Num.quarter : K) = 1 / 4

theorem FieldLaws.toOrderNum {K : Type} [Field K] [LinearOrder K] [Num K] (L : FieldLaws K) :
    OrderNum K := ⟨L.lt⟩

theorem fieldNumWith_laws (K : Type) [Field K] [LinearOrder K] (sq : K → K) :
    @FieldLaws K _ _ (fieldNumWith K sq) :=
  @FieldLaws.mk K _ _ (fieldNumWith K sq) (fun _ _ => rfl) (fun _ _ => rfl) (fun _ _ => rfl)
    (fun _ _ => rfl) (fun _ _ => rfl) (fun _ => rfl) rfl rfl

theorem fieldNum_laws (K : Type) [Field K] [LinearOrder K] : @FieldLaws K _ _ (fieldNum K) :=
  fieldNumWith_laws K id

/-! The three inequalities behind the Lance–Williams updates of a closest pair (`c ≤ a`, `c ≤ b`), over
any ordered field: they serve the exact theorems and, on the exact quantities, the rounded ones. -/

section closest
variable {K : Type} [Field K] [LinearOrder K] [IsStrictOrderedRing K]

/-- A weighted mean of `a, b ≥ c` is `≥ c` (cleared of the denominator `x + y`). -/
theorem mean_ge {x y a b c : K} (hx : 0 ≤ x) (hy : 0 ≤ y) (ha : c ≤ a) (hb : c ≤ b) :
    c * (x + y) ≤ x * a + y * b := by
  rw [mul_add, mul_comm c x, mul_comm c y]
  exact add_le_add (mul_le_mul_of_nonneg_left ha hx) (mul_le_mul_of_nonneg_left hb hy)

/-- AM–GM, `x·y ≤ (x+y)²/4`, scaled by `c ≥ 0`. -/
theorem amgm_quarter {x y c : K} (c0 : 0 ≤ c) :
    x * y * c ≤ 1 / 4 * c * ((x + y) * (x + y)) := by
  have e : 1 / 4 * c * ((x + y) * (x + y)) - x * y * c = 1 / 4 * (c * ((x - y) * (x - y))) := by
    ring
  rw [← sub_nonneg, e]
  exact mul_nonneg (by norm_num) (mul_nonneg c0 (mul_self_nonneg _))

/-- Ward: the subtracted `sx·c` is at most half of `(sx+sa)·a + (sx+sb)·b` when `c ≤ a, b`. -/
theorem ward_half {sx sa sb a b c : K} (hx : 0 ≤ sx) (hsa : 0 ≤ sa) (hsb : 0 ≤ sb) (a0 : 0 ≤ a)
    (b0 : 0 ≤ b) (ha : c ≤ a) (hb : c ≤ b) :
    sx * c ≤ 1 / 2 * ((sx + sa) * a + (sx + sb) * b) := by
  have e1 := mul_le_mul_of_nonneg_left ha hx
  have e2 := mul_le_mul_of_nonneg_left hb hx
  have e3 := mul_nonneg hsa a0
  have e4 := mul_nonneg hsb b0
  have : (sx + sa) * a + (sx + sb) * b = sx * a + sx * b + sa * a + sb * b := by ring
  rw [this]; linarith only [e1, e2, e3, e4]

end closest

end Kodama
