/-
`nnchainWith` as a whole: the main loop, run under an invariant that contains `ChainInv`, is total,
leaves a spanning tree with non-NaN heights, and has counted at most `7·n(n+1) − 10` index
computations (`chainLoop_of_step`); `nnchainWith` IS that loop followed by `relabel` and `sqrt`
(`nnchainWith_of_loop`).  The predicates `NoNaNData`, `OkData`, `OkLive` on input arrays and live
entries are defined here.
-/
import Kodama.Lemmas.ChainIter
import Kodama.Lemmas.OnSquares
namespace Kodama
open Spec
variable {α : Type} [Num α]

def NoNaNData (a : Array α) : Prop := ∀ (i : Nat) (h : i < a.size), Num.isNaN a[i] = false

structure ChainLoopResult (n : Nat) (dend : Dendrogram α) (M : Mat α) : Prop where
  obs : dend.obs = n
  steps_sz : dend.steps.size = n - 1
  raw : RawTree n (rawOf dend)
  heights : ∀ s ∈ dend.steps.toList, Num.isNaN s.d = false
  mn : M.n = n
  acc : M.acc + 10 ≤ 7 * (n * (n + 1))

def OkLive (ok : α → Prop) (M : Mat α) (live : List Nat) : Prop :=
  ∀ x ∈ live, ∀ y ∈ live, x ≠ y → ok (M.dval x y)

def OkData (ok : α → Prop) (a : Array α) : Prop := ∀ (i : Nat) (h : i < a.size), ok a[i]

theorem okLive_init (ok : α → Prop) (data : Array α) (n : Nat)
    (hl : 2 * data.size = n * (n - 1)) (hd : OkData ok data) :
    OkLive ok ({ data := data, n := n, acc := 0 } : Mat α) (List.range n) := by
  intro x hx y hy hxy
  have hx' : x < n := List.mem_range.mp hx
  have hy' : y < n := List.mem_range.mp hy
  have h1 := idxN_lt n (min x y) (max x y) (by omega) (by omega)
  have hlt : Gen.idxN n (min x y) (max x y) < data.size := by omega
  unfold Mat.dval
  simp only [Array.getD, hlt, dite_true]
  exact hd _ hlt

theorem chainInv_init (data : Array α) (n : Nat) (h2 : 2 ≤ n) (hs : n < 2147483648)
    (hl : 2 * data.size = n * (n - 1)) (hnan : NoNaNData data) :
    ChainInv n 0 (List.range n) ({ (State.fresh n : State α) with chain := #[] })
      (Dendrogram.new n) ({ data := data, n := n, acc := 0 } : Mat α) where
  prim := PrimInv.init _ data n h2 hs hl rfl rfl
  sizes_pos := by
    intro x hx
    have hx' : x < n := List.mem_range.mp hx
    simp [State.fresh, Array.getD, hx']
  nonan := okLive_init (fun v => Num.isNaN v = false) data n hl hnan
  chain := by intro h; simp at h
  chain_sz := by simp
  heights := by intro s hs; simp [Dendrogram.new] at hs
  work := by simp

/-- With one live cluster left the invariant is the result of the loop; `acc` is `ChainInv.work` at
`live.length = 1`, `chain.size ≤ 2`: `M.acc + 14 ≤ 7·n(n+1) + 4`. -/
theorem ChainInv.result {n : Nat} {live : List Nat} {st : State α} {dend : Dendrogram α} {M : Mat α}
    (h2 : 2 ≤ n) (hinv : ChainInv n (n - 1) live st dend M) : ChainLoopResult n dend M := by
  have hll := hinv.prim.llen
  have hlen1 : live.length = 1 := by omega
  have hw := hinv.work
  have hcs := hinv.chain_sz
  rw [hlen1] at hw hcs
  exact
    { obs := hinv.prim.obs
      steps_sz := hinv.prim.steps_sz
      raw := ⟨by simp [rawOf, hinv.prim.steps_sz], hinv.prim.inRange, hinv.prim.eff⟩
      heights := hinv.heights
      mn := hinv.prim.mn
      acc := by omega }

/-- The loop of `nnchain_with`, for any invariant `J` that contains `ChainInv` and that one iteration
re-establishes: total, and `J` holds at the end together with `ChainLoopResult`. -/
theorem chainLoop_of_step (chk : Bool) (m : MethodChain) (n : Nat) (h2 : 2 ≤ n)
    (J : Nat → ChainSt α → Prop)
    (hJ : ∀ j s, J j s → ∃ live, ChainInv n j live s.st s.dend s.M)
    (hstep : ∀ j s, j + 1 < n → J j s → ∃ s', chainIter chk m s = .ok s' ∧ J (j + 1) s')
    (s0 : ChainSt α) (h0 : J 0 s0) :
    ∃ s1, iterM (chainIter chk m) (n - 1) s0 = .ok s1 ∧ J (n - 1) s1 ∧
      ChainLoopResult n s1.dend s1.M := by
  obtain ⟨s1, e, hJ1⟩ := iterM_ok J (chainIter chk m) (n - 1) s0
    (fun j s hj h => hstep j s (by omega) h) h0
  obtain ⟨live, hinv⟩ := hJ _ _ hJ1
  exact ⟨s1, e, hJ1, hinv.result h2⟩

theorem nnchainWith_of_loop (chk : Bool) (m : MethodChain) (st : State α) (d : Dendrogram α)
    (data : Array α) (n : Nat) (h2 : 2 ≤ n) (hs : n < 2147483648)
    (hl : 2 * data.size = n * (n - 1)) {s1 : ChainSt α}
    (hloop : iterM (chainIter chk m) (n - 1)
        ⟨{ (State.fresh n : State α) with chain := #[] }, Dendrogram.new n,
          { data := squareData m.intoMethod data, n := n, acc := 0 }⟩ = .ok s1) :
    nnchainWith chk m st d data n =
        (relabel m.intoMethod s1.st.set s1.dend >>= fun r =>
          pure ({ s1.st with set := r.1 }, sqrtSteps m.intoMethod r.2, s1.M)) := by
  rw [nnchainWith_frame,
    withFrame_of_valid _ _ _ _ _ _ h2 hs (by rw [squareData_size]; exact hl)]
  unfold nnchainBody
  rw [hloop]
  rfl

end Kodama
