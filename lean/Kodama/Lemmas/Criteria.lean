/-
The documented linkage criteria as functions of the ORIGINAL dissimilarities, and the finite-sum
bookkeeping they need.  Nothing here mentions the generated formulas (that is `Props/C02.lean`).

Clusters are `Finset ι`; `d : ι → ι → K` is the base dissimilarity (already squared for the
methods that work on squares); its diagonal is never read.  Single and complete linkage are
attained bounds over `A × B` (`IsMinOver`, `IsMaxOver`).  Average, centroid and Ward are closed
forms in `S d A B = Σ_{a∈A} Σ_{b∈B} d a b` and the within-cluster pair sum `W d A` (`avg`, `cen`,
`wardc`; `cen` is the squared centroid distance when `d` is a squared Euclidean distance).
Weighted (WPGMA) and median (WPGMC) are not functions of the two leaf sets: they are recursions
on the two merge trees (`MTree`, `wdist`, `mdist`).  `avg_image`: the mean under an injective
reindexing of the observations.
-/
import Mathlib.Algebra.BigOperators.Group.Finset.Sigma
import Mathlib.Tactic.Ring
import Mathlib.Tactic.FieldSimp
import Mathlib.Algebra.BigOperators.Group.Finset.Basic
import Mathlib.Data.Finset.Prod
namespace Kodama.Crit
open Finset

variable {ι : Type} {K : Type}

def IsMinOver [LE K] (d : ι → ι → K) (A B : Finset ι) (v : K) : Prop :=
  (∀ a ∈ A, ∀ b ∈ B, v ≤ d a b) ∧ ∃ a ∈ A, ∃ b ∈ B, v = d a b

def IsMaxOver [LE K] (d : ι → ι → K) (A B : Finset ι) (v : K) : Prop :=
  (∀ a ∈ A, ∀ b ∈ B, d a b ≤ v) ∧ ∃ a ∈ A, ∃ b ∈ B, v = d a b

section order
variable [LinearOrder K] {d : ι → ι → K} {A B X : Finset ι} {a b : K}

theorem IsMinOver.unique {v w : K} (hv : IsMinOver d A B v) (hw : IsMinOver d A B w) : v = w := by
  obtain ⟨a, ha, b, hb, rfl⟩ := hv.2
  obtain ⟨a', ha', b', hb', rfl⟩ := hw.2
  exact le_antisymm (hv.1 a' ha' b' hb') (hw.1 a ha b hb)

theorem IsMinOver.union_left [DecidableEq ι] (ha : IsMinOver d A X a) (hb : IsMinOver d B X b) :
    IsMinOver d (A ∪ B) X (min a b) := by
  constructor
  · intro p hp x hx
    rcases mem_union.mp hp with h | h
    · exact le_trans (min_le_left _ _) (ha.1 p h x hx)
    · exact le_trans (min_le_right _ _) (hb.1 p h x hx)
  · rcases le_total a b with h | h
    · obtain ⟨p, hp, x, hx, e⟩ := ha.2
      exact ⟨p, mem_union_left _ hp, x, hx, by rw [min_eq_left h]; exact e⟩
    · obtain ⟨p, hp, x, hx, e⟩ := hb.2
      exact ⟨p, mem_union_right _ hp, x, hx, by rw [min_eq_right h]; exact e⟩

theorem IsMinOver.symm (hd : ∀ i j, d i j = d j i) (h : IsMinOver d A B a) : IsMinOver d B A a :=
  ⟨fun y hy x hx => by rw [hd]; exact h.1 x hx y hy,
   by obtain ⟨x, hx, y, hy, e⟩ := h.2; exact ⟨y, hy, x, hx, by rw [hd]; exact e⟩⟩

theorem IsMinOver.singleton (i j : ι) : IsMinOver d {i} {j} (d i j) := by
  refine ⟨?_, i, mem_singleton_self i, j, mem_singleton_self j, rfl⟩
  intro a ha b hb; rw [mem_singleton.mp ha, mem_singleton.mp hb]

/-! `IsMaxOver d A B v` unfolds to `IsMinOver d A B v` over the dual order `Kᵒᵈ` (where `≤` is `≥` and
`min` is `max`), so its lemmas are those of `IsMinOver` read there. -/

theorem IsMaxOver.unique {v w : K} (hv : IsMaxOver d A B v) (hw : IsMaxOver d A B w) : v = w :=
  IsMinOver.unique (K := Kᵒᵈ) hv hw

theorem IsMaxOver.union_left [DecidableEq ι] (ha : IsMaxOver d A X a) (hb : IsMaxOver d B X b) :
    IsMaxOver d (A ∪ B) X (max a b) :=
  IsMinOver.union_left (K := Kᵒᵈ) ha hb

theorem IsMaxOver.symm (hd : ∀ i j, d i j = d j i) (h : IsMaxOver d A B a) : IsMaxOver d B A a :=
  IsMinOver.symm (K := Kᵒᵈ) hd h

theorem IsMaxOver.singleton (i j : ι) : IsMaxOver d {i} {j} (d i j) :=
  IsMinOver.singleton (K := Kᵒᵈ) i j

end order

def S [AddCommMonoid K] (d : ι → ι → K) (A B : Finset ι) : K := ∑ a ∈ A, ∑ b ∈ B, d a b

/-- Sum of `d` over the unordered pairs of distinct elements of `A`: half the off-diagonal ordered
sum. -/
def W [Field K] (d : ι → ι → K) (A : Finset ι) : K := (∑ p ∈ A.offDiag, d p.1 p.2) / 2

section sums
variable [Field K] {d : ι → ι → K} {A B X : Finset ι}

theorem S_union_left [DecidableEq ι] (h : Disjoint A B) : S d (A ∪ B) X = S d A X + S d B X := by
  unfold S; rw [sum_union h]

theorem S_symm (hd : ∀ i j, d i j = d j i) (A B : Finset ι) : S d A B = S d B A := by
  unfold S; rw [sum_comm]; exact sum_congr rfl (fun b _ => sum_congr rfl (fun a _ => hd a b))

theorem S_union_right [DecidableEq ι] (h : Disjoint A B) : S d X (A ∪ B) = S d X A + S d X B := by
  unfold S; rw [← sum_add_distrib]; exact sum_congr rfl (fun x _ => sum_union h)

@[simp] theorem S_singleton (i j : ι) : S d {i} {j} = d i j := by simp [S]

@[simp] theorem W_singleton (i : ι) : W d {i} = 0 := by simp [W]

theorem S_eq_sum_product (A B : Finset ι) : S d A B = ∑ p ∈ A ×ˢ B, d p.1 p.2 := by
  unfold S; rw [sum_product]

theorem W_union [DecidableEq ι] [CharZero K] (hd : ∀ i j, d i j = d j i) (h : Disjoint A B) :
    W d (A ∪ B) = W d A + W d B + S d A B := by
  -- the four pieces lie in `A ×ˢ A`, `B ×ˢ B`, `A ×ˢ B`, `B ×ˢ A`: any two differ in a coordinate
  have hsub : ∀ C : Finset ι, C.offDiag ⊆ C ×ˢ C := fun C p hp =>
    mem_product.mpr ⟨(mem_offDiag.mp hp).1, (mem_offDiag.mp hp).2.1⟩
  have hA := hsub A
  have hB := hsub B
  have h1 : Disjoint A.offDiag B.offDiag := (disjoint_product.mpr (Or.inl h)).mono hA hB
  have h2 : Disjoint (A.offDiag ∪ B.offDiag) (A ×ˢ B) := disjoint_union_left.mpr
    ⟨(disjoint_product.mpr (Or.inr h)).mono_left hA, (disjoint_product.mpr (Or.inl h.symm)).mono_left hB⟩
  have h3 : Disjoint (A.offDiag ∪ B.offDiag ∪ A ×ˢ B) (B ×ˢ A) := disjoint_union_left.mpr
    ⟨disjoint_union_left.mpr ⟨(disjoint_product.mpr (Or.inl h)).mono_left hA,
      (disjoint_product.mpr (Or.inr h.symm)).mono_left hB⟩, disjoint_product.mpr (Or.inl h)⟩
  unfold W
  rw [offDiag_union h, sum_union h3, sum_union h2, sum_union h1, ← S_eq_sum_product,
    ← S_eq_sum_product, S_symm hd B A]
  ring

end sums

section crit
variable [Field K]

/-- Average linkage (UPGMA): the mean of `d` over `A × B`. -/
def avg (d : ι → ι → K) (A B : Finset ι) : K := S d A B / ((A.card : K) * (B.card : K))

/-- Centroid linkage (UPGMC), on squares. -/
def cen (d : ι → ι → K) (A B : Finset ι) : K :=
  S d A B / ((A.card : K) * (B.card : K)) - W d A / (A.card : K) ^ 2 - W d B / (B.card : K) ^ 2

/-- Ward linkage, on squares. -/
def wardc (d : ι → ι → K) (A B : Finset ι) : K :=
  2 * (A.card : K) * (B.card : K) / ((A.card : K) + (B.card : K)) * cen d A B

variable {d : ι → ι → K}

theorem avg_symm (hd : ∀ i j, d i j = d j i) (A B : Finset ι) : avg d A B = avg d B A := by
  unfold avg; rw [S_symm hd A B, mul_comm]

theorem cen_symm (hd : ∀ i j, d i j = d j i) (A B : Finset ι) : cen d A B = cen d B A := by
  unfold cen; rw [S_symm hd A B, mul_comm]; ring

theorem wardc_symm (hd : ∀ i j, d i j = d j i) (A B : Finset ι) : wardc d A B = wardc d B A := by
  unfold wardc; rw [cen_symm hd A B]; ring

@[simp] theorem avg_singleton (i j : ι) : avg d {i} {j} = d i j := by simp [avg]

@[simp] theorem cen_singleton (i j : ι) : cen d {i} {j} = d i j := by simp [cen]

/-- The mean over `(A ∪ B) × X` is the size-weighted mean of the means over `A × X` and `B × X`: the
exact form of the average-linkage update. -/
theorem avg_union_left [DecidableEq ι] [CharZero K] {A B X : Finset ι} (hAB : Disjoint A B)
    (neA : A.Nonempty) (neB : B.Nonempty) (neX : X.Nonempty) :
    avg d (A ∪ B) X
      = ((A.card : K) * avg d A X + (B.card : K) * avg d B X) / ((A.card : K) + (B.card : K)) := by
  have ha : (A.card : K) ≠ 0 := Nat.cast_ne_zero.mpr neA.card_pos.ne'
  have hb : (B.card : K) ≠ 0 := Nat.cast_ne_zero.mpr neB.card_pos.ne'
  have hx : (X.card : K) ≠ 0 := Nat.cast_ne_zero.mpr neX.card_pos.ne'
  have hab : (A.card : K) + (B.card : K) ≠ 0 := by
    exact_mod_cast (Nat.add_pos_left neA.card_pos B.card).ne'
  unfold avg
  rw [S_union_left hAB, card_union_of_disjoint hAB, Nat.cast_add]
  field_simp

theorem wardc_singleton [CharZero K] (i j : ι) : wardc d {i} {j} = d i j := by
  simp only [wardc, cen_singleton, card_singleton, Nat.cast_one]
  have : (1 : K) + 1 ≠ 0 := by norm_num
  field_simp
  ring

end crit

inductive MTree (ι : Type) where
  | leaf (i : ι)
  | node (l r : MTree ι)
  deriving DecidableEq, Repr

namespace MTree

def leaves [DecidableEq ι] : MTree ι → Finset ι
  | leaf i => {i}
  | node l r => l.leaves ∪ r.leaves

/-- Number of leaf positions (equals `leaves.card` when no observation is repeated). -/
def size : MTree ι → Nat
  | leaf _ => 1
  | node l r => l.size + r.size

theorem size_pos (t : MTree ι) : 0 < t.size := by
  induction t with
  | leaf => exact Nat.one_pos
  | node l r ihl _ => exact Nat.add_pos_left ihl _

theorem leaves_nonempty [DecidableEq ι] (t : MTree ι) : t.leaves.Nonempty := by
  induction t with
  | leaf i => exact singleton_nonempty i
  | node l r ihl _ => exact ihl.mono subset_union_left

@[simp] theorem leaves_leaf [DecidableEq ι] (i : ι) : (leaf i).leaves = {i} := rfl
@[simp] theorem leaves_node [DecidableEq ι] (l r : MTree ι) : (node l r).leaves = l.leaves ∪ r.leaves := rfl

end MTree

section tree
variable [Field K]
open MTree

def wdistLeaf (d : ι → ι → K) (i : ι) : MTree ι → K
  | leaf j => d i j
  | node l r => (wdistLeaf d i l + wdistLeaf d i r) / 2

/-- Weighted linkage (WPGMA): the recursively halved mean over the two merge trees. -/
def wdist (d : ι → ι → K) : MTree ι → MTree ι → K
  | leaf i, t => wdistLeaf d i t
  | node l r, t => (wdist d l t + wdist d r t) / 2

variable {d : ι → ι → K}

@[simp] theorem wdist_leaf_leaf (i j : ι) : wdist d (leaf i) (leaf j) = d i j := rfl

theorem wdist_node_left (l r t : MTree ι) :
    wdist d (node l r) t = (wdist d l t + wdist d r t) / 2 := rfl

/-- The recursion on the right-hand tree: `wdist` is a function of the two trees only — splitting
either side first gives the same value. -/
theorem wdist_node_right (s l r : MTree ι) :
    wdist d s (node l r) = (wdist d s l + wdist d s r) / 2 := by
  induction s with
  | leaf i => rfl
  | node a b iha ihb =>
    rw [wdist_node_left, wdist_node_left, wdist_node_left, iha, ihb]; ring

theorem wdist_symm (hd : ∀ i j, d i j = d j i) (s t : MTree ι) :
    wdist d s t = wdist d t s := by
  induction s generalizing t with
  | leaf i =>
    induction t with
    | leaf j => exact hd i j
    | node l r ihl ihr =>
      rw [wdist_node_right, wdist_node_left, ihl, ihr]
  | node a b iha ihb =>
    rw [wdist_node_left, wdist_node_right, iha, ihb]

/-- Median linkage (WPGMC), on squares: `m(l∪r, t) = m(l,t)/2 + m(r,t)/2 − m(l,r)/4`, by recursion
on the two merge trees (left tree first, then the right one). -/
def mdist (d : ι → ι → K) : MTree ι → MTree ι → K
  | leaf i, leaf j => d i j
  | leaf i, node l r => mdist d (leaf i) l / 2 + mdist d (leaf i) r / 2 - mdist d l r / 4
  | node l r, t => mdist d l t / 2 + mdist d r t / 2 - mdist d l r / 4
termination_by s t => s.size + t.size
decreasing_by
  all_goals simp only [MTree.size]
  all_goals
    have h1 := MTree.size_pos l
    have h2 := MTree.size_pos r
    first | omega | (have h3 := MTree.size_pos t; omega)

variable {d : ι → ι → K}

@[simp] theorem mdist_leaf_leaf (i j : ι) : mdist d (leaf i) (leaf j) = d i j := by
  rw [mdist]

theorem mdist_node_left (l r t : MTree ι) :
    mdist d (node l r) t = mdist d l t / 2 + mdist d r t / 2 - mdist d l r / 4 := by
  cases t <;> rw [mdist]

/-- The recursion on the right-hand tree: `mdist` is a function of the two trees only. -/
theorem mdist_node_right [CharZero K] (s l r : MTree ι) :
    mdist d s (node l r) = mdist d s l / 2 + mdist d s r / 2 - mdist d l r / 4 := by
  induction s with
  | leaf i => rw [mdist]
  | node a b iha ihb =>
    rw [mdist_node_left, mdist_node_left a b l, mdist_node_left a b r, iha, ihb]; ring

theorem mdist_symm [CharZero K] (hd : ∀ i j, d i j = d j i) (s t : MTree ι) :
    mdist d s t = mdist d t s := by
  induction s generalizing t with
  | leaf i =>
    induction t with
    | leaf j => rw [mdist_leaf_leaf, mdist_leaf_leaf]; exact hd i j
    | node l r ihl ihr =>
      rw [mdist_node_right, mdist_node_left, ihl, ihr]
  | node a b iha ihb =>
    rw [mdist_node_left, mdist_node_right, iha, ihb]

end tree

end Kodama.Crit

namespace Kodama
open Crit
variable {K : Type} [Field K]

/-- Reindexing the mean over cross pairs along an injective map (`f = id`: the mean only reads `D` on
the two sets). -/
theorem avg_image {D D' : Nat → Nat → K} {f : Nat → Nat} (hf : Function.Injective f)
    {X Y : Finset Nat} (h : ∀ x ∈ X, ∀ y ∈ Y, D' x y = D (f x) (f y)) :
    avg D' X Y = avg D (X.image f) (Y.image f) := by
  unfold avg S
  rw [Finset.card_image_of_injective _ hf, Finset.card_image_of_injective _ hf,
    Finset.sum_image (fun a _ b _ h => hf h)]
  congr 1
  refine Finset.sum_congr rfl fun a ha => ?_
  rw [Finset.sum_image (fun a _ b _ h => hf h)]
  exact Finset.sum_congr rfl fun b hb => h a ha b hb

end Kodama
