/-
Exact-arithmetic discharge of the hypotheses of the `generic_with` theorems (`Props/C03.lean`,
section `Generic`), for the composition files `Props/C03Generic.lean`, `C06All.lean`,
`C11Generic.lean`, `C02Generic.lean`.

`K` is a linearly ordered field whose `Num K` instance computes the field operations and has no NaN
(`ExactLaws K`, `Lemmas/FieldInstances.lean`).  `ExactLaws` deliberately leaves `==`, `sqrt`, `abs`
and the two sentinels `T::max_value()`, `T::infinity()` UNCONSTRAINED, but `generic_with` exits its
repair loop on `==` and compares matrix entries with `T::max_value()`, and `mst_with` compares them
with `T::infinity()`.  What `ExactLaws` cannot give is therefore kept as explicit, named hypotheses:

* `BeqExact K`            `Num.beq a b = decide (a = b)` (true of `fieldNum K`, `fieldNumWith K sq`).
* `GenericSafe m data`    there is a set `G` of values, all strictly below `T::max_value()`, closed
                          under the update of method `m` (`UpdClosed G m`) and containing the
                          (squared, for the methods on squares) input entries.
* `InfSafe n data`        no off-diagonal entry exceeds `T::infinity()` (for `mst_with`).

Derived here from `ExactLaws K` (+ `BeqExact K`): `BeqLe K` and `GoodSet G` for every `G` below the
sentinel; `LBClosed G m` for single / complete / average / weighted / Ward and EVERY `G` (the update of
two values `≥ p` is `≥ p`; Ward: given `p ≥` merged distance); `InfTop` from `InfSafe`; and, for the four
methods that do not read the merged distance (single, complete, average, weighted — the update is a
convex combination), `GenericSafe m data` from "every input entry is `< max_value`"
(`genericSafe_of_lt_max`), the set `{v | v < max_value}` being closed.

NOT derived (and false in general): `GenericSafe m data` for Ward / centroid / median from a bound on
the input.  `UpdClosed G m` quantifies over ALL arguments in `G`, and in an Archimedean field the
closure of a non-constant (Ward), resp. non-zero (centroid, median), set under these three formulas
is unbounded (e.g. median: `(a,a,d) ↦ a − d/4`), so a bounded closed `G` exists only for constant /
all-zero matrices.  A run-dependent bound ("every table value of the greedy run is `< max_value`")
is the right hypothesis: `Spec.RunGood` (`Lemmas/SpecRunGood.lean`); the simulation proof of
`generic_with` takes it (`genericWith_sim_run`, `Lemmas/GenericGreedySim.lean`) and the theorems are
in `Props/C03GenericRun.lean`, `C01Generic.lean`, `C12Generic.lean`.
-/
import Kodama.Lemmas.GenericGreedySpec
import Kodama.Lemmas.FieldInstances
import Kodama.Lemmas.MstPrimInv
import Kodama.Lemmas.AverageExact
import Kodama.Lemmas.GenericRun
namespace Kodama
open Spec

section defs
variable {K : Type} [Field K] [LinearOrder K] [Num K]

def BeqExact (K : Type) [Field K] [LinearOrder K] [Num K] : Prop :=
  ∀ a b : K, Num.beq a b = decide (a = b)

def GenericSafe (m : Method) (data : Array K) : Prop :=
  ∃ G : K → Prop, (∀ v, G v → v < (Num.maxValue : K)) ∧ UpdClosed G m ∧
    ∀ i (h : i < (squareData m data).size), G (squareData m data)[i]

def InfSafe (n : Nat) (data : Array K) : Prop :=
  ∀ u v, u < n → v < n → u ≠ v → entry n data Num.infinity u v ≤ (Num.infinity : K)

theorem beqExact_fieldNumWith (K : Type) [Field K] [LinearOrder K] (sq : K → K) :
    @BeqExact K _ _ (fieldNumWith K sq) := fun _ _ => rfl

theorem BeqExact.beqLe (B : BeqExact K) (E : ExactLaws K) : BeqLe K := by
  intro a b h
  rw [B, decide_eq_true_eq] at h
  subst h
  exact E.field.lt_false.2 le_rfl

theorem goodSet_exact (B : BeqExact K) (E : ExactLaws K) {G : K → Prop}
    (hG : ∀ v, G v → v < (Num.maxValue : K)) : GoodSet G where
  notNaN v _ := E.noNaN v
  ltMax v hv := E.field.lt_true.2 (hG v hv)
  beqRefl v _ := by rw [B]; simp

theorem infSafe_infTop (E : ExactLaws K) {n : Nat} {data : Array K} (h : InfSafe n data) :
    InfTop n data :=
  ⟨E.noNaN _, fun u v hu hv huv => E.field.lt_false.2 (h u v hu hv huv)⟩

end defs

def ReturnsSteps {α : Type} (r : R (State α × Dendrogram α × Mat α)) (steps : List (Step α)) :
    Prop :=
  ∃ st' d' M', r = .ok (st', d', M') ∧ d'.steps.toList = steps

section field
variable {K : Type} [Field K] [LinearOrder K] [IsStrictOrderedRing K] [Num K]

/-- `LBClosed G m` for the five sorted methods (exactly those with `l1Mode m = .fix`), every `G`. -/
theorem lbClosed_exact_of_fix (E : ExactLaws K) (G : K → Prop) (m : Method)
    (h : l1Mode m = .fix) : LBClosed G m :=
  (E.field.lwGeOn G m (by cases m <;> first | rfl | (simp [l1Mode] at h))).lbClosed
    E.field.orderLaws fun v _ => E.noNaN v

theorem updClosed_ltMax_average (E : ExactLaws K) :
    UpdClosed (fun v : K => v < (Num.maxValue : K)) .average := by
  intro sizes sa sb dist x va vb v _ hs _ ha hb h
  obtain ⟨hsa, hsb⟩ := hs rfl
  simp only [updFn, pure, Except.pure, Except.ok.injEq] at h
  subst h
  have L := E.field
  rw [L.average_eq_mean va vb sa sb (by omega)]
  have ha' : (0 : K) < (sa : K) := Nat.cast_pos.mpr hsa
  have hb' : (0 : K) < (sb : K) := Nat.cast_pos.mpr hsb
  rw [div_lt_iff₀ (by linarith)]
  have e1 := mul_lt_mul_of_pos_left ha ha'
  have e2 := mul_lt_mul_of_pos_left hb hb'
  linarith

theorem updClosed_ltMax_weighted (E : ExactLaws K) :
    UpdClosed (fun v : K => v < (Num.maxValue : K)) .weighted := by
  intro sizes sa sb dist x va vb v _ _ _ ha hb h
  simp only [updFn, pure, Except.pure, Except.ok.injEq] at h
  subst h
  have L := E.field
  simp only [Gen.weighted, L.add, L.mul, L.half]
  linarith

theorem genericSafe_of_lt_max (E : ExactLaws K) (m : Method) (hm : usesDist m = false)
    (data : Array K) (hin : ∀ v ∈ data.toList, v < (Num.maxValue : K)) : GenericSafe m data := by
  have hsq : m.onSquares = false := by cases m <;> first | rfl | (simp [usesDist] at hm)
  refine ⟨fun v => v < (Num.maxValue : K), fun _ h => h, ?_, ?_⟩
  · cases m with
    | single => exact updClosed_single _
    | complete => exact updClosed_complete _
    | average => exact updClosed_ltMax_average E
    | weighted => exact updClosed_ltMax_weighted E
    | ward => simp [usesDist] at hm
    | centroid => simp [usesDist] at hm
    | median => simp [usesDist] at hm
  · refine squareData_good (G := fun v => v < (Num.maxValue : K)) m data ?_
    intro v hv
    rw [hsq]
    exact hin v hv

end field
end Kodama
