/-
The clamped average-linkage update of the crate (`method::average`):

    mean  := (sa·a + sb·b) / (sa + sb)
    least := if a < b then a else b
    *b    := if mean < least then least else mean

Order-only facts about the generated formula `Gen.average` (`Kodama/Generated/Method.lean`), for ANY
number type; no field law, no rounding model, Mathlib-free.

The main one is REDUCIBILITY, `Gen.average_not_lt` (`OrderLaws`): if `a`, `b` are not NaN and `¬ a < t`,
`¬ b < t` then `¬ average a b sa sb < t` — whatever `+ × /` compute (the mean may be rounded, infinite,
or NaN).  Without the clamp this is FALSE of IEEE floats (the rounded mean can be one ulp below both
arguments).  `Gen.average_hom` is naturality, for C09.  Symmetry in `(a, sa) ↔ (b, sb)`
(`Gen.average_comm`) needs trichotomy besides `add_comm`: `least` is a minimum written with one `<`, so
(exactly as for `Gen.single`) swapping the arguments needs "incomparable ⇒ equal", which is false for
`±0` and NaN.

The exact-arithmetic statement "the clamp is a no-op" is `FieldLaws.average_eq_mean`
(`Kodama/Lemmas/AverageExact.lean`).
-/
import Kodama.Generated.Method
import Kodama.Laws
namespace Kodama.Gen
variable {α : Type} [Num α]

/-- The (possibly rounded) size-weighted mean `(sa·a + sb·b)/(sa + sb)`: the `mean` of the code. -/
def averageMean (a b : α) (sa sb : Nat) : α :=
  Num.div (Num.add (Num.mul (Num.ofNat sa) a) (Num.mul (Num.ofNat sb) b))
    (Num.add (Num.ofNat sa) (Num.ofNat sb))

/-- `if a < b then a else b`: the `least` of the code. -/
def averageLeast (a b : α) : α := if Num.lt a b then a else b

theorem average_eq_clamp (a b : α) (sa sb : Nat) :
    average a b sa sb =
      if Num.lt (averageMean a b sa sb) (averageLeast a b) then averageLeast a b
      else averageMean a b sa sb := rfl

theorem average_of_not_lt {a b : α} {sa sb : Nat}
    (h : Num.lt (averageMean a b sa sb) (averageLeast a b) = false) :
    average a b sa sb = averageMean a b sa sb := by
  rw [average_eq_clamp, h]; rfl

theorem averageLeast_cases (a b : α) : averageLeast a b = a ∨ averageLeast a b = b := by
  unfold averageLeast; split
  · exact Or.inl rfl
  · exact Or.inr rfl

theorem average_cases (a b : α) (sa sb : Nat) :
    average a b sa sb = a ∨ average a b sa sb = b ∨
      (average a b sa sb = averageMean a b sa sb ∧
        Num.lt (averageMean a b sa sb) (averageLeast a b) = false) := by
  rw [average_eq_clamp]
  cases h : Num.lt (averageMean a b sa sb) (averageLeast a b)
  · exact Or.inr (Or.inr ⟨by simp, rfl⟩)
  · rcases averageLeast_cases a b with e | e
    · exact Or.inl (by simp [e])
    · exact Or.inr (Or.inl (by simp [e]))

/-- **Reducibility of the clamped average, any ordered number type.**  A common lower bound `t` of the
two (non-NaN) arguments is a lower bound of the result.  Only `OrderLaws` is used: when the clamp
fires the result is an argument; otherwise `¬ mean < least` and `¬ least < t` chain through the
non-NaN middle element `least`.  Nothing is assumed about `+ × /` (the mean may even be NaN). -/
theorem average_not_lt (L : OrderLaws α) {a b t : α} (sa sb : Nat)
    (na : Num.isNaN a = false) (nb : Num.isNaN b = false)
    (ha : Num.lt a t = false) (hb : Num.lt b t = false) :
    Num.lt (average a b sa sb) t = false := by
  have hl : Num.lt (averageLeast a b) t = false := by
    rcases averageLeast_cases a b with e | e <;> rw [e] <;> assumption
  have nl : Num.isNaN (averageLeast a b) = false := by
    rcases averageLeast_cases a b with e | e <;> rw [e] <;> assumption
  rw [average_eq_clamp]
  cases h : Num.lt (averageMean a b sa sb) (averageLeast a b)
  · simpa using L.le_trans t (averageLeast a b) (averageMean a b sa sb) nl hl h
  · simpa using hl

theorem average_not_lt_least (L : OrderLaws α) {a b : α} (sa sb : Nat) :
    Num.lt (average a b sa sb) (averageLeast a b) = false := by
  rw [average_eq_clamp]
  cases h : Num.lt (averageMean a b sa sb) (averageLeast a b)
  · simpa using h
  · simpa using L.irrefl _

theorem average_isNaN_of_mean {a b : α} {sa sb : Nat}
    (na : Num.isNaN a = false) (nb : Num.isNaN b = false)
    (nm : Num.isNaN (averageMean a b sa sb) = false) :
    Num.isNaN (average a b sa sb) = false := by
  rcases average_cases a b sa sb with e | e | ⟨e, -⟩ <;> rw [e] <;> assumption

theorem averageLeast_comm (L : OrderLaws α)
    (T : ∀ a b : α, Num.lt a b = false → Num.lt b a = false → a = b) (a b : α) :
    averageLeast a b = averageLeast b a := by
  unfold averageLeast
  cases h1 : Num.lt a b
  · cases h2 : Num.lt b a
    · simpa using (T a b h1 h2).symm
    · simp
  · simp [L.asymm a b h1]

/-- Symmetry of the clamped average in `(a, sa) ↔ (b, sb)`: `add_comm` for the mean (numerator and
denominator), `OrderLaws.asymm` + trichotomy for `least`. -/
theorem average_comm (L : OrderLaws α)
    (T : ∀ a b : α, Num.lt a b = false → Num.lt b a = false → a = b)
    (hadd : ∀ a b : α, Num.add a b = Num.add b a) (a b : α) (sa sb : Nat) :
    average a b sa sb = average b a sb sa := by
  have hm : averageMean a b sa sb = averageMean b a sb sa := by
    unfold averageMean
    rw [hadd (Num.mul (Num.ofNat sa) a), hadd (Num.ofNat sa : α)]
  rw [average_eq_clamp, average_eq_clamp, hm, averageLeast_comm L T a b]

/-- **Naturality.**  A map that preserves `<` and commutes with the mean commutes with the clamped
average (the clamp only compares and selects).  Used for C09 (scaling by a power of two). -/
theorem average_hom {β : Type} [Num β] {h : α → β}
    (hlt : ∀ a b : α, Num.lt (h a) (h b) = Num.lt a b) (a b : α) (sa sb : Nat)
    (hmean : h (averageMean a b sa sb) = averageMean (h a) (h b) sa sb) :
    h (average a b sa sb) = average (h a) (h b) sa sb := by
  have hl : h (averageLeast a b) = averageLeast (h a) (h b) := by
    unfold averageLeast; rw [hlt]; split <;> rfl
  rw [average_eq_clamp, average_eq_clamp, ← hmean, ← hl, hlt]
  split <;> rfl

end Kodama.Gen
