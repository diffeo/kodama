/-
Size-aware reducibility (specification side, any number type).

`Spec.Reducible α m` (`Lemmas/PrimGreedySpec.lean`) quantifies over ALL triples of sizes, including
`0`.  The sizes that occur along a greedy run are positive (`LiveSizePos`: true of `init`, kept by
`merge`), so the run theorems are stated with the weaker `ReduciblePos α m`: the statement of
`Reducible` restricted to `0 < sa`, `0 < sb`, `0 < sx`.  Under `ReduciblePos`, `LiveSizePos` and no
NaN in the tables, the raw heights of a greedy run never decrease (`greedy_heights_mono`), also when
its recorded heights are right only up to order-equivalence (`greedyUpTo_heights_mono`).
`ReduciblePos` is threshold reducibility `LwGeOn` at the threshold `d(a,b)` (`LwGeOn.reduciblePos`);
for which methods it holds is said at `Reducible`.

No number law beyond `OrderLaws` is used in this file.
-/
import Kodama.Lemmas.PrimGreedySpec
import Kodama.Lemmas.SpecUpTo
namespace Kodama.Spec
variable {α : Type} [Num α]

def ReduciblePos (α : Type) [Num α] (m : Method) : Prop :=
  ∀ (dax dbx dab : α) (sa sb sx : Nat), 0 < sa → 0 < sb → 0 < sx →
    Num.isNaN dax = false → Num.isNaN dbx = false →
    Num.isNaN dab = false → Num.lt dax dab = false → Num.lt dbx dab = false →
    Num.lt (lw m dax dbx dab sa sb sx) dab = false

theorem reduciblePos_of_reducible {m : Method} (h : Reducible α m) : ReduciblePos α m :=
  fun dax dbx dab sa sb sx _ _ _ => h dax dbx dab sa sb sx

/-- The threshold at the merged distance itself. -/
theorem LwGeOn.reduciblePos (L : OrderLaws α) {m : Method} (h : LwGeOn (fun _ : α => True) m) :
    ReduciblePos α m :=
  fun dax dbx dab sa sb sx hsa hsb _ na nb nab h1 h2 =>
    h sa sb sx dab dax dbx dab hsa hsb trivial trivial trivial trivial nab na nb nab (L.irrefl _) h1 h2

theorem merge_LowerBound_pos {m : Method} (hred : ReduciblePos α m) {s : NState α} {st : Step α}
    (ha : AdmissibleUpTo m s st) (hlt : ∀ l ∈ s.live, l < s.next) (ht : TableNoNaN s)
    (hp : LiveSizePos s) : LowerBound (merge m s st.c1 st.c2) (s.D st.c1 st.c2) := by
  obtain ⟨h1, h2, hc, hmin, -, -⟩ := ha
  exact merge_TableGood_of_upd hlt hmin fun x hx hxa hxb =>
    hred _ _ _ _ _ _ (hp _ h1) (hp _ h2) (hp _ hx)
      (ht _ h1 x hx (Ne.symm hxa)) (ht _ h2 x hx (Ne.symm hxb)) (ht _ h1 _ h2 (Nat.ne_of_lt hc))
      (hmin _ h1 x hx (Ne.symm hxa)) (hmin _ h2 x hx (Ne.symm hxb))

/-- All raw heights of a run from a reachable state `s` that is greedy up to order-equivalence of
the recorded heights are `≥` any lower bound of the table of `s`. -/
theorem Reached.rawHeights_ge (L : OrderLaws α) {m : Method} (hred : ReduciblePos α m) {n : Nat}
    {data : Array α} (hnn : NoNaNRun m n data) :
    ∀ (l : List (Step α)) {i : Nat} {s : NState α} (h : α), Reached m n data i s →
      GreedyFromUpTo m s l → LowerBound s h →
      ∀ v ∈ rawHeights m s l, Num.lt v h = false := by
  intro l
  induction l with
  | nil => intro i s h _ _ _ v hv; cases hv
  | cons st r ih =>
    intro i s h hr hg hlb v hv
    obtain ⟨ha, hg⟩ := hg
    have ht : TableNoNaN s := hnn.table hr
    have hd0 := hlb _ ha.1 _ ha.2.1 (Nat.ne_of_lt ha.2.2.1)
    rcases List.mem_cons.1 hv with rfl | hv
    · exact hd0
    · exact L.le_trans h _ v (ht _ ha.1 _ ha.2.1 (Nat.ne_of_lt ha.2.2.1)) hd0
        (ih _ (hr.step_upTo ha) hg (merge_LowerBound_pos hred ha hr.good.st.lt ht hr.good.pos) v hv)

theorem greedyUpTo_heights_mono (L : OrderLaws α) {m : Method} (hred : ReduciblePos α m) {n : Nat}
    {data : Array α} (hnn : NoNaNRun m n data) {l : List (Step α)}
    (hg : GreedyFromUpTo m (init m n data) l) :
    (rawHeights m (init m n data) l).Pairwise (fun a b => Num.lt b a = false) := by
  suffices ∀ (l : List (Step α)) {i : Nat} {s : NState α}, Reached m n data i s →
      GreedyFromUpTo m s l → (rawHeights m s l).Pairwise (fun a b => Num.lt b a = false) from
    this l .start hg
  intro l
  induction l with
  | nil => exact fun _ _ => List.Pairwise.nil
  | cons st r ih =>
    intro i s hr ⟨ha, hg⟩
    exact List.pairwise_cons.2 ⟨Reached.rawHeights_ge L hred hnn r _ (hr.step_upTo ha) hg
      (merge_LowerBound_pos hred ha hr.good.st.lt (hnn.table hr) hr.good.pos),
      ih (hr.step_upTo ha) hg⟩

theorem greedy_heights_mono (L : OrderLaws α) {m : Method} (hred : ReduciblePos α m) {n : Nat}
    {data : Array α} (hnn : NoNaNRun m n data) {l : List (Step α)}
    (hg : GreedyFrom m (init m n data) l) :
    (rawHeights m (init m n data) l).Pairwise (fun a b => Num.lt b a = false) :=
  greedyUpTo_heights_mono L hred hnn (hg.upTo L)

end Kodama.Spec
