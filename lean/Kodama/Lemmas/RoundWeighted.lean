/-
Rounding-error analysis of WEIGHTED linkage (WPGMA, `Gen.weighted a b = half·(a + b)`) along merge
trees — tree level.

Setting as in `Lemmas/RoundTree.lean`, but the base dissimilarities are STRICTLY POSITIVE, in
`[dlo, dhi]` (`BaseOkW`): the recursively halved mean `Crit.wdist` weights the pair `(i, j)` by
`2^-(depth i + depth j)`, so with zero entries allowed its non-zero values could be as small as
`dlo/2ⁿ` and genuinely underflow; with positive entries `dlo ≤ wdist ≤ dhi`.  Range conditions
(`RangeOkW`): `2·lo ≤ dlo·(1−u)^(2n+1)`, `2·dhi ≤ hi·(1−u)^(2n+1)`.

`RWgt … s t v` says that `v` is finite and `val v` is within `2·(|s| + |t| − 2)` rounding factors of
`Crit.wdist d s t` (two operations per update: `+`, `× half`).  It is propagated by the weighted update
(`lwCompat_RWgt`), hence any value obtained from the input entries by iterating `Gen.weighted` along two
disjoint merge trees (`WgtComputed`) is within that many factors of the recursively halved mean of the
ORIGINAL entries (`wgtComputed_near`).

The link to `nnchain_with` is `C02_nnchain_weighted_rounded` (`Props/C02Rounding.lean`).  The chain
algorithm needs reducibility (`ChainGe α .weighted`: `half·(a+b) ≥ min(a,b)`), which follows from
MONOTONICITY of IEEE rounding but not from the standard model (an adversarial `δ` may push `half·(a+a)`
below `a`); unlike `method::average`, `method::weighted` has no clamp — so that theorem takes
`ChainGeOn ok .weighted` (reducibility on a domain `ok` containing the values of the run;
`Lemmas/ChainIter.lean`, obtainable from `HalfAddLaws`, `Lemmas/WeightedMono.lean`) as an explicit
hypothesis.
-/
import Kodama.Lemmas.RoundTree
namespace Kodama.Round
open Finset Crit MTree

variable {K : Type} [Field K] [LinearOrder K] [IsStrictOrderedRing K]

structure BaseOkW (n : Nat) (d : Nat → Nat → K) (dlo dhi : K) : Prop where
  symm : ∀ i j, d i j = d j i
  dlo_pos : 0 < dlo
  entry : ∀ i j, i < n → j < n → i ≠ j → dlo ≤ d i j ∧ d i j ≤ dhi

/-- No intermediate result of a weighted update underflows or overflows. -/
structure RangeOkW (u lo hi : K) (n : Nat) (dlo dhi : K) : Prop where
  lo : lo * 2 ≤ dlo * (1 - u) ^ (2 * n + 1)
  hi : 2 * dhi ≤ hi * (1 - u) ^ (2 * n + 1)

section base
variable {n : Nat} {d : Nat → Nat → K} {dlo dhi : K}

theorem half_add_mem {x y : K} (hx : dlo ≤ x ∧ x ≤ dhi) (hy : dlo ≤ y ∧ y ≤ dhi) :
    dlo ≤ (x + y) / 2 ∧ (x + y) / 2 ≤ dhi :=
  ⟨(le_div_iff₀ two_pos).2 (le_of_eq_of_le (mul_two dlo) (add_le_add hx.1 hy.1)),
    (div_le_iff₀ two_pos).2 (le_of_le_of_eq (add_le_add hx.2 hy.2) (mul_two dhi).symm)⟩

theorem BaseOkW.wdistLeaf_mem (B : BaseOkW n d dlo dhi) {i : Nat} (hi : i < n) :
    ∀ t : MTree Nat, (∀ j ∈ t.leaves, j < n) → i ∉ t.leaves →
      dlo ≤ wdistLeaf d i t ∧ wdistLeaf d i t ≤ dhi := by
  intro t
  induction t with
  | leaf j =>
    intro hj hij
    simp only [leaves_leaf, mem_singleton] at hj hij
    exact B.entry i j hi (hj j rfl) hij
  | node l r ihl ihr =>
    intro hj hij
    simp only [leaves_node, mem_union, not_or] at hj hij
    exact half_add_mem (ihl (fun j h => hj j (Or.inl h)) hij.1) (ihr (fun j h => hj j (Or.inr h)) hij.2)

theorem BaseOkW.wdist_mem (B : BaseOkW n d dlo dhi) :
    ∀ s t : MTree Nat, (∀ i ∈ s.leaves, i < n) → (∀ j ∈ t.leaves, j < n) →
      Disjoint s.leaves t.leaves → dlo ≤ wdist d s t ∧ wdist d s t ≤ dhi := by
  intro s
  induction s with
  | leaf i =>
    intro t hs ht hd
    simp only [leaves_leaf, mem_singleton] at hs
    simp only [leaves_leaf, disjoint_singleton_left] at hd
    exact B.wdistLeaf_mem (hs i rfl) t ht hd
  | node l r ihl ihr =>
    intro t hs ht hd
    simp only [leaves_node, mem_union] at hs
    rw [leaves_node, disjoint_union_left] at hd
    rw [wdist_node_left]
    exact half_add_mem (ihl t (fun j h => hs j (Or.inl h)) ht hd.1)
      (ihr t (fun j h => hs j (Or.inr h)) ht hd.2)

end base

variable {α : Type} [Num α]

structure RWgt (val : α → K) (fin : α → Prop) (u : K) (n : Nat) (d : Nat → Nat → K)
    (s t : MTree Nat) (v : α) : Prop where
  ls : ∀ i ∈ s.leaves, i < n
  lt : ∀ i ∈ t.leaves, i < n
  disj : Disjoint s.leaves t.leaves
  fin : fin v
  near : Near u (2 * (s.leaves.card + t.leaves.card - 2)) (wdist d s t) (val v)

section rwgt
variable {val : α → K} {fin : α → Prop} {u lo hi dlo dhi : K} {N n : Nat} {d : Nat → Nat → K}

omit [Num α] in
theorem RWgt.range (h0 : 0 ≤ u) (hu : u < 1) (B : BaseOkW n d dlo dhi) {s t : MTree Nat} {v : α}
    (h : RWgt val fin u n d s t v) :
    dlo * (1 - u) ^ (2 * n) ≤ val v ∧ val v ≤ dhi / (1 - u) ^ (2 * n) := by
  have hst := h.disj
  have cst := card_add_le_of_lt h.ls h.lt hst
  have hk : 2 * (s.leaves.card + t.leaves.card - 2) ≤ 2 * n := by omega
  obtain ⟨a1, a2⟩ := B.wdist_mem s t h.ls h.lt hst
  have hA : 0 ≤ wdist d s t := le_trans B.dlo_pos.le a1
  have hnear := h.near.mono h0 hu hA hk
  have hp := pow_w_pos hu (2 * n)
  refine ⟨le_trans (mul_le_mul_of_nonneg_right a1 hp.le) hnear.1, ?_⟩
  rw [le_div_iff₀ hp]
  exact le_trans hnear.2 a2

omit [IsStrictOrderedRing K] [Num α] in
theorem RWgt.symm (B : BaseOkW n d dlo dhi) {s t : MTree Nat} {v : α}
    (h : RWgt val fin u n d s t v) : RWgt val fin u n d t s v where
  ls := h.lt
  lt := h.ls
  disj := h.disj.symm
  fin := h.fin
  near := by
    rw [wdist_symm B.symm, Nat.add_comm]
    exact h.near

omit [IsStrictOrderedRing K] [Num α] in
theorem RWgt.leaf {i j : Nat} (hi : i < n) (hj : j < n) (hij : i ≠ j) {v : α} (fv : fin v)
    (hv : val v = d i j) : RWgt val fin u n d (leaf i) (leaf j) v where
  ls := by intro x hx; rw [leaves_leaf, mem_singleton] at hx; omega
  lt := by intro x hx; rw [leaves_leaf, mem_singleton] at hx; omega
  disj := by rw [leaves_leaf, leaves_leaf, disjoint_singleton]; exact hij
  fin := fv
  near := by
    simp only [leaves_leaf, card_singleton, wdist_leaf_leaf]
    rw [hv]
    exact Near.refl u _

theorem RWgt.step (RM : Model val fin u lo hi N) (B : BaseOkW n d dlo dhi)
    (Rg : RangeOkW u lo hi n dlo dhi) {ta tb tx : MTree Nat} {va vb : α}
    (hab : Disjoint ta.leaves tb.leaves) (hax : Disjoint ta.leaves tx.leaves)
    (hbx : Disjoint tb.leaves tx.leaves)
    (ha : RWgt val fin u n d ta tx va) (hb : RWgt val fin u n d tb tx vb) :
    RWgt val fin u n d (node ta tb) tx (Gen.weighted va vb) := by
  have h0 := RM.u_nonneg
  have hu := RM.u_lt_one
  have hw : 0 < 1 - u := sub_pos.2 hu
  have pa := ta.leaves_nonempty.card_pos
  have pb := tb.leaves_nonempty.card_pos
  have px := tx.leaves_nonempty.card_pos
  have hls := leaves_node_lt ha.ls hb.ls
  obtain ⟨a1, a2⟩ := B.wdist_mem ta tx ha.ls ha.lt hax
  obtain ⟨b1, b2⟩ := B.wdist_mem tb tx hb.ls hb.lt hbx
  have hA : 0 ≤ wdist d ta tx := le_trans B.dlo_pos.le a1
  have hB : 0 ≤ wdist d tb tx := le_trans B.dlo_pos.le b1
  obtain ⟨ra1, ra2⟩ := ha.range h0 hu B
  obtain ⟨rb1, rb2⟩ := hb.range h0 hu B
  have hp := pow_w_pos hu (2 * n)
  have hl : 0 < dlo * (1 - u) ^ (2 * n) := mul_pos B.dlo_pos hp
  have hlh : dlo * (1 - u) ^ (2 * n) ≤ dhi / (1 - u) ^ (2 * n) := le_trans ra1 ra2
  have e1 : dlo * (1 - u) ^ (2 * n) * (1 - u) = dlo * (1 - u) ^ (2 * n + 1) := by
    rw [pow_succ]; ring
  obtain ⟨fr, nr⟩ := RM.weighted_near ha.fin hb.fin hA hB ha.near hb.near hl hlh
    (Or.inr ⟨ra1, ra2⟩) (Or.inr ⟨rb1, rb2⟩) (by rw [e1]; exact Rg.lo) (by
      have e : 2 * (dhi / (1 - u) ^ (2 * n)) = 2 * dhi / (1 - u) ^ (2 * n) := by ring
      rw [e, div_le_iff₀ hp]
      have e2 : hi * (1 - u) * (1 - u) ^ (2 * n) = hi * (1 - u) ^ (2 * n + 1) := by
        rw [pow_succ]; ring
      rw [e2]; exact Rg.hi)
  refine ⟨hls, ha.lt, by rw [leaves_node]; exact disjoint_union_left.mpr ⟨hax, hbx⟩, fr, ?_⟩
  rw [wdist_node_left, leaves_node, card_union_of_disjoint hab]
  have hmean : 0 ≤ (wdist d ta tx + wdist d tb tx) / 2 := div_nonneg (add_nonneg hA hB) zero_le_two
  refine nr.mono h0 hu hmean ?_
  omega

theorem lwCompat_RWgt (RM : Model val fin u lo hi N) (B : BaseOkW n d dlo dhi)
    (Rg : RangeOkW u lo hi n dlo dhi) : LWCompat .weighted (RWgt val fin u n d) where
  symm := fun _ _ _ h => h.symm B
  step := fun _ _ _ _ _ _ hab hax hbx ha hb _ => RWgt.step RM B Rg hab hax hbx ha hb

end rwgt

inductive WgtComputed (n : Nat) (D : Nat → Nat → α) : MTree Nat → MTree Nat → α → Prop
  | leaf (i j : Nat) : i < n → j < n → i ≠ j → WgtComputed n D (leaf i) (leaf j) (D i j)
  | symm {s t : MTree Nat} {v : α} : WgtComputed n D s t v → WgtComputed n D t s v
  | step {ta tb tx : MTree Nat} {va vb : α} :
      Disjoint ta.leaves tb.leaves → Disjoint ta.leaves tx.leaves → Disjoint tb.leaves tx.leaves →
      WgtComputed n D ta tx va → WgtComputed n D tb tx vb →
      WgtComputed n D (node ta tb) tx (Gen.weighted va vb)

theorem wgtComputed_near {val : α → K} {fin : α → Prop} {u lo hi dlo dhi : K} {N n : Nat}
    (RM : Model val fin u lo hi N) (D : Nat → Nat → α)
    (B : BaseOkW n (fun i j => val (D i j)) dlo dhi) (Rg : RangeOkW u lo hi n dlo dhi)
    (hfin : ∀ i j, i < n → j < n → i ≠ j → fin (D i j))
    {s t : MTree Nat} {v : α} (h : WgtComputed n D s t v) :
    RWgt val fin u n (fun i j => val (D i j)) s t v := by
  induction h with
  | leaf i j hi hj hij => exact RWgt.leaf hi hj hij (hfin i j hi hj hij) rfl
  | symm _ ih => exact ih.symm B
  | step hab hax hbx _ _ iha ihb => exact RWgt.step RM B Rg hab hax hbx iha ihb

end Kodama.Round
