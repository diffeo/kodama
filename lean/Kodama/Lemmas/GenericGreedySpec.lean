/-
The value hypotheses of the `generic_with` theorems, discharged.

* `LBClosed G m` (`Lemmas/GenericInv.lean`; used only for the five methods whose range 1 does NOT
  lower the priority: single, complete, average, weighted, Ward) is threshold reducibility of the
  formula on `G` (`Spec.LwGeOn.lbClosed`): a theorem for single, complete, the clamped average and
  the guarded, clamped Ward from `OrderLaws` alone (`lwGeOn_single`, …, `lbClosed_average`,
  `lbClosed_ward`); it also follows from `Spec.Reducible` for the four methods that do not read the
  merged distance (`lbClosed_of_reducible`).
* `GoodSet G`, `UpdClosed G m` and inputs in `G` imply `Spec.RunGood`, hence `Spec.NoNaNRun` — every
  table reached by ANY greedy run of the specification has good (hence non-NaN) entries at live
  pairs.  So the theorems about the sorted methods need no separate `NoNaNRun` hypothesis.
-/
import Kodama.Lemmas.GenericInvUpdate
import Kodama.Lemmas.OnSquares
import Kodama.Lemmas.MstPrimEntry
import Kodama.Lemmas.PrimGreedySpec
namespace Kodama
open Spec
variable {α : Type} [Num α]

/-- A successful update of `generic_with` is the Lance–Williams value of the method, at some size of
the third cluster and at any `size_a`, `size_b`, merged distance that the method does not read. -/
theorem updFn_ok_lw {m : Method} {sizes : Array Nat} {sa sb : Nat} {dist : α} {x : Nat}
    {va vb v : α} (h : updFn m sizes sa sb dist x va vb = .ok v) (d0 : α) (ga gb : Nat)
    (hs : usesSizes m = true → sa = ga ∧ sb = gb) (hd : usesDist m = true → dist = d0) :
    ∃ sx, v = lw m va vb d0 ga gb sx := by
  cases m
  case ward =>
    obtain ⟨rfl, rfl⟩ := hs rfl
    cases hd rfl
    cases hx : aget sizes x with
    | error e => simp [updFn, hx, bind, Except.bind] at h
    | ok sx =>
      simp only [updFn, hx, bind, Except.bind, pure, Except.pure, Except.ok.injEq] at h
      exact ⟨sx, h.symm⟩
  case average => obtain ⟨rfl, rfl⟩ := hs rfl; exact ⟨0, (Except.ok.inj h).symm⟩
  case centroid => obtain ⟨rfl, rfl⟩ := hs rfl; cases hd rfl; exact ⟨0, (Except.ok.inj h).symm⟩
  case median => cases hd rfl; exact ⟨0, (Except.ok.inj h).symm⟩
  all_goals exact ⟨0, (Except.ok.inj h).symm⟩

/-- Reducibility of the formula on a good set is `LBClosed`: where the method does not read the
merged distance or the two sizes, take the bound itself and `1`, `1`. -/
theorem Spec.LwGeOn.lbClosed (L : OrderLaws α) {G : α → Prop}
    (hG : ∀ v, G v → Num.isNaN v = false) {m : Method} (h : LwGeOn G m) : LBClosed G m := by
  intro sizes sa sb dist x va vb v p _ hs hd gva gvb gp hv h1 h2
  obtain ⟨sx, rfl⟩ := updFn_ok_lw hv (if usesDist m then dist else p)
    (if usesSizes m then sa else 1) (if usesSizes m then sb else 1)
    (fun e => by simp [e]) (fun e => by simp [e])
  have hd' : G (if usesDist m then dist else p) ∧
      Num.lt p (if usesDist m then dist else p) = false := by
    cases e : usesDist m
    · exact ⟨gp, L.irrefl p⟩
    · exact hd e
  have hs' : 0 < (if usesSizes m then sa else 1) ∧ 0 < (if usesSizes m then sb else 1) := by
    cases e : usesSizes m
    · exact ⟨Nat.one_pos, Nat.one_pos⟩
    · exact hs e
  exact h _ _ sx _ va vb p hs'.1 hs'.2 hd'.1 gva gvb gp (hG _ hd'.1) (hG _ gva) (hG _ gvb)
    (hG _ gp) hd'.2 h1 h2

/-- `Spec.Reducible` gives `LBClosed` for the methods that do not read the merged distance
(instantiate the merged distance of `Reducible` with the bound itself). -/
theorem lbClosed_of_reducible {G : α → Prop} (hG : ∀ v, G v → Num.isNaN v = false) {m : Method}
    (hm : usesDist m = false) (hred : Reducible α m) : LBClosed G m := by
  intro sizes sa sb dist x va vb v p _ _ _ gva gvb gp h h1 h2
  obtain ⟨sx, rfl⟩ := updFn_ok_lw h p sa sb (fun _ => ⟨rfl, rfl⟩) (fun e => by rw [hm] at e; cases e)
  exact hred va vb p sa sb sx (hG _ gva) (hG _ gvb) (hG _ gp) h1 h2

/-- The clamped average and the guarded, clamped Ward are `LBClosed` in every ordered number type
and for every good set — no exact arithmetic (`lwGeOn_average`, `lwGeOn_ward`). -/
theorem lbClosed_average (L : OrderLaws α) {G : α → Prop} (gs : GoodSet G) : LBClosed G .average :=
  (lwGeOn_average L G).lbClosed L gs.notNaN

theorem lbClosed_ward (L : OrderLaws α) {G : α → Prop} (gs : GoodSet G) : LBClosed G .ward :=
  (lwGeOn_ward L G).lbClosed L gs.notNaN

theorem lw_good {G : α → Prop} {m : Method} (hcl : UpdClosed G m) (va vb dab : α)
    (sa sb sx : Nat) (ha : 0 < sa) (hb : 0 < sb) (hx : 0 < sx) (g1 : G va) (g2 : G vb)
    (g3 : G dab) : G (lw m va vb dab sa sb sx) := by
  have e : updFn m #[sx] sa sb dab 0 va vb = .ok (lw m va vb dab sa sb sx) :=
    updFn_eq_lw m #[sx] sa sb dab dab sa sb (fun _ => ⟨rfl, rfl⟩) (fun _ => rfl) 0 va vb (by simp)
  refine hcl #[sx] sa sb dab 0 va vb _ ?_ (fun _ => ⟨ha, hb⟩) (fun _ => g3) g1 g2 e
  intro i hi
  have hi0 : i = 0 := by simpa using hi
  subst hi0
  simpa using hx

theorem merge_TableGood {G : α → Prop} {m : Method} (hcl : UpdClosed G m) {s : NState α}
    {a b : Nat} (ha : a ∈ s.live) (hb : b ∈ s.live) (hab : a ≠ b)
    (hlt : ∀ l ∈ s.live, l < s.next) (ht : TableGood G s) (hp : LiveSizePos s) :
    TableGood G (merge m s a b) :=
  merge_TableGood_of_upd hlt ht fun x hx hxa hxb =>
    lw_good hcl _ _ _ _ _ _ (hp a ha) (hp b hb) (hp x hx)
      (ht a ha x hx (Ne.symm hxa)) (ht b hb x hx (Ne.symm hxb)) (ht a ha b hb hab)

theorem init_TableGood {G : α → Prop} (m : Method) (data : Array α) (n : Nat) (h2 : 2 ≤ n)
    (hs : n < 2147483648) (hl : 2 * data.size = n * (n - 1))
    (hin : ∀ i (h : i < (squareData m data).size), G (squareData m data)[i]) :
    TableGood G (init m n data) := by
  have hl' : 2 * (squareData m data).size = n * (n - 1) := by rw [squareData_size]; exact hl
  have hM0 : MGood G n ({ data := squareData m data, n := n, acc := 0 } : Mat α) :=
    ⟨⟨h2, hs, hl'⟩, rfl, hin⟩
  have key : ∀ x y, x < y → y < n → G ((init m n data).D x y) := by
    intro x y hxy hyn
    obtain ⟨v, hv, gv⟩ := hM0.get true x y hxy hyn
    rw [init_get true m data n hs hl x y hxy hyn] at hv
    injection hv with hv
    rw [hv]; exact gv
  intro x hx y hy hxy
  have hx' : x < n := (mem_init_live m n data x).mp hx
  have hy' : y < n := (mem_init_live m n data y).mp hy
  by_cases c : x < y
  · exact key x y c hy'
  · rw [init_DSymm m n data x y]
    exact key y x (by omega) hx'

/-- The initial table consists of the input entries, squared for the methods on squares. -/
theorem init_TableGood_entries {G : α → Prop} (m : Method) (data : Array α) (n : Nat) (h2 : 2 ≤ n)
    (hs : n < 2147483648) (hl : 2 * data.size = n * (n - 1))
    (hin : ∀ e ∈ data.toList, G (if m.onSquares then Num.mul e e else e)) :
    TableGood G (init m n data) :=
  init_TableGood m data n h2 hs hl (squareData_good m data hin)

/-- The closure hypothesis implies the run-dependent one (`Spec.RunGood`, the hypothesis of the
`_run` theorems): a set closed under the update that contains the inputs contains every table value
of every greedy run. -/
theorem runGood_of_updClosed {G : α → Prop} {m : Method} (hcl : UpdClosed G m)
    {n : Nat} {data : Array α} (h0 : TableGood G (init m n data)) : RunGood G m n data := by
  refine runGood_iff.2 fun i s hr => ?_
  induction hr with
  | start => exact h0
  | step hr ha ih =>
    exact merge_TableGood hcl ha.mem1 ha.mem2 (Nat.ne_of_lt ha.lt) hr.good.st.lt ih hr.good.pos

end Kodama
