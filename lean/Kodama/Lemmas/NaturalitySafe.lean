/-
Naturality in the form C09 / C10 use:

`runWith_natural_safe` — observable naturality (dendrogram, matrix left behind, panic class) for
every entry point and ARBITRARY prior objects on both sides, where the only things assumed about
the sentinels are
  * `SentinelSafe h₂` (comparisons of data with `T::max_value()` agree) for the calls that go
    through `generic`,
  * `h₂ ∞ = ∞` for the calls that go through `mst`.
`h₂ MAX = MAX` is the special case `SentinelSafe.of_fix`.
-/
import Kodama.Lemmas.NaturalityRun
namespace Kodama

/-! ### What an equation between the observable parts says in elementary terms -/

section Out
variable {α β : Type} {h h₂ : α → β} {e : R (State α × Dendrogram α × Mat α)}
  {e' : R (State β × Dendrogram β × Mat β)}
  (k : out <$> e' = mapOut h h₂ <$> (out <$> e))
include k

/-- The two calls return together, and a property of what the mapped call returns is that
property of the image of what the other returns. -/
theorem mapOut_ok_iff (P : Dendrogram β → Mat β → Prop) :
    (∃ st2 d2 M2, e' = .ok (st2, d2, M2) ∧ P d2 M2) ↔
      ∃ st1 d1 M1, e = .ok (st1, d1, M1) ∧ P (mapDend h d1) (mapMat h₂ M1) := by
  rcases e with p | ⟨st1, d1, M1⟩ <;> rcases e' with q | ⟨st2, d2, M2⟩
  · simp
  · cases k
  · cases k
  · cases (Except.ok.inj k : (d2, M2) = (mapDend h d1, mapMat h₂ M1))
    exact ⟨fun ⟨_, _, _, e, hP⟩ => by cases e; exact ⟨_, _, _, rfl, hP⟩,
      fun ⟨_, _, _, e, hP⟩ => by cases e; exact ⟨_, _, _, rfl, hP⟩⟩

theorem mapOut_ok {st1 : State α} {d1 : Dendrogram α} {M1 : Mat α} (he : e = .ok (st1, d1, M1)) :
    ∃ st2, e' = .ok (st2, mapDend h d1, mapMat h₂ M1) := by
  obtain ⟨st2, _, _, he', rfl, rfl⟩ :=
    (mapOut_ok_iff k fun d2 M2 => d2 = mapDend h d1 ∧ M2 = mapMat h₂ M1).mpr
      ⟨_, _, _, he, rfl, rfl⟩
  exact ⟨st2, he'⟩

theorem mapOut_error {p : Panic} (he : e = .error p) : e' = .error p := by
  subst he
  cases e' with
  | error q => cases k; rfl
  | ok r => cases k

end Out

variable {α β : Type} [Num α] [Num β]

theorem RelR.out_eq {hd h h₂ : α → β} {e : R (State α × Dendrogram α × Mat α)}
    {e' : R (State β × Dendrogram β × Mat β)} (r : RelR (ResR hd h h₂) e e') :
    out <$> e' = mapOut h h₂ <$> (out <$> e) := by
  rw [Functor.map_map]
  exact (r.mono fun _ _ ⟨_, _, ha⟩ => ha ▸ rfl).map_eq.symm

theorem runWith_natural_safe {m : Method} {h h₂ : α → β} (A : Hom m h h₂) {alg : Alg}
    (hmax : usesMax alg m = true → SentinelSafe h₂)
    (hinf : usesInf alg m = true → h₂ Num.infinity = Num.infinity)
    (chk : Bool) (st : State α) (st' : State β) (d : Dendrogram α) (d' : Dendrogram β)
    (data : Array α) (n : Nat) :
    out <$> runWith chk alg m st' d' (data.map h) n
      = mapOut h h₂ <$> (out <$> runWith chk alg m st d data n) := by
  -- The prior objects do not matter (C08), so the mapped side may start from images of `st`, `d`.
  cases hu : usesMax alg m
  · -- `MAX` is never compared with data: the priorities may be mapped by a constant that fixes it
    let hd : α → β := if usesInf alg m = true then h₂ else fun _ => Num.infinity
    have hd1 : hd Num.infinity = Num.infinity := by
      simp only [hd]; split
      · next e => exact hinf e
      · rfl
    have hd2 : usesInf alg m = true → hd = h₂ := by intro e; simp only [hd, e, if_true]
    rw [runWith_state_irrelevant chk alg m st' (mapState hd (fun _ => Num.maxValue) st) d' (mapDend h d),
      runWith_nat A hd1 rfl hd2 (fun e => by rw [hu] at e; cases e) chk st d data n]
    cases runWith chk alg m st d data n <;> rfl
  · have key := (runWith_state_irrelevant chk .generic m st' (mapState (fun _ => Num.infinity) h₂ st) d' d'
      (data.map h) n).trans (genericWith_rel A.ord (hmax hu) A.upd A.sq rfl chk st _
        (.of_map _ h₂ st) d d' data n).out_eq
    cases alg <;> simp only [usesMax] at hu
    · cases hu
    · cases hu
    · exact key
    · cases hu
    · have e : dispatch m = .generic := by simpa using hu
      simp only [runWith, linkageWith, e]
      exact key

end Kodama
