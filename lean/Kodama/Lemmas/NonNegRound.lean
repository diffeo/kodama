/-
Non-negativity of the tables of a greedy run UNDER FLOATING-POINT ROUNDING for the three methods whose
update subtracts (median, centroid, Ward).

The update is `p − q` with `q` at most a fixed fraction of `p` WHEN THE MERGED PAIR IS A CLOSEST PAIR
(`c ≤ a`, `c ≤ b`):
  median    `p = ½(a+b) ≥ c`,                        `q = c/4`;
  centroid  `p = (sa·a+sb·b)/(sa+sb) ≥ c`,           `q = sa·sb·c/(sa+sb)² ≤ c/4`;
  Ward      `p = (sx+sa)·a+(sx+sb)·b ≥ (2sx+sa+sb)·c`, `q = sx·c ≤ p/2`   (numerator of the quotient).
The minuends are computed expressions of the other updates (`Gen.weighted a b` for median, the weighted
sum of `Gen.averageMean` for centroid and Ward): their rounding is `Model.weighted_val`, `Model.ap_wsum`.
So there is no catastrophic cancellation: a few rounding factors `(1±u)` on `p` and on `q` cannot make
the computed `q` exceed the computed `p`, and the computed difference of two finite numbers `p̂ ≥ q̂ ≥ 0`
is finite and `≥ 0`.

The rounding model is `Round.SubModel`: `Round.Model` (`Lemmas/RoundModel.lean`) plus an exact constant
`0.25` and the law of `+ × /` for `−` as well.  Like `Round.Model` it is a HYPOTHESIS (trusted for IEEE
binary32/64, not proved).  The range condition of `sub` is discharged in `sub_frac`: the minuend is in
range and the subtrahend is at most `¾` of it, so the exact difference is at least a quarter of the
minuend.

The run-level statement `C12_greedy_table_nonneg_rounded` (`Props/C12NonNeg.lean`, by `runGood_strengthen`, `Lemmas/NonNegSpec.lean`)
still assumes that no table value of any greedy run of the specification overflows or underflows (the
run-dependent hypothesis `RunGood` of the `generic_with` theorems); what it adds is the sign.
-/
import Kodama.Lemmas.RoundBound
import Kodama.Lemmas.WardClamp
import Mathlib.Tactic.Linarith
import Mathlib.Tactic.Ring
namespace Kodama

namespace Round
variable {K : Type} [Field K] [LinearOrder K] [IsStrictOrderedRing K]

/-- The standard model extended to the two operations the subtracting formulas use: `−` obeys the same
law as `+ × /`, and the constant `0.25` is exact. -/
structure SubModel {α : Type} [Num α] (val : α → K) (fin : α → Prop) (u lo hi : K) (N : Nat) :
    Prop extends Model val fin u lo hi N where
  sub : ∀ a b, fin a → fin b → InRange lo hi (val a - val b) →
    fin (Num.sub a b) ∧ ∃ δ : K, |δ| ≤ u ∧ val (Num.sub a b) = (val a - val b) * (1 + δ)
  quarter : fin (Num.quarter : α) ∧ val (Num.quarter : α) = 1 / 4

theorem In0.of_inRange {l h x : K} (hx : InRange l h x) (h0 : 0 ≤ x) : In0 l h x := by
  rcases hx with hz | hr
  · exact Or.inl hz
  · rw [abs_of_nonneg h0] at hr; exact Or.inr hr

/-- The range bookkeeping: every exact intermediate quantity is `0` or in `[Lm, Hm]`, and `[Lm, Hm]`
widened by 8 rounding factors stays inside the normal range `[lo, hi]`. -/
structure Rng (u lo hi Lm Hm : K) : Prop where
  Lm_pos : 0 < Lm
  Lm_le : Lm ≤ Hm
  lo_le : lo ≤ Lm * (1 - u) ^ 8
  hi_ge : Hm ≤ hi * (1 - u) ^ 8

theorem Rng.hi_pos {u lo hi Lm Hm : K} (R : Rng u lo hi Lm Hm) (hu : u < 1) : 0 < hi :=
  (mul_pos_iff_of_pos_right (pow_w_pos hu 8)).1
    (lt_of_lt_of_le (lt_of_lt_of_le R.Lm_pos R.Lm_le) R.hi_ge)

theorem Rng.lo_le_pow {u lo hi Lm Hm L : K} (R : Rng u lo hi Lm Hm) (h0 : 0 ≤ u) (hu : u < 1)
    {k : Nat} (hk : k ≤ 8) (hL : Lm ≤ L) : lo ≤ L * (1 - u) ^ k :=
  le_trans R.lo_le
    (mul_le_mul hL (pow_w_anti h0 hu hk) (pow_w_pos hu 8).le (le_trans R.Lm_pos.le hL))

theorem Rng.le_hi_pow {u lo hi Lm Hm H : K} (R : Rng u lo hi Lm Hm) (h0 : 0 ≤ u) (hu : u < 1)
    {k : Nat} (hk : k ≤ 8) (hH : H ≤ Hm) : H ≤ hi * (1 - u) ^ k :=
  le_trans hH (le_trans R.hi_ge
    (mul_le_mul_of_nonneg_left (pow_w_anti h0 hu hk) (R.hi_pos hu).le))

theorem Rng.ok {u lo hi Lm Hm X : K} (R : Rng u lo hi Lm Hm) (h0 : 0 ≤ u) (hu : u < 1) {k : Nat}
    (hk : k ≤ 8) (r : In0 Lm Hm X) : ∀ z, Near u k X z → InRange lo hi z :=
  near_inRange hu R.Lm_pos.le r (R.lo_le_pow h0 hu hk le_rfl) (R.le_hi_pow h0 hu hk le_rfl)

namespace SubModel
variable {α : Type} [Num α] {val : α → K} {fin : α → Prop} {u lo hi Lm Hm : K} {N : Nat}

theorem ap_quarter (RM : SubModel val fin u lo hi N) :
    Ap val fin u 0 (1 / 4) (Num.quarter : α) := by
  obtain ⟨f, v⟩ := RM.quarter
  exact ⟨f, by norm_num, by rw [v]; exact Near.refl u _⟩

/-- **Subtraction without catastrophic cancellation**: if the computed subtrahend is at most `3/4` of
the computed minuend, the computed difference is finite, non-negative, and of the magnitude of the
minuend. -/
theorem sub_frac (RM : SubModel val fin u lo hi N) {x y : α} {Lx Hx : K} (fx : fin x)
    (fy : fin y) (y0 : 0 ≤ val y) (hfrac : val y ≤ 3 / 4 * val x) (rx : In0 Lx Hx (val x))
    (hLx : 0 < Lx) (hlo : lo ≤ Lx / 4) (hhi : Hx ≤ hi) :
    fin (Num.sub x y) ∧ 0 ≤ val (Num.sub x y) ∧
      In0 (Lx / 4 * (1 - u)) (Hx / (1 - u)) (val (Num.sub x y)) := by
  have hu := RM.u_lt_one
  have hL4 : 0 ≤ Lx / 4 := div_nonneg hLx.le zero_le_four
  have rd : In0 (Lx / 4) Hx (val x - val y) := by
    rcases rx with hz | ⟨r1, r2⟩
    · rw [hz, mul_zero] at hfrac
      exact Or.inl (by rw [hz, le_antisymm hfrac y0, sub_zero])
    · exact Or.inr ⟨by linarith only [r1, hfrac], by linarith only [r2, y0]⟩
  obtain ⟨f, δ, hδ, e⟩ := RM.sub x y fx fy (rd.inRange hL4 hlo hhi)
  have rr := rd.round hu hL4 hδ
  rw [← e] at rr
  exact ⟨f, rr.nonneg (mul_nonneg hL4 (sub_pos.2 hu).le), rr⟩

/-- For `u ≤ 1/16`, at most `E` rounding factors lose at most `E/16`: a fraction `κ ≤ ¾·(1 − E/16)`
stays below `¾` after them. -/
theorem le_three_quarters_pow_w {u κ : K} (h0 : 0 ≤ u) (hu16 : u ≤ 1 / 16) {e E : Nat}
    (he : e ≤ E) (hκ : κ ≤ 3 / 4 * (1 - (E : K) / 16)) : κ ≤ 3 / 4 * (1 - u) ^ e :=
  hκ.trans (mul_le_mul_of_nonneg_left
    (one_sub_le_pow_w h0 (hu16.trans_lt (by norm_num)) he
      (le_of_le_of_eq (mul_le_mul_of_nonneg_left hu16 (Nat.cast_nonneg E)) (mul_one_div _ _)))
    (by norm_num))

theorem frac_of {u q p T κ : K} {e e' : Nat} (hu : u < 1) (p0 : 0 ≤ p)
    (hq : q * (1 - u) ^ e ≤ κ * T) (hp : T * (1 - u) ^ e' ≤ p) (hκ0 : 0 ≤ κ)
    (hκ : κ ≤ 3 / 4 * (1 - u) ^ (e + e')) : q ≤ 3 / 4 * p := by
  have pe' := pow_w_pos hu e'
  have h1 : q * (1 - u) ^ (e + e') ≤ κ * p := by
    rw [pow_add]
    calc q * ((1 - u) ^ e * (1 - u) ^ e') = (q * (1 - u) ^ e) * (1 - u) ^ e' := by ring
      _ ≤ κ * T * (1 - u) ^ e' := mul_le_mul_of_nonneg_right hq pe'.le
      _ = κ * (T * (1 - u) ^ e') := by ring
      _ ≤ κ * p := mul_le_mul_of_nonneg_left hp hκ0
  have h2 : κ * p ≤ (3 / 4 * p) * (1 - u) ^ (e + e') :=
    le_of_le_of_eq (mul_le_mul_of_nonneg_right hκ p0) (by ring)
  exact le_of_mul_le_mul_right (le_trans h1 h2) (pow_w_pos hu (e + e'))

/-- **The computed difference `p − q` of two computed values** (`p` within `e'` factors of
`P ∈ {0} ∪ [L, H]`, `q` within `e` factors of `Q`) when `Q ≤ κ·T` and `T ≤ P` for a fraction `κ` that
stays below `¾` after `e + e' ≤ E` rounding factors: finite, non-negative, of the magnitude of `P`. -/
theorem ap_sub_frac (RM : SubModel val fin u lo hi N) (R : Rng u lo hi Lm Hm) (hu16 : u ≤ 1 / 16)
    {p q : α} {P Q T κ L H : K} {e e' E : Nat} (hp : Ap val fin u e' P p) (hq : Ap val fin u e Q q)
    (hQ : Q ≤ κ * T) (hT : T ≤ P) (hκ0 : 0 ≤ κ) (hE : e + e' ≤ E)
    (hκ : κ ≤ 3 / 4 * (1 - (E : K) / 16)) (rP : In0 L H P) (hL : 0 < L) (hLm : Lm * 4 ≤ L)
    (hH : H ≤ Hm) (he' : e' ≤ 8) :
    fin (Num.sub p q) ∧ 0 ≤ val (Num.sub p q) ∧
      In0 (L * (1 - u) ^ e' / 4 * (1 - u)) (H / (1 - u) ^ e' / (1 - u)) (val (Num.sub p q)) := by
  have h0 := RM.u_nonneg
  have hu := RM.u_lt_one
  have hfrac : val q ≤ 3 / 4 * val p :=
    frac_of hu (hp.val_nonneg hu) (le_trans hq.near.2 hQ)
      (le_trans (mul_le_mul_of_nonneg_right hT (pow_w_pos hu e').le) hp.near.1) hκ0
      (le_three_quarters_pow_w h0 hu16 hE hκ)
  exact RM.sub_frac hp.f hq.f (hq.val_nonneg hu) hfrac (near_in0 hu hp.near rP)
    (mul_pos hL (pow_w_pos hu e'))
    (le_of_le_of_eq (R.lo_le_pow h0 hu he' ((le_div_iff₀ four_pos).2 hLm))
      (mul_div_right_comm _ _ _).symm)
    ((div_le_iff₀ (pow_w_pos hu e')).2 (R.le_hi_pow h0 hu he' hH))

theorem le_sq_of_two_le {m : K} (h : 2 ≤ m) : m ≤ m * m :=
  le_mul_of_one_le_left (le_trans zero_le_two h) (le_trans one_le_two h)

theorem one_le_sq_of_two_le {m : K} (h : 2 ≤ m) : 1 ≤ m * m :=
  le_trans (le_trans one_le_two h) (le_sq_of_two_le h)

omit [IsStrictOrderedRing K] in
theorem in0_size {Lm Hm m s : K} (hL : Lm ≤ 1) (hH : m * m ≤ Hm) (h1 : 1 ≤ s) (h2 : s ≤ m * m) :
    In0 Lm Hm s :=
  Or.inr ⟨le_trans hL h1, le_trans h2 hH⟩

/-- What `Lm·4m² ≤ l` and `2m²·h ≤ Hm` (`m ≥ 2`) give for the exact intermediate quantities of the
three updates: values `≥ l` divided by at most `m²` (and by 4) stay above `Lm`; values `≤ h`
multiplied by at most `m²`, and sums of two such by at most `m`, stay below `Hm`. -/
theorem range_bounds {Lm Hm l h m : K} (hL : 0 < Lm) (hm : 2 ≤ m) (hh : 0 ≤ h)
    (hLm : Lm * (4 * (m * m)) ≤ l) (hHm : 2 * (m * m * h) ≤ Hm) :
    (Lm ≤ l ∧ Lm * 4 ≤ l ∧ Lm ≤ l / m ∧ Lm ≤ l / (m * m) ∧ Lm * 4 ≤ l / m) ∧
      (m * h ≤ Hm ∧ m * h + m * h ≤ Hm ∧ m * m * h ≤ Hm) := by
  have hm0 : 0 < m := lt_of_lt_of_le two_pos hm
  have hmm := le_sq_of_two_le hm
  have h1mm := one_le_sq_of_two_le hm
  have h4 : m * m ≤ 4 * (m * m) :=
    le_mul_of_one_le_left (le_trans zero_le_one h1mm) (by norm_num)
  have low : ∀ c, c ≤ 4 * (m * m) → Lm * c ≤ l := fun c hc =>
    le_trans (mul_le_mul_of_nonneg_left hc hL.le) hLm
  have h4m : 4 * m ≤ 4 * (m * m) := mul_le_mul_of_nonneg_left hmm zero_le_four
  have hmh : m * h ≤ m * m * h := mul_le_mul_of_nonneg_right hmm hh
  have hmmh : m * m * h ≤ Hm :=
    le_trans (le_mul_of_one_le_left (mul_nonneg (le_trans zero_le_one h1mm) hh) one_le_two) hHm
  refine ⟨⟨le_of_eq_of_le (mul_one Lm).symm (low 1 (le_trans h1mm h4)),
    low 4 (le_mul_of_one_le_right zero_le_four h1mm),
    (le_div_iff₀ hm0).2 (low m (le_trans hmm h4)),
    (le_div_iff₀ (mul_pos hm0 hm0)).2 (low (m * m) h4),
    (le_div_iff₀ hm0).2 (le_of_eq_of_le (mul_assoc Lm 4 m) (low (4 * m) h4m))⟩,
    le_trans hmh hmmh,
    le_trans (le_of_le_of_eq (add_le_add hmh hmh) (two_mul _).symm) hHm, hmmh⟩

/-- **Median**: `½(a+b) − c/4` computed with rounding is finite and `≥ 0` when `c ≤ a, b`. -/
theorem median_nonneg (RM : SubModel val fin u lo hi N) (hu16 : u ≤ 1 / 16) {a b c : α}
    {l h : K} (fa : fin a) (fb : fin b) (fc : fin c) (hl : 0 < l) (hlh : l ≤ h)
    (ra : In0 l h (val a)) (rb : In0 l h (val b)) (rc : In0 l h (val c))
    (hca : val c ≤ val a) (hcb : val c ≤ val b)
    (R : Rng u lo hi Lm Hm) (hLm : Lm * 8 ≤ l) (hHm : 2 * h ≤ Hm) :
    fin (Gen.median a b c) ∧ 0 ≤ val (Gen.median a b c) := by
  have h0 := RM.u_nonneg
  have hu := RM.u_lt_one
  have hLp := R.Lm_pos
  have hh0 : 0 ≤ h := le_trans hl.le hlh
  have hlo := R.lo_le_pow h0 hu (k := 1) (by decide) (L := l / 2) (by linarith only [hLm, hLp])
  have hhi := R.le_hi_pow h0 hu (k := 1) (by decide) hHm
  rw [pow_one] at hlo hhi
  -- the minuend `half·(a + b)` is the weighted update, the subtrahend is `c·quarter`
  have Pp := RM.toModel.weighted_val fa fb hl hlh ra rb (by linarith only [hlo]) hhi
  have rp : In0 (1 / 2 * l) (1 / 2 * (h + h)) (1 / 2 * (val a + val b)) :=
    (ra.add hl.le hh0 hh0 rb).scale one_half_pos
  have rq : In0 (1 / 4 * l) (1 / 4 * h) (val c * (1 / 4)) := by
    rw [mul_comm (val c)]; exact rc.scale (by norm_num)
  have Aq := RM.ap_mul (Model.ap_exact (u := u) fc (rc.nonneg hl.le)) RM.ap_quarter
      (R.ok h0 hu (by decide) (rq.weaken (by linarith only [hLm, hLp]) (by linarith only [hHm, hh0])))
  obtain ⟨fr, r0, -⟩ := RM.ap_sub_frac R hu16 Pp Aq (T := val c) (κ := 1 / 4) (E := 10)
    (le_of_eq (mul_comm _ _)) (by linarith only [hca, hcb]) (by norm_num) (by decide) (by norm_num) rp
    (mul_pos one_half_pos hl) (by linarith only [hLm]) (by linarith only [hHm, hh0]) (by decide)
  exact ⟨fr, r0⟩

/-- **Centroid**: `(sa·a+sb·b)/(sa+sb) − sa·sb·c/(sa+sb)²` computed with rounding is finite and `≥ 0`
when `c ≤ a, b` (`m` bounds the sizes: `sa + sb ≤ m`). -/
theorem centroid_nonneg (RM : SubModel val fin u lo hi N) (hu16 : u ≤ 1 / 16) {a b c : α}
    {sa sb : Nat} {l h m : K} (fa : fin a) (fb : fin b) (fc : fin c) (hl : 0 < l) (hlh : l ≤ h)
    (ra : In0 l h (val a)) (rb : In0 l h (val b)) (rc : In0 l h (val c))
    (hca : val c ≤ val a) (hcb : val c ≤ val b)
    (hsa : 0 < sa) (hsb : 0 < sb) (hN : sa + sb ≤ N) (hm : (sa : K) + (sb : K) ≤ m)
    (R : Rng u lo hi Lm Hm) (hLm1 : Lm ≤ 1) (hLm2 : Lm * (4 * (m * m)) ≤ l)
    (hHm1 : m * m ≤ Hm) (hHm2 : 2 * (m * m * h) ≤ Hm) :
    fin (Gen.centroid a b c sa sb) ∧ 0 ≤ val (Gen.centroid a b c sa sb) := by
  have h0 := RM.u_nonneg
  have hu := RM.u_lt_one
  have c0 := rc.nonneg hl.le
  have hh0 : 0 ≤ h := le_trans hl.le hlh
  -- the sizes: `1 ≤ sa, sb`, `2 ≤ sa + sb ≤ m`, products of two of them in `[1, m²]`
  have hSa1 : (1 : K) ≤ (sa : K) := Nat.one_le_cast.2 hsa
  have hSb1 : (1 : K) ≤ (sb : K) := Nat.one_le_cast.2 hsb
  have hS2 : (2 : K) ≤ (sa : K) + (sb : K) :=
    le_of_eq_of_le one_add_one_eq_two.symm (add_le_add hSa1 hSb1)
  have hS1 : (1 : K) ≤ (sa : K) + (sb : K) := le_trans one_le_two hS2
  have hS0 : (0 : K) < (sa : K) + (sb : K) := lt_of_lt_of_le two_pos hS2
  have hm2 : (2 : K) ≤ m := le_trans hS2 hm
  have hm0 : (0 : K) < m := lt_of_lt_of_le two_pos hm2
  have hSam : (sa : K) ≤ m := le_trans (le_add_of_nonneg_right (Nat.cast_nonneg sb)) hm
  have hSbm : (sb : K) ≤ m := le_trans (le_add_of_nonneg_left (Nat.cast_nonneg sa)) hm
  have hSS1 : (1 : K) ≤ ((sa : K) + (sb : K)) * ((sa : K) + (sb : K)) :=
    one_le_mul_of_one_le_of_one_le hS1 hS1
  have hSSm : ((sa : K) + (sb : K)) * ((sa : K) + (sb : K)) ≤ m * m :=
    mul_le_mul hm hm hS0.le hm0.le
  have hP1 : (1 : K) ≤ (sa : K) * (sb : K) := one_le_mul_of_one_le_of_one_le hSa1 hSb1
  have hPm : (sa : K) * (sb : K) ≤ m * m := mul_le_mul hSam hSbm (Nat.cast_nonneg sb) hm0.le
  have size : ∀ {s : K}, 1 ≤ s → s ≤ m * m → In0 Lm Hm s := in0_size hLm1 hHm1
  obtain ⟨⟨hLml, -, hLmm, hLmmm, hLm4m⟩, -, hU2, hU3⟩ :=
    range_bounds R.Lm_pos hm2 hh0 hLm2 hHm2
  have Csa : Ap val fin u 0 (sa : K) (Num.ofNat sa : α) := RM.ap_ofNat (by omega)
  have Csb : Ap val fin u 0 (sb : K) (Num.ofNat sb : α) := RM.ap_ofNat (by omega)
  have Asab := RM.ap_add Csa Csb (R.ok h0 hu (by decide) (size hS1 (le_trans hm (le_sq_of_two_le hm2))))
  -- the minuend: the rounded weighted sum over the rounded `sa + sb`
  obtain ⟨t3, r3⟩ := RM.toModel.ap_wsum Csa Csb fa fb hl hh0 ra rb hSa1 hSam hSb1 hSbm
    (R.lo_le_pow h0 hu (by decide) hLml) (R.le_hi_pow h0 hu (by decide) hU2)
  have rP := r3.divc hl.le hS1 hm
  have Pp := RM.ap_div t3 Asab hS0 (R.ok h0 hu (by decide) (rP.weaken hLmm hU2))
  have w1 := RM.ap_mul Csa Csb (R.ok h0 hu (by decide) (size hP1 hPm))
  have r5 : In0 l (m * m * h) ((sa : K) * (sb : K) * val c) := rc.mulc hl.le hP1 hPm
  have w2 := RM.ap_mul w1 (Model.ap_exact (u := u) fc c0)
    (R.ok h0 hu (by decide) (r5.weaken hLml hU3))
  have w3 := RM.ap_mul Asab Asab (R.ok h0 hu (by decide) (size hSS1 hSSm))
  have rQ : In0 (l / (m * m)) (m * m * h) ((sa : K) * (sb : K) * val c /
      (((sa : K) + (sb : K)) * ((sa : K) + (sb : K)))) := r5.divc hl.le hSS1 hSSm
  have Qq := RM.ap_div w2 w3 (mul_pos hS0 hS0) (R.ok h0 hu (by decide) (rQ.weaken hLmmm hU3))
  -- the comparison: `q ≤ c/4` (AM–GM) and `c ≤ p` (a mean of `a, b ≥ c`)
  obtain ⟨fr, r0, -⟩ := RM.ap_sub_frac R hu16 Pp Qq (T := val c) (κ := 1 / 4) (E := 10)
    ((div_le_iff₀ (mul_pos hS0 hS0)).2 (amgm_quarter c0))
    ((le_div_iff₀ hS0).2 (mean_ge (Nat.cast_nonneg sa) (Nat.cast_nonneg sb) hca hcb))
    (by norm_num) (by decide) (by norm_num) rP (div_pos hl hm0) hLm4m hU2 (by decide)
  exact ⟨fr, r0⟩

/-- **Ward**: the (guarded, clamped) update computed with rounding is finite and `≥ 0` when
`c ≤ a, b` (`m` bounds the sizes: `sa + sb + sx ≤ m`). -/
theorem ward_nonneg (RM : SubModel val fin u lo hi N) (hu16 : u ≤ 1 / 16) {a b c : α}
    {sa sb sx : Nat} {l h m : K} (fa : fin a) (fb : fin b) (fc : fin c) (hl : 0 < l)
    (hlh : l ≤ h) (ra : In0 l h (val a)) (rb : In0 l h (val b)) (rc : In0 l h (val c))
    (hca : val c ≤ val a) (hcb : val c ≤ val b)
    (hsa : 0 < sa) (hsb : 0 < sb) (hsx : 0 < sx) (hN : sa + sb + sx ≤ N)
    (hm : (sa : K) + (sb : K) + (sx : K) ≤ m)
    (R : Rng u lo hi Lm Hm) (hLm1 : Lm ≤ 1) (hLm2 : Lm * (4 * (m * m)) ≤ l * (1 - u) ^ 4)
    (hHm1 : m * m ≤ Hm) (hHm2 : 2 * (m * m * h) ≤ Hm * (1 - u) ^ 4) :
    fin (Gen.ward a b c sa sb sx) ∧ 0 ≤ val (Gen.ward a b c sa sb sx) := by
  have a0 := ra.nonneg hl.le
  have b0 := rb.nonneg hl.le
  rcases Gen.ward_cases a b c sa sb sx with e | e | e
  · rw [e]; exact ⟨fa, a0⟩
  · rw [e]; exact ⟨fb, b0⟩
  rw [e]
  have h0 := RM.u_nonneg
  have hu := RM.u_lt_one
  have hw : 0 < 1 - u := sub_pos.2 hu
  have c0 := rc.nonneg hl.le
  have hh0 : 0 ≤ h := le_trans hl.le hlh
  have p41 : (1 - u) ^ 4 ≤ 1 := pow_w_le_one h0 hu 4
  -- the sizes: each of `sx + sa`, `sx + sb`, `sx`, `sa + sb`, `sa + sb + sx` lies in `[1, m]`
  have hSa0 : (0 : K) ≤ (sa : K) := Nat.cast_nonneg sa
  have hSb0 : (0 : K) ≤ (sb : K) := Nat.cast_nonneg sb
  have hSx0 : (0 : K) ≤ (sx : K) := Nat.cast_nonneg sx
  have hSa1 : (1 : K) ≤ (sa : K) := Nat.one_le_cast.2 hsa
  have hSb1 : (1 : K) ≤ (sb : K) := Nat.one_le_cast.2 hsb
  have hSx1 : (1 : K) ≤ (sx : K) := Nat.one_le_cast.2 hsx
  have hxa1 : (1 : K) ≤ (sx : K) + (sa : K) := le_add_of_le_of_nonneg hSx1 hSa0
  have hxb1 : (1 : K) ≤ (sx : K) + (sb : K) := le_add_of_le_of_nonneg hSx1 hSb0
  have hab1 : (1 : K) ≤ (sa : K) + (sb : K) := le_add_of_le_of_nonneg hSa1 hSb0
  have hD1 : (1 : K) ≤ (sa : K) + (sb : K) + (sx : K) := le_add_of_le_of_nonneg hab1 hSx0
  have habm : (sa : K) + (sb : K) ≤ m := le_trans (le_add_of_nonneg_right hSx0) hm
  have hxam : (sx : K) + (sa : K) ≤ m := by linarith only [hm, hSb0]
  have hxbm : (sx : K) + (sb : K) ≤ m := by linarith only [hm, hSa0]
  have hxm : (sx : K) ≤ m := by linarith only [hm, hSa0, hSb0]
  have hm2 : (2 : K) ≤ m :=
    le_trans (le_of_eq_of_le one_add_one_eq_two.symm (add_le_add hSa1 hSb1)) habm
  have hmm : m ≤ m * m := le_sq_of_two_le hm2
  have size : ∀ {s : K}, 1 ≤ s → s ≤ m → In0 Lm Hm s := fun h1 h2 =>
    in0_size hLm1 hHm1 h1 (le_trans h2 hmm)
  -- the ranges, with the four spare factors `(1−u)⁴` that the final quotient needs
  have hlw : l * (1 - u) ^ 4 ≤ l := mul_le_of_le_one_right hl.le p41
  have hHw : Hm * (1 - u) ^ 4 ≤ Hm :=
    mul_le_of_le_one_right (le_trans R.Lm_pos.le R.Lm_le) p41
  obtain ⟨⟨hLmlw, hLm4w, -, -, hLm4m⟩, hU1w, hU2w, -⟩ :=
    range_bounds R.Lm_pos hm2 hh0 hLm2 hHm2
  have hLml : Lm ≤ l := le_trans hLmlw hlw
  have hU1 : m * h ≤ Hm := le_trans hU1w hHw
  have hU2 : m * h + m * h ≤ Hm := le_trans hU2w hHw
  have Csa : Ap val fin u 0 (sa : K) (Num.ofNat sa : α) := RM.ap_ofNat (by omega)
  have Csb : Ap val fin u 0 (sb : K) (Num.ofNat sb : α) := RM.ap_ofNat (by omega)
  have Csx : Ap val fin u 0 (sx : K) (Num.ofNat sx : α) := RM.ap_ofNat (by omega)
  have Asxa := RM.ap_add Csx Csa (R.ok h0 hu (by decide) (size hxa1 hxam))
  have Asxb := RM.ap_add Csx Csb (R.ok h0 hu (by decide) (size hxb1 hxbm))
  -- the minuend: the rounded weighted sum with the rounded weights `sx + sa`, `sx + sb`
  obtain ⟨Pp, r3⟩ := RM.toModel.ap_wsum Asxa Asxb fa fb hl hh0 ra rb hxa1 hxam hxb1 hxbm
    (R.lo_le_pow h0 hu (by decide) hLml) (R.le_hi_pow h0 hu (by decide) hU2)
  have r4 : In0 l (m * h) ((sx : K) * val c) := rc.mulc hl.le hSx1 hxm
  have Qq := RM.ap_mul Csx (Model.ap_exact (u := u) fc c0)
    (R.ok h0 hu (by decide) (r4.weaken hLml hU1))
  -- the comparison: `sx·c` is at most half of `(sx+sa)·a + (sx+sb)·b`
  obtain ⟨fnum, num0, rnum⟩ := RM.ap_sub_frac R hu16 Pp Qq (κ := 1 / 2) (E := 4)
    (ward_half hSx0 hSa0 hSb0 a0 b0 hca hcb) le_rfl (by norm_num) (by decide) (by norm_num) r3 hl
    (le_trans hLm4w hlw) hU2 (by decide)
  have Ad1 := RM.ap_add Csa Csb (R.ok h0 hu (by decide) (size hab1 habm))
  have AD := RM.ap_add Ad1 (Csx.mono h0 hu (by decide)) (R.ok h0 hu (by decide) (size hD1 hm))
  -- the quotient: the numerator has lost four factors `(1−u)` of range
  have rv := rnum.divc (mul_nonneg (div_nonneg (mul_pos hl (pow_w_pos hu 3)).le zero_le_four) hw.le)
    hD1 hm
  have Av := RM.ap_div (Model.ap_exact (u := u) fnum num0) AD (lt_of_lt_of_le one_pos hD1)
    (R.ok h0 hu (by decide) (rv.weaken
      (by
        have e : l * (1 - u) ^ 3 / 4 * (1 - u) / m = l * (1 - u) ^ 4 / m / 4 := by ring
        rw [e]; exact (le_div_iff₀ four_pos).2 hLm4m)
      (by
        rw [div_le_iff₀ hw, div_le_iff₀ (pow_w_pos hu _)]
        have e : Hm * (1 - u) * (1 - u) ^ 3 = Hm * (1 - u) ^ 4 := by ring
        rw [e]; exact hU2w)))
  exact ⟨Av.f, Av.val_nonneg hu⟩

end SubModel
end Round

end Kodama
