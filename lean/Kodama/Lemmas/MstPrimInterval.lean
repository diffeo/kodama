/-
The Prim interval lemma.  For a Prim path (`PrimRun`: vertices in the order they are added, the
step recorded for `ord[t+1]` is the PATH edge `ord[t] – ord[t+1]` weighted with the minimum
crossing weight of the cut after `ord[0..t]`) and EVERY level `h`:

* two `Reach h`-connected vertices have only path edges of weight `≤ h` between them in the order
  (`reach_light`: the connection crosses the cut after each vertex in between);
* hence a path edge of weight `≤ h` joins two `Reach h`-connected vertices (`light_reach`, by
  induction on its position: its weight is reached at a tree vertex `u`, and the earlier path edges
  from `u` on are of weight `≤ h` again): the classes are intervals of the Prim order, and
  `Reach n data h u v ↔ u, v are connected by path edges of weight ≤ h` (`prim_interval`).
-/
import Kodama.Lemmas.MstPrimInv
namespace Kodama
open Spec
variable {α : Type} [Num α]

theorem mem_take_iff_getElem? {β : Type} {l : List β} {i : Nat} {u : β} :
    u ∈ l.take i ↔ ∃ j, j < i ∧ l[j]? = some u := by
  rw [List.mem_iff_getElem?]
  constructor
  · rintro ⟨j, hj⟩
    rw [List.getElem?_take] at hj
    by_cases hji : j < i
    · rw [if_pos hji] at hj; exact ⟨j, hji, hj⟩
    · rw [if_neg hji] at hj; cases hj
  · rintro ⟨j, hji, hj⟩
    exact ⟨j, by rw [List.getElem?_take, if_pos hji]; exact hj⟩

theorem not_mem_take_of_nodup {l : List Nat} (hnd : l.Nodup) {i j b : Nat} (hj : l[j]? = some b)
    (hij : i ≤ j) : b ∉ l.take i := by
  intro hb
  obtain ⟨j', hj'i, hj'⟩ := mem_take_iff_getElem?.mp hb
  have := nodup_getElem?_inj hnd hj' hj
  omega

def LightEdge (rs : List (Step α)) (h : α) (a b : Nat) : Prop :=
  ∃ s ∈ rs, Num.lt h s.d = false ∧ ((s.c1 = a ∧ s.c2 = b) ∨ (s.c1 = b ∧ s.c2 = a))

def LightConn (rs : List (Step α)) (h : α) : Nat → Nat → Prop :=
  Relation.ReflTransGen (LightEdge rs h)

theorem LightConn.symm {rs : List (Step α)} {h : α} {a b : Nat} (e : LightConn rs h a b) :
    LightConn rs h b a := by
  induction e with
  | refl => exact Relation.ReflTransGen.refl
  | tail _ h2 ih =>
    obtain ⟨s, hs, hl, hor⟩ := h2
    exact Relation.ReflTransGen.head ⟨s, hs, hl, hor.symm⟩ ih

theorem reach_cross {n : Nat} {data : Array α} {h : α} (T : List Nat) {u x : Nat}
    (e : Reach n data h u x) (hu : u ∈ T) (hx : x ∉ T) :
    ∃ a ∈ T, ∃ b, b ∉ T ∧ Thr n data h a b := by
  induction e with
  | refl => exact absurd hu hx
  | @tail y z _ h2 ih =>
    by_cases hy : y ∈ T
    · exact ⟨y, hy, z, hx, h2⟩
    · exact ih hy

section
variable (L : OrderLaws α) {n : Nat} {data : Array α} (hnan : NoNaN n data)
include L hnan

theorem light_of_cross {T : List Nat} {b : Nat} {w h : α} (mc : IsMinCross n data T b w)
    {a x : Nat} (ha : a ∈ T) (hx : x ∉ T) (e : Thr n data h a x) : Num.lt h w = false := by
  obtain ⟨han, hxn, hne, hle⟩ := e
  exact L.le_trans _ _ _ (hnan a x han hxn hne) (mc.lb a ha x hxn hx) hle

omit hnan in
theorem thr_of_light {T : List Nat} {b : Nat} {w h : α} (mc : IsMinCross n data T b w)
    (hT : ∀ u ∈ T, u < n) (hb : b < n) (hbT : b ∉ T) (hl : Num.lt h w = false) :
    ∃ u ∈ T, Thr n data h u b := by
  obtain ⟨u, hu, hatt⟩ := mc.att
  refine ⟨u, hu, hT u hu, hb, fun e => hbT (e ▸ hu), ?_⟩
  exact L.le_trans _ _ _ mc.nn hatt hl

variable {ord : List Nat} {rs : List (Step α)} (run : PrimRun n data ord rs)
include run

omit L hnan in
theorem PrimRun.step_at {t : Nat} {s : Step α} (hs : rs[t]? = some s) :
    ∃ a b, ord[t]? = some a ∧ ord[t + 1]? = some b ∧
      ((s.c1 = a ∧ s.c2 = b) ∨ (s.c1 = b ∧ s.c2 = a)) ∧
      IsMinCross n data (ord.take (t + 1)) b s.d ∧ b < n ∧ b ∉ ord.take (t + 1) ∧
      (∀ u ∈ ord.take (t + 1), u < n) := by
  obtain ⟨a, b, ha, hb, hor, mc⟩ := run.steps t s hs
  exact ⟨a, b, ha, hb, hor, mc, run.lt_n b (List.mem_of_getElem? hb),
    not_mem_take_of_nodup run.nodup hb (Nat.le_refl _),
    fun u hu => run.lt_n u (List.mem_of_mem_take hu)⟩

theorem reach_light (h : α) {i j u v : Nat} (hi : ord[i]? = some u) (hj : ord[j]? = some v)
    (hr : Reach n data h u v) {t : Nat} (hit : i ≤ t) (htj : t < j) {s : Step α}
    (hs : rs[t]? = some s) : Num.lt h s.d = false := by
  obtain ⟨a, b, ha, hb, hor, mc, hbn, hbT, hTn⟩ := run.step_at hs
  have huT : u ∈ ord.take (t + 1) := mem_take_iff_getElem?.mpr ⟨i, by omega, hi⟩
  have hvT : v ∉ ord.take (t + 1) := not_mem_take_of_nodup run.nodup hj (by omega)
  obtain ⟨a', ha', b', hb', e'⟩ := reach_cross _ hr huT hvT
  exact light_of_cross L hnan mc ha' hb' e'

omit L hnan in
/-- An equivalence that holds between the endpoints of the path edges `i ≤ t < i + m` holds between
`ord[i]` and `ord[i + m]`. -/
theorem PrimRun.chain {R : Nat → Nat → Prop} (hR : Equivalence R) : ∀ (m i u v : Nat),
    ord[i]? = some u → ord[i + m]? = some v →
    (∀ t s, i ≤ t → t < i + m → rs[t]? = some s → R s.c1 s.c2) → R u v := by
  intro m
  induction m with
  | zero =>
    intro i u v hu hv _
    rw [Nat.add_zero, hu] at hv
    cases hv
    exact hR.refl _
  | succ m ih =>
    intro i u v hu hv hall
    have hlen : i + m + 1 < ord.length := (List.getElem?_eq_some_iff.mp hv).1
    obtain ⟨s, hs⟩ : ∃ s, rs[i + m]? = some s :=
      ⟨_, List.getElem?_eq_getElem (by rw [run.rlen, ← run.len]; omega)⟩
    obtain ⟨a, b, ha, hb, hor, _⟩ := run.steps _ _ hs
    obtain rfl : b = v := Option.some.inj (hb.symm.trans hv)
    have h1 := ih i u a hu ha fun t s h1 h2 h3 => hall t s h1 (Nat.lt_succ_of_lt h2) h3
    have h2 := hall _ _ (Nat.le_add_right i m) (Nat.lt_succ_self _) hs
    rcases hor with ⟨e1, e2⟩ | ⟨e1, e2⟩ <;> rw [e1, e2] at h2
    · exact hR.trans h1 h2
    · exact hR.trans h1 (hR.symm h2)

theorem light_reach (h : α) : ∀ (t : Nat) (s : Step α), rs[t]? = some s →
    Num.lt h s.d = false → Reach n data h s.c1 s.c2 := by
  intro t
  induction t using Nat.strongRecOn with
  | ind t ih =>
    intro s hts hl
    obtain ⟨a, b, ha, hb, hor, mc, hbn, hbT, hTn⟩ := run.step_at hts
    obtain ⟨u, huT, eu⟩ := thr_of_light L mc hTn hbn hbT hl
    obtain ⟨i, hit, hu⟩ := mem_take_iff_getElem?.mp huT
    obtain ⟨m, rfl⟩ : ∃ m, t = i + m := ⟨t - i, by omega⟩
    -- the path edges from `u` to `a` lie between `u` and `b`, which the edge `u – b` connects
    have hua : Reach n data h u a :=
      run.chain (R := Reach n data h) ⟨fun _ => .refl, Reach.symm, .trans⟩ m i u a hu ha
        fun t' s' h1 h2 hs' =>
        ih t' h2 s' hs'
          (reach_light L hnan run h hu hb (.single eu) h1 (Nat.lt_succ_of_lt h2) hs')
    have hab : Reach n data h a b := hua.symm.trans (.single eu)
    rcases hor with ⟨e1, e2⟩ | ⟨e1, e2⟩ <;> rw [e1, e2]
    · exact hab
    · exact hab.symm

omit L hnan in
theorem light_chain (h : α) (m i u v : Nat) (hu : ord[i]? = some u) (hv : ord[i + m]? = some v)
    (hall : ∀ t s, i ≤ t → t < i + m → rs[t]? = some s → Num.lt h s.d = false) :
    LightConn rs h u v :=
  run.chain (R := LightConn rs h) ⟨fun _ => .refl, LightConn.symm, .trans⟩ m i u v hu hv
    fun t s h1 h2 h3 =>
    .single ⟨s, List.mem_of_getElem? h3, hall t s h1 h2 h3, .inl ⟨rfl, rfl⟩⟩

theorem prim_interval (h : α) (u v : Nat) (hu : u < n) (hv : v < n) :
    Reach n data h u v ↔ LightConn rs h u v := by
  constructor
  · intro hr
    obtain ⟨i, hi⟩ := List.mem_iff_getElem?.mp (run.all u hu)
    obtain ⟨j, hj⟩ := List.mem_iff_getElem?.mp (run.all v hv)
    rcases Nat.le_total i j with hij | hij
    · obtain ⟨m, rfl⟩ := Nat.exists_eq_add_of_le hij
      exact light_chain run h m i u v hi hj
        (fun t s h1 h2 h3 => reach_light L hnan run h hi hj hr h1 h2 h3)
    · obtain ⟨m, rfl⟩ := Nat.exists_eq_add_of_le hij
      exact (light_chain run h m j v u hj hi
        (fun t s h1 h2 h3 => reach_light L hnan run h hj hi hr.symm h1 h2 h3)).symm
  · intro hc
    clear hv
    induction hc with
    | refl => exact Relation.ReflTransGen.refl
    | @tail y z _ h2 ih =>
      obtain ⟨s, hs, hl, hor⟩ := h2
      obtain ⟨t, hts⟩ := List.mem_iff_getElem?.mp hs
      have := light_reach L hnan run h t s hts hl
      rcases hor with ⟨e1, e2⟩ | ⟨e1, e2⟩
      · rw [e1, e2] at this; exact ih.trans this
      · rw [e1, e2] at this; exact ih.trans this.symm

end

end Kodama
