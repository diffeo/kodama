/-
Law instances for EXACT ARITHMETIC: a linearly ordered field `K` whose `Num K` instance computes the
field operations (`FieldLaws K`, `Lemmas/FieldNum.lean`) and has no NaN (`ExactLaws K`).  Satisfied by
`fieldNum K` and by `fieldNumWith K sq` for every `sq : K → K` (`exactLaws_fieldNum`,
`exactLaws_fieldNumWith`); `sqrt`, `abs`, `beq` and the two sentinels stay completely unconstrained,
so a run instance with a large `infinity` sentinel qualifies as well.

The hypotheses of the C03/C06/C11 theorems are discharged from these two bundles: `OrderLaws`,
`LtTrichotomy`, `CommLaws`, `Spec.LwSymm K m` for all seven methods, the no-NaN hypotheses (trivial:
`isNaN` is constantly `false`), and `ReduciblePos K m` for single, complete, average, weighted, Ward
(`FieldLaws.reduciblePos`, from `FieldLaws.lwGeOn`, the one case split over the methods in exact
arithmetic).  Of the last, only weighted needs field arithmetic: `method::average` clamps
the mean from below by the smaller argument and `method::ward` clamps the quotient from below by the
smaller argument whenever the merged distance is not above it, so `Spec.Reducible α m` holds for every
`OrderLaws α` and all sizes (`Spec.reducible_average`, `Spec.reducible_ward`).  `ReduciblePos` is the
hypothesis the size-threaded run theorems are stated with (`Lemmas/ReduciblePos.lean`,
`C03_primitive_reduciblePos`); it is implied by `Spec.Reducible`.
-/
import Kodama.Lemmas.FieldNum
import Kodama.Lemmas.SpecLaws
import Kodama.Lemmas.PrimGreedySpec
import Kodama.Lemmas.ReduciblePos
import Mathlib.Tactic.Linarith
namespace Kodama
open Spec

structure ExactLaws (K : Type) [Field K] [LinearOrder K] [Num K] : Prop where
  field : FieldLaws K
  noNaN : ∀ a : K, Num.isNaN a = false

theorem exactLaws_fieldNumWith (K : Type) [Field K] [LinearOrder K] (sq : K → K) :
    @ExactLaws K _ _ (fieldNumWith K sq) :=
  @ExactLaws.mk K _ _ (fieldNumWith K sq) (fieldNumWith_laws K sq) (fun _ => rfl)

theorem exactLaws_fieldNum (K : Type) [Field K] [LinearOrder K] :
    @ExactLaws K _ _ (fieldNum K) := exactLaws_fieldNumWith K id

section order
variable {β : Type} [LinearOrder β] [Num β] (h : ∀ a b : β, Num.lt a b = decide (a < b))
include h

/-- A `Num.lt` that decides a linear order satisfies the order laws, trichotomy included. -/
theorem orderLaws_of_lt : OrderLaws β where
  asymm a b hab := by
    rw [h, decide_eq_true_eq] at hab
    rw [h, decide_eq_false_iff_not]
    exact not_lt.mpr hab.le
  cotrans a b c _ hac := by
    rw [h, decide_eq_true_eq] at hac
    rw [h, h, decide_eq_true_eq, decide_eq_true_eq]
    rcases lt_or_ge a b with h' | h'
    · exact Or.inl h'
    · exact Or.inr (lt_of_le_of_lt h' hac)

theorem ltTrichotomy_of_lt : LtTrichotomy β := by
  intro a b h1 h2
  rw [h, decide_eq_false_iff_not, not_lt] at h1 h2
  exact le_antisymm h2 h1

end order

section laws
variable {K : Type} [Field K] [LinearOrder K] [Num K]

theorem FieldLaws.lt_false (L : FieldLaws K) {a b : K} : Num.lt a b = false ↔ b ≤ a := by
  rw [L.lt, decide_eq_false_iff_not, not_lt]

theorem FieldLaws.lt_true (L : FieldLaws K) {a b : K} : Num.lt a b = true ↔ a < b := by
  rw [L.lt, decide_eq_true_eq]

theorem FieldLaws.orderLaws (L : FieldLaws K) : OrderLaws K := orderLaws_of_lt L.lt

theorem FieldLaws.ltTrichotomy (L : FieldLaws K) : LtTrichotomy K := ltTrichotomy_of_lt L.lt

theorem FieldLaws.commLaws (L : FieldLaws K) : CommLaws K where
  add_comm a b := by rw [L.add, L.add, add_comm]
  mul_comm a b := by rw [L.mul, L.mul, mul_comm]

theorem FieldLaws.lwSymm (L : FieldLaws K) (m : Method) : LwSymm K m :=
  lwSymm_all L.orderLaws L.ltTrichotomy L.commLaws m

theorem ExactLaws.noNaNRun (E : ExactLaws K) (m : Method) (n : Nat) (data : Array K) :
    NoNaNRun m n data := fun _ _ _ _ _ _ _ => E.noNaN _

theorem ExactLaws.initNoNaN (E : ExactLaws K) (m : Method) (n : Nat) (data : Array K) :
    InitNoNaN m n data := fun _ _ _ _ _ => E.noNaN _

theorem ExactLaws.lwNoNaN (E : ExactLaws K) (m : Method) : LwNoNaN K m :=
  fun _ _ _ _ _ _ _ _ _ => E.noNaN _

end laws

section reducible
variable {K : Type} [Field K] [LinearOrder K] [IsStrictOrderedRing K] [Num K]

/-- In exact arithmetic the five methods that sort are reducible at every threshold: the selecting
and the clamped ones as in every ordered number type, weighted because `½·(a + b) ≥ t` when
`a, b ≥ t`.  (Centroid and median are not, even here.) -/
theorem FieldLaws.lwGeOn (L : FieldLaws K) (ok : K → Prop) (m : Method)
    (hm : m.requiresSorting = true) : LwGeOn ok m := by
  cases m with
  | single => exact lwGeOn_single ok
  | complete => exact lwGeOn_complete ok
  | average => exact lwGeOn_average L.orderLaws ok
  | ward => exact lwGeOn_ward L.orderLaws ok
  | weighted =>
    intro sa sb sx dab va vb t _ _ _ _ _ _ _ _ _ _ _ h1 h2
    rw [L.lt_false] at h1 h2 ⊢
    simp only [lw, Gen.weighted, L.add, L.mul, L.half]
    linarith
  | centroid => exact absurd hm (by decide)
  | median => exact absurd hm (by decide)

theorem FieldLaws.reduciblePos (L : FieldLaws K) (m : Method) (hm : m.requiresSorting = true) :
    ReduciblePos K m :=
  (L.lwGeOn _ m hm).reduciblePos L.orderLaws

end reducible
end Kodama
