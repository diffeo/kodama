/-
Number laws behind the symmetry of the Lance–Williams update in its two merged clusters
(`Spec.LwSymm`): swapping the roles of `A` and `B` in `lw m d(A,X) d(B,X) d(A,B) |A| |B| |X|`
does not change the value.  This is the only number fact the permutation-equivariance of the
greedy spec (`Kodama/Lemmas/SpecPerm.lean`, property C11) needs.

The comparison-free formulas of `Kodama/Generated/Method.lean` (weighted, median, centroid) need
commutativity of `+` (and of `×` for centroid) only.  Single, complete, and the clamps of
`method::average` and `method::ward` (`least := if a < b then a else b`) are a minimum or maximum
written with one `<`: swapping the arguments returns the same VALUE only if incomparable values are
equal, hence `OrderLaws.asymm` + `LtTrichotomy`.  For average and Ward `CommLaws` alone does not
give `LwSymm` for an abstract `Num`: on order-equivalent, non-identical arguments such as `±0` the
two `least`s are different values.

`LtTrichotomy` is FALSE of IEEE floats (`+0`/`-0` are incomparable and different, and so is NaN
against anything): for floats the single/complete/average/ward instances are theorems about inputs on
which it happens to hold.  No field law (associativity, distributivity, inverses, rounding) is used anywhere.
-/
import Kodama.Spec.Naive
import Kodama.Laws
import Kodama.Lemmas.AverageClamp
import Kodama.Lemmas.WardClamp
namespace Kodama

/-- `+` and `×` commute.  True of IEEE floats as operations on values; when both operands are
NaN the payload of the resulting NaN may depend on the operand order (the only caveat). -/
structure CommLaws (α : Type) [Num α] : Prop where
  add_comm : ∀ a b : α, Num.add a b = Num.add b a
  mul_comm : ∀ a b : α, Num.mul a b = Num.mul b a

/-- Incomparable values are equal.  FALSE for IEEE floats (`±0`, NaN); true for exact orders. -/
def LtTrichotomy (α : Type) [Num α] : Prop :=
  ∀ a b : α, Num.lt a b = false → Num.lt b a = false → a = b

namespace Spec
variable {α : Type} [Num α]

def LwSymm (α : Type) [Num α] (m : Method) : Prop :=
  ∀ (dax dbx dab : α) (sa sb sx : Nat),
    lw m dax dbx dab sa sb sx = lw m dbx dax dab sb sa sx

/-- average: `add_comm` (numerator and denominator of the mean); asymmetry of `<` and trichotomy
for the clamp `if mean < least then least else mean`, `least := if a < b then a else b`. -/
theorem lwSymm_average (L : OrderLaws α) (T : LtTrichotomy α) (C : CommLaws α) :
    LwSymm α .average := by
  intro dax dbx dab sa sb sx
  simp only [lw]
  exact Gen.average_comm L T C.add_comm dax dbx sa sb

theorem lwSymm_weighted (C : CommLaws α) : LwSymm α .weighted := by
  intro dax dbx dab sa sb sx
  simp only [lw, Gen.weighted]
  rw [C.add_comm dax]

/-- ward: `add_comm` (outer sum of the numerator; `sa + sb` of the denominator); asymmetry of `<`
and trichotomy for the guarded clamp `if !(least < c) && value < least then least else value`,
`least := if a < b then a else b`. -/
theorem lwSymm_ward (L : OrderLaws α) (T : LtTrichotomy α) (C : CommLaws α) : LwSymm α .ward := by
  intro dax dbx dab sa sb sx
  simp only [lw]
  exact Gen.ward_comm L T C.add_comm dax dbx dab sa sb sx

/-- centroid: `add_comm` (`sa*a + sb*b`, `sa + sb`) and `mul_comm` (`sa * sb`). -/
theorem lwSymm_centroid (C : CommLaws α) : LwSymm α .centroid := by
  intro dax dbx dab sa sb sx
  simp only [lw, Gen.centroid]
  rw [C.add_comm (Num.mul (Num.ofNat sa) dax), C.add_comm (Num.ofNat sa : α) (Num.ofNat sb),
    C.mul_comm (Num.ofNat sa : α) (Num.ofNat sb)]

theorem lwSymm_median (C : CommLaws α) : LwSymm α .median := by
  intro dax dbx dab sa sb sx
  simp only [lw, Gen.median]
  rw [C.add_comm dax]

theorem lwSymm_of_comm (C : CommLaws α) (m : Method)
    (hm : m ≠ .single ∧ m ≠ .complete ∧ m ≠ .average ∧ m ≠ .ward) : LwSymm α m := by
  cases m with
  | single => exact absurd rfl hm.1
  | complete => exact absurd rfl hm.2.1
  | average => exact absurd rfl hm.2.2.1
  | weighted => exact lwSymm_weighted C
  | ward => exact absurd rfl hm.2.2.2
  | centroid => exact lwSymm_centroid C
  | median => exact lwSymm_median C

theorem lwSymm_single (L : OrderLaws α) (T : LtTrichotomy α) : LwSymm α .single := by
  intro dax dbx dab sa sb sx
  simp only [lw, Gen.single]
  cases h1 : Num.lt dax dbx
  · cases h2 : Num.lt dbx dax
    · simpa using (T dax dbx h1 h2).symm
    · simp
  · simp [L.asymm dax dbx h1]

theorem lwSymm_complete (L : OrderLaws α) (T : LtTrichotomy α) : LwSymm α .complete := by
  intro dax dbx dab sa sb sx
  simp only [lw, Gen.complete]
  cases h1 : Num.lt dbx dax
  · cases h2 : Num.lt dax dbx
    · simpa using (T dax dbx h2 h1).symm
    · simp
  · simp [L.asymm dbx dax h1]

theorem lwSymm_all (L : OrderLaws α) (T : LtTrichotomy α) (C : CommLaws α) (m : Method) :
    LwSymm α m := by
  cases m with
  | single => exact lwSymm_single L T
  | complete => exact lwSymm_complete L T
  | average => exact lwSymm_average L T C
  | weighted => exact lwSymm_weighted C
  | ward => exact lwSymm_ward L T C
  | centroid => exact lwSymm_centroid C
  | median => exact lwSymm_median C

end Spec
end Kodama
