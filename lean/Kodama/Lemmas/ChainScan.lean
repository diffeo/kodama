/-
The nearest-neighbour scans of chain.rs (`nnStep` folded over a list of candidates): total on a
valid matrix, at most two index computations per candidate, and — under `OrderLaws` and non-NaN
entries — the result is a minimum of the scanned entries that improves STRICTLY on the incoming
candidate or keeps it (so the chain predecessor wins ties).  `nnFold_above` is the scan of the live
clusters above a given one, `nnScan_ok` the two scans that find the nearest neighbour of a live cluster.
-/
import Kodama.Lemmas.ChainMat
import Kodama.Model.Chain
import Kodama.Laws
namespace Kodama
variable {α : Type} [Num α]

theorem nnStep_eq (chk : Bool) (fixed : Nat) (ff : Bool) (s : NN α) (x : Nat) (v : α)
    (hget : (if ff then s.M.get chk fixed x else s.M.get chk x fixed) = .ok v) :
    nnStep chk fixed ff s x
      = .ok (if Num.lt v s.min then ⟨x, v, s.M.tick 2⟩ else ⟨s.idx, s.min, s.M.tick 1⟩) := by
  unfold nnStep
  cases ff <;> simp only [Bool.false_eq_true, if_false, if_true] at hget ⊢ <;>
    simp only [hget, bind, Except.bind] <;> split <;> rfl

omit [Num α] in
theorem Mat.Valid.tick {M : Mat α} (hv : M.Valid) (k : Nat) : (M.tick k).Valid :=
  hv.of_eq rfl rfl

omit [Num α] in
theorem Mat.tick_tick (M : Mat α) (j k : Nat) : (M.tick j).tick k = M.tick (j + k) := by
  simp only [Mat.tick, Nat.add_assoc]

/-- A scan only counts: the matrix afterwards is the old one with `j ≤ 2·#candidates` more index
computations.  The count is the prefix invariant of `foldlM_scanMin`. -/
theorem nnFold_ok (L : OrderLaws α) (chk : Bool) (fixed : Nat) (ff : Bool) (l : List Nat)
    (s : NN α) (hv : s.M.Valid)
    (hl : ∀ x ∈ l, x < s.M.n ∧ fixed < s.M.n ∧ (if ff then fixed < x else x < fixed))
    (hD : ∀ x ∈ l, Num.isNaN (s.M.dval fixed x) = false) (hnan : Num.isNaN s.min = false)
    (hmin : s.min = s.M.dval fixed s.idx) :
    ∃ s' j, l.foldlM (nnStep chk fixed ff) s = .ok s' ∧ s'.M = s.M.tick j ∧ j ≤ 2 * l.length ∧
      Num.isNaN s'.min = false ∧ Num.lt s.min s'.min = false ∧
      s'.min = s.M.dval fixed s'.idx ∧
      (s'.idx = s.idx ∨ (s'.idx ∈ l ∧ Num.lt s'.min s.min = true)) ∧
      ∀ x ∈ l, Num.lt (s.M.dval fixed x) s'.min = false := by
  obtain ⟨s', e, ⟨j, hM, hj⟩, h1, h2, h3, h4⟩ := foldlM_scanMin L
    (fun pre (t : NN α) => ∃ j, t.M = s.M.tick j ∧ j ≤ 2 * pre.length) (·.min) (·.idx)
    (s.M.dval fixed) id l (nnStep chk fixed ff)
    (by
      rintro pre t x hx ⟨j, ht, hj⟩
      -- the step reads the entry `{fixed, x}` of a matrix that differs from `s.M` by its count only
      obtain ⟨hxn, hfn, hord⟩ := hl x hx
      have hget : (if ff then t.M.get chk fixed x else t.M.get chk x fixed)
          = .ok (s.M.dval fixed x) := by
        rw [ht]
        cases ff with
        | true => exact Mat.get_dval chk _ (hv.tick j) fixed x (by simpa using hord) hxn
        | false =>
          rw [Mat.dval_comm]
          exact Mat.get_dval chk _ (hv.tick j) x fixed (by simpa using hord) hfn
      refine ⟨_, nnStep_eq chk fixed ff t x _ hget, ?_⟩
      rw [List.length_append, List.length_singleton, ht]
      split
      · exact ⟨⟨j + 2, Mat.tick_tick .., by omega⟩, rfl⟩
      · exact ⟨⟨j + 1, Mat.tick_tick .., by omega⟩, rfl⟩)
    hD s ⟨0, rfl, Nat.le_refl _⟩ hnan
  refine ⟨s', j, e, hM, hj, h1, h2, ?_⟩
  rcases h4 with ⟨a, b⟩ | ⟨x, hx, a, b, c⟩
  · exact ⟨by rw [a, b]; exact hmin, .inl b, h3⟩
  · exact ⟨by rw [a, b]; rfl, .inr ⟨b ▸ hx, c⟩, h3⟩

/-- The scan of `c` against the live clusters above `b` (`range(b..)` without its first element, `b`
itself), for live `c ≤ b`. -/
theorem nnFold_above (L : OrderLaws α) (chk : Bool) {n : Nat} {act : Active} {live : List Nat}
    (hrep : act.Rep live n) {c b : Nat} (hc : c ∈ live) (hb : b ∈ live) (hcb : c ≤ b) (s : NN α)
    (hv : s.M.Valid) (hn : s.M.n = n) (hnonan : NoNaNLive s.M live)
    (hnan : Num.isNaN s.min = false) (hmin : s.min = s.M.dval c s.idx) :
    ∃ s' j, ((live.filter (fun x => decide (b ≤ x))).drop 1).foldlM (nnStep chk c true) s = .ok s' ∧
      s'.M = s.M.tick j ∧ j ≤ 2 * ((live.filter (fun x => decide (b ≤ x))).length - 1) ∧
      Num.isNaN s'.min = false ∧ Num.lt s.min s'.min = false ∧
      s'.min = s.M.dval c s'.idx ∧
      (s'.idx = s.idx ∨ (s'.idx ∈ live ∧ b < s'.idx ∧ Num.lt s'.min s.min = true)) ∧
      ∀ x ∈ live, b < x → Num.lt (s.M.dval c x) s'.min = false := by
  have hmem := mem_filter_ge_drop live hrep.sorted b hb
  have hcx : ∀ x, x ∈ (live.filter (fun x => decide (b ≤ x))).drop 1 → x ∈ live ∧ c < x :=
    fun x hx => ⟨((hmem x).mp hx).1, Nat.lt_of_le_of_lt hcb ((hmem x).mp hx).2⟩
  obtain ⟨s', j, e, hM, hj, hnan', hle, hm, hcase, hall⟩ := nnFold_ok L chk c true _ s hv
    (fun x hx => by
      show x < s.M.n ∧ c < s.M.n ∧ c < x
      rw [hn]; exact ⟨hrep.mem_lt x (hcx x hx).1, hrep.mem_lt c hc, (hcx x hx).2⟩)
    (fun x hx => hnonan c hc x (hcx x hx).1 (Nat.ne_of_lt (hcx x hx).2)) hnan hmin
  rw [List.length_drop] at hj
  exact ⟨s', j, e, hM, hj, hnan', hle, hm,
    hcase.imp_right fun ⟨h1, h2⟩ => ⟨((hmem _).mp h1).1, ((hmem _).mp h1).2, h2⟩,
    fun x hx hbx => hall x ((hmem x).mpr ⟨hx, hbx⟩)⟩

/-- The nearest neighbour of a live cluster `b`, as the inner loop of chain.rs finds it: scan the
live clusters below `b`, then those above, starting from the candidate `i0` with its entry `m0`.  The
result is a cluster with its entry: the candidate, or one that improves strictly on it; no live cluster
is closer to `b`; the matrix is only counted on, at most `2·#live` index computations. -/
theorem nnScan_ok (L : OrderLaws α) (chk : Bool) {n : Nat} {act : Active} {live : List Nat}
    (hrep : act.Rep live n) {b : Nat} (hb : b ∈ live) (i0 : Nat) (m0 : α) (M : Mat α)
    (hv : M.Valid) (hn : M.n = n) (hnonan : NoNaNLive M live) (hnan : Num.isNaN m0 = false)
    (hm0 : m0 = M.dval b i0) :
    ∃ s1 i m j,
      (live.filter (fun x => decide (x < b))).foldlM (nnStep chk b false) ⟨i0, m0, M⟩ = .ok s1 ∧
      ((live.filter (fun x => decide (b ≤ x))).drop 1).foldlM (nnStep chk b true) s1
        = .ok ⟨i, m, M.tick j⟩ ∧
      j ≤ 2 * live.length ∧ Num.lt m0 m = false ∧ m = M.dval b i ∧
      (i = i0 ∨ (i ∈ live ∧ i ≠ b ∧ Num.lt m m0 = true)) ∧
      ∀ x ∈ live, x ≠ b → Num.lt (M.dval b x) m = false := by
  have hbelow : ∀ x, x ∈ live.filter (fun x => decide (x < b)) → x ∈ live ∧ x < b := fun x hx =>
    ⟨(List.mem_filter.mp hx).1, of_decide_eq_true (List.mem_filter.mp hx).2⟩
  obtain ⟨⟨i1, m1, M1⟩, j1, e1, hM1, hj1, nan1, le1, hm1, case1, all1⟩ :=
    nnFold_ok L chk b false (live.filter (fun x => decide (x < b))) ⟨i0, m0, M⟩ hv
      (fun x hx => by
        show x < M.n ∧ b < M.n ∧ x < b
        rw [hn]; exact ⟨hrep.mem_lt x (hbelow x hx).1, hrep.mem_lt b hb, (hbelow x hx).2⟩)
      (fun x hx => hnonan b hb x (hbelow x hx).1 (Nat.ne_of_gt (hbelow x hx).2)) hnan hm0
  simp only at hM1 nan1 le1 hm1 case1 all1
  subst hM1
  obtain ⟨⟨i2, m2, M2⟩, j2, e2, hM2, hj2, -, le2, hm2, case2, all2⟩ :=
    nnFold_above L chk hrep hb hb (Nat.le_refl b) ⟨i1, m1, M.tick j1⟩ (hv.tick j1) hn hnonan nan1 hm1
  simp only at hM2 le2 hm2 case2 all2
  rw [Mat.tick_tick] at hM2
  subst hM2
  have hlen := length_filter_lt_ge live b
  refine ⟨_, i2, m2, j1 + j2, e1, e2, by omega, L.le_trans _ _ _ nan1 le2 le1, hm2, ?_, ?_⟩
  · rcases case2 with hi2 | ⟨hi2, hbi2, l2⟩
    · have e : m2 = m1 := by rw [hm2, hi2]; exact hm1.symm
      rw [hi2, e]
      exact case1.imp_right fun ⟨hi1, l1⟩ =>
        ⟨(hbelow i1 hi1).1, Nat.ne_of_lt (hbelow i1 hi1).2, l1⟩
    · refine Or.inr ⟨hi2, Nat.ne_of_gt hbi2, ?_⟩
      rcases case1 with hi1 | ⟨_, l1⟩
      · rw [hm0, ← hi1]; exact hm1 ▸ l2
      · exact L.lt_trans _ _ _ hnan l2 l1
  · intro x hx hxb
    by_cases h : x < b
    · exact L.le_trans _ _ _ nan1 le2
        (all1 x (List.mem_filter.mpr ⟨hx, decide_eq_true h⟩))
    · exact all2 x hx (by omega)

end Kodama
