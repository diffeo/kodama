/-
The two sift loops of the indexed binary min-heap (`sift_down`, `sift_up` of src/queue.rs).  Each
loop is unrolled once (`siftDown_succ`, `siftUp_succ`) and carried by an invariant (`DownInv`, `UpInv`)
saying that heap order fails at most between the moving position and its children, resp. its parent.
`siftDown_spec` and `siftUp_spec` conclude: total within the fuel, nothing but the order of the heap
array changes (`SameLive`), and heap order is restored.
-/
import Kodama.Lemmas.HeapInv
import Kodama.Lemmas.Except
namespace Kodama
namespace Heap
variable {α : Type} [Num α]

/-- The position `sift_down` moves to from position `p` (`p` itself: stop). -/
def downChild (h : Heap α) (p : Nat) : Nat :=
  let c1 := if 2 * p + 1 < h.heap.size ∧ Num.lt (h.key (2 * p + 1)) (h.key p) = true
    then 2 * p + 1 else p
  if 2 * p + 2 < h.heap.size ∧ Num.lt (h.key (2 * p + 2)) (h.key c1) = true then 2 * p + 2 else c1

omit [Num α] in
theorem WF.child_lt_mod {h : Heap α} (hw : WF h) {p : Nat} (hp : p < h.heap.size) :
    2 * p + 2 < usizeMod := by
  have := hw.small
  have := hw.heap_le
  unfold usizeMod
  omega

theorem siftDown_succ {h : Heap α} (hw : WF h) {p o : Nat} (hp : h.heap[p]? = some o)
    (chk : Bool) (fuel : Nat) :
    siftDown chk (fuel + 1) h o =
      if downChild h p = p then .ok h
      else h.swap o ((h.heap[downChild h p]?).getD 0) >>= fun h' => siftDown chk fuel h' o := by
  have hobs := hw.heap_obs p o hp
  have hpn := pos_lt hp
  obtain ⟨kp, hkp⟩ := hw.exists_prio hp
  have hkey := key_eq hp hkp
  have m3 := hw.child_lt_mod hpn
  have m2 : 2 * p + 1 < usizeMod := Nat.lt_of_succ_lt m3
  have m1 : 2 * p < usizeMod := Nat.lt_of_succ_lt m2
  rw [siftDown]
  simp only [aget, hobs, hkp, umul_ok chk m1, uadd_ok chk m2, uadd_ok chk m3,
    bind, Except.bind]
  rcases hl : h.heap[2 * p + 1]? with _ | l
  · have hl' : ¬ 2 * p + 1 < h.heap.size := by
      intro hc; simp [hc] at hl
    have hr' : ¬ 2 * p + 2 < h.heap.size := fun hc => hl' (Nat.lt_of_succ_lt hc)
    have hr : h.heap[2 * p + 2]? = none := Array.getElem?_eq_none (Nat.le_of_not_lt hr')
    simp [downChild, hl', hr', pure, Except.pure]
  · have hl' : 2 * p + 1 < h.heap.size := pos_lt hl
    obtain ⟨kl, hkl⟩ := hw.exists_prio hl
    have hkeyl := key_eq hl hkl
    have hl2 : h.heap[2 * p + 1] = l := (Array.getElem?_eq_some_iff.mp hl).2
    have np1 : 2 * p + 1 ≠ p := by omega
    have np2 : 2 * p + 2 ≠ p := by omega
    have hne : o ≠ l := by
      intro e; subst e; exact np1 (hw.heap_inj hp hl).symm
    rcases hr : h.heap[2 * p + 2]? with _ | r
    · have hr' : ¬ 2 * p + 2 < h.heap.size := by
        intro hc; simp [hc] at hr
      by_cases c1 : Num.lt kl kp = true
      · simp [downChild, hl', hr', hkl, hkeyl, hkey, c1, hne, hl2, np1, pure, Except.pure]
      · simp [downChild, hl', hr', hkl, hkeyl, hkey, c1, pure, Except.pure]
    · have hr' : 2 * p + 2 < h.heap.size := pos_lt hr
      obtain ⟨kr, hkr⟩ := hw.exists_prio hr
      have hkeyr := key_eq hr hkr
      have hr2 : h.heap[2 * p + 2] = r := (Array.getElem?_eq_some_iff.mp hr).2
      have hne2 : o ≠ r := by
        intro e; subst e; exact np2 (hw.heap_inj hp hr).symm
      by_cases c1 : Num.lt kl kp = true
      · by_cases c2 : Num.lt kr kl = true
        · simp [downChild, hl', hr', hkl, hkr, hkeyl, hkeyr, hkey, c1, c2, hne2, hr2, np2, pure, Except.pure]
        · simp [downChild, hl', hr', hkl, hkr, hkeyl, hkeyr, hkey, c1, c2, hne, hl2, np1, pure, Except.pure]
      · by_cases c2 : Num.lt kr kp = true
        · simp [downChild, hl', hr', hkl, hkr, hkeyl, hkeyr, hkey, c1, c2, hne2, hr2, np2, pure, Except.pure]
        · simp [downChild, hl', hr', hkl, hkr, hkeyl, hkeyr, hkey, c1, c2, pure, Except.pure]

theorem downChild_cases (h : Heap α) (p : Nat) :
    downChild h p = p ∨ (2 * p + 1 ≤ downChild h p ∧ downChild h p ≤ 2 * p + 2 ∧
      downChild h p < h.heap.size) := by
  unfold downChild
  by_cases c1 : 2 * p + 1 < h.heap.size ∧ Num.lt (h.key (2 * p + 1)) (h.key p) = true
  · rw [if_pos c1]
    dsimp only
    split
    · next c2 => exact Or.inr ⟨Nat.le_succ _, Nat.le_refl _, c2.1⟩
    · exact Or.inr ⟨Nat.le_refl _, Nat.le_succ _, c1.1⟩
  · rw [if_neg c1]
    dsimp only
    split
    · next c2 => exact Or.inr ⟨Nat.le_succ _, Nat.le_refl _, c2.1⟩
    · exact Or.inl rfl

theorem parent_lt {i s : Nat} (h : i < s) : (i - 1) / 2 < s := by omega

theorem parent_lt_self {i : Nat} (h : 1 ≤ i) : (i - 1) / 2 < i := by omega

theorem parent_ne {i : Nat} (h : 1 ≤ i) : (i - 1) / 2 ≠ i := Nat.ne_of_lt (parent_lt_self h)

theorem child_cases {i p : Nat} (h : 1 ≤ i) (e : (i - 1) / 2 = p) :
    i = p ∨ i = 2 * p + 1 ∨ i = 2 * p + 2 := by omega

/-- The chosen position carries a minimal key among `p` and its children.  The two comparisons of
`downChild` are chained by transitivity of `≤`, which needs the middle key to be non-NaN: hence `hk`. -/
theorem downChild_min (L : OrderLaws α) {h : Heap α}
    (hk : ∀ i, i < h.heap.size → Num.isNaN (h.key i) = false) {p : Nat}
    (i : Nat) (hi : i < h.heap.size) (hc : i = p ∨ i = 2 * p + 1 ∨ i = 2 * p + 2) :
    Num.lt (h.key i) (h.key (downChild h p)) = false := by
  have hp : p < h.heap.size := by omega
  unfold downChild
  generalize hc1 : (if 2 * p + 1 < h.heap.size ∧ Num.lt (h.key (2 * p + 1)) (h.key p) = true
    then 2 * p + 1 else p) = c1
  have h1 : c1 < h.heap.size ∧ Num.lt (h.key p) (h.key c1) = false ∧
      (2 * p + 1 < h.heap.size → Num.lt (h.key (2 * p + 1)) (h.key c1) = false) := by
    rw [← hc1]
    split
    · next c => exact ⟨c.1, L.asymm _ _ c.2, fun _ => L.irrefl _⟩
    · next c => exact ⟨hp, L.irrefl _, fun hl => by simpa [hl] using c⟩
  dsimp only
  split
  · next c =>
    have c' := L.asymm _ _ c.2
    have nan1 := hk c1 h1.1
    rcases hc with e | e | e <;> rw [e]
    · exact L.le_trans _ _ _ nan1 c' h1.2.1
    · exact L.le_trans _ _ _ nan1 c' (h1.2.2 (e ▸ hi))
    · exact L.irrefl _
  · next c =>
    rcases hc with e | e | e <;> rw [e]
    · exact h1.2.1
    · exact h1.2.2 (e ▸ hi)
    · simpa [e ▸ hi] using c

/-- Heap order on all nodes whose parent position is `≥ s`: what the `heapify` loop has established
when it has sifted the positions from `s` on (`s = 0`: `Ordered`). -/
def OrderedFrom (h : Heap α) (s : Nat) : Prop :=
  ∀ i, 1 ≤ i → i < h.heap.size → s ≤ (i - 1) / 2 →
    Num.lt (h.key i) (h.key ((i - 1) / 2)) = false

theorem ordered_iff_from (h : Heap α) : Ordered h ↔ OrderedFrom h 0 := by
  constructor
  · intro ho i h1 h2 _; exact ho i h1 h2
  · intro ho i h1 h2; exact ho i h1 h2 (Nat.zero_le _)

/-- The `sift_down` invariant: ordered (from `s`) except between `p` and its children; the
children of `p` are `≥` the parent of `p`. -/
structure DownInv (h : Heap α) (s p : Nat) : Prop where
  other : ∀ i, 1 ≤ i → i < h.heap.size → s ≤ (i - 1) / 2 → (i - 1) / 2 ≠ p →
    Num.lt (h.key i) (h.key ((i - 1) / 2)) = false
  grand : ∀ i, 1 ≤ i → i < h.heap.size → (i - 1) / 2 = p → 1 ≤ p → s ≤ (p - 1) / 2 →
    Num.lt (h.key i) (h.key ((p - 1) / 2)) = false

theorem DownInv.stop {h : Heap α} {s p : Nat} (inv : DownInv h s p)
    (hmin : ∀ i, i < h.heap.size → (i = p ∨ i = 2 * p + 1 ∨ i = 2 * p + 2) →
      Num.lt (h.key i) (h.key (downChild h p)) = false)
    (hc : downChild h p = p) : OrderedFrom h s := by
  intro i h1 h2 h3
  by_cases e : (i - 1) / 2 = p
  · rw [e]
    have := hmin i h2 (child_cases h1 e)
    rwa [hc] at this
  · exact inv.other i h1 h2 h3 e

/-- After exchanging `p` with its smaller child `c`, the only possible violations are below `c`. -/
theorem DownInv.step {h h' : Heap α} {s p : Nat} (inv : DownInv h s p) (hs : s ≤ p)
    (hmin : ∀ i, i < h.heap.size → (i = p ∨ i = 2 * p + 1 ∨ i = 2 * p + 2) →
      Num.lt (h.key i) (h.key (downChild h p)) = false)
    (hp : p < h.heap.size)
    (hc : downChild h p ≠ p) (sw : Swapped h h' p (downChild h p)) :
    DownInv h' s (downChild h p) := by
  have hcc := (downChild_cases h p).resolve_left hc
  generalize downChild h p = c at *
  have hpc : 1 ≤ c ∧ p < c := by omega
  have hc1 : (c - 1) / 2 = p := by omega
  have hc3 := hcc.2.2
  constructor
  · intro i h1 h2 h3 h4
    rw [sw.size] at h2
    by_cases e1 : (i - 1) / 2 = p
    · -- a child of `p`: the new key at `p` is the minimum of the three
      rw [e1, sw.key_left]
      by_cases e2 : i = c
      · rw [e2, sw.key_right]
        exact hmin p hp (Or.inl rfl)
      · rw [sw.key_other (e1 ▸ parent_ne h1).symm e2]
        exact hmin i h2 (child_cases h1 e1)
    · rw [sw.key_other (k := (i - 1) / 2) e1 h4]
      by_cases e2 : i = p
      · rw [e2, sw.key_left]
        exact inv.grand c hpc.1 hc3 hc1 (e2 ▸ h1) (e2 ▸ h3)
      · rw [sw.key_other e2 (fun e => e1 (e ▸ hc1))]
        exact inv.other i h1 h2 h3 e1
  · intro i h1 h2 h3 h4 h5
    rw [sw.size] at h2
    have hci : c < i := h3 ▸ parent_lt_self h1
    rw [hc1, sw.key_left,
      sw.key_other (Nat.ne_of_gt (Nat.lt_trans hpc.2 hci)) (Nat.ne_of_gt hci)]
    have := inv.other i h1 h2 (h3 ▸ Nat.le_trans hs (Nat.le_of_lt hpc.2)) (h3 ▸ hc)
    rwa [h3] at this

/-- What the sift loops preserve besides order. -/
structure SameLive (h h' : Heap α) : Prop where
  wf : WF h'
  prio : h'.prio = h.prio
  removed : h'.removed = h.removed
  size : h'.heap.size = h.heap.size
  live : ∀ o, h'.Live o ↔ h.Live o

omit [Num α] in
theorem SameLive.refl {h : Heap α} (hw : WF h) : SameLive h h :=
  ⟨hw, rfl, rfl, rfl, fun _ => Iff.rfl⟩

omit [Num α] in
theorem SameLive.trans {h1 h2 h3 : Heap α} (a : SameLive h1 h2) (b : SameLive h2 h3) :
    SameLive h1 h3 :=
  ⟨b.wf, b.prio.trans a.prio, b.removed.trans a.removed, b.size.trans a.size,
    fun o => (b.live o).trans (a.live o)⟩

theorem Swapped.sameLive {h h' : Heap α} {i j : Nat} (sw : Swapped h h' i j) : SameLive h h' :=
  ⟨sw.wf, sw.prio, sw.removed, sw.size, sw.live⟩

theorem SameLive.noNaN {h h' : Heap α} (sl : SameLive h h') (hn : NoNaN h) : NoNaN h' := by
  intro o a hl ha
  rw [sl.prio] at ha
  exact hn o a ((sl.live o).mp hl) ha

/-- `sift_down` from a live observation at position `p`, with fuel `≥ size - p`: no panic in either
build mode; `WF`, priorities, `removed` and the live set are unchanged; and heap order (from `s`) is
restored if it was violated only between `p` and its children. -/
theorem siftDown_spec (chk : Bool) : ∀ (fuel : Nat) (h : Heap α) (o p : Nat), WF h →
    h.heap[p]? = some o → h.heap.size - p ≤ fuel →
    ∃ h', siftDown chk fuel h o = .ok h' ∧ SameLive h h' ∧
      (OrderLaws α → NoNaN h → ∀ s, s ≤ p → DownInv h s p → OrderedFrom h' s) := by
  intro fuel
  induction fuel with
  | zero =>
    intro h o p hw hp hf
    have := pos_lt hp
    omega
  | succ fuel ih =>
    intro h o p hw hp hf
    have hpn := pos_lt hp
    rw [siftDown_succ hw hp]
    by_cases hc : downChild h p = p
    · rw [if_pos hc]
      exact ⟨h, rfl, SameLive.refl hw, fun L hn s _ inv =>
        inv.stop (downChild_min L fun i => hw.key_noNaN hn) hc⟩
    · rw [if_neg hc]
      have hcc := (downChild_cases h p).resolve_left hc
      have hc3 : downChild h p < h.heap.size ∧ p < downChild h p := ⟨hcc.2.2, by omega⟩
      obtain ⟨oc, hoc⟩ := exists_heap hc3.1
      obtain ⟨h1, hs1, sw⟩ := swap_swapped hw hp hoc
      have hp1 : h1.heap[downChild h p]? = some o := by
        rw [sw.heap]; simp [hp]
      obtain ⟨h', hs', sl, ho⟩ := ih h1 o (downChild h p) sw.wf hp1 (by rw [sw.size]; omega)
      refine ⟨h', ?_, sw.sameLive.trans sl, fun L hn s hs inv =>
        ho L (sw.sameLive.noNaN hn) s (Nat.le_trans hs (Nat.le_of_lt hc3.2))
          (inv.step hs (downChild_min L fun i => hw.key_noNaN hn) hpn hc sw)⟩
      simp [hoc, hs1, hs', bind, Except.bind]

theorem siftUp_succ {h : Heap α} (hw : WF h) {p o : Nat} (hp : h.heap[p]? = some o)
    (chk : Bool) (fuel : Nat) :
    siftUp chk (fuel + 1) h o =
      if p = 0 then .ok h
      else if Num.lt (h.key ((p - 1) / 2)) (h.key p) = true then .ok h
      else h.swap o ((h.heap[(p - 1) / 2]?).getD 0) >>= fun h' => siftUp chk fuel h' o := by
  have hobs := hw.heap_obs p o hp
  have hpn := pos_lt hp
  obtain ⟨kp, hkp⟩ := hw.exists_prio hp
  have hkey := key_eq hp hkp
  rw [siftUp]
  simp only [aget, hobs, bind, Except.bind]
  by_cases h0 : p = 0
  · simp [h0, pure, Except.pure]
  · have hq : (p - 1) / 2 < h.heap.size := parent_lt hpn
    obtain ⟨q, hq1⟩ := exists_heap hq
    obtain ⟨kq, hkq⟩ := hw.exists_prio hq1
    have hkeyq := key_eq hq1 hkq
    have hq2 : h.heap[(p - 1) / 2] = q := (Array.getElem?_eq_some_iff.mp hq1).2
    by_cases c : Num.lt kq kp = true
    · simp [h0, hq1, hkq, hkp, hkey, hkeyq, c, pure, Except.pure]
    · simp [h0, hq1, hkq, hkp, hkey, hkeyq, c]

/-- The `sift_up` invariant: ordered except between `p` and its parent; the children of `p`
are `≥` the parent of `p`. -/
structure UpInv (h : Heap α) (p : Nat) : Prop where
  other : ∀ i, 1 ≤ i → i < h.heap.size → i ≠ p →
    Num.lt (h.key i) (h.key ((i - 1) / 2)) = false
  grand : ∀ i, 1 ≤ i → i < h.heap.size → (i - 1) / 2 = p → 1 ≤ p →
    Num.lt (h.key i) (h.key ((p - 1) / 2)) = false

/-- `UpInv` leaves one edge open: heap order holds once `p` is `≥` its parent. -/
theorem UpInv.ordered {h : Heap α} {p : Nat} (inv : UpInv h p)
    (c : 1 ≤ p → Num.lt (h.key p) (h.key ((p - 1) / 2)) = false) : Ordered h := fun i h1 h2 =>
  if e : i = p then e ▸ c (e ▸ h1) else inv.other i h1 h2 e

theorem UpInv.stop0 {h : Heap α} (inv : UpInv h 0) : Ordered h :=
  inv.ordered fun h => absurd h (Nat.not_succ_le_zero 0)

theorem UpInv.stop (L : OrderLaws α) {h : Heap α} {p : Nat} (inv : UpInv h p)
    (c : Num.lt (h.key ((p - 1) / 2)) (h.key p) = true) : Ordered h :=
  inv.ordered fun _ => L.asymm _ _ c

/-- After exchanging `p` with its parent `q ≥ p` (in key order), the only possible violation is
between `q` and its parent. -/
theorem UpInv.step (L : OrderLaws α) {h h' : Heap α} {p : Nat} (inv : UpInv h p)
    (hk : ∀ i, i < h.heap.size → Num.isNaN (h.key i) = false) (hp : p < h.heap.size) (h0 : p ≠ 0)
    (c : Num.lt (h.key ((p - 1) / 2)) (h.key p) = false)
    (sw : Swapped h h' p ((p - 1) / 2)) : UpInv h' ((p - 1) / 2) := by
  generalize hqd : (p - 1) / 2 = q at *
  have hqp : q < p := hqd ▸ parent_lt_self (Nat.pos_of_ne_zero h0)
  have nanQ := hk q (Nat.lt_trans hqp hp)
  constructor
  · intro i h1 h2 h3
    rw [sw.size] at h2
    by_cases e1 : i = p
    · rw [e1, hqd, sw.key_left, sw.key_right]
      exact c
    · rw [sw.key_other e1 h3]
      have a1 := inv.other i h1 h2 e1
      by_cases e2 : (i - 1) / 2 = q
      · -- a sibling of `p`: `key p ≤ key q ≤ key i`
        rw [e2, sw.key_right]
        rw [e2] at a1
        exact L.le_trans _ _ _ nanQ c a1
      · by_cases e3 : (i - 1) / 2 = p
        · rw [e3, sw.key_left, ← hqd]
          exact inv.grand i h1 h2 e3 (Nat.pos_of_ne_zero h0)
        · rw [sw.key_other e3 e2]
          exact a1
  · intro i h1 h2 h3 h4
    rw [sw.size] at h2
    rw [sw.key_other (k := (q - 1) / 2) (Nat.ne_of_lt (Nat.lt_trans (parent_lt_self h4) hqp))
      (parent_ne h4)]
    have aq := inv.other q h4 (Nat.lt_trans hqp hp) (Nat.ne_of_lt hqp)
    by_cases e4 : i = p
    · rw [e4, sw.key_left]
      exact aq
    · rw [sw.key_other e4 (h3 ▸ parent_ne h1).symm]
      have a1 := inv.other i h1 h2 e4
      rw [h3] at a1
      exact L.le_trans _ _ _ nanQ aq a1

/-- `sift_up` from a live observation at position `p` with fuel `> p`: no panic; `WF`, priorities,
`removed` and the live set are unchanged; and heap order is restored if it was violated only
between `p` and its parent. -/
theorem siftUp_spec (chk : Bool) : ∀ (fuel : Nat) (h : Heap α) (o p : Nat), WF h →
    h.heap[p]? = some o → p < fuel →
    ∃ h', siftUp chk fuel h o = .ok h' ∧ SameLive h h' ∧
      (OrderLaws α → NoNaN h → UpInv h p → Ordered h') := by
  intro fuel
  induction fuel with
  | zero => intro h o p hw hp hf; omega
  | succ fuel ih =>
    intro h o p hw hp hf
    have hpn := pos_lt hp
    rw [siftUp_succ hw hp]
    by_cases h0 : p = 0
    · rw [if_pos h0]
      exact ⟨h, rfl, SameLive.refl hw, fun _ _ inv => (h0 ▸ inv).stop0⟩
    · rw [if_neg h0]
      by_cases c : Num.lt (h.key ((p - 1) / 2)) (h.key p) = true
      · rw [if_pos c]; exact ⟨h, rfl, SameLive.refl hw, fun L _ inv => inv.stop L c⟩
      · rw [if_neg c]
        obtain ⟨q, hq1⟩ := exists_heap (parent_lt hpn)
        obtain ⟨h1, hs1, sw⟩ := swap_swapped hw hp hq1
        have hp1 : h1.heap[(p - 1) / 2]? = some o := by
          rw [sw.heap]; simp [hp]
        obtain ⟨h', hs', sl, ho⟩ := ih h1 o ((p - 1) / 2) sw.wf hp1
          (Nat.lt_of_lt_of_le (parent_lt_self (Nat.pos_of_ne_zero h0)) (Nat.le_of_lt_succ hf))
        refine ⟨h', ?_, sw.sameLive.trans sl, fun L hn inv => ho L (sw.sameLive.noNaN hn)
          (inv.step L (fun i => hw.key_noNaN hn) hpn h0 (by simpa using c) sw)⟩
        simp [hq1, hs1, hs', bind, Except.bind]

end Heap
end Kodama
