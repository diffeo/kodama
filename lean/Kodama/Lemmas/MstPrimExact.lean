/-
`relabel .single` applied to a Prim path: the processing order is the path sorted by weight
(`processed_single`, `processed_sorted`), and the output is tied to it by `OutOf` (`relabel_outOf`:
heights kept, beneath label `n+k` lies the component of the `k`-th processed edge after `k+1`
edges — `relabel_leaves` read on component maps).
-/
import Kodama.Lemmas.MstPrimInterval
import Kodama.Lemmas.MstPrimComp
import Kodama.Lemmas.Relabel
namespace Kodama
open Spec
variable {α : Type} [Num α]

theorem processed_single (steps : Array (Step α)) :
    (processed .single steps).toList = steps.toList.mergeSort stepLe := by
  simp [processed, Method.requiresSorting]

theorem processed_sorted (L : OrderLaws α) (steps : Array (Step α))
    (hnn : ∀ s ∈ steps.toList, Num.isNaN s.d = false) :
    (processed .single steps).toList.Pairwise (fun a b => Num.lt b.d a.d = false) := by
  rw [processed_single]
  exact pairwise_mergeSort_stepLe L _ hnn

section
variable {n : Nat} {data : Array α} {ord : List Nat} {rs ps os : List (Step α)}

theorem PrimRun.nn (run : PrimRun n data ord rs) {s : Step α} (hs : s ∈ rs) :
    Num.isNaN s.d = false := by
  obtain ⟨t, ht⟩ := List.mem_iff_getElem?.mp hs
  obtain ⟨_, _, _, _, _, mc⟩ := run.steps t s ht
  exact mc.nn

theorem lightConn_compAt {l : α} {i : Nat}
    (hall : ∀ s ∈ rs, Num.lt l s.d = false → ∃ j, j < i ∧ ps[j]? = some s) {u v : Nat}
    (h : LightConn rs l u v) : compAt (edgesOf ps) i u = compAt (edgesOf ps) i v := by
  induction h with
  | refl => rfl
  | tail _ h2 ih =>
    obtain ⟨s, hs, hl, hor⟩ := h2
    obtain ⟨j, hji, hj⟩ := hall s hs hl
    have := compAt_edge _ (edgesOf_at hj) hji
    rcases hor with ⟨e1, e2⟩ | ⟨e1, e2⟩ <;> rw [e1, e2] at this
    · exact ih.trans this
    · exact ih.trans this.symm

/-- The step list `os` carries the heights of `ps`, and beneath its label `n + k` lies the component
of the `k`-th edge of `ps` after `k + 1` edges (what `relabel_wellFormed` and `relabel_leaves` say
about the output of `relabel`). -/
structure OutOf (n : Nat) (ps os : List (Step α)) : Prop where
  wf : WellFormed n os
  len : os.length = ps.length
  raw : RawTree n (edgesOf ps)
  out : ∀ (k : Nat) (st : Step α), os[k]? = some st → ∃ s0, ps[k]? = some s0 ∧ st.d = s0.d ∧
    ∀ y, y ∈ leaves n os os.length (n + k) ↔
      (y < n ∧ compAt (edgesOf ps) (k + 1) y = compAt (edgesOf ps) (k + 1) s0.c1)

theorem relabel_outOf (m : Method) (uf0 uf : UF) (d d' : Dendrogram α) (n : Nat) (hn : 2 ≤ n)
    (hobs : d.obs = n) (hraw : RawTree n (rawOf d)) (h : relabel m uf0 d = .ok (uf, d')) :
    OutOf n (processed m d.steps).toList d'.steps.toList := by
  have hraw' : RawTree n (d.steps.toList.map (fun s => (s.c1, s.c2))) := hraw
  obtain ⟨hsize, hall⟩ := relabel_leaves m uf0 uf d d' n hn hobs hraw' h
  obtain ⟨_, hwf⟩ := relabel_wellFormed m uf0 uf d d' n hn hobs hraw' h
  have hlen : d'.steps.toList.length = (processed m d.steps).toList.length := by
    simpa using hsize
  refine ⟨hwf, hlen, rawTree_processed m hraw', ?_⟩
  intro k st hst
  have hk : k < (processed m d.steps).toList.length := by
    rw [← hlen]; exact (List.getElem?_eq_some_iff.mp hst).1
  obtain ⟨s', hs', hd, _, hmem⟩ := hall k (processed m d.steps).toList[k] (by simp)
  rw [hst] at hs'
  cases hs'
  rw [Array.length_toList]
  exact ⟨_, by simp, hd, hmem⟩

end

end Kodama
