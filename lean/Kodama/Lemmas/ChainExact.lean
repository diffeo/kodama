/-
In EXACT arithmetic (a linearly ordered field `K` whose `Num K` instance computes the field
operations — `FieldLaws K` — and has no NaN) every one of the five chain methods is `ChainReducible`
(and `<` satisfies `OrderLaws`: `FieldLaws.orderLaws`).  So over such a `K` (e.g. `fieldNum ℚ`) the
nnchain theorems hold for average / weighted / Ward too.  For the weighted update `ChainReducible` is
false of IEEE floats (overflow; `Lemmas/ChainOn.lean`), which is why it stays a hypothesis in the
float-facing statements.
For average and Ward the clamps of `method::average` / `method::ward` are no-ops here
(`FieldLaws.average_eq_mean`, `Lemmas/AverageExact.lean`; `FieldLaws.ward_eq_formula`,
`Lemmas/WardExact.lean`); they make the `ge` clause of `ChainReducible α .average` / `.ward` a theorem
in every ordered number type (`chainReducible_average`, `chainReducible_ward`, `Lemmas/ChainIter.lean`).
-/
import Kodama.Lemmas.ChainIter
import Kodama.Lemmas.FieldInstances
namespace Kodama
variable {K : Type} [Field K] [LinearOrder K] [IsStrictOrderedRing K] [Num K]

/-- In exact arithmetic without NaN all five chain methods are reducible: the clamped average and Ward
in every ordered number type, weighted because `+` and `½·` are monotone. -/
theorem chainReducible_exact (F : FieldLaws K) (hnan : ∀ x : K, Num.isNaN x = false)
    (m : MethodChain) : ChainReducible K m where
  ge := fun sizes sa sb dab x va vb v t hsa hsb =>
    (F.lwGeOn (fun _ => True) m.intoMethod (by cases m <;> rfl)).chainGeOn
      sizes sa sb dab x va vb v t hsa hsb trivial trivial trivial trivial
  nan := fun _ _ _ _ _ _ _ v _ _ _ _ _ _ _ _ => hnan v

/-- Non-vacuity: the rationals with their field operations. -/
example : @ChainReducible ℚ (fieldNum ℚ) .ward :=
  @chainReducible_exact ℚ _ _ _ (fieldNum ℚ) (fieldNum_laws ℚ) (fun _ => rfl) .ward

end Kodama
