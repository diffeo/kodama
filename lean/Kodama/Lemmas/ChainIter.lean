/-
One outer iteration of `nnchainWith` (src/chain.rs) re-establishes the invariant `ChainInv` of the outer
loop (`chainIter_step`: the search for a reciprocal pair, `chainSearch_ok`, then update and merge,
`chainMerge_ok`).  `ChainInv` is `PrimInv` plus: positive sizes, no NaN between live clusters nor among
the recorded heights, the chain below the merged pair is a `ChainL` (`Lemmas/ChainInv.lean`), and the
potential `work` that bounds `Mat.acc`.

Hypotheses: `OrderLaws α` (`<` is a strict weak order on the non-NaN values: true of IEEE `<`) and
`ChainReducible α m`, the closure property of the Lance–Williams update of method `m` in the weakest
form the proof uses: if `d(a,b) ≤ t ≤ d(a,x), d(b,x)` (non-NaN, positive sizes) then `d(a∪b,x)` is not
NaN and `≥ t`.  For single and complete it is a theorem (the update returns one of its arguments).
For average and Ward the `ge` clause is a theorem from `OrderLaws`, because `method::average` and
`method::ward` clamp the result from below by the smaller argument; only the no-NaN clause
(`AverageNoNaN`, `WardNoNaN`) stays a hypothesis.  For weighted it holds in exact arithmetic
(`Lemmas/ChainExact.lean`); over IEEE floats it fails by overflow only and holds on a domain of moderate
values (`ChainReducibleOn`, `Lemmas/ChainOn.lean`, `Lemmas/WeightedMono.lean`), which is why
`chainMerge_ok` and `chainIter_step` take the domain form `ChainGeOn`.
-/
import Kodama.Lemmas.ChainInv
import Kodama.Lemmas.PrimInv
import Kodama.Lemmas.AverageClamp
import Kodama.Lemmas.WardClamp
import Kodama.Lemmas.PrimGreedySpec
namespace Kodama
open Spec
variable {α : Type} [Num α]

/-- The per-pair update function that `chainUpdate` hands to `updateRows`, as a function of the
two recorded sizes and of `d(a,b)` (only Ward reads the latter, only average/Ward the former). -/
def chainUpdFn (m : MethodChain) (sizes : Array Nat) (sa sb : Nat) (dab : α) :
    Nat → α → α → R α :=
  match m with
  | .single => updFn .single sizes 0 0 Num.infinity
  | .complete => updFn .complete sizes 0 0 Num.infinity
  | .weighted => updFn .weighted sizes 0 0 Num.infinity
  | .average => updFn .average sizes sa sb Num.infinity
  | .ward => updFn .ward sizes sa sb dab

/-- Reducibility of the update of method `m`, in the closure form used by the chain invariant:
whenever `d(a,b) ≤ t ≤ d(a,x), d(b,x)` (non-NaN values, positive sizes) the new distance
`d(a∪b, x)` is not NaN and still `≥ t`.  (`¬ u < v` is written `Num.lt u v = false`.) -/
structure ChainReducible (α : Type) [Num α] (m : MethodChain) : Prop where
  ge : ∀ (sizes : Array Nat) (sa sb : Nat) (dab : α) (x : Nat) (va vb v t : α),
    0 < sa → 0 < sb → Num.isNaN dab = false → Num.isNaN va = false → Num.isNaN vb = false →
    Num.isNaN t = false → Num.lt t dab = false → Num.lt va t = false → Num.lt vb t = false →
    chainUpdFn m sizes sa sb dab x va vb = .ok v → Num.lt v t = false
  nan : ∀ (sizes : Array Nat) (sa sb : Nat) (dab : α) (x : Nat) (va vb v : α),
    0 < sa → 0 < sb → Num.isNaN dab = false → Num.isNaN va = false → Num.isNaN vb = false →
    Num.lt va dab = false → Num.lt vb dab = false →
    chainUpdFn m sizes sa sb dab x va vb = .ok v → Num.isNaN v = false

/-- The `ge` clause of `ChainReducible` with `dab`, `va`, `vb`, `t` restricted to a domain `ok` of
values; it is the `ge` clause of `ChainReducibleOn` (`Lemmas/ChainOn.lean`).  This is the form in which
reducibility of the WEIGHTED update is true of IEEE floats (monotone rounding; the unrestricted form
fails by overflow at `t = −max_value`). -/
def ChainGeOn (ok : α → Prop) (m : MethodChain) : Prop :=
  ∀ (sizes : Array Nat) (sa sb : Nat) (dab : α) (x : Nat) (va vb v t : α),
    0 < sa → 0 < sb → ok dab → ok va → ok vb → ok t →
    Num.isNaN dab = false → Num.isNaN va = false → Num.isNaN vb = false →
    Num.isNaN t = false → Num.lt t dab = false → Num.lt va t = false → Num.lt vb t = false →
    chainUpdFn m sizes sa sb dab x va vb = .ok v → Num.lt v t = false

/-- A successful update is the Lance–Williams value of the method, at some size of the third
cluster (the one the size table holds for `x`; only Ward reads it). -/
theorem chainUpdFn_ok_lw {m : MethodChain} {sizes : Array Nat} {sa sb : Nat} {dab : α} {x : Nat}
    {va vb v : α} (h : chainUpdFn m sizes sa sb dab x va vb = .ok v) :
    ∃ sx, v = lw m.intoMethod va vb dab sa sb sx := by
  cases m
  case ward =>
    cases hx : aget sizes x with
    | error e => simp [chainUpdFn, updFn, hx, bind, Except.bind] at h
    | ok sx =>
      simp only [chainUpdFn, updFn, hx, bind, Except.bind, pure, Except.pure, Except.ok.injEq] at h
      exact ⟨sx, h.symm⟩
  all_goals
    simp only [chainUpdFn, updFn, pure, Except.pure, Except.ok.injEq] at h
    exact ⟨0, h.symm⟩

/-- Reducibility of the formula is reducibility of the update of `nnchain_with`. -/
theorem Spec.LwGeOn.chainGeOn {ok : α → Prop} {m : MethodChain} (h : LwGeOn ok m.intoMethod) :
    ChainGeOn ok m := by
  intro sizes sa sb dab x va vb v t hsa hsb o1 o2 o3 o4 n1 n2 n3 n4 h0 h1 h2 hv
  obtain ⟨sx, rfl⟩ := chainUpdFn_ok_lw hv
  exact h sa sb sx dab va vb t hsa hsb o1 o2 o3 o4 n1 n2 n3 n4 h0 h1 h2

/-- Single linkage is reducible: the update returns one of its arguments. -/
theorem chainReducible_single : ChainReducible α .single where
  ge := fun sizes sa sb dab x va vb v t hsa hsb => (lwGeOn_single fun _ => True).chainGeOn
    sizes sa sb dab x va vb v t hsa hsb trivial trivial trivial trivial
  nan := by
    intro sizes sa sb dab x va vb v _ _ _ h1 h2 _ _ h
    simp only [chainUpdFn, updFn, Gen.single, pure, Except.pure, Except.ok.injEq] at h
    subst h; split <;> assumption

theorem chainReducible_complete : ChainReducible α .complete where
  ge := fun sizes sa sb dab x va vb v t hsa hsb => (lwGeOn_complete fun _ => True).chainGeOn
    sizes sa sb dab x va vb v t hsa hsb trivial trivial trivial trivial
  nan := by
    intro sizes sa sb dab x va vb v _ _ _ h1 h2 _ _ h
    simp only [chainUpdFn, updFn, Gen.complete, pure, Except.pure, Except.ok.injEq] at h
    subst h; split <;> assumption

/-- The `nan` clause of `ChainReducible α .average` as a named hypothesis.  It is a statement about
`+ × /` of the number type only (no overflow to `∞ − ∞`, no `0/0`): the clamp never creates a NaN
(`averageNoNaN_of_mean`). -/
def AverageNoNaN (α : Type) [Num α] : Prop :=
  ∀ (sizes : Array Nat) (sa sb : Nat) (dab : α) (x : Nat) (va vb v : α),
    0 < sa → 0 < sb → Num.isNaN dab = false → Num.isNaN va = false → Num.isNaN vb = false →
    Num.lt va dab = false → Num.lt vb dab = false →
    chainUpdFn .average sizes sa sb dab x va vb = .ok v → Num.isNaN v = false

theorem averageNoNaN_of_mean
    (h : ∀ (a b : α) (sa sb : Nat), 0 < sa → 0 < sb → Num.isNaN a = false → Num.isNaN b = false →
      Num.isNaN (Gen.averageMean a b sa sb) = false) : AverageNoNaN α := by
  intro sizes sa sb dab x va vb v hsa hsb _ na nb _ _ hv
  simp only [chainUpdFn, updFn, pure, Except.pure, Except.ok.injEq] at hv
  subst hv
  exact Gen.average_isNaN_of_mean na nb (h va vb sa sb hsa hsb na nb)

/-- The clamped average is reducible in every ordered number type.  `ge` needs `OrderLaws` only: the
update returns one of its arguments, or a mean that is not below the smaller argument
(`Gen.average_not_lt`); no field law, no exact arithmetic, no assumption on rounding.  `nan` is the
hypothesis `AverageNoNaN`. -/
theorem chainReducible_average (L : OrderLaws α) (hn : AverageNoNaN α) :
    ChainReducible α .average where
  ge := fun sizes sa sb dab x va vb v t hsa hsb => (lwGeOn_average L fun _ => True).chainGeOn
    sizes sa sb dab x va vb v t hsa hsb trivial trivial trivial trivial
  nan := hn

/-- The `nan` clause of `ChainReducible α .ward` as a named hypothesis.  It is a statement about
`+ − × /` of the number type only (no overflow to `∞ − ∞`, no `0/0`): guard and clamp never create a
NaN (`wardNoNaN_of_value`). -/
def WardNoNaN (α : Type) [Num α] : Prop :=
  ∀ (sizes : Array Nat) (sa sb : Nat) (dab : α) (x : Nat) (va vb v : α),
    0 < sa → 0 < sb → Num.isNaN dab = false → Num.isNaN va = false → Num.isNaN vb = false →
    Num.lt va dab = false → Num.lt vb dab = false →
    chainUpdFn .ward sizes sa sb dab x va vb = .ok v → Num.isNaN v = false

theorem wardNoNaN_of_value
    (h : ∀ (a b c : α) (sa sb sx : Nat), 0 < sa → 0 < sb → Num.isNaN a = false →
      Num.isNaN b = false → Num.isNaN c = false → Num.lt a c = false → Num.lt b c = false →
      Num.isNaN (Gen.wardValue a b c sa sb sx) = false) : WardNoNaN α := by
  intro sizes sa sb dab x va vb v hsa hsb nc na nb h1 h2 hv
  obtain ⟨sx, rfl⟩ := chainUpdFn_ok_lw hv
  exact Gen.ward_isNaN_of_value na nb (h va vb dab sa sb sx hsa hsb na nb nc h1 h2)

/-- The guarded, clamped Ward update is reducible in every ordered number type.  `ge` needs `OrderLaws`
only: from `dab ≤ t ≤ va, vb` the guard `¬ least < dab` of `method::ward` is true, so the update
returns `least ∈ {va, vb}`, or a quotient that is not below `least` (`Gen.ward_not_lt`); no field law,
no exact arithmetic, no assumption on rounding.  `nan` is the hypothesis `WardNoNaN`. -/
theorem chainReducible_ward (L : OrderLaws α) (hn : WardNoNaN α) :
    ChainReducible α .ward where
  ge := fun sizes sa sb dab x va vb v t hsa hsb => (lwGeOn_ward L fun _ => True).chainGeOn
    sizes sa sb dab x va vb v t hsa hsb trivial trivial trivial trivial
  nan := hn

theorem averageNoNaN_of_noNaN (h : ∀ x : α, Num.isNaN x = false) : AverageNoNaN α :=
  fun _ _ _ _ _ _ _ v _ _ _ _ _ _ _ _ => h v

theorem wardNoNaN_of_noNaN (h : ∀ x : α, Num.isNaN x = false) : WardNoNaN α :=
  fun _ _ _ _ _ _ _ v _ _ _ _ _ _ _ _ => h v

theorem chainUpdFn_eq (mc : MethodChain) (sizes : Array Nat) (sa sb : Nat) (dab : α) (x : Nat)
    (va vb : α) (hx : x < sizes.size) :
    chainUpdFn mc sizes sa sb dab x va vb
      = .ok (Spec.lw mc.intoMethod va vb dab sa sb (sizes.getD x 0)) := by
  cases mc <;> simp only [chainUpdFn] <;> exact updFn_eq _ sizes _ _ _ x va vb hx

/-- How often `chainUpdate` reads the matrix before the row update (Ward reads `d(a,b)`). -/
def chainUpdTicks : MethodChain → Nat
  | .ward => 1
  | _ => 0

theorem chainUpdate_eq (chk : Bool) (m : MethodChain) (st : State α) (a b : Nat) (M : Mat α)
    (hv : M.Valid) (hab : a < b) (hbn : b < M.n) (hb : b < st.sizes.size) :
    chainUpdate chk m st a b M = updateRows chk st.active
      (chainUpdFn m st.sizes (st.sizes.getD a 0) (st.sizes.getD b 0) (M.dval a b)) a b
      (M.tick (chainUpdTicks m)) := by
  have ha : a < st.sizes.size := by omega
  have hga : st.sizes.getD a 0 = st.sizes[a] := (Array.getElem_eq_getD 0).symm
  have hgb : st.sizes.getD b 0 = st.sizes[b] := (Array.getElem_eq_getD 0).symm
  cases m with
  | single => rfl
  | complete => rfl
  | weighted => rfl
  | average =>
    unfold chainUpdate
    simp only [bind, Except.bind, aget, ha, hb, getElem?_pos, hga, hgb]
    rfl
  | ward =>
    unfold chainUpdate
    rw [Mat.get_dval chk M hv a b hab hbn]
    simp only [bind, Except.bind, aget, ha, hb, getElem?_pos, hga, hgb]
    rfl

theorem C20.chainUpdate_size {chk : Bool} {m : MethodChain} {st : State α} {a b : Nat} {M M' : Mat α}
    (h : chainUpdate chk m st a b M = .ok M') : M'.data.size = M.data.size := by
  cases m <;> simp only [chainUpdate, bind_ok] at h
  · exact updateRows_size h
  · exact updateRows_size h
  · obtain ⟨_, _, _, _, h⟩ := h
    exact updateRows_size h
  · exact updateRows_size h
  · obtain ⟨_, _, _, _, _, _, h⟩ := h
    exact (updateRows_size h).trans rfl

/-- `chainUpdate` on two live clusters `a < b`: total; at most `2·(#live − 2) + 1` index computations;
writes `chainUpdFn … d(x,a) d(x,b)` into `d(x,b)` for every other live `x` and nothing else. -/
theorem chainUpdate_spec (chk : Bool) (m : MethodChain) (n : Nat) (live : List Nat) (st : State α)
    (hrep : st.active.Rep live n) (hsz : st.sizes.size = n)
    (a b : Nat) (hab : a < b) (ha : a ∈ live) (hb : b ∈ live) (M : Mat α) (hv : M.Valid)
    (hn : M.n = n) :
    ∃ M', chainUpdate chk m st a b M = .ok M' ∧ M'.n = n ∧ M'.acc + 4 ≤ M.acc + 2 * live.length + 1 ∧
      (∀ x ∈ live, x ≠ a → x ≠ b →
        chainUpdFn m st.sizes (st.sizes.getD a 0) (st.sizes.getD b 0) (M.dval a b) x
          (M.dval x a) (M.dval x b) = .ok (M'.dval x b)) ∧
      (∀ p q, p < n → q < n → p ≠ q → ¬ (q = b ∧ p ∈ live ∧ p ≠ a) → ¬ (p = b ∧ q ∈ live ∧ q ≠ a) →
        M'.dval p q = M.dval p q) := by
  have hlt := hrep.mem_lt
  rw [chainUpdate_eq chk m st a b M hv hab (by rw [hn]; exact hlt b hb) (by rw [hsz]; exact hlt b hb)]
  obtain ⟨M', e, n', a', d', f'⟩ := updateRows_dval chk n st.active live hrep
    (chainUpdFn m st.sizes (st.sizes.getD a 0) (st.sizes.getD b 0) (M.dval a b))
    (fun x hx va vb => ⟨_, chainUpdFn_eq m st.sizes _ _ _ x va vb (by rw [hsz]; exact hlt x hx)⟩)
    a b hab ha hb (M.tick (chainUpdTicks m)) (hv.tick _) hn
  have hk : chainUpdTicks m ≤ 1 := by cases m <;> decide
  have hacc : (M.tick (chainUpdTicks m)).acc = M.acc + chainUpdTicks m := rfl
  exact ⟨M', e, n', by omega, d', f'⟩

/-- The first statement of the loop body of chain.rs (restart the chain, or pop three entries),
split off `chainIter` (`chainIter_eq`). -/
def chainStart (chk : Bool) (st : State α) (M : Mat α) :
    R (Array Nat × Nat × Nat × α × Mat α) :=
  if st.chain.size < 4 then do
    let live ← st.active.iter
    let a ← unwrap live.head?
    let chain : Array Nat := #[a]
    let b ← unwrap live[1]?
    let min ← M.get chk a b
    let M := M.tick 1
    let r ← st.active.range (some b) none
    let sc ← (r.drop 1).foldlM (nnStep chk a true) ⟨b, min, M⟩
    pure (chain, a, sc.idx, sc.min, sc.M)
  else do
    let chain := st.chain.pop.pop
    let b ← unwrap chain.back?
    let chain := chain.pop
    let a ← chainFromEnd chk chain 1
    let min ← if a < b then M.get chk a b else M.get chk b a
    pure (chain, a, b, min, M.tick 1)

theorem chainIter_eq (chk : Bool) (m : MethodChain) (s : ChainSt α) :
    chainIter chk m s = (do
      let (chain, a, b, min, M) ← chainStart chk s.st s.M
      let (a, b, min, chain, M) ← chainGrow chk s.st.active (M.data.size + 2) chain a b min M
      let (a, b) := if a > b then (b, a) else (a, b)
      let st := { s.st with chain := chain }
      let M ← chainUpdate chk m st a b M
      let (st, dend) ← st.merge chk s.dend a b min
      pure ⟨st, dend, M⟩) := by
  -- `simp` moves the continuation into the branches of `chainStart` while `chainIter` is still
  -- folded: unfolded it has that form already, and is dear to traverse
  unfold chainStart
  by_cases h : s.st.chain.size < 4
  · rw [if_pos h]
    simp only [bind_assoc, pure_bind]
    unfold chainIter
    rw [if_pos h]
    rfl
  · rw [if_neg h]
    simp only [bind_assoc]
    unfold chainIter
    rw [if_neg h]
    refine bind_congr fun b => bind_congr fun a => ?_
    split <;> simp only [bind_assoc, pure_bind]

theorem ChainL.single {D : Nat → Nat → α} {live : List Nat} {a : Nat} (ha : a ∈ live) :
    ChainL D live [a] where
  mem := by intro c hc; simp only [List.mem_singleton] at hc; rw [hc]; exact ha
  nodup := by simp
  nn := by
    intro t q p rest e
    have := congrArg List.length e
    simp at this
    omega

theorem chainStart_ok (L : OrderLaws α) (chk : Bool) (n : Nat) (live : List Nat) (st : State α)
    (M : Mat α) (hrep : st.active.Rep live n) (hlen : 2 ≤ live.length) (hv : M.Valid)
    (hn : M.n = n) (hnonan : NoNaNLive M live)
    (hchain : 4 ≤ st.chain.size → ChainL M.dval live (topFirst st.chain.pop.pop)) :
    ∃ chain a b min rest j,
      chainStart chk st M = .ok (chain, a, b, min, M.tick j) ∧
      topFirst chain = a :: rest ∧ ChainL M.dval live (b :: a :: rest) ∧ min = M.dval a b ∧
      st.chain.size ≤ chain.size + 3 ∧ j ≤ 1 + 2 * live.length := by
  have hs := hrep.sorted
  have hlt := hrep.mem_lt
  by_cases hc : st.chain.size < 4
  · -- restart from the first live cluster
    obtain ⟨a, b0, tl, hlive⟩ := exists_cons_cons hlen
    have ha : a ∈ live := by rw [hlive]; simp
    have hb0 : b0 ∈ live := by rw [hlive]; simp
    have hab0 : a < b0 := by
      rw [hlive] at hs
      exact (List.pairwise_cons.mp hs).1 b0 (by simp)
    have hb0n : b0 < n := hlt b0 hb0
    have hafter : ∀ x ∈ live, x ≠ a → x ≠ b0 → b0 < x := by
      intro x hx hxa hxb
      rw [hlive] at hx hs
      rcases List.mem_cons.mp hx with h | hx
      · exact absurd h hxa
      · rcases List.mem_cons.mp hx with h | hx
        · exact absurd h hxb
        · exact (List.pairwise_cons.mp (List.pairwise_cons.mp hs).2).1 x hx
    have hget := Mat.get_dval chk M hv a b0 hab0 (by rw [hn]; exact hb0n)
    -- the nearest neighbour of `a`: `b0`, or a strictly closer cluster above it
    obtain ⟨⟨i1, m1, M1⟩, j, e, hM1, hj, -, le1, hm1, case1, all1⟩ :=
      nnFold_above L chk hrep ha hb0 (Nat.le_of_lt hab0) ⟨b0, M.dval a b0, M.tick 1⟩ (hv.tick 1) hn
        hnonan (hnonan a ha b0 hb0 (Nat.ne_of_lt hab0)) rfl
    simp only at hM1 hj le1 hm1 case1 all1
    rw [Mat.tick_tick] at hM1
    subst hM1
    have hD : (M.tick 1).dval = M.dval := rfl
    rw [hD] at hm1 all1
    have hidx : i1 ∈ live ∧ i1 ≠ a := by
      rcases case1 with hi | ⟨hi, hbi, _⟩
      · rw [hi]; exact ⟨hb0, Nat.ne_of_gt hab0⟩
      · exact ⟨hi, Nat.ne_of_gt (Nat.lt_trans hab0 hbi)⟩
    have hch : ChainL M.dval live [i1, a] := by
      apply (ChainL.single ha).cons hidx.1
      · simp only [List.mem_singleton]; exact hidx.2
      · intro c hc x hx hxc
        simp only [List.mem_singleton] at hc
        subst hc
        rw [← hm1]
        by_cases hxb : x = b0
        · rw [hxb]; exact le1
        · exact all1 x hx (hafter x hx hxc hxb)
    have hj' : j ≤ 2 * live.length := Nat.le_trans hj (Nat.mul_le_mul_left 2
      (Nat.le_trans (Nat.sub_le _ 1) (List.length_filter_le (fun x => decide (b0 ≤ x)) live)))
    refine ⟨#[a], a, i1, m1, [], 1 + j, ?_, by simp [topFirst], hch, hm1,
      by simp; omega, Nat.add_le_add_left hj' 1⟩
    unfold chainStart
    rw [if_pos hc, hrep.iter]
    simp only [bind, Except.bind, hlive, List.head?_cons, unwrap, List.getElem?_cons_succ,
      List.getElem?_cons_zero]
    rw [hget, hrep.range_ge b0 (Nat.le_of_lt hb0n)]
    simp only [e]
    rfl
  · -- pop the merged pair and the entry below it
    have hc4 : 4 ≤ st.chain.size := by omega
    have hch := hchain hc4
    obtain ⟨b, a, rest, hL2⟩ := exists_cons_cons (l := topFirst st.chain.pop.pop)
      (by rw [topFirst_length]; simp only [Array.size_pop]; omega)
    rw [hL2] at hch
    obtain ⟨hb, ha, hab⟩ := hch.top2
    have hback : st.chain.pop.pop.back? = some b := by rw [back?_topFirst, hL2]; rfl
    have htop3 : topFirst st.chain.pop.pop.pop = a :: rest := by rw [topFirst_pop, hL2]; rfl
    refine ⟨st.chain.pop.pop.pop, a, b, M.dval a b, rest, 1, ?_, htop3, hch, rfl,
      by simp only [Array.size_pop]; omega, Nat.le_add_right 1 _⟩
    unfold chainStart
    rw [if_neg hc]
    simp only [bind, Except.bind, hback, unwrap, chainFromEnd_succ chk _ 0 a (by rw [htop3]; rfl)]
    by_cases h : a < b
    · rw [if_pos h, Mat.get_dval chk M hv a b h (by rw [hn]; exact hlt b hb)]
      rfl
    · rw [if_neg h, Mat.get_dval chk M hv b a (Nat.lt_of_le_of_ne (Nat.le_of_not_lt h) hab.symm)
          (by rw [hn]; exact hlt a ha),
        Mat.dval_comm]
      rfl

/-- Invariant of the outer loop of `nnchainWith` after `k` merges (`PrimInv` plus the chain facts). -/
structure ChainInv (n k : Nat) (live : List Nat) (st : State α) (dend : Dendrogram α) (M : Mat α) :
    Prop where
  prim : PrimInv n k live st dend M
  sizes_pos : ∀ x ∈ live, 0 < st.sizes.getD x 0
  nonan : NoNaNLive M live
  /-- The top two entries are the pair merged last (one of them is no longer live); what lies below
  them is a chain for the current matrix.  With fewer than 4 entries the next iteration restarts the
  chain (`chainStart`, as chain.rs does) and never reads it. -/
  chain : 4 ≤ st.chain.size → ChainL M.dval live (topFirst st.chain.pop.pop)
  chain_sz : st.chain.size ≤ live.length + 1
  /-- every recorded height is a matrix entry between live clusters, hence not NaN -/
  heights : ∀ s ∈ dend.steps.toList, Num.isNaN s.d = false
  /-- The work potential.  A chain entry is charged `2·ℓ` (`ℓ = live.length`): a push scans at most `ℓ`
  clusters, one index computation for the test and at most one for an improvement.  A merge lowers
  `7·ℓ(ℓ+1)` by `14·ℓ`, which covers the restart scan and the update (`≤ 4·ℓ`), the at most 3 popped
  entries (`6·ℓ`) and the `2` that every remaining entry loses as `ℓ` drops (`≤ 2·ℓ`)
  (`chainWork_step`). -/
  work : M.acc + 7 * (live.length * (live.length + 1))
    ≤ 7 * (n * (n + 1)) + 2 * (live.length * st.chain.size)

/-- The work potential after an iteration: the search has counted `j` (one start, `p` pushes of at most
`2·l` each), the update at most `2·l − 3` more; the chain went from `s ≤ base + 3` to `base + p`. -/
theorem chainWork_step (acc acc' j l l' s base p N : Nat)
    (h0 : acc + 7 * (l * (l + 1)) ≤ N + 2 * (l * s))
    (hj : j ≤ 1 + 2 * l + 2 * l * p) (h1 : acc' + 4 ≤ acc + j + 2 * l + 1)
    (h2 : s ≤ base + 3) (h3 : base + p ≤ l)
    (h4 : l' + 1 = l) : acc' + 7 * (l' * (l' + 1)) ≤ N + 2 * (l' * (base + p)) := by
  subst h4
  have hm : l' * s ≤ l' * (base + 3) := Nat.mul_le_mul_left _ h2
  -- distribute; what is left is linear in `l' * l'`, `l' * s`, `l' * base`, `l' * p`
  simp only [Nat.add_mul, Nat.mul_add, Nat.one_mul, Nat.mul_one, Nat.mul_assoc] at h0 hj hm ⊢
  omega

structure ChainStepFacts (m : MethodChain) (n : Nat) (live : List Nat) (st : State α)
    (dend : Dendrogram α) (M : Mat α) (st' : State α) (dend' : Dendrogram α) (M' : Mat α)
    (a b : Nat) : Prop where
  lt : a < b
  ma : a ∈ live
  mb : b ∈ live
  /-- the recorded raw step: indices, height = current entry, size = sum of the two sizes -/
  steps : dend'.steps = dend.steps.push
    (Step.new a b (M.dval a b) (st.sizes.getD a 0 + st.sizes.getD b 0))
  obs : dend'.obs = dend.obs
  sizes : ∀ x, st'.sizes.getD x 0 =
    if x = b then st.sizes.getD a 0 + st.sizes.getD b 0 else st.sizes.getD x 0
  /-- reciprocal nearest neighbours: nothing is strictly closer to `a` or to `b` than they are to
  each other -/
  nn : ∀ c, (c = a ∨ c = b) → ∀ x ∈ live, x ≠ c → Num.lt (M.dval c x) (M.dval a b) = false
  upd : ∀ x ∈ live, x ≠ a → x ≠ b →
    chainUpdFn m st.sizes (st.sizes.getD a 0) (st.sizes.getD b 0) (M.dval a b) x
      (M.dval x a) (M.dval x b) = .ok (M'.dval x b)
  frame : ∀ p q, p < n → q < n → p ≠ q → ¬ (q = b ∧ p ∈ live ∧ p ≠ a) →
    ¬ (p = b ∧ q ∈ live ∧ q ≠ a) → M'.dval p q = M.dval p q

/-- The raw steps after the iteration, with the recorded step written out (`a < b`, so `Step.new` does
not swap). -/
theorem ChainStepFacts.steps_toList {m : MethodChain} {n : Nat} {live : List Nat} {st st' : State α}
    {dend dend' : Dendrogram α} {M M' : Mat α} {a b : Nat}
    (F : ChainStepFacts m n live st dend M st' dend' M' a b) :
    dend'.steps.toList = dend.steps.toList ++
      [⟨a, b, M.dval a b, st.sizes.getD a 0 + st.sizes.getD b 0⟩] := by
  rw [F.steps, Array.toList_push, Step.new, if_neg (Nat.lt_asymm F.lt)]

/-- The pair that `chainIter` merges, smaller index first. -/
theorem orderedPair (a b : Nat) (hab : a ≠ b) :
    ∃ lo hi, (if a > b then (b, a) else (a, b)) = (lo, hi) ∧ lo < hi ∧
      (lo = a ∧ hi = b ∨ lo = b ∧ hi = a) := by
  by_cases h : a > b
  · exact ⟨b, a, if_pos h, h, Or.inr ⟨rfl, rfl⟩⟩
  · exact ⟨a, b, if_neg h, by omega, Or.inl ⟨rfl, rfl⟩⟩

theorem ChainL.link {D : Nat → Nat → α} {live L : List Nat} (h : ChainL D live L)
    {t r : List Nat} {q p : Nat} (e : L = t ++ q :: p :: r) : p ∈ L ∧ q ∈ L ∧ p ≠ q := by
  have hn := h.nodup
  rw [e] at hn ⊢
  refine ⟨by simp, by simp, fun hpq => ?_⟩
  have := (List.nodup_append.mp hn).2.1
  rw [hpq] at this
  exact (List.nodup_cons.mp this).1 List.mem_cons_self

/-- What the search part of an iteration finds: reciprocal nearest neighbours `a < b`, and below them
a chain `rest` none of whose links is shorter than `D a b`. -/
structure ChainFound (D : Nat → Nat → α) (live : List Nat) (a b : Nat) (rest : List Nat) :
    Prop where
  lt : a < b
  ma : a ∈ live
  mb : b ∈ live
  nn : ∀ c, (c = a ∨ c = b) → ∀ x ∈ live, x ≠ c → Num.lt (D c x) (D a b) = false
  chain : ChainL D live rest
  notin : ∀ c ∈ rest, c ≠ a ∧ c ≠ b
  thr : ∀ t q p r, rest = t ++ q :: p :: r → Num.lt (D p q) (D a b) = false

/-- The search part of an iteration (restart or pop, grow the chain, order the pair): total, leaves
the matrix entries alone, and ends on a `ChainFound` pair on top of the chain; `p` counts the pushes. -/
theorem chainSearch_ok (L : OrderLaws α) (chk : Bool) (n : Nat) (live : List Nat) (st : State α)
    (M : Mat α) (hrep : st.active.Rep live n) (hlen : 2 ≤ live.length) (hv : M.Valid)
    (hn : M.n = n) (hnonan : NoNaNLive M live)
    (hchain : 4 ≤ st.chain.size → ChainL M.dval live (topFirst st.chain.pop.pop)) :
    ∃ chain0 a0 b0 min0 j0 a' b' chain' j lo hi rest p,
      chainStart chk st M = .ok (chain0, a0, b0, min0, M.tick j0) ∧
      chainGrow chk st.active ((M.tick j0).data.size + 2) chain0 a0 b0 min0 (M.tick j0)
        = .ok (a', b', M.dval lo hi, chain', M.tick j) ∧
      (if a' > b' then (b', a') else (a', b')) = (lo, hi) ∧
      ChainFound M.dval live lo hi rest ∧
      topFirst chain'.pop.pop = rest ∧ st.chain.size ≤ chain0.size + 3 ∧
      chain'.size = chain0.size + p ∧ chain'.size ≤ live.length ∧
      j ≤ 1 + 2 * live.length + 2 * live.length * p := by
  obtain ⟨chain0, a0, b0, min0, rest0, j0, e1, htop0, hch0, hmin0, hsz0, hj0⟩ :=
    chainStart_ok L chk n live st M hrep hlen hv hn hnonan hchain
  have hfuel : live.length ≤ (M.tick j0).data.size + 2 + chain0.size := by
    have h1 := hrep.length_le
    have h2 := hv.size
    have h3 : 2 * (M.n - 1) ≤ M.n * (M.n - 1) := Nat.mul_le_mul_right _ hv.two_le
    show live.length ≤ M.data.size + 2 + chain0.size
    omega
  obtain ⟨a', b', min', chain', rest, j1, p, e2, htop', hch', hmin', halla', hszp, hj1⟩ :=
    chainGrow_ok L chk n st.active live hrep ((M.tick j0).data.size + 2) chain0 a0 b0 min0 (M.tick j0)
      rest0
      (hv.tick j0) hn hnonan htop0 hch0 hmin0 hfuel
  have hD : (M.tick j0).dval = M.dval := rfl
  rw [hD] at hch' hmin' halla'
  obtain ⟨ha', hb', hne⟩ := hch'.top2
  have hnd' := List.nodup_cons.mp hch'.nodup
  have hnd'' := List.nodup_cons.mp hnd'.2
  have hrest : ChainL M.dval live rest := hch'.tail.tail
  have hheadnn := hch'.head_nn
  -- the merged pair, smaller index first; everything below is symmetric in `a'`, `b'`
  obtain ⟨lo, hi, hpair, hlohi, hor⟩ := orderedPair a' b' hne.symm
  obtain ⟨hlo, hhi, hdab, hsub⟩ : lo ∈ live ∧ hi ∈ live ∧ M.dval lo hi = M.dval a' b' ∧
      ∀ c, (c = lo ∨ c = hi) → (c = a' ∨ c = b') := by
    rcases hor with ⟨rfl, rfl⟩ | ⟨rfl, rfl⟩
    · exact ⟨ha', hb', rfl, fun c h => h⟩
    · exact ⟨hb', ha', Mat.dval_comm M _ _, fun c h => h.symm⟩
  have hclen := hch'.length_le
  rw [← htop', topFirst_length] at hclen
  refine ⟨chain0, a0, b0, min0, j0, a', b', chain', j0 + j1, lo, hi, rest, p, e1,
    by rw [e2, hmin', hdab, Mat.tick_tick], hpair, ?_,
    by rw [topFirst_pop, topFirst_pop, htop']; rfl, hsz0, hszp, hclen, by omega⟩
  exact
    { lt := hlohi
      ma := hlo
      mb := hhi
      nn := by
        intro c hc x hx hxc
        rw [hdab]
        rcases hsub c hc with h | h
        · rw [h] at hxc ⊢; rw [← hmin']; exact halla' x hx hxc
        · rw [h] at hxc ⊢; rw [Mat.dval_comm M a' b']; exact hheadnn b' List.mem_cons_self x hx hxc
      chain := hrest
      notin := by
        intro c hc
        have h1 : c ≠ a' := fun h => hnd'.1 (h ▸ List.mem_cons_of_mem _ hc)
        have h2 : c ≠ b' := fun h => hnd''.1 (h ▸ hc)
        exact ⟨fun h => (hsub c (Or.inl h)).elim h1 h2, fun h => (hsub c (Or.inr h)).elim h1 h2⟩
      thr := by
        intro t q pp r e
        obtain ⟨hpm, hqm, hpq⟩ := hrest.link e
        rw [hdab, Mat.dval_comm M a' b']
        exact hheadnn pp (List.mem_cons_of_mem _ hpm) q (hrest.mem q hqm) (Ne.symm hpq) }

/-- A property of the entries between live clusters survives a merge of `a` into `b` if the new row of
`b` has it: the other entries are unchanged (`frame`). -/
theorem livePairs_merge {P : α → Prop} {n : Nat} {live : List Nat} {M M' : Mat α} {a b : Nat}
    (hlt : ∀ x ∈ live, x < n)
    (hold : ∀ x ∈ live, ∀ y ∈ live, x ≠ y → P (M.dval x y))
    (hnew : ∀ x ∈ live, x ≠ a → x ≠ b → P (M'.dval x b))
    (frame : ∀ p q, p < n → q < n → p ≠ q → ¬ (q = b ∧ p ∈ live ∧ p ≠ a) →
      ¬ (p = b ∧ q ∈ live ∧ q ≠ a) → M'.dval p q = M.dval p q) :
    ∀ x ∈ live.filter (· ≠ a), ∀ y ∈ live.filter (· ≠ a), x ≠ y → P (M'.dval x y) :=
  filter_ne_pairwise (b := b) (P := fun x y => P (M'.dval x y)) (fun x y h => M'.dval_comm x y ▸ h)
    (fun x hx y hy hxy _ _ hxb hyb => by
      rw [frame x y (hlt x hx) (hlt y hy) hxy (fun h => hyb h.1) (fun h => hxb h.1)]
      exact hold x hx y hy hxy)
    (fun y hy hya hyb => by rw [Mat.dval_comm]; exact hnew y hy hya hyb)

/-- The second part of an iteration: the Lance–Williams update and the merge of a `ChainFound` pair
`a < b` are total and re-establish the invariant with `live' = live` minus `a`.  `j` is what the
search has counted, `chain'` the chain with the pair on top, `base`/`p` the chain length after the
restart or pop and the number of pushes.  Of reducibility this uses the `ge` clause on
a domain `ok` containing the entries of `M` (it keeps the links of `rest` at least as long as
before), and that the update creates no NaN at reciprocal nearest neighbours (`hnanupd`). -/
theorem chainMerge_ok (chk : Bool) (m : MethodChain) {ok : α → Prop} (hge : ChainGeOn ok m)
    (n k : Nat) (live : List Nat) (st : State α) (dend : Dendrogram α) (M : Mat α)
    (hk : k + 1 < n) (inv : ChainInv n k live st dend M)
    (hokM : ∀ x ∈ live, ∀ y ∈ live, x ≠ y → ok (M.dval x y))
    (a b : Nat) (rest : List Nat) (F : ChainFound M.dval live a b rest)
    (hnanupd : ∀ x ∈ live, x ≠ a → x ≠ b → ∀ v,
      chainUpdFn m st.sizes (st.sizes.getD a 0) (st.sizes.getD b 0) (M.dval a b) x
        (M.dval x a) (M.dval x b) = .ok v → Num.isNaN v = false)
    (chain' : Array Nat) (htop2 : topFirst chain'.pop.pop = rest) (base p j : Nat)
    (hsz0 : st.chain.size ≤ base + 3) (hszp : chain'.size = base + p)
    (hcs : chain'.size ≤ live.length)
    (hj : j ≤ 1 + 2 * live.length + 2 * live.length * p) :
    ∃ M' st' dend',
      chainUpdate chk m { st with chain := chain' } a b (M.tick j) = .ok M' ∧
      State.merge chk { st with chain := chain' } dend a b (M.dval a b) = .ok (st', dend') ∧
      ChainInv n (k + 1) (live.filter (· ≠ a)) st' dend' M' ∧
      ChainStepFacts m n live st dend M st' dend' M' a b := by
  have hrep := inv.prim.rep
  have hv := inv.prim.mvalid
  have hn := inv.prim.mn
  have hlt := hrep.mem_lt
  have hsz := inv.prim.sizes_sz
  have hab := F.lt
  have ha := F.ma
  have hb := F.mb
  have hrest := F.chain
  have hnotin := F.notin
  have hD2 : (M.tick j).dval = M.dval := rfl
  have hdabnan : Num.isNaN (M.dval a b) = false := inv.nonan a ha b hb (Nat.ne_of_lt hab)
  obtain ⟨M3, e3, n3, acc3, hupd, hframe⟩ :=
    chainUpdate_spec chk m n live ({ st with chain := chain' } : State α) hrep hsz a b hab ha hb
      (M.tick j) (hv.tick j) hn
  simp only [hD2] at hupd hframe
  have hsa : 0 < st.sizes.getD a 0 := inv.sizes_pos a ha
  have hsb : 0 < st.sizes.getD b 0 := inv.sizes_pos b hb
  have hnewnan : ∀ x ∈ live, x ≠ a → x ≠ b → Num.isNaN (M3.dval x b) = false :=
    fun x hx hxa hxb => hnanupd x hx hxa hxb _ (hupd x hx hxa hxb)
  obtain ⟨st', dend', s, act', hmerge, hprim, ⟨hbsz, hst'⟩, hs, hdend'⟩ :=
    inv.prim.merge_step chk n k live st ({ st with chain := chain' } : State α) dend M M3 hk rfl rfl
      ((hv.tick j).of_eq (by rw [n3]; exact hn.symm) (C20.chainUpdate_size e3)) n3 a b hab ha hb
      (M.dval a b)
  have hlen' := filter_ne_length live a hrep.nodup ha
  have hsizes' : st'.sizes = st.sizes.set b (st.sizes.getD a 0 + st.sizes.getD b 0) hbsz := by
    rw [hst', hs]
  have hchain' : st'.chain = chain' := by rw [hst']
  subst hdend'
  refine ⟨M3, st', _, e3, hmerge, ?_, ?_⟩
  · exact
      { prim := hprim
        sizes_pos := by
          intro x hx
          rw [hsizes', getD_set]
          by_cases hxb : x = b
          · rw [if_pos hxb]; exact Nat.add_pos_left hsa _
          · rw [if_neg hxb]; exact inv.sizes_pos x (mem_filter_ne.mp hx).1
        nonan := livePairs_merge (P := fun v => Num.isNaN v = false) hlt inv.nonan hnewnan hframe
        chain := by
          intro _
          rw [hchain', htop2]
          exact
            { mem := fun c hc => mem_filter_ne.mpr ⟨hrest.mem c hc, (hnotin c hc).1⟩
              nodup := hrest.nodup
              nn := by
                intro t q pp r e c hc x hx hxc
                have hx' := mem_filter_ne.mp hx
                obtain ⟨hpm, hqm, hpq⟩ := hrest.link e
                have hcm : c ∈ rest := by
                  rw [e]
                  exact List.mem_append_right _ (List.mem_cons_of_mem _ hc)
                have hpl := hrest.mem pp hpm
                have hql := hrest.mem q hqm
                have hcl := hrest.mem c hcm
                have hold := hrest.nn t q pp r e c hc
                rw [hframe pp q (hlt pp hpl) (hlt q hql) hpq (fun h => (hnotin q hqm).2 h.1)
                  (fun h => (hnotin pp hpm).2 h.1)]
                by_cases hxb : x = b
                · subst hxb
                  apply hge st.sizes _ _ (M.dval a x) c (M.dval c a) (M.dval c x) _
                    (M.dval pp q) hsa hsb (hokM a ha x hb (Nat.ne_of_lt hab))
                    (hokM c hcl a ha (hnotin c hcm).1) (hokM c hcl x hb (hnotin c hcm).2)
                    (hokM pp hpl q hql hpq) hdabnan
                    (inv.nonan c hcl a ha (hnotin c hcm).1) (inv.nonan c hcl x hb (hnotin c hcm).2)
                    (inv.nonan pp hpl q hql hpq) (F.thr t q pp r e)
                    (hold a ha (fun h => (hnotin c hcm).1 h.symm))
                    (hold x hb (fun h => (hnotin c hcm).2 h.symm))
                    (hupd c hcl (hnotin c hcm).1 (hnotin c hcm).2)
                · rw [hframe c x (hlt c hcl) (hlt x hx'.1) (fun h => hxc h.symm)
                    (fun h => hxb h.1) (fun h => (hnotin c hcm).2 h.1)]
                  exact hold x hx'.1 hxc }
        heights := by
          intro s0 hs0
          simp only [Array.toList_push, List.mem_append, List.mem_singleton] at hs0
          rcases hs0 with h | h
          · exact inv.heights s0 h
          · rw [h, Step.new, if_neg (Nat.lt_asymm hab)]; exact hdabnan
        chain_sz := by rw [hchain', hlen']; exact hcs
        work := by
          rw [hchain', hszp]
          exact chainWork_step M.acc M3.acc j live.length (live.filter (· ≠ a)).length st.chain.size
            base p (7 * (n * (n + 1))) inv.work hj acc3 hsz0 (hszp ▸ hcs) hlen' }
  · exact
      { lt := hab
        ma := ha
        mb := hb
        steps := by rw [hs]
        obs := rfl
        sizes := by
          intro x
          rw [hsizes', getD_set]
        nn := F.nn
        upd := hupd
        frame := hframe }

/-- One outer iteration of `nnchainWith`: total, merges two distinct live clusters `a < b`, and
re-establishes the invariant with `live' = live` minus the smaller index (`chainSearch_ok`, then
`chainMerge_ok`). -/
theorem chainIter_step (L : OrderLaws α) (chk : Bool) (m : MethodChain) {ok : α → Prop}
    (hge : ChainGeOn ok m)
    (n k : Nat) (live : List Nat) (st : State α) (dend : Dendrogram α) (M : Mat α)
    (hk : k + 1 < n) (inv : ChainInv n k live st dend M)
    (hnanupd : ∀ a ∈ live, ∀ b ∈ live, a < b →
      (∀ c, (c = a ∨ c = b) → ∀ x ∈ live, x ≠ c → Num.lt (M.dval c x) (M.dval a b) = false) →
      ∀ x ∈ live, x ≠ a → x ≠ b → ∀ v,
      chainUpdFn m st.sizes (st.sizes.getD a 0) (st.sizes.getD b 0) (M.dval a b) x
        (M.dval x a) (M.dval x b) = .ok v → Num.isNaN v = false)
    (hokM : ∀ x ∈ live, ∀ y ∈ live, x ≠ y → ok (M.dval x y)) :
    ∃ st' dend' M' a b, chainIter chk m ⟨st, dend, M⟩ = .ok ⟨st', dend', M'⟩ ∧
      ChainInv n (k + 1) (live.filter (· ≠ a)) st' dend' M' ∧
      ChainStepFacts m n live st dend M st' dend' M' a b := by
  obtain ⟨chain0, a0, b0, min0, j0, a', b', chain', j, a, b, rest, p, e1, e2, hpair, F,
      htop2, hsz0, hszp, hcs, hj⟩ :=
    chainSearch_ok L chk n live st M inv.prim.rep (by have := inv.prim.llen; omega)
      inv.prim.mvalid inv.prim.mn inv.nonan inv.chain
  obtain ⟨M', st', dend', e3, hmerge, cinv, facts⟩ :=
    chainMerge_ok chk m hge n k live st dend M hk inv hokM a b rest F
      (hnanupd a F.ma b F.mb F.lt F.nn) chain' htop2 chain0.size p j hsz0 hszp hcs hj
  refine ⟨st', dend', M', a, b, ?_, cinv, facts⟩
  rw [chainIter_eq]
  simp only [bind, Except.bind, e1, e2, hpair, e3, hmerge]
  rfl

end Kodama
