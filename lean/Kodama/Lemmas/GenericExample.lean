/-
Non-vacuity of the value hypotheses of the `generic_with` theorems (`GoodSet`, `UpdClosed`,
`OrderLaws`, good inputs): on the toy exact number type `Toy.natNum` (`Nat`, `max_value = 10^6`)
* `G v := v < 10^6` is a `GoodSet`, closed under the updates of single, complete, average,
  weighted, centroid and median;
* `G v := v = 0` is a `GoodSet` closed under the update of Ward (and every other method),
so for every method the hypotheses of `genericWith_eq` are jointly satisfiable; a concrete 4-point
run is instantiated at the end.
-/
import Kodama.Lemmas.GenericRun
import Kodama.Lemmas.SpecDecide
import Kodama.Lemmas.AverageClamp
namespace Kodama.GenericExample
open Kodama Spec

attribute [local instance] Toy.natNum

def G (v : Nat) : Prop := v < 1000000

theorem G_iff {v : Nat} : G v ↔ v < 1000000 := Iff.rfl

/-- Degenerate good set (all distances zero). -/
def G0 (v : Nat) : Prop := v = 0

theorem goodSet_G : GoodSet G where
  notNaN _ _ := rfl
  ltMax v hv := by
    show decide (v < 1000000) = true
    exact decide_eq_true hv
  beqRefl v _ := by
    show decide (v = v) = true
    simp

theorem goodSet_G0 : GoodSet G0 where
  notNaN _ _ := rfl
  ltMax v hv := by
    show decide (v < 1000000) = true
    unfold G0 at hv; subst hv; decide
  beqRefl v _ := by
    show decide (v = v) = true
    simp

theorem hmax : Num.isNaN (Num.maxValue : Nat) = false := rfl

theorem avg_lt (sa sb va vb : Nat) (ha : 0 < sa) (h1 : va < 1000000)
    (h2 : vb < 1000000) : (sa * va + sb * vb) / (sa + sb) < 1000000 := by
  apply Nat.div_lt_of_lt_mul
  have e1 : sa * va + sa ≤ sa * 1000000 := by
    calc sa * va + sa = sa * (va + 1) := by rw [Nat.mul_add, Nat.mul_one]
      _ ≤ sa * 1000000 := Nat.mul_le_mul_left _ (by omega)
  have e2 : sb * vb + sb ≤ sb * 1000000 := by
    calc sb * vb + sb = sb * (vb + 1) := by rw [Nat.mul_add, Nat.mul_one]
      _ ≤ sb * 1000000 := Nat.mul_le_mul_left _ (by omega)
  rw [Nat.add_mul]
  omega

theorem closed_average : UpdClosed G .average := by
  intro sizes sa sb dist x va vb v _ hs _ ha hb h
  obtain ⟨h1, h2⟩ := hs rfl
  simp only [updFn, pure, Except.pure, Except.ok.injEq] at h
  subst h
  -- clamped average: the result is an argument or the (rounded-down) mean
  rcases Gen.average_cases va vb sa sb with e | e | ⟨e, -⟩ <;> rw [e]
  · exact ha
  · exact hb
  · exact avg_lt sa sb va vb h1 ha hb

theorem closed_weighted : UpdClosed G .weighted := by
  intro sizes sa sb dist x va vb v _ _ _ ha hb h
  simp only [updFn, Gen.weighted, pure, Except.pure, Except.ok.injEq] at h
  subst h
  show 0 * (va + vb) < 1000000
  omega

theorem closed_median : UpdClosed G .median := by
  intro sizes sa sb dist x va vb v _ _ _ ha hb h
  simp only [updFn, Gen.median, pure, Except.pure, Except.ok.injEq] at h
  subst h
  show 0 * (va + vb) - dist * 0 < 1000000
  omega

theorem closed_centroid : UpdClosed G .centroid := by
  intro sizes sa sb dist x va vb v _ hs _ ha hb h
  obtain ⟨h1, h2⟩ := hs rfl
  simp only [updFn, Gen.centroid, pure, Except.pure, Except.ok.injEq] at h
  subst h
  have := avg_lt sa sb va vb h1 ha hb
  show (sa * va + sb * vb) / (sa + sb) - sa * sb * dist / ((sa + sb) * (sa + sb)) < 1000000
  generalize sa * sb * dist / ((sa + sb) * (sa + sb)) = d
  omega

theorem closed_ward0 : UpdClosed G0 .ward := by
  intro sizes sa sb dist x va vb v _ _ hd ha hb h
  have hd' := hd rfl
  unfold G0 at ha hb hd'
  subst ha hb hd'
  simp only [updFn, Gen.ward, bind, Except.bind, pure, Except.pure] at h
  split at h
  · cases h
  · cases h
    show ((_ + sa) * 0 + (_ + sb) * 0 - _ * 0) / (sa + sb + _) = 0
    simp

/-- For every method the value hypotheses are jointly satisfiable on the toy number type. -/
theorem hyps_satisfiable (m : Method) : ∃ G' : Nat → Prop, GoodSet G' ∧ UpdClosed G' m := by
  cases m
  · exact ⟨G, goodSet_G, updClosed_single G⟩
  · exact ⟨G, goodSet_G, updClosed_complete G⟩
  · exact ⟨G, goodSet_G, closed_average⟩
  · exact ⟨G, goodSet_G, closed_weighted⟩
  · exact ⟨G0, goodSet_G0, closed_ward0⟩
  · exact ⟨G, goodSet_G, closed_centroid⟩
  · exact ⟨G, goodSet_G, closed_median⟩

/-- Every (squared, where the method squares) input below `1000` is in the toy good set: the side
condition `hin` of the generic-path theorems, for every method and every small concrete matrix. -/
theorem good_of_lt (m : Method) (data : Array Nat) (h : ∀ v ∈ data.toList, v < 1000) :
    ∀ i (hi : i < (squareData m data).size), G (squareData m data)[i] :=
  squareData_good m data (fun v hv => by
    have := h v hv
    show (if m.onSquares then v * v else v) < 1000000
    split
    · exact Nat.mul_lt_mul'' this this
    · omega)

/-- A concrete instance: 4 points, single linkage; all hypotheses of `genericWith_eq` hold. -/
example : ∃ (st1 : State Nat) (dend1 : Dendrogram Nat) (M1 : Mat Nat), PrimLoopResult 4 dend1 M1 ∧ (∀ s ∈ dend1.steps.toList, G s.d) ∧
    genericWith true .single State.new (Dendrogram.new 0) #[3, 1, 4, 1, 5, 9] 4 =
      (relabel .single st1.set dend1 >>= fun r =>
        pure ({ st1 with set := r.1 }, sqrtSteps .single r.2, M1)) :=
  let ⟨st1, dend1, M1, ⟨hres, hg⟩, e⟩ :=
    genericWith_eq Toy.natOrderLaws goodSet_G true .single (updClosed_single G) hmax State.new
      (Dendrogram.new 0) #[3, 1, 4, 1, 5, 9] 4 (by decide) (by decide) (by decide)
      (good_of_lt .single _ (by decide))
  ⟨st1, dend1, M1, hres, hg, e⟩

end Kodama.GenericExample
