/-
Number types on which the hypotheses of the rounding theorems are checked (non-vacuity), and the one
data set they are all run on: the matrix `d01 = 1, d02 = 9, d12 = 4` (`n = 3`, entries in `[1, 9]`) with
the thresholds `lo = 1/100`, `hi = 100`, `N = 10`.

1. Every exact number type (`ExactLaws K`, e.g. `ratNum = fieldNum ℚ`) satisfies `Round.Model` with
   `u = 0` (`model_of_exact`).
2. `downNum`: `ℚ` with every `+ − × /` followed by a multiplication by `999/1000` ("round down by one
   part in a thousand") satisfies it with `u = 1/1000`; on it the UNCLAMPED mean of `7, 7` is
   `7·(999/1000)² < 7` and the clamp returns `7`.
3. `upNum`: `ℚ` with every result rounded toward `+∞` by one part in a thousand: a monotone rounding, as
   IEEE's, hence the weighted update is reducible on it.
4. `ratNum1000`, `downNum1000`: the first two with `max_value = 1000`, for `generic_with` (good set
   `G v := v < 1000`).
-/
import Kodama.Lemmas.RoundChain
import Kodama.Lemmas.RoundWeighted
import Kodama.Lemmas.ComposeExample
import Mathlib.Tactic.NormNum
namespace Kodama
open Spec Crit MTree Finset Round

theorem model_of_exact {K : Type} [Field K] [LinearOrder K] [IsStrictOrderedRing K] [Num K]
    (E : ExactLaws K) {lo hi : K} {N : Nat} (hlo : 0 < lo) (hlo1 : lo ≤ 1) (hN : (N : K) ≤ hi) :
    Round.Model (fun x : K => x) (fun _ => True) 0 lo hi N where
  u_nonneg := le_rfl
  u_lt_one := zero_lt_one
  lo_pos := hlo
  lo_le_one := hlo1
  nat_le_hi := hN
  add := fun a b _ _ _ => ⟨trivial, 0, abs_zero.le, by rw [add_zero, mul_one]; exact E.field.add a b⟩
  mul := fun a b _ _ _ => ⟨trivial, 0, abs_zero.le, by rw [add_zero, mul_one]; exact E.field.mul a b⟩
  div := fun a b _ _ _ _ =>
    ⟨trivial, 0, abs_zero.le, by rw [add_zero, mul_one]; exact E.field.div a b⟩
  ofNat := fun k _ => ⟨trivial, E.field.ofNat k⟩
  half := ⟨trivial, E.field.half⟩
  lt := fun a b _ _ => by rw [E.field.lt, decide_eq_true_eq]
  notNaN := fun a _ => E.noNaN a

theorem Round.Near.eq_of_zero {K : Type} [Field K] [LinearOrder K] [IsStrictOrderedRing K] {k : Nat}
    {A x : K} (h : Near 0 k A x) : x = A := by
  unfold Near at h
  simp only [sub_zero, one_pow, mul_one] at h
  exact le_antisymm h.2 h.1

/-- The entries `1, 9, 4` are finite and in `[1, 9]` (form used by the weighted theorems). -/
theorem example_data_pos : ∀ (k : Nat) (h : k < (#[1, 9, 4] : Array ℚ).size),
    (fun _ : ℚ => True) (#[1, 9, 4] : Array ℚ)[k] ∧
      (1 : ℚ) ≤ (fun x : ℚ => x) (#[1, 9, 4] : Array ℚ)[k] ∧
      (fun x : ℚ => x) (#[1, 9, 4] : Array ℚ)[k] ≤ 9 := by decide

theorem example_data_ok : ∀ (k : Nat) (h : k < (#[1, 9, 4] : Array ℚ).size),
    (fun _ : ℚ => True) (#[1, 9, 4] : Array ℚ)[k] ∧
      In0 (1 : ℚ) 9 ((fun x : ℚ => x) (#[1, 9, 4] : Array ℚ)[k]) :=
  fun k h => ⟨trivial, Or.inr (example_data_pos k h).2⟩

theorem rangeOk_ex_exact : RangeOk (0 : ℚ) (1 / 100) 100 10 3 1 9 :=
  ⟨by decide, by norm_num, by norm_num⟩

theorem rangeOk_ex : RangeOk (1 / 1000 : ℚ) (1 / 100) 100 10 3 1 9 :=
  ⟨by decide, by norm_num, by norm_num⟩

theorem rangeOkW_ex_exact : RangeOkW (0 : ℚ) (1 / 100) 100 3 1 9 := ⟨by norm_num, by norm_num⟩

theorem rangeOkW_ex : RangeOkW (1 / 1000 : ℚ) (1 / 100) 100 3 1 9 := ⟨by norm_num, by norm_num⟩

@[reducible] def downNum : Num ℚ where
  lt a b := decide (a < b)
  beq a b := decide (a = b)
  add a b := (a + b) * (999 / 1000)
  sub a b := (a - b) * (999 / 1000)
  mul a b := a * b * (999 / 1000)
  div a b := a / b * (999 / 1000)
  ofNat n := (n : ℚ)
  half := 1 / 2
  quarter := 1 / 4
  sqrt a := a
  abs a := |a|
  maxValue := 0
  infinity := 0
  isNaN _ := false

@[reducible] def ratNum : Num ℚ := fieldNum ℚ

section ExactRat
attribute [local instance] ratNum

theorem ratNum_model_ex : Round.Model (fun x : ℚ => x) (fun _ => True) 0 (1 / 100) 100 10 :=
  model_of_exact (exactLaws_fieldNum ℚ) (by norm_num) (by norm_num) (by norm_num)

/-- Exact arithmetic: the weighted update is reducible on every domain. -/
theorem ratNum_chainGeOn_weighted (ok : ℚ → Prop) : ChainGeOn ok .weighted :=
  LwGeOn.chainGeOn (m := .weighted) ((exactLaws_fieldNum ℚ).field.lwGeOn ok .weighted rfl)

end ExactRat

section RoundDown
attribute [local instance] downNum

theorem downNum_orderLaws : OrderLaws ℚ :=
  orderLaws_of_lt fun _ _ => rfl

/-- `downNum` satisfies the standard model with unit roundoff `1/1000` (`δ = −1/1000` always). -/
theorem downNum_model {lo hi : ℚ} {N : Nat} (hlo : 0 < lo) (hlo1 : lo ≤ 1) (hN : (N : ℚ) ≤ hi) :
    Round.Model (fun x : ℚ => x) (fun _ => True) (1 / 1000) lo hi N where
  u_nonneg := by norm_num
  u_lt_one := by norm_num
  lo_pos := hlo
  lo_le_one := hlo1
  nat_le_hi := hN
  add := fun a b _ _ _ => ⟨trivial, -(1 / 1000), by norm_num [abs_le], by
    show (a + b) * (999 / 1000) = _; ring⟩
  mul := fun a b _ _ _ => ⟨trivial, -(1 / 1000), by norm_num [abs_le], by
    show a * b * (999 / 1000) = _; ring⟩
  div := fun a b _ _ _ _ => ⟨trivial, -(1 / 1000), by norm_num [abs_le], by
    show a / b * (999 / 1000) = _; ring⟩
  ofNat := fun k _ => ⟨trivial, rfl⟩
  half := ⟨trivial, rfl⟩
  lt := fun a b _ _ => by show decide (a < b) = true ↔ a < b; rw [decide_eq_true_eq]
  notNaN := fun a _ => rfl

theorem downNum_model_ex :
    Round.Model (fun x : ℚ => x) (fun _ => True) (1 / 1000) (1 / 100) 100 10 :=
  downNum_model (by norm_num) (by norm_num) (by norm_num)

/-- On `downNum` the computed mean of `7` and `7` (sizes `1`, `2`) is strictly below both arguments
— the clamp fires and returns `7`. -/
example : Gen.averageMean (7 : ℚ) 7 1 2 < 7 ∧ Gen.average (7 : ℚ) 7 1 2 = 7 := by
  constructor
  · norm_num [Gen.averageMean, Num.add, Num.mul, Num.div, Num.ofNat]
  · norm_num [Gen.average, Num.add, Num.mul, Num.div, Num.ofNat, Num.lt]

end RoundDown

def rup (x : ℚ) : ℚ := if 0 ≤ x then x * (1001 / 1000) else x * (999 / 1000)

theorem le_rup (x : ℚ) : x ≤ rup x := by
  unfold rup
  split
  · exact le_mul_of_one_le_right ‹_› (by norm_num)
  · exact le_mul_of_le_one_right (not_le.mp ‹_›).le (by norm_num)

theorem rup_eq (x : ℚ) : ∃ δ : ℚ, |δ| ≤ 1 / 1000 ∧ rup x = x * (1 + δ) := by
  unfold rup
  split
  · exact ⟨1 / 1000, by norm_num [abs_le], by ring⟩
  · exact ⟨-(1 / 1000), by norm_num [abs_le], by ring⟩

/-- `ℚ` with every arithmetic result rounded toward `+∞` (relatively, by `1/1000`): a MONOTONE
rounding, as IEEE's. -/
@[reducible] def upNum : Num ℚ where
  lt a b := decide (a < b)
  beq a b := decide (a = b)
  add a b := rup (a + b)
  sub a b := rup (a - b)
  mul a b := rup (a * b)
  div a b := rup (a / b)
  ofNat n := (n : ℚ)
  half := 1 / 2
  quarter := 1 / 4
  sqrt a := a
  abs a := |a|
  maxValue := 0
  infinity := 0
  isNaN _ := false

section RoundUp
attribute [local instance] upNum

theorem upNum_orderLaws : OrderLaws ℚ :=
  orderLaws_of_lt fun _ _ => rfl

theorem upNum_model {lo hi : ℚ} {N : Nat} (hlo : 0 < lo) (hlo1 : lo ≤ 1) (hN : (N : ℚ) ≤ hi) :
    Round.Model (fun x : ℚ => x) (fun _ => True) (1 / 1000) lo hi N where
  u_nonneg := by norm_num
  u_lt_one := by norm_num
  lo_pos := hlo
  lo_le_one := hlo1
  nat_le_hi := hN
  add := fun a b _ _ _ => ⟨trivial, rup_eq (a + b)⟩
  mul := fun a b _ _ _ => ⟨trivial, rup_eq (a * b)⟩
  div := fun a b _ _ _ _ => ⟨trivial, rup_eq (a / b)⟩
  ofNat := fun k _ => ⟨trivial, rfl⟩
  half := ⟨trivial, rfl⟩
  lt := fun a b _ _ => by show decide (a < b) = true ↔ a < b; rw [decide_eq_true_eq]
  notNaN := fun a _ => rfl

theorem upNum_model_ex :
    Round.Model (fun x : ℚ => x) (fun _ => True) (1 / 1000) (1 / 100) 100 10 :=
  upNum_model (by norm_num) (by norm_num) (by norm_num)

/-- Monotone rounding makes the weighted update reducible. -/
theorem upNum_chainGe_weighted : ChainGe ℚ .weighted := by
  intro sizes sa sb dab x va vb v t _ _ _ _ _ _ _ h1 h2 h
  simp only [chainUpdFn, updFn, pure, Except.pure, Except.ok.injEq] at h
  subst h
  have g1 : t ≤ va := not_lt.mp (of_decide_eq_false h1)
  have g2 : t ≤ vb := not_lt.mp (of_decide_eq_false h2)
  have e1 := le_rup (va + vb)
  have e2 := le_rup (1 / 2 * rup (va + vb))
  show decide (rup (1 / 2 * rup (va + vb)) < t) = false
  exact decide_eq_false (not_lt.mpr (by linarith))

end RoundUp

@[reducible] def ratNum1000 : Num ℚ := ratNumMax 1000

theorem run_range_lt_1000_exact : ∀ v : ℚ, True →
    In0 (vlo (0 : ℚ) 3 1) (vhi (0 : ℚ) 3 9) v → v < 1000 := by
  intro v _ h
  have e : vhi (0 : ℚ) 3 9 = 9 := by norm_num [vhi]
  rcases h with h | ⟨_, h⟩
  · rw [h]; norm_num
  · rw [e] at h; linarith

/-- The same for the toy types with `u = 1/1000` (`downNum1000`). -/
theorem run_range_lt_1000 : ∀ v : ℚ, True →
    In0 (vlo (1 / 1000 : ℚ) 3 1) (vhi (1 / 1000 : ℚ) 3 9) v → v < 1000 := by
  intro v _ h
  have e : vhi (1 / 1000 : ℚ) 3 9 ≤ 10 := by norm_num [vhi]
  rcases h with h | ⟨_, h⟩
  · rw [h]; norm_num
  · linarith

section ExactRat1000
attribute [local instance] ratNum1000

theorem ratNum1000_model_ex : Round.Model (fun x : ℚ => x) (fun _ => True) 0 (1 / 100) 100 10 :=
  model_of_exact (ratNumMax_exact 1000) (by norm_num) (by norm_num) (by norm_num)

theorem ratNum1000_beqLe : BeqLe ℚ := (ratNumMax_beq 1000).beqLe (ratNumMax_exact 1000)

theorem ratNum1000_goodSet : GoodSet (fun v : ℚ => v < 1000) :=
  goodSet_exact (ratNumMax_beq 1000) (ratNumMax_exact 1000) (fun _ h => h)

end ExactRat1000

@[reducible] def downNum1000 : Num ℚ := { downNum with maxValue := 1000 }

section RoundDown
attribute [local instance] downNum1000

theorem downNum1000_orderLaws : OrderLaws ℚ :=
  orderLaws_of_lt fun _ _ => rfl

theorem downNum1000_model {lo hi : ℚ} {N : Nat} (hlo : 0 < lo) (hlo1 : lo ≤ 1)
    (hN : (N : ℚ) ≤ hi) :
    Round.Model (fun x : ℚ => x) (fun _ => True) (1 / 1000) lo hi N :=
  -- `downNum1000` differs from `downNum` in `maxValue` only, which the model does not mention
  { downNum_model hlo hlo1 hN with }

theorem downNum1000_model_ex :
    Round.Model (fun x : ℚ => x) (fun _ => True) (1 / 1000) (1 / 100) 100 10 :=
  downNum1000_model (by norm_num) (by norm_num) (by norm_num)

theorem downNum1000_beqLe : BeqLe ℚ := by
  intro a b h
  have e : a = b := by
    have : decide (a = b) = true := h
    simpa using this
  subst e
  show decide (a < a) = false
  simp

theorem downNum1000_goodSet : GoodSet (fun v : ℚ => v < 1000) where
  notNaN := fun _ _ => rfl
  ltMax := fun v hv => by show decide (v < 1000) = true; simpa using hv
  beqRefl := fun v _ => by show decide (v = v) = true; simp

end RoundDown

end Kodama
