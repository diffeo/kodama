/-
The union–find of `relabel` refines the component maps of `Spec.RawTree`.

`RootOf p x r`: following `parents` from `x` ends in the root `r`; it describes `UF.find` without
fuel (`find_ok_iff`).  `UFW` is the shape of every union–find `relabel` builds; `UFInv` adds that two
observations have the same root exactly when the component map `c` of the edges processed so far
(`joinComp`, Spec/RawTree.lean) identifies them, and `UFInv.link` carries it through an effective union.
-/
import Kodama.Model.UnionFind
import Kodama.Lemmas.Except
import Kodama.Lemmas.Forest
namespace Kodama
open Spec

inductive RootOf (p : Array Nat) : Nat → Nat → Prop
  | root {x : Nat} : p[x]? = some x → RootOf p x x
  | step {x y r : Nat} : p[x]? = some y → y ≠ x → RootOf p y r → RootOf p x r

theorem RootOf.isRoot {p : Array Nat} {x r : Nat} (h : RootOf p x r) : p[r]? = some r := by
  induction h with
  | root h => exact h
  | step _ _ _ ih => exact ih

theorem RootOf.unique {p : Array Nat} {x r r' : Nat} (h : RootOf p x r) (h' : RootOf p x r') :
    r = r' := by
  induction h generalizing r' with
  | root hx =>
    cases h' with
    | root _ => rfl
    | step hy hne _ => rw [hx] at hy; exact absurd (Option.some.inj hy).symm hne
  | step hy hne _ ih =>
    cases h' with
    | root hx => rw [hx] at hy; exact absurd (Option.some.inj hy).symm hne
    | step hy' _ hr' =>
      rw [hy] at hy'; cases Option.some.inj hy'
      exact ih hr'

theorem RootOf.inBounds {p : Array Nat} {x r : Nat} (h : RootOf p x r) : x < p.size := by
  cases h with
  | root h => exact (Array.getElem?_eq_some_iff.mp h).1
  | step h _ _ => exact (Array.getElem?_eq_some_iff.mp h).1

theorem findAux_sound {p : Array Nat} : ∀ (f x r : Nat), UF.findAux p f x = .ok r → RootOf p x r := by
  intro f
  induction f with
  | zero => intro x r h; simp [UF.findAux] at h
  | succ f ih =>
    intro x r h
    simp only [UF.findAux, bind_ok] at h
    obtain ⟨y, hy, h⟩ := h
    obtain ⟨hx, hy⟩ := aget_ok.mp hy
    have hy' : p[x]? = some y := by simp [hx, hy]
    by_cases hyx : y = x
    · subst hyx
      simp only [if_true, pure_ok] at h
      subst h
      exact .root hy'
    · simp only [hyx, if_false] at h
      exact .step hy' hyx (ih y r h)

/-- Parents of non-roots are strictly larger and below `b`: `union` links only under the fresh label
`next`, larger than every label in use.  This is what makes `find` end within its fuel
(`findAux_complete`). -/
def Incr (p : Array Nat) (b : Nat) : Prop := ∀ x y, p[x]? = some y → y = x ∨ (x < y ∧ y < b)

theorem Incr.mono {p : Array Nat} {b b' : Nat} (h : Incr p b) (hb : b ≤ b') : Incr p b' := by
  intro x y hxy
  rcases h x y hxy with h | h
  · exact Or.inl h
  · exact Or.inr ⟨h.1, by omega⟩

theorem findAux_complete {p : Array Nat} {b : Nat} (hinc : Incr p b) (hb : b ≤ p.size) :
    ∀ (f x : Nat), x < p.size → p.size - x ≤ f → ∃ r, UF.findAux p f x = .ok r := by
  intro f
  induction f with
  | zero => intro x hx hf; omega
  | succ f ih =>
    intro x hx hf
    have hy' : p[x]? = some p[x] := by simp [hx]
    have hget : aget p x = .ok p[x] := aget_ok.mpr ⟨hx, rfl⟩
    simp only [UF.findAux, hget, bind, Except.bind]
    by_cases hyx : p[x] = x
    · exact ⟨x, by simp [hyx, pure, Except.pure]⟩
    · rcases hinc x _ hy' with h | h
      · exact absurd h hyx
      · obtain ⟨r, hr⟩ := ih p[x] (by omega) (by omega)
        exact ⟨r, by simp [hyx, hr]⟩

theorem RootOf.exists {p : Array Nat} {b : Nat} (hinc : Incr p b) (hb : b ≤ p.size) {x : Nat}
    (hx : x < p.size) : ∃ r, RootOf p x r := by
  obtain ⟨r, hr⟩ := findAux_complete hinc hb (p.size + 1) x hx (by omega)
  exact ⟨r, findAux_sound _ _ _ hr⟩

theorem find_eq_of_rootOf {u : UF} {b : Nat} (hinc : Incr u.parents b) (hb : b ≤ u.parents.size)
    {x r : Nat} (h : RootOf u.parents x r) : u.find x = .ok r := by
  obtain ⟨r', hr'⟩ := findAux_complete hinc hb (u.parents.size + 1) x h.inBounds (by omega)
  have := (findAux_sound _ _ _ hr').unique h
  subst this
  exact hr'

theorem find_ok_iff {u : UF} {b : Nat} (hinc : Incr u.parents b) (hb : b ≤ u.parents.size)
    {x r : Nat} : u.find x = .ok r ↔ RootOf u.parents x r :=
  ⟨findAux_sound _ _ _, find_eq_of_rootOf hinc hb⟩

theorem RootOf.lt_bound {p : Array Nat} {b : Nat} (hinc : Incr p b) {x r : Nat}
    (h : RootOf p x r) (hx : x < b) : r < b := by
  induction h with
  | root _ => exact hx
  | step hy hne _ ih =>
    rcases hinc _ _ hy with h | h
    · exact absurd h hne
    · exact ih h.2

theorem RootOf.le {p : Array Nat} {b : Nat} (hinc : Incr p b) {x r : Nat}
    (h : RootOf p x r) : x ≤ r := by
  induction h with
  | root _ => exact Nat.le_refl _
  | step hy hne _ ih =>
    rcases hinc _ _ hy with h | h
    · exact absurd h hne
    · omega

/-- The two writes of `union` (src/union.rs): `parents[r1] = nx; parents[r2] = nx`. -/
def linkP (p : Array Nat) (r1 r2 nx : Nat) : Array Nat :=
  (p.setIfInBounds r1 nx).setIfInBounds r2 nx

theorem size_linkP (p : Array Nat) (r1 r2 nx : Nat) : (linkP p r1 r2 nx).size = p.size := by
  simp [linkP]

theorem getElem?_linkP {p : Array Nat} {r1 r2 nx : Nat} (h1 : r1 < p.size) (h2 : r2 < p.size)
    (x : Nat) : (linkP p r1 r2 nx)[x]? = if x = r1 ∨ x = r2 then some nx else p[x]? := by
  unfold linkP
  rw [Array.getElem?_setIfInBounds, Array.getElem?_setIfInBounds]
  by_cases hx2 : r2 = x
  · subst hx2; simp [h2]
  · by_cases hx1 : r1 = x
    · subst hx1; simp [h1, hx2]
    · have e1 : ¬ x = r1 := fun h => hx1 h.symm
      have e2 : ¬ x = r2 := fun h => hx2 h.symm
      simp [hx1, hx2, e1, e2]

theorem aset_eq {β : Type} {a : Array β} {i : Nat} (h : i < a.size) (v : β) :
    aset a i v = .ok (a.setIfInBounds i v) := by
  rw [aset_of_lt h, Array.setIfInBounds, dif_pos h]

theorem RootOf.link {p : Array Nat} {r1 r2 nx : Nat} (h1 : p[r1]? = some r1) (h2 : p[r2]? = some r2)
    (hnx : p[nx]? = some nx) (hn1 : nx ≠ r1) (hn2 : nx ≠ r2) {x r : Nat} (h : RootOf p x r) :
    RootOf (linkP p r1 r2 nx) x (if r = r1 ∨ r = r2 then nx else r) := by
  have s1 := (Array.getElem?_eq_some_iff.mp h1).1
  have s2 := (Array.getElem?_eq_some_iff.mp h2).1
  have hnx' : (linkP p r1 r2 nx)[nx]? = some nx := by
    rw [getElem?_linkP s1 s2]; simp [hn1, hn2, hnx]
  induction h with
  | @root x hx =>
    by_cases hc : x = r1 ∨ x = r2
    · rw [if_pos hc]
      refine .step (y := nx) ?_ ?_ (.root hnx')
      · rw [getElem?_linkP s1 s2, if_pos hc]
      · rcases hc with hc | hc <;> subst hc <;> assumption
    · rw [if_neg hc]
      refine .root ?_
      rw [getElem?_linkP s1 s2, if_neg hc]; exact hx
  | @step x y r hy hne _ ih =>
    have hc : ¬ (x = r1 ∨ x = r2) := by
      rintro (hc | hc) <;> subst hc
      · rw [h1] at hy; exact hne (Option.some.inj hy).symm
      · rw [h2] at hy; exact hne (Option.some.inj hy).symm
    refine .step (y := y) ?_ hne ih
    rw [getElem?_linkP s1 s2, if_neg hc]; exact hy

/-- A rewriting `p'` of `parents` under which every root path of `p` still ends (in `φ` of its old
root) has no other root paths: `find` on `p` is total and roots are unique. -/
theorem rootOf_iff_of_forward {p p' : Array Nat} {b : Nat} (hinc : Incr p b) (hb : b ≤ p.size)
    (hsz : p'.size = p.size) {φ : Nat → Nat} (fwd : ∀ {x r}, RootOf p x r → RootOf p' x (φ r))
    {x r' : Nat} : RootOf p' x r' ↔ ∃ r, RootOf p x r ∧ r' = φ r := by
  constructor
  · intro hr
    obtain ⟨r, hr0⟩ := RootOf.exists hinc hb (hsz ▸ hr.inBounds)
    exact ⟨r, hr0, hr.unique (fwd hr0)⟩
  · rintro ⟨r, hr, rfl⟩
    exact fwd hr

theorem rootOf_linkP_iff {p : Array Nat} {b r1 r2 nx : Nat} (hinc : Incr p b) (hb : b ≤ p.size)
    (h1 : p[r1]? = some r1) (h2 : p[r2]? = some r2) (hnx : p[nx]? = some nx) (hn1 : nx ≠ r1)
    (hn2 : nx ≠ r2) {x r' : Nat} :
    RootOf (linkP p r1 r2 nx) x r' ↔
      ∃ r, RootOf p x r ∧ r' = if r = r1 ∨ r = r2 then nx else r :=
  rootOf_iff_of_forward hinc hb (size_linkP p r1 r2 nx) fun h => h.link h1 h2 hnx hn1 hn2

theorem linkRoot_eq_iff {r1 r2 nx rx ry : Nat} (hx : rx ≠ nx) (hy : ry ≠ nx) :
    (if rx = r1 ∨ rx = r2 then nx else rx) = (if ry = r1 ∨ ry = r2 then nx else ry) ↔
      rx = ry ∨ ((rx = r1 ∨ rx = r2) ∧ (ry = r1 ∨ ry = r2)) := by
  by_cases h1 : rx = r1 ∨ rx = r2 <;> by_cases h2 : ry = r1 ∨ ry = r2
  · rw [if_pos h1, if_pos h2]
    exact ⟨fun _ => Or.inr ⟨h1, h2⟩, fun _ => rfl⟩
  · rw [if_pos h1, if_neg h2]
    exact ⟨fun e => absurd e.symm hy, fun h => h.elim (fun e => absurd (e ▸ h1) h2)
      (fun h => absurd h.2 h2)⟩
  · rw [if_neg h1, if_pos h2]
    exact ⟨fun e => absurd e hx, fun h => h.elim (fun e => absurd (e ▸ h2) h1)
      (fun h => absurd h.1 h1)⟩
  · rw [if_neg h1, if_neg h2]
    exact ⟨Or.inl, fun h => h.elim id (fun h => absurd h.1 h1)⟩

/-- A union–find as `relabel` builds them: non-root parents are larger labels below `next`,
labels from `next` on are untouched roots. -/
structure UFW (u : UF) : Prop where
  le : u.next ≤ u.parents.size
  incr : Incr u.parents u.next
  untouched : ∀ x, u.next ≤ x → x < u.parents.size → u.parents[x]? = some x

theorem UF.fresh_parent {n x y : Nat} (h : (UF.fresh n).parents[x]? = some y) : y = x := by
  simp only [UF.fresh, Array.getElem?_eq_some_iff, Array.getElem_range] at h
  exact h.2.symm

theorem UF.fresh_size {n : Nat} (hn : 1 ≤ n) : (UF.fresh n).parents.size = 2 * n - 1 := by
  simp only [UF.fresh, Array.size_range, UF.sizeFor]
  rw [if_neg (by omega)]

theorem UFW.fresh (n : Nat) : UFW (UF.fresh n) := by
  refine ⟨?_, fun x y h => Or.inl (UF.fresh_parent h), ?_⟩
  · simp only [UF.fresh, Array.size_range, UF.sizeFor]; split <;> omega
  · intro x _ hx
    simp only [UF.fresh, Array.size_range] at hx
    simp [UF.fresh, hx]

theorem rootOf_fresh_iff (n : Nat) (hn : 1 ≤ n) {x r : Nat} :
    RootOf (UF.fresh n).parents x r ↔ r = x ∧ x < 2 * n - 1 := by
  constructor
  · intro h
    have hb := h.inBounds
    rw [UF.fresh_size hn] at hb
    cases h with
    | root _ => exact ⟨rfl, hb⟩
    | step hy hne _ => exact absurd (UF.fresh_parent hy) hne
  · rintro ⟨rfl, hx⟩
    rw [← UF.fresh_size hn] at hx
    exact .root (Array.getElem?_eq_some_iff.2 ⟨hx, Array.getElem_range _⟩)

theorem UFW.link {u : UF} (w : UFW u) (hk : u.next < u.parents.size) {r1 r2 : Nat}
    (l1 : r1 < u.next) (l2 : r2 < u.next) :
    UFW ⟨linkP u.parents r1 r2 u.next, u.next + 1⟩ := by
  have s1 : r1 < u.parents.size := Nat.lt_trans l1 hk
  have s2 : r2 < u.parents.size := Nat.lt_trans l2 hk
  refine ⟨?_, ?_, ?_⟩
  · show u.next + 1 ≤ (linkP u.parents r1 r2 u.next).size
    rw [size_linkP]; exact hk
  · show Incr (linkP u.parents r1 r2 u.next) (u.next + 1)
    intro x y hxy
    rw [getElem?_linkP s1 s2] at hxy
    split at hxy
    · next hc =>
      cases Option.some.inj hxy
      rcases hc with hc | hc <;> subst hc
      · exact Or.inr ⟨l1, Nat.lt_succ_self _⟩
      · exact Or.inr ⟨l2, Nat.lt_succ_self _⟩
    · rcases w.incr x y hxy with h' | h'
      · exact Or.inl h'
      · exact Or.inr ⟨h'.1, Nat.lt_succ_of_lt h'.2⟩
  · show ∀ x, u.next + 1 ≤ x → x < (linkP u.parents r1 r2 u.next).size →
      (linkP u.parents r1 r2 u.next)[x]? = some x
    intro x hx1 hx2
    rw [size_linkP] at hx2
    rw [getElem?_linkP s1 s2,
      if_neg (not_or.2 ⟨Nat.ne_of_gt (Nat.lt_trans l1 hx1), Nat.ne_of_gt (Nat.lt_trans l2 hx1)⟩)]
    exact w.untouched x (Nat.le_of_succ_le hx1) hx2

/-- The common tail of `union` and `unionC`: on two in-range labels it links both under `next`
unless the array is full. -/
theorem UF.linkTail_eq (u : UF) {r1 r2 : Nat} (s1 : r1 < u.parents.size)
    (s2 : r2 < u.parents.size) :
    (do guard' (decide (u.next < u.parents.size))
        let p ← aset u.parents r1 u.next
        let p ← aset p r2 u.next
        pure (⟨p, u.next + 1⟩ : UF) : R UF) =
      if u.next < u.parents.size then .ok ⟨linkP u.parents r1 r2 u.next, u.next + 1⟩
      else .error .assertFail := by
  have ha2 : aset (u.parents.setIfInBounds r1 u.next) r2 u.next
      = .ok ((u.parents.setIfInBounds r1 u.next).setIfInBounds r2 u.next) :=
    aset_eq (by simpa using s2) u.next
  by_cases hk : u.next < u.parents.size
  · simp only [guard', hk, decide_true, if_true, aset_eq s1, ha2, bind, Except.bind, pure,
      Except.pure, linkP]
  · simp only [guard', hk, decide_false, Bool.false_eq_true, if_false, bind, Except.bind]

theorem UFW.union_roots {u : UF} (w : UFW u) (hk : u.next < u.parents.size) {r1 r2 : Nat}
    (h1 : u.parents[r1]? = some r1) (h2 : u.parents[r2]? = some r2) (hne : r1 ≠ r2) :
    u.union r1 r2 = .ok ⟨linkP u.parents r1 r2 u.next, u.next + 1⟩ := by
  have hf1 := find_eq_of_rootOf w.incr w.le (.root h1)
  have hf2 := find_eq_of_rootOf w.incr w.le (.root h2)
  have s1 := (Array.getElem?_eq_some_iff.mp h1).1
  have s2 := (Array.getElem?_eq_some_iff.mp h2).1
  rw [UF.union, hf1, hf2]
  exact (if_neg hne).trans ((u.linkTail_eq s1 s2).trans (if_pos hk))

/-- `u` is the union–find after `k` effective unions on `n` observations; `c` is the component map
of the processed edges. -/
structure UFInv (n k : Nat) (c : Nat → Nat) (u : UF) : Prop where
  size : u.parents.size = 2 * n - 1
  next : u.next = n + k
  bound : n + k ≤ 2 * n - 1
  incr : Incr u.parents (n + k)
  untouched : ∀ x, n + k ≤ x → x < 2 * n - 1 → u.parents[x]? = some x
  comp : ∀ x y rx ry, x < n → y < n → RootOf u.parents x rx → RootOf u.parents y ry →
    (rx = ry ↔ c x = c y)

theorem UFInv.fresh (n : Nat) (hn : 1 ≤ n) : UFInv n 0 id (UF.fresh n) := by
  have w := UFW.fresh n
  have hsz := UF.fresh_size hn
  refine ⟨hsz, rfl, by omega, w.incr, fun x hx hxs => w.untouched x hx (hsz ▸ hxs), ?_⟩
  intro x y rx ry _ _ hx hy
  rw [((rootOf_fresh_iff n hn).1 hx).1, ((rootOf_fresh_iff n hn).1 hy).1]
  rfl

namespace UFInv
variable {n k : Nat} {c : Nat → Nat} {u : UF}

theorem le_size (h : UFInv n k c u) : n + k ≤ u.parents.size := by rw [h.size]; exact h.bound

theorem toUFW (h : UFInv n k c u) : UFW u where
  le := by rw [h.next]; exact h.le_size
  incr := by rw [h.next]; exact h.incr
  untouched x hx hxs := h.untouched x (h.next ▸ hx) (h.size ▸ hxs)

theorem find_ok (h : UFInv n k c u) {x r : Nat} : u.find x = .ok r ↔ RootOf u.parents x r :=
  find_ok_iff h.incr h.le_size

theorem root_lt (h : UFInv n k c u) {x r : Nat} (hx : x < n + k) (hr : RootOf u.parents x r) :
    r < n + k :=
  hr.lt_bound h.incr hx

theorem union_same (h : UFInv n k c u) {r : Nat} (hr : u.parents[r]? = some r) :
    u.union r r = .ok u := by
  have hf := h.find_ok.mpr (.root hr)
  simp [UF.union, hf, bind, Except.bind, pure, Except.pure]

theorem union_roots (h : UFInv n k c u) (hk : n + k < 2 * n - 1) {r1 r2 : Nat}
    (h1 : u.parents[r1]? = some r1) (h2 : u.parents[r2]? = some r2) (hne : r1 ≠ r2) :
    u.union r1 r2 = .ok ⟨linkP u.parents r1 r2 (n + k), n + k + 1⟩ := by
  rw [← h.next]
  exact h.toUFW.union_roots (by rw [h.next, h.size]; exact hk) h1 h2 hne

theorem link (h : UFInv n k c u) (hk : n + k < 2 * n - 1) {a b r1 r2 : Nat} (ha : a < n) (hb : b < n)
    (h1 : RootOf u.parents a r1) (h2 : RootOf u.parents b r2) :
    UFInv n (k + 1) (joinComp c a b) ⟨linkP u.parents r1 r2 (n + k), n + k + 1⟩ := by
  have l1 : r1 < n + k := h.root_lt (Nat.lt_add_right k ha) h1
  have l2 : r2 < n + k := h.root_lt (Nat.lt_add_right k hb) h2
  have hnx : u.parents[n + k]? = some (n + k) := h.untouched _ (Nat.le_refl _) hk
  have w := h.toUFW.link (by rw [h.next, h.size]; exact hk) (h.next ▸ l1) (h.next ▸ l2)
  rw [h.next] at w
  refine ⟨(size_linkP _ _ _ _).trans h.size, Nat.add_assoc n k 1, hk, w.incr, ?_, ?_⟩
  · intro x hx1 hx2
    exact w.untouched x hx1 ((size_linkP _ _ _ _).trans h.size ▸ hx2)
  · intro x y rx' ry' hx hy hrx' hry'
    obtain ⟨rx, hrx, rfl⟩ := (rootOf_linkP_iff h.incr h.le_size h1.isRoot h2.isRoot hnx
      (Nat.ne_of_gt l1) (Nat.ne_of_gt l2)).1 hrx'
    obtain ⟨ry, hry, rfl⟩ := (rootOf_linkP_iff h.incr h.le_size h1.isRoot h2.isRoot hnx
      (Nat.ne_of_gt l1) (Nat.ne_of_gt l2)).1 hry'
    rw [joinComp_eq_iff', ← h.comp x y rx ry hx hy hrx hry, ← h.comp x a rx r1 hx ha hrx h1,
      ← h.comp x b rx r2 hx hb hrx h2, ← h.comp y a ry r1 hy ha hry h1,
      ← h.comp y b ry r2 hy hb hry h2]
    exact linkRoot_eq_iff (Nat.ne_of_lt (h.root_lt (Nat.lt_add_right k hx) hrx))
      (Nat.ne_of_lt (h.root_lt (Nat.lt_add_right k hy) hry))

end UFInv

end Kodama
