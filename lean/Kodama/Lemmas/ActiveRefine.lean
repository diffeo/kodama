/-
Refinement between the array model of the doubly linked "active list"
(`Kodama/Model/Active.lean`, a faithful model of `src/active.rs`) and a plain strictly
increasing `List Nat`.

`Active.Rep s live n` : the arrays of `s` (both of size `n`) represent the list `live`.
With `g k := live.getD k n` (the `k`-th element of `live ++ [n]`):
`s.start = g 0`, `s.next[g k] = g (k+1)`, `s.prev[g (k+1) - 1] = g k` for `k < live.length`,
and `s.next[i] = 0` for every `i < n` that is not in `live`.

Under `Rep` every operation of the model has its list meaning (`rep_fresh`, `Rep.iter`, `Rep.range`,
`Rep.contains`, `Rep.remove`).  In particular the fuel of `walk` and `skipInactive` always suffices
and `remove` never panics (in either build mode).
-/
import Kodama.Model.Active
import Kodama.Lemmas.Except
import Kodama.Lemmas.SortedList
namespace Kodama
namespace Active

private theorem getD_of_lt {l : List Nat} {n k : Nat} (h : k < l.length) : l.getD k n = l[k] := by
  simp [List.getD_eq_getElem?_getD, h]

private theorem getD_of_ge {l : List Nat} {n k : Nat} (h : l.length ≤ k) : l.getD k n = n := by
  simp [List.getD_eq_getElem?_getD, h]

private theorem getD_mem {l : List Nat} {n k : Nat} (h : k < l.length) : l.getD k n ∈ l := by
  rw [getD_of_lt h]; exact List.getElem_mem h

private theorem mem_iff_getD {l : List Nat} {n x : Nat} : x ∈ l ↔ ∃ k, k < l.length ∧ l.getD k n = x := by
  constructor
  · intro h
    obtain ⟨k, hk, e⟩ := List.mem_iff_getElem.mp h
    exact ⟨k, hk, by rw [getD_of_lt hk]; exact e⟩
  · rintro ⟨k, hk, e⟩
    rw [← e]; exact getD_mem hk

private theorem getD_lt_getD {l : List Nat} {n : Nat} (hs : l.Pairwise (· < ·)) (hb : ∀ x ∈ l, x < n)
    {j k : Nat} (hjk : j < k) (hk : k ≤ l.length) : l.getD j n < l.getD k n := by
  have hj : j < l.length := by omega
  by_cases hk' : k < l.length
  · rw [getD_of_lt hj, getD_of_lt hk']
    exact (List.pairwise_iff_getElem.mp hs) j k hj hk' hjk
  · rw [getD_of_ge (show l.length ≤ k by omega)]
    exact hb _ (getD_mem hj)

private theorem getD_le_n {l : List Nat} {n : Nat} (hb : ∀ x ∈ l, x < n) (k : Nat) : l.getD k n ≤ n := by
  by_cases hk : k < l.length
  · exact Nat.le_of_lt (hb _ (getD_mem hk))
  · rw [getD_of_ge (by omega)]; exact Nat.le_refl n

private theorem length_le_of_pairwise {l : List Nat} {n : Nat} (hs : l.Pairwise (· < ·))
    (hb : ∀ x ∈ l, x < n) : l.length ≤ n := by
  have := List.Nodup.length_le_of_subset (l₂ := List.range n) (hs.imp Nat.ne_of_lt)
    fun x hx => List.mem_range.mpr (hb x hx)
  rwa [List.length_range] at this

private theorem takeWhile_lt_eq_filter {l : List Nat} (hs : l.Pairwise (· < ·)) (e : Nat) :
    l.takeWhile (fun x => decide (x < e)) = l.filter (fun x => decide (x < e)) := by
  induction l with
  | nil => rfl
  | cons x xs ih =>
    have hx := (List.pairwise_cons.mp hs)
    by_cases hxe : x < e
    · simp [hxe, ih hx.2]
    · have : xs.filter (fun x => decide (x < e)) = [] := by
        rw [List.filter_eq_nil_iff]
        intro y hy
        have := hx.1 y hy
        simp; omega
      simp [hxe, this]

private theorem filter_ne_eq_eraseIdx {l : List Nat} (hn : l.Nodup) (k : Nat) (hk : k < l.length) :
    l.filter (fun x => decide (x ≠ l[k])) = l.eraseIdx k :=
  (filter_ne_eq_erase hn _).trans (List.erase_eq_eraseIdx_of_idxOf (hn.idxOf_getElem k hk))

private theorem getD_eraseIdx (l : List Nat) (n k j : Nat) :
    (l.eraseIdx k).getD j n = if j < k then l.getD j n else l.getD (j + 1) n := by
  simp only [List.getD_eq_getElem?_getD, List.getElem?_eraseIdx]
  split <;> rfl

/-- On a strictly increasing list the elements `≥ st` form a suffix: where `range` starts walking. -/
private theorem filter_ge_suffix {l : List Nat} (hs : l.Pairwise (· < ·)) (st : Nat) :
    l.filter (fun x => decide (st ≤ x)) <:+ l := by
  induction l with
  | nil => exact List.suffix_refl _
  | cons x xs ih =>
    have hx := List.pairwise_cons.mp hs
    by_cases c : st ≤ x
    · rw [List.filter_eq_self.mpr fun y hy => decide_eq_true <| by
        rcases List.mem_cons.mp hy with rfl | hy
        · exact c
        · exact Nat.le_trans c (Nat.le_of_lt (hx.1 y hy))]
      exact List.suffix_refl _
    · rw [List.filter_cons_of_neg (by simpa using c)]
      exact (ih hx.2).trans (List.suffix_cons x xs)

/-- The two `match`es of `range` are `getD`s: one argument serves the four shapes of `lo`, `hi`. -/
theorem range_eq (s : Active) (lo hi : Option Nat) :
    s.range lo hi = (do
      guard' (decide (lo.getD s.start ≤ s.next.size))
      guard' (decide (hi.getD s.next.size ≤ s.next.size))
      walk s.next (hi.getD s.next.size) s.next.size (skipInactive s.next (s.next.size + 1)
        (if lo.getD s.start < s.start then s.start else lo.getD s.start))) := by
  cases lo <;> cases hi <;> rfl

private theorem getD_range {n k : Nat} (h : k ≤ n) : (List.range n).getD k n = k := by
  by_cases hk : k < n
  · rw [getD_of_lt (by simpa using hk)]; simp
  · rw [getD_of_ge (by simp; omega)]; omega

/-- `s` represents the strictly increasing list `live` of elements `< n` (`n = s.next.size`). -/
structure Rep (s : Active) (live : List Nat) (n : Nat) : Prop where
  next_size : s.next.size = n
  prev_size : s.prev.size = n
  pairwise_lt : live.Pairwise (· < ·)
  mem_lt : ∀ x ∈ live, x < n
  /-- `start` is the head of `live ++ [n]`. -/
  start_eq : s.start = live.getD 0 n
  /-- consecutive elements `(a, b)` of `live ++ [n]`: `next[a] = b`, `prev[b-1] = a`. -/
  link : ∀ k, k < live.length →
    s.next[live.getD k n]? = some (live.getD (k + 1) n) ∧
    s.prev[live.getD (k + 1) n - 1]? = some (live.getD k n)
  /-- inactive indices carry the sentinel `0`. -/
  dead : ∀ i, i < n → i ∉ live → s.next[i]? = some 0

theorem rep_fresh (n : Nat) : (Active.fresh n).Rep (List.range n) n where
  next_size := by simp [fresh]
  prev_size := by simp [fresh]
  pairwise_lt := List.pairwise_lt_range
  mem_lt := fun x hx => List.mem_range.mp hx
  start_eq := by rw [getD_range (Nat.zero_le n)]; rfl
  link := by
    intro k hk
    have hk' : k < n := by simpa using hk
    rw [getD_range (Nat.le_of_lt hk'), getD_range (show k + 1 ≤ n by omega)]
    simp [fresh, hk']
  dead := by
    intro i hi hni
    exact absurd (List.mem_range.mpr hi) hni

namespace Rep
variable {s : Active} {live : List Nat} {n : Nat}

theorem sorted (h : Rep s live n) : live.Pairwise (· < ·) := h.pairwise_lt

theorem nodup (h : Rep s live n) : live.Nodup :=
  h.pairwise_lt.imp (fun hab => Nat.ne_of_lt hab)

theorem length_le (h : Rep s live n) : live.length ≤ n :=
  length_le_of_pairwise h.pairwise_lt h.mem_lt

private theorem mono (h : Rep s live n) {j k : Nat} (hjk : j < k) (hk : k ≤ live.length) :
    live.getD j n < live.getD k n :=
  getD_lt_getD h.pairwise_lt h.mem_lt hjk hk

theorem start_le (h : Rep s live n) : ∀ x ∈ live, s.start ≤ x := by
  intro x hx
  obtain ⟨k, hk, rfl⟩ := (mem_iff_getD (n := n)).mp hx
  rw [h.start_eq]
  by_cases h0 : k = 0
  · subst h0; exact Nat.le_refl _
  · exact Nat.le_of_lt (h.mono (by omega) (Nat.le_of_lt hk))

private theorem next_live (h : Rep s live n) {k : Nat} (hk : k < live.length) :
    s.next[live.getD k n]? = some (live.getD (k + 1) n) ∧ 0 < live.getD (k + 1) n := by
  refine ⟨(h.link k hk).1, ?_⟩
  have := h.mono (Nat.lt_add_one k) (show k + 1 ≤ live.length from hk)
  omega

theorem contains (h : Rep s live n) (i : Nat) (hi : i < n) :
    s.contains i = .ok (decide (i ∈ live)) := by
  unfold Active.contains
  by_cases hm : i ∈ live
  · obtain ⟨k, hk, rfl⟩ := (mem_iff_getD (n := n)).mp hm
    obtain ⟨h1, h2⟩ := h.next_live hk
    have e1 : decide (live.getD (k + 1) n > 0) = true := decide_eq_true h2
    rw [aget_of_getElem? h1, ok_bind, e1, decide_eq_true hm]; rfl
  · rw [aget_of_getElem? (h.dead i hi hm), ok_bind, decide_eq_false hm]; rfl

/-- At or past the end the walk stops, whatever the fuel. -/
private theorem walk_stop (next : Array Nat) (e fuel cur : Nat) (h : cur ≥ e ∨ cur ≥ next.size) :
    walk next e fuel cur = .ok [] := by
  cases fuel <;> rw [walk, if_pos h] <;> rfl

/-- The link out of the head of a suffix of `live` goes to the head of the rest (`n` at the end). -/
private theorem next_of_suffix (h : Rep s live n) {a : Nat} {rest : List Nat}
    (hsuf : a :: rest <:+ live) : s.next[a]? = some (rest.head?.getD n) := by
  obtain ⟨pre, rfl⟩ := hsuf
  have := (h.link pre.length (by simp)).1
  simpa [List.getD_eq_getElem?_getD, List.getElem?_append_right, List.head?_eq_getElem?] using this

/-- The walk from the head of a suffix `post` of `live` (from `n` if `post = []`) visits `post` up to
the stop `e`. -/
private theorem walk_suffix (h : Rep s live n) (e : Nat) :
    ∀ (post : List Nat) (fuel : Nat), post <:+ live → post.length ≤ fuel →
      walk s.next e fuel (post.head?.getD n) = .ok (post.takeWhile (fun x => decide (x < e)))
  | [], fuel, _, _ => walk_stop _ _ _ _ (Or.inr (Nat.le_of_eq h.next_size))
  | a :: rest, 0, _, hf => absurd hf (Nat.not_succ_le_zero _)
  | a :: rest, fuel + 1, hsuf, hf => by
    have ha : a < n := h.mem_lt a (hsuf.subset List.mem_cons_self)
    show walk s.next e (fuel + 1) a = _
    by_cases hce : a < e
    · rw [walk, if_neg (by rw [h.next_size]; omega), aget_of_getElem? (h.next_of_suffix hsuf), ok_bind,
        walk_suffix h e rest fuel ((List.suffix_cons a rest).trans hsuf) (Nat.le_of_succ_le_succ hf),
        ok_bind, List.takeWhile_cons_of_pos (by simpa using hce)]
      rfl
    · rw [walk_stop _ _ _ _ (Or.inl (Nat.le_of_not_lt hce)),
        List.takeWhile_cons_of_neg (by simpa using hce)]

private theorem start_eq_head (h : Rep s live n) : s.start = live.head?.getD n := by
  rw [h.start_eq, List.getD_eq_getElem?_getD, List.head?_eq_getElem?]

theorem iter (h : Rep s live n) : s.iter = .ok live := by
  unfold Active.iter
  rw [h.next_size, h.start_eq_head, h.walk_suffix n live n (List.suffix_refl _) h.length_le,
    takeWhile_lt_eq_filter h.pairwise_lt]
  congr 1
  rw [List.filter_eq_self]
  intro x hx
  simpa using h.mem_lt x hx

/-- The skipping loop of `range` stops at the first live element `≥ st` (at `n` if there is none). -/
private theorem skip_spec (h : Rep s live n) :
    ∀ fuel st, st ≤ n → n - st < fuel →
      skipInactive s.next fuel st = ((live.filter (fun x => decide (st ≤ x))).head?).getD n := by
  intro fuel
  induction fuel with
  | zero => intro st _ hf; omega
  | succ fuel ih =>
    intro st hst hf
    by_cases hlt : st < n
    · have hlt' : st < s.next.size := by rw [h.next_size]; exact hlt
      have hget : s.next[st]? = some s.next[st] := Array.getElem?_eq_getElem hlt'
      by_cases hm : st ∈ live
      · obtain ⟨k, hk, rfl⟩ := (mem_iff_getD (n := n)).mp hm
        obtain ⟨h1, h2⟩ := h.next_live hk
        rw [skipInactive, dif_pos hlt', if_pos (Option.some.inj (hget.symm.trans h1) ▸ h2),
          filter_ge_eq_cons live h.pairwise_lt _ hm]
        rfl
      · have h3 : s.next[st] = 0 := Option.some.inj (hget.symm.trans (h.dead st hlt hm))
        rw [skipInactive, dif_pos hlt', if_neg (by rw [h3]; exact Nat.lt_irrefl 0),
          ih (st + 1) hlt (by omega)]
        congr 2
        exact List.filter_congr fun x hx => decide_eq_decide.mpr
          ⟨Nat.le_of_succ_le, fun hle => Nat.lt_of_le_of_ne hle fun e => hm (e ▸ hx)⟩
    · have hst' : st = n := by omega
      subst hst'
      rw [skipInactive, dif_neg (by rw [h.next_size]; omega), List.filter_eq_nil_iff.mpr
        fun x hx => by simpa using h.mem_lt x hx]
      rfl

theorem range (h : Rep s live n) (lo hi : Option Nat)
    (hlo : ∀ l, lo = some l → l ≤ n) (hhi : ∀ u, hi = some u → u ≤ n) :
    s.range lo hi
      = .ok (live.filter (fun x => decide (lo.getD 0 ≤ x) && decide (x < hi.getD n))) := by
  have hstart_le : s.start ≤ n := by rw [h.start_eq]; exact getD_le_n h.mem_lt 0
  have hst0 : lo.getD s.start ≤ n := by
    cases lo with
    | none => exact hstart_le
    | some l => exact hlo l rfl
  have he : hi.getD n ≤ n := by
    cases hi with
    | none => exact Nat.le_refl n
    | some u => exact hhi u rfl
  have hiff : ∀ x ∈ live, (lo.getD 0 ≤ x ↔
      (if lo.getD s.start < s.start then s.start else lo.getD s.start) ≤ x) := by
    intro x hx
    have := h.start_le x hx
    cases lo <;> simp only [Option.getD_none, Option.getD_some] <;> split <;> omega
  have hst1 : (if lo.getD s.start < s.start then s.start else lo.getD s.start) ≤ n := by
    split <;> omega
  rw [range_eq]
  simp only [h.next_size]
  rw [guard_ok.mpr (by simpa using hst0), ok_bind, guard_ok.mpr (by simpa using he), ok_bind,
    h.skip_spec (n + 1) _ hst1 (by omega), h.walk_suffix _ _ n (filter_ge_suffix h.pairwise_lt _)
      (Nat.le_trans (List.length_filter_le _ _) h.length_le),
    takeWhile_lt_eq_filter (h.pairwise_lt.filter _), List.filter_filter]
  congr 1
  exact List.filter_congr fun x hx => by
    rw [decide_eq_decide.mpr (hiff x hx), Bool.and_comm]

/-! The three shapes in which the algorithms call `range`, as filters of the live list. -/

theorem range_lt (h : Rep s live n) (b : Nat) (hb : b ≤ n) :
    s.range none (some b) = .ok (live.filter (fun x => decide (x < b))) := by
  have := h.range none (some b) (by simp) (by intro u hu; cases hu; exact hb)
  simpa using this

theorem range_ge (h : Rep s live n) (b : Nat) (hb : b ≤ n) :
    s.range (some b) none = .ok (live.filter (fun x => decide (b ≤ x))) := by
  have := h.range (some b) none (by intro l hl; cases hl; exact hb) (by simp)
  simp only [Option.getD_none, Option.getD_some] at this
  rw [this]
  congr 1
  apply List.filter_congr
  intro x hx
  have := h.mem_lt x hx
  simp [this]

theorem range_win (h : Rep s live n) (a b : Nat) (ha : a ≤ n) (hb : b ≤ n) :
    s.range (some a) (some b) = .ok (live.filter (fun x => decide (a ≤ x) && decide (x < b))) := by
  have := h.range (some a) (some b) (by intro l hl; cases hl; exact ha)
    (by intro u hu; cases hu; exact hb)
  simpa using this

/-- `range(..b)` and `range(b..)` split the live list. -/
theorem _root_.Kodama.length_filter_lt_ge (l : List Nat) (b : Nat) :
    (l.filter (fun x => decide (x < b))).length + (l.filter (fun x => decide (b ≤ x))).length
      = l.length := by
  rw [List.length_eq_countP_add_countP (fun x => decide (x < b)) (l := l),
    List.countP_eq_length_filter, List.countP_eq_length_filter]
  congr 2
  exact List.filter_congr fun x _ => by simp [Nat.not_lt]

private theorem mem_eraseIdx_of_ne {k x : Nat}
    (hx : x ∈ live) (hne : x ≠ live.getD k n) : x ∈ live.eraseIdx k := by
  obtain ⟨j, hj, rfl⟩ := (mem_iff_getD (n := n)).mp hx
  rw [List.mem_eraseIdx_iff_getElem?]
  refine ⟨j, fun e => hne (by rw [e]), ?_⟩
  rw [getD_of_lt hj]; exact List.getElem?_eq_getElem hj

private theorem pred_ne_pred {a b c : Nat} (h1 : a < b) (h2 : b < c) : b - 1 ≠ c - 1 := by omega

/-- Unlinking position `k`, with `g j` the `j`-th element of `live ++ [n]`: `next[g k] := 0`,
`next[g (k-1)] := g (k+1)`, `prev[g (k+1) - 1] := g (k-1)`.  For the head (`k = 0`, where `k - 1 = 0`)
the second write is hidden by the first and the third writes what is there already, so the model's
head branch, which only moves `start`, is the same case. -/
private theorem remove_at (h : Rep s live n) {k : Nat} (hk : k < live.length) {s' : Active}
    (hstart : s'.start = (live.eraseIdx k).getD 0 n)
    (hpsize : s'.prev.size = n) (hnsize : s'.next.size = n)
    (hprev : ∀ j, s'.prev[j]? =
      if j = live.getD (k + 1) n - 1 then some (live.getD (k - 1) n) else s.prev[j]?)
    (hnext : ∀ j, s'.next[j]? =
      if j = live.getD k n then some 0
      else if j = live.getD (k - 1) n then some (live.getD (k + 1) n) else s.next[j]?) :
    Rep s' (live.eraseIdx k) n := by
  have hlen : (live.eraseIdx k).length = live.length - 1 := List.length_eraseIdx_of_lt hk
  have m2 : live.getD k n < live.getD (k + 1) n := h.mono (Nat.lt_add_one k) hk
  refine ⟨hnsize, hpsize, h.pairwise_lt.sublist (List.eraseIdx_sublist _ _),
    fun x hx => h.mem_lt x (List.mem_of_mem_eraseIdx hx), hstart, ?_, ?_⟩
  · intro j hj
    rw [hlen] at hj
    have hj1 : j + 1 < live.length := Nat.add_lt_of_lt_sub hj
    simp only [getD_eraseIdx]
    -- the link `(g j, g (j+1))` lies before, across, or after the removed position
    rcases Nat.lt_trichotomy (j + 1) k with c | rfl | c
    · have f1 := h.mono (Nat.lt_sub_of_add_lt c) (Nat.le_trans (Nat.sub_le k 1) (Nat.le_of_lt hk))
      have f2 := h.mono (Nat.lt_add_one j) (Nat.le_of_lt hj1)
      have f3 := h.mono (Nat.lt_succ_of_lt c) hk
      have f4 := h.mono (Nat.lt_of_succ_lt c) (Nat.le_of_lt hk)
      rw [if_pos (Nat.lt_of_succ_lt c), if_pos c, hnext, hprev, if_neg (Nat.ne_of_lt f4),
        if_neg (Nat.ne_of_lt f1), if_neg (pred_ne_pred f2 f3)]
      exact h.link j (Nat.lt_of_succ_lt hj1)
    · rw [if_pos (Nat.lt_add_one j), if_neg (Nat.lt_irrefl _), hnext, hprev,
        if_neg (Nat.ne_of_lt (h.mono (Nat.lt_add_one j) (Nat.le_of_lt hk))), Nat.add_sub_cancel,
        if_pos rfl, if_pos rfl]
      exact ⟨rfl, rfl⟩
    · have f1 : live.getD k n < live.getD (j + 1) n := h.mono c (Nat.le_of_lt hj1)
      have f2 : live.getD (k + 1) n < live.getD (j + 1 + 1) n :=
        h.mono (Nat.succ_lt_succ c) (Nat.succ_le_of_lt hj1)
      have f3 := h.mono (Nat.lt_of_le_of_lt (Nat.sub_le k 1) c) (Nat.le_of_lt hj1)
      rw [if_neg (Nat.not_lt.mpr (Nat.le_of_lt_succ c)), if_neg (Nat.not_lt.mpr (Nat.le_of_lt c)), hnext, hprev,
        if_neg (Nat.ne_of_gt f1), if_neg (Nat.ne_of_gt f3), if_neg (pred_ne_pred m2 f2).symm]
      exact h.link (j + 1) hj1
  · intro i hi hni
    rw [hnext]
    by_cases c : i = live.getD k n
    · rw [if_pos c]
    · have hni' : i ∉ live := fun hm => hni (mem_eraseIdx_of_ne hm c)
      have c' : i ≠ live.getD (k - 1) n :=
        fun e => hni' (e ▸ getD_mem (Nat.lt_of_le_of_lt (Nat.sub_le k 1) hk))
      rw [if_neg c, if_neg c']
      exact h.dead i hi hni'

theorem remove (h : Rep s live n) (chk : Bool) (i : Nat) (hi : i < n) :
    ∃ s', s.remove chk i = .ok s' ∧ Rep s' (live.filter (· ≠ i)) n := by
  unfold Active.remove
  rw [h.contains i hi, ok_bind]
  by_cases hm : i ∈ live
  · obtain ⟨k, hk, rfl⟩ := (mem_iff_getD (n := n)).mp hm
    have hfilter : live.filter (· ≠ live.getD k n) = live.eraseIdx k := by
      rw [getD_of_lt hk]; exact filter_ne_eq_eraseIdx h.nodup k hk
    rw [hfilter]
    obtain ⟨h1, h2⟩ := h.next_live hk
    rw [decide_eq_true hm, if_neg (by simp), aget_of_getElem? h1, ok_bind]
    have hcur : live.getD k n < s.next.size := by rw [h.next_size]; exact hi
    -- the model's test `i = start` tells the head from the rest
    cases k with
    | zero =>
      obtain ⟨nx, e1, sz, g⟩ := aset_spec s.next 0 hcur
      rw [if_pos h.start_eq.symm, e1, ok_bind]
      refine ⟨_, rfl, h.remove_at hk (by rw [getD_eraseIdx, if_neg (Nat.lt_irrefl 0)]) h.prev_size
        (sz.trans h.next_size) (fun j => ?_) (fun j => ?_)⟩
      · by_cases e : j = live.getD 1 n - 1
        · rw [if_pos e, e]; exact (h.link 0 hk).2
        · rw [if_neg e]
      · show nx[j]? = _
        rw [g]
        by_cases e : j = live.getD 0 n
        · rw [if_pos e, if_pos e]
        · rw [if_neg e, if_neg e, if_neg e]
    | succ k =>
      have m0 : s.start < live.getD (k + 1) n := by
        rw [h.start_eq]; exact h.mono (Nat.succ_pos k) (Nat.le_of_lt hk)
      have m2 : live.getD (k + 1) n < live.getD (k + 2) n := h.mono (Nat.lt_add_one (k + 1)) hk
      have hle := getD_le_n h.mem_lt (n := n) (k + 2)
      have hp : s.prev[live.getD (k + 1) n - 1]? = some (live.getD k n) :=
        (h.link k (Nat.lt_of_succ_lt hk)).2
      have hg : guard' (decide (live.getD (k + 1) n > s.start)) = .ok () := by
        rw [guard_ok]; exact decide_eq_true m0
      obtain ⟨pv, e1, sz1, g1⟩ := aset_spec s.prev (i := live.getD (k + 2) n - 1)
        (live.getD k n) (by
          rw [h.prev_size]
          exact Nat.lt_of_lt_of_le (Nat.sub_lt (Nat.zero_lt_of_lt m2) Nat.one_pos) hle)
      have hp' : pv[live.getD (k + 1) n - 1]? = some (live.getD k n) := by
        rw [g1, if_neg (pred_ne_pred m0 m2)]; exact hp
      have hpm : live.getD k n < s.next.size := by
        rw [h.next_size]; exact h.mem_lt _ (getD_mem (Nat.lt_of_succ_lt hk))
      obtain ⟨nx1, e2, sz2, g2⟩ := aset_spec s.next (live.getD (k + 2) n) hpm
      obtain ⟨nx2, e3, sz3, g3⟩ :=
        aset_spec nx1 (i := live.getD (k + 1) n) 0 (by rw [sz2]; exact hcur)
      rw [if_neg (Nat.ne_of_gt m0), hg, ok_bind, usub_of_le chk (Nat.zero_lt_of_lt m0), ok_bind,
        aget_of_getElem? hp, ok_bind, usub_of_le chk (Nat.zero_lt_of_lt m2),
        ok_bind, e1, ok_bind, aget_of_getElem? hp', ok_bind, e2, ok_bind, e3, ok_bind]
      refine ⟨_, rfl, h.remove_at hk
        (by rw [getD_eraseIdx, if_pos (Nat.succ_pos k)]; exact h.start_eq) (sz1.trans h.prev_size)
        ((sz3.trans sz2).trans h.next_size) g1 (fun j => ?_)⟩
      show nx2[j]? = _
      rw [g3, g2]
      rfl
  · have hfilter : live.filter (· ≠ i) = live := by
      rw [List.filter_eq_self]
      intro x hx
      exact decide_eq_true (fun e => hm (e ▸ hx))
    rw [hfilter, decide_eq_false hm, if_pos (by simp)]
    exact ⟨s, rfl, h⟩

end Rep

/-- The Rust unit test `iter_range` after `remove(2); remove(4)`: `range(1..5) = [1, 3]`. -/
example :
    (do let s ← (fresh 5).remove true 2
        let s ← s.remove true 4
        s.range (some 1) (some 5) : R (List Nat)) = .ok [1, 3] := by rfl

/-- The same through the refinement: some state represents `[0, 1, 3]` and its `range 1..5`
is the filtered list. -/
example : ∃ s, Rep s [0, 1, 3] 5 ∧ s.iter = .ok [0, 1, 3] ∧
    s.range (some 1) (some 5) = .ok [1, 3] ∧ s.contains 2 = .ok false := by
  obtain ⟨s1, _, r1⟩ := (rep_fresh 5).remove true 2 (by omega)
  obtain ⟨s2, _, r2⟩ := r1.remove true 4 (by omega)
  have e : ((List.range 5).filter (· ≠ 2)).filter (· ≠ 4) = [0, 1, 3] := by decide
  rw [e] at r2
  refine ⟨s2, r2, r2.iter, ?_, ?_⟩
  · rw [r2.range (some 1) (some 5) (by simp) (by simp)]; rfl
  · rw [r2.contains 2 (by omega)]; rfl

end Active
end Kodama
