/-
Naturality: `generic_with` under a homomorphism that need not fix `T::max_value()`
(`SentinelSafe`): `genericWith_rel`.  Priorities and running minima are related by `VR`; the matrix
and the dendrogram are images; `nearest`, the heap shape and the active list are the same on both
sides.  `genericWith_nat` is the functional form, for a map that fixes the sentinel.
-/
import Kodama.Lemmas.NaturalityHeapRel
import Kodama.Lemmas.NaturalityChain
set_option linter.unusedSectionVars false
namespace Kodama
variable {α β : Type} [Num α] [Num β]

def mkSt (hd : α → β) (st : State α) (p' : Array β) : State β :=
  ⟨st.sizes, st.active, st.minDists.map hd, st.set, st.chain, reprio p' st.queue, st.nearest⟩

@[simp] theorem mkSt_sizes (hd : α → β) (st : State α) (p' : Array β) :
    (mkSt hd st p').sizes = st.sizes := rfl
@[simp] theorem mkSt_active (hd : α → β) (st : State α) (p' : Array β) :
    (mkSt hd st p').active = st.active := rfl
@[simp] theorem mkSt_set (hd : α → β) (st : State α) (p' : Array β) :
    (mkSt hd st p').set = st.set := rfl
@[simp] theorem mkSt_queue (hd : α → β) (st : State α) (p' : Array β) :
    (mkSt hd st p').queue = reprio p' st.queue := rfl
@[simp] theorem mkSt_nearest (hd : α → β) (st : State α) (p' : Array β) :
    (mkSt hd st p').nearest = st.nearest := rfl

def StR (hd h : α → β) (st : State α) (st' : State β) : Prop :=
  ∃ p', AR h st.queue.prio p' ∧ st' = mkSt hd st p'

theorem StR.of_map (hd h : α → β) (st : State α) : StR hd h st (mapState hd h st) :=
  ⟨_, AR.of_map .., rfl⟩

theorem StR.eq_map {hd h : α → β} (hmax : h Num.maxValue = Num.maxValue) {st : State α}
    {st' : State β} (r : StR hd h st st') : st' = mapState hd h st := by
  obtain ⟨p', rp, rfl⟩ := r
  rw [rp.eq_map hmax]; rfl

/-- `(dists, nearest)` of the initial scan: `dists` related, `nearest` the same. -/
def IR (h : α → β) (a : Array α × Array Nat) (a' : Array β × Array Nat) : Prop :=
  ∃ d', AR h a.1 d' ∧ a' = (d', a.2)

theorem genericInitRow_rel {h : α → β} (H : OrdHom h) (chk : Bool) (M : Mat α) (n : Nat)
    (d : Array α) (nr : Array Nat) (d' : Array β) (rd : AR h d d') (row : Nat) :
    RelR (IR h) (genericInitRow chk M n (d, nr) row)
      (genericInitRow chk (mapMat h M) n (d', nr) row) := by
  unfold genericInitRow
  simp only
  refine RelR.bind_eq h (Mat.get_nat ..) (fun v0 => ?_)
  refine RelR.bind_eq (mapPair h)
    (foldlM_nat (mapPair h) _ _ (fun acc col => ?_) _ (row + 1, v0)) (fun r => ?_)
  · refine bind_nat h _ (Mat.get_nat ..) (fun v => ?_)
    simp only [mapPair, H.lt, map_pure]
    split <;> rfl
  · simp only [mapPair]
    refine RelR.bind (aset_rel rd row (VR.of_map h r.2)) (fun dists dists' rdists => ?_)
    refine RelR.bind_same (fun nearest => ?_)
    exact RelR.pure ⟨dists', rdists, rfl⟩

theorem genericRepair_rel {h : α → β} (H : OrdHom h) (S : SentinelSafe h) (hd : α → β)
    (chk : Bool) (M : Mat α) (fuel : Nat) (st : State α) (p' : Array β)
    (r : AR h st.queue.prio p') :
    RelR (StR hd h) (genericRepair chk M fuel st)
      (genericRepair chk (mapMat h M) fuel (mkSt hd st p')) := by
  induction fuel generalizing st p' with
  | zero => rfl
  | succ fuel ih =>
    unfold genericRepair
    simp only [mkSt_queue, mkSt_nearest, mkSt_active]
    refine RelR.bind_same (fun a => ?_)
    refine RelR.bind_same (fun na => ?_)
    refine RelR.bind_eq h (Mat.get_nat ..) (fun v => ?_)
    refine RelR.bind (Heap.priority_rel st.queue p' r a) (fun p pp rp => ?_)
    rw [VR.beq_cell H S v rp]
    refine RelR.ite (RelR.pure ⟨p', r, rfl⟩) ?_
    refine RelR.bind_same (fun rg => ?_)
    -- the scan carries `(min, nearest)`: the minima are related, `nearest` is the same
    refine RelR.bind_img (G := fun (acc : α × Array Nat) y => VR h acc.1 y)
      (F := fun acc y => (y, acc.2))
      (foldlM_img (fun acc y x racc => ?_) _ (Num.maxValue, st.nearest) Num.maxValue (VR.max h))
      (fun res m' rm => ?_)
    · obtain ⟨m0, nr⟩ := acc
      refine RelR.bind_eq h (Mat.get_nat ..) (fun v => ?_)
      simp only
      rw [VR.lt H S (VR.of_map h v) racc]
      refine RelR.ite ?_ (RelR.pure ⟨y, racc, rfl⟩)
      refine RelR.bind_same (fun nearest => ?_)
      exact RelR.pure ⟨h v, VR.of_map h v, rfl⟩
    · obtain ⟨m1, n1⟩ := res
      refine RelR.bind_img (Heap.setPriority_rel H S chk st.queue p' r a rm) (fun q1 p1' rp1 => ?_)
      exact ih { st with nearest := n1, queue := q1 } p1' rp1

/-- State and matrix inside `genericUpdate`: priorities related, the matrix an image. -/
def SMR (hd h : α → β) (a : State α × Mat α) (a' : State β × Mat β) : Prop :=
  ∃ p', AR h a.1.queue.prio p' ∧ a' = (mkSt hd a.1 p', mapMat h a.2)

/-- The one range body (`Lemmas/GenericBody.lean`); `rd`, `rd'` read related values where the
body lowers priorities. -/
theorem rangeBody_rel {h : α → β} (H : OrdHom h) (S : SentinelSafe h) (hd : α → β) (chk : Bool)
    (md : RMode) (rd : State α → R α) (rd' : State β → R β) (upd : Nat → α → α → R α)
    (upd' : Nat → β → β → R β) (hu : ∀ x a b, upd' x (h a) (h b) = h <$> upd x a b)
    (a ra ca r c : Nat) (st : State α) (M : Mat α) (p' : Array β) (rp : AR h st.queue.prio p')
    (hrd : md.lowers = true → RelR (VR h) (rd st) (rd' (mkSt hd st p'))) (x : Nat) :
    RelR (SMR hd h) (rangeBody chk md rd upd a ra ca r c (st, M) x)
      (rangeBody chk md rd' upd' a ra ca r c (mkSt hd st p', mapMat h M) x) := by
  unfold rangeBody
  simp only
  refine RelR.bind_eq (mapMat h) (Mat.update_nat h chk M upd upd' hu ..) (fun M => ?_)
  have fixr : RelR (SMR hd h)
      (if md.fixes = true then fixNearest st M r a c else pure (st, M))
      (if md.fixes = true then fixNearest (mkSt hd st p') (mapMat h M) r a c
        else pure (mkSt hd st p', mapMat h M)) := by
    refine RelR.ite ?_ (RelR.pure ⟨p', rp, rfl⟩)
    unfold fixNearest
    refine RelR.bind_same (fun nx => ?_)
    refine RelR.ite ?_ (RelR.pure ⟨p', rp, rfl⟩)
    refine RelR.bind_same (fun nearest => ?_)
    exact RelR.pure ⟨p', rp, rfl⟩
  cases hl : md.lowers with
  | false => simpa using fixr
  | true =>
    simp only [if_true]
    refine RelR.bind_eq h (Mat.get_nat ..) (fun v => ?_)
    refine RelR.bind (hrd hl) (fun p pp rpp => ?_)
    unfold lowerOr
    rw [VR.lt H S (VR.of_map h v) rpp]
    refine RelR.ite ?_ fixr
    refine RelR.bind_img (Heap.setPriority_rel H S chk st.queue p' rp r (VR.of_map h v))
      (fun q1 p1' rp1 => ?_)
    refine RelR.bind_same (fun nearest => ?_)
    exact RelR.pure ⟨p1', rp1, rfl⟩

/-- As `SMR`, with the running minimum of the third loop, related when it is tracked. -/
def SMmR (hd h : α → β) (track : Bool) (a : State α × Mat α × α) (a' : State β × Mat β × β) :
    Prop :=
  ∃ p : Array β × β, (AR h a.1.queue.prio p.1 ∧ (track = true → VR h a.2.2 p.2)) ∧
    a' = (mkSt hd a.1 p.1, mapMat h a.2.1, p.2)

theorem genericL3_rel {h : α → β} (H : OrdHom h) (S : SentinelSafe h) (hd : α → β) (chk : Bool)
    (track : Bool) (upd : Nat → α → α → R α) (upd' : Nat → β → β → R β)
    (hu : ∀ x a b, upd' x (h a) (h b) = h <$> upd x a b) (a b : Nat)
    (st : State α) (M : Mat α) (min : α) (p' : Array β) (min' : β) (r : AR h st.queue.prio p')
    (rmin : track = true → VR h min min') (x : Nat) :
    RelR (SMmR hd h track) (genericL3 chk track upd a b (st, M, min) x)
      (genericL3 chk track upd' a b (mkSt hd st p', mapMat h M, min') x) := by
  rw [genericL3_body, genericL3_body]
  refine RelR.bind (rangeBody_rel H S hd chk _ _ _ upd upd' hu a a x b x st M p' r
    (fun ht => RelR.pure (rmin ht)) x) ?_
  rintro ⟨st1, M1⟩ _ ⟨p1', rp1, rfl⟩
  cases track with
  | false => exact RelR.pure ⟨(p1', min'), ⟨rp1, nofun⟩, rfl⟩
  | true =>
    simp only [if_true]
    refine RelR.bind_eq h (Mat.get_nat ..) (fun v => ?_)
    rw [VR.lt H S (VR.of_map h v) (rmin rfl)]
    by_cases hlt : Num.lt v min = true
    · simp only [hlt, if_true]
      exact RelR.pure ⟨(p1', h v), ⟨rp1, fun _ => VR.of_map h v⟩, rfl⟩
    · simp only [hlt, if_false, Bool.false_eq_true]
      exact RelR.pure ⟨(p1', min'), ⟨rp1, rmin⟩, rfl⟩

theorem optM_rel {ρ : α → β → Prop} (c : Bool) {e : R α} {e' : R β} (he : RelR ρ e e') :
    RelR (fun x y => if c then ρ x y else (x = Num.infinity ∧ y = Num.infinity))
      (optM c e Num.infinity) (optM c e' Num.infinity) := by
  cases c
  · exact ⟨rfl, rfl⟩
  · exact he

theorem genericUpdate_rel {h : α → β} (H : OrdHom h) (S : SentinelSafe h) {m : Method}
    (U : UpdHom m h) (hd : α → β) (chk : Bool) (st : State α) (p' : Array β)
    (r : AR h st.queue.prio p') (a b : Nat) (M : Mat α) :
    RelR (SMR hd h) (genericUpdate chk m st a b M)
      (genericUpdate chk m (mkSt hd st p') a b (mapMat h M)) := by
  rw [genericUpdate_eq, genericUpdate_eq]
  simp only [mkSt_sizes, mkSt_active]
  refine RelR.bind_same (fun sa => ?_)
  refine RelR.bind_same (fun sb => ?_)
  refine RelR.bind (optM_rel (usesDist m) (RelR.of_eq h (Mat.get_nat ..))) (fun dist dist' rd => ?_)
  have hu : ∀ x va vb, updFn m st.sizes sa sb dist' x (h va) (h vb)
      = h <$> updFn m st.sizes sa sb dist x va vb := by
    cases hc : usesDist m <;> rw [hc] at rd
    · exact updFn_nat' U hc st.sizes sa sb dist dist'
    · simp only [if_true] at rd; subst rd; exact updFn_nat U st.sizes sa sb dist
  have hL1 (s : State α × Mat α) (p' : Array β) (x : Nat) (r : AR h s.1.queue.prio p') :
      RelR (SMR hd h) (genericL1 chk (l1Mode m) (updFn m st.sizes sa sb dist) a b s x)
        (genericL1 chk (l1Mode m) (updFn m st.sizes sa sb dist') a b
          (mkSt hd s.1 p', mapMat h s.2) x) := by
    rw [genericL1_body, genericL1_body]
    exact rangeBody_rel H S hd chk _ _ _ _ _ hu a x a x b s.1 s.2 p' r
      (fun _ => Heap.priority_rel s.1.queue p' r x) x
  have hL2 (s : State α × Mat α) (p' : Array β) (x : Nat) (r : AR h s.1.queue.prio p') :
      RelR (SMR hd h) (genericL2 chk (tracksPriorities m) (updFn m st.sizes sa sb dist) a b s x)
        (genericL2 chk (tracksPriorities m) (updFn m st.sizes sa sb dist') a b
          (mkSt hd s.1 p', mapMat h s.2) x) := by
    rw [genericL2_body, genericL2_body]
    exact rangeBody_rel H S hd chk _ _ _ _ _ hu a a x x b s.1 s.2 p' r
      (fun _ => Heap.priority_rel s.1.queue p' r x) x
  refine RelR.bind_same (fun r1 => ?_)
  refine RelR.bind_img (foldlM_img hL1 _ (st, M) p' r) (fun ⟨st1, M1⟩ p1' rp1 => ?_)
  simp only [mkSt_active]
  refine RelR.bind_same (fun r2 => ?_)
  refine RelR.bind_img (foldlM_img hL2 _ (st1, M1) p1' rp1) (fun ⟨st2, M2⟩ p2' rp2 => ?_)
  simp only [mkSt_active, mkSt_queue]
  refine RelR.bind (optM_rel (tracksPriorities m) (Heap.priority_rel st2.queue p2' rp2 b))
    (fun min min' rmin => ?_)
  refine RelR.bind_same (fun r3 => ?_)
  refine RelR.bind_img (foldlM_img
    (fun s p x r => genericL3_rel H S hd chk _ _ _ hu a b s.1 s.2.1 s.2.2 p.1 p.2 r.1 r.2 x) _
    (st2, M2, min) (p2', min') ⟨rp2, fun e => by rw [e] at rmin; exact rmin⟩)
    (fun ⟨st3, M3, _⟩ p3 r3 => ?_)
  exact RelR.pure ⟨p3.1, r3.1, rfl⟩

omit [Num α] [Num β] in
theorem State.merge_rel (hd h : α → β) (chk : Bool) (st : State α) (p' : Array β)
    (dend : Dendrogram α) (c1 c2 : Nat) (d : α) :
    RelR (fun r r' => r.1.queue = st.queue ∧ r' = (mkSt hd r.1 p', mapDend h r.2))
      (st.merge chk dend c1 c2 d) ((mkSt hd st p').merge chk (mapDend h dend) c1 c2 (h d)) := by
  unfold State.merge
  simp only [mkSt_sizes, mkSt_active]
  refine RelR.bind_same (fun s1 => ?_)
  refine RelR.bind_same (fun s2 => ?_)
  refine RelR.bind_same (fun sum => ?_)
  refine RelR.bind_same (fun sizes => ?_)
  refine RelR.bind_same (fun active => ?_)
  rw [Step.new_nat]
  refine RelR.bind_eq (mapDend h) (Dendrogram.push_nat ..) (fun dend => ?_)
  exact RelR.pure ⟨rfl, rfl⟩

/-- Results of `generic_with` and of its main loop (there `h₂ = h`): priorities related,
dendrogram and matrix images. -/
def ResR (hd h h₂ : α → β) (a : State α × Dendrogram α × Mat α)
    (a' : State β × Dendrogram β × Mat β) : Prop :=
  ∃ p', AR h₂ a.1.queue.prio p' ∧ a' = (mkSt hd a.1 p', mapDend h a.2.1, mapMat h₂ a.2.2)

theorem ResR.eq_map {hd h h₂ : α → β} (hmax : h₂ Num.maxValue = Num.maxValue)
    {a : State α × Dendrogram α × Mat α} {a' : State β × Dendrogram β × Mat β}
    (r : ResR hd h h₂ a a') : a' = mapRes hd h₂ h h₂ a := by
  obtain ⟨p', rp, rfl⟩ := r
  rw [rp.eq_map hmax]; rfl

theorem genericIter_rel {h : α → β} (H : OrdHom h) (S : SentinelSafe h) {m : Method}
    (U : UpdHom m h) (hd : α → β) (chk : Bool) (st : State α) (dend : Dendrogram α) (M : Mat α)
    (p' : Array β) (r : AR h st.queue.prio p') :
    RelR (ResR hd h h) (genericIter chk m (st, dend, M))
      (genericIter chk m (mkSt hd st p', mapDend h dend, mapMat h M)) := by
  unfold genericIter
  simp only [mapMat_n]
  refine RelR.bind_img (genericRepair_rel H S hd chk M _ st p' r) (fun st1 p1' rp1 => ?_)
  simp only [mkSt_queue, mkSt_nearest]
  refine RelR.bind (Heap.pop_rel H S chk st1.queue rfl p1' rp1) (fun ⟨oa, q2⟩ _ ⟨e2, e⟩ => ?_)
  subst e
  refine RelR.bind_same (fun a => ?_)
  refine RelR.bind_same (fun b => ?_)
  refine RelR.bind_eq h (Mat.get_nat ..) (fun dist => ?_)
  refine RelR.bind_img
    (genericUpdate_rel H S U hd chk { st1 with queue := q2 } p1' (e2 ▸ rp1) a b M)
    (fun ⟨st3, M3⟩ p3' rp3 => ?_)
  refine RelR.bind (State.merge_rel hd h chk st3 p3' dend a b dist) (fun mr _ ⟨e1, e⟩ => ?_)
  exact e ▸ RelR.pure ⟨p3', e1 ▸ rp3, rfl⟩

theorem AR.replicate_max (h : α → β) (n : Nat) :
    AR h (Array.replicate n (Num.maxValue : α)) (Array.replicate n (Num.maxValue : β)) :=
  ⟨by simp, fun i h1 h2 => by simp only [Array.getElem_replicate]; exact VR.max h⟩

theorem genericWith_rel {h h₂ : α → β} {m : Method} (H : OrdHom h₂) (S : SentinelSafe h₂)
    (U : UpdHom m h₂) (Q : SqHom m h h₂) {hd : α → β} (hinf : hd Num.infinity = Num.infinity)
    (chk : Bool) (st : State α) (st' : State β) (rst : StR hd h₂ st st')
    (d : Dendrogram α) (d' : Dendrogram β) (data : Array α) (n : Nat) :
    RelR (ResR hd h h₂) (genericWith chk m st d data n)
      (genericWith chk m st' d' (data.map h) n) := by
  rw [genericWith_frame, genericWith_frame, squareData_nat m Q.sq Q.same]
  obtain ⟨p', rp, rfl⟩ := rst
  -- an empty matrix returns the prior state as it came
  refine withFrame_rel h₂ chk st _ d d' _ n (fun M => ⟨p', rp, by rw [mapDend_new]⟩) (fun M => ?_)
  have e0 : (State.fresh M.n : State β)
      = mkSt hd (State.fresh M.n : State α) (Array.replicate M.n Num.maxValue) := by
    simp only [State.fresh, mkSt, reprio, Heap.fresh, Array.map_replicate, hinf]
  have sz : (State.fresh M.n : State α).queue.prio.size = M.n := Array.size_replicate ..
  unfold genericBody
  rw [State.reset_eq_fresh, State.reset_eq_fresh, e0]
  simp only [mkSt_queue, mkSt_nearest, mapMat_n, reprio_prio, heapReset_eq_fresh, sz,
    Array.size_replicate]
  refine RelR.bind_img (foldlM_img
    (fun s d' row rd => genericInitRow_rel H chk M M.n s.1 s.2 d' rd row) _ (_, _) _
    (AR.replicate_max h₂ M.n)) (fun ⟨i1, i2⟩ i1' ri => ?_)
  refine RelR.bind_img (Heap.heapifyWith_rel H S chk (State.fresh M.n : State α).queue _
    (by rw [sz, Array.size_replicate]) i1 i1' ri) (fun q p1' rp1 => ?_)
  rw [← mapDend_new h₂]
  refine RelR.bind_img (iterM_img
    (fun s p' r => genericIter_rel H S U hd chk s.1 s.2.1 s.2.2 p' r) _
    ({ (State.fresh M.n : State α) with queue := q, nearest := i2 }, Dendrogram.new M.n, M) p1' rp1)
    (fun ⟨st1, d1, M1⟩ p2' rp2 => ?_)
  simp only [mkSt_set]
  refine RelR.bind_eq (fun r : UF × Dendrogram α => (r.1, mapDend h₂ r.2))
    (relabel_nat H _ _ _) (fun r => ?_)
  exact RelR.pure ⟨p2', rp2, by rw [sqrtSteps_nat m Q.sqrt Q.same]; rfl⟩

/-- When `h₂` fixes `T::max_value()` the relations are graphs, and the run on the images is the
image of the run. -/
theorem genericWith_nat {h h₂ : α → β} {m : Method} (H : OrdHom h₂)
    (hmax : h₂ Num.maxValue = Num.maxValue) (U : UpdHom m h₂)
    (S : SqHom m h h₂) {hd : α → β} (hinf : hd Num.infinity = Num.infinity) (chk : Bool)
    (st : State α) (d : Dendrogram α) (data : Array α) (n : Nat) :
    genericWith chk m (mapState hd h₂ st) (mapDend h d) (data.map h) n
      = mapRes hd h₂ h h₂ <$> genericWith chk m st d data n :=
  ((genericWith_rel H (.of_fix H hmax) U S hinf chk st _ (.of_map hd h₂ st) d _ data n).mono
    (fun _ _ r => r.eq_map hmax)).eq_map

end Kodama
