/- Fingerprints of functions that C04, C06, C14 rest on, proved once for all of them (see
`Props/C04Source.lean`).  Written by tools/mk_source_snapshot.py. -/
import Kodama.Lemmas.Fingerprint.Table
namespace Kodama.Fingerprint

theorem spanning_mst_with : Gen.bodyHash "spanning.rs::mst_with" = some 666729020279403072 := Gen.bodyHash_of_row (i := 36) rfl
theorem spanning_mst : Gen.bodyHash "spanning.rs::mst" = some 18907340084940961 := Gen.bodyHash_of_row (i := 52) rfl

end Kodama.Fingerprint
