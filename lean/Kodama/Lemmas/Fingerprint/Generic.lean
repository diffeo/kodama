/- Fingerprints of functions that C02, C03, C06, C09, C10, C11, C12 rest on, proved once for all of them (see
`Props/C02Source.lean`).  Written by tools/mk_source_snapshot.py. -/
import Kodama.Lemmas.Fingerprint.Table
namespace Kodama.Fingerprint

theorem generic_generic_with : Gen.bodyHash "generic.rs::generic_with" = some 666595537043039253 := Gen.bodyHash_of_row (i := 35) rfl
theorem generic_generic : Gen.bodyHash "generic.rs::generic" = some 580816253015378521 := Gen.bodyHash_of_row (i := 51) rfl

end Kodama.Fingerprint
