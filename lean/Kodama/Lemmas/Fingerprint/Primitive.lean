/- Fingerprints of functions that C03, C06, C07, C11 rest on, proved once for all of them (see
`Props/C03Source.lean`).  Written by tools/mk_source_snapshot.py. -/
import Kodama.Lemmas.Fingerprint.Table
namespace Kodama.Fingerprint

theorem primitive_primitive_with : Gen.bodyHash "primitive.rs::primitive_with" = some 761770269870546089 := Gen.bodyHash_of_row (i := 32) rfl
theorem primitive_argmin : Gen.bodyHash "primitive.rs::argmin" = some 1121607890787478695 := Gen.bodyHash_of_row (i := 33) rfl
theorem primitive_primitive : Gen.bodyHash "primitive.rs::primitive" = some 1103101677825009426 := Gen.bodyHash_of_row (i := 49) rfl

end Kodama.Fingerprint
