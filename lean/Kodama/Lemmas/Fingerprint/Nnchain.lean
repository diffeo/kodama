/- Fingerprints of functions that C02, C03, C06, C11, C12, C14 rest on, proved once for all of them (see
`Props/C02Source.lean`).  Written by tools/mk_source_snapshot.py. -/
import Kodama.Lemmas.Fingerprint.Table
namespace Kodama.Fingerprint

theorem chain_nnchain_with : Gen.bodyHash "chain.rs::nnchain_with" = some 106125546475694288 := Gen.bodyHash_of_row (i := 34) rfl
theorem chain_nnchain : Gen.bodyHash "chain.rs::nnchain" = some 24852539402900289 := Gen.bodyHash_of_row (i := 50) rfl

end Kodama.Fingerprint
