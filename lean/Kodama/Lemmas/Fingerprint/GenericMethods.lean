/- Fingerprints of functions that C02, C03, C12 rest on, proved once for all of them (see
`Props/C02Source.lean`).  Written by tools/mk_source_snapshot.py. -/
import Kodama.Lemmas.Fingerprint.Table
namespace Kodama.Fingerprint

theorem generic_single : Gen.bodyHash "generic.rs::single" = some 644996484007636956 := Gen.bodyHash_of_row (i := 42) rfl
theorem generic_complete : Gen.bodyHash "generic.rs::complete" = some 1037487414753074802 := Gen.bodyHash_of_row (i := 43) rfl
theorem generic_average : Gen.bodyHash "generic.rs::average" = some 1116265116762071441 := Gen.bodyHash_of_row (i := 44) rfl
theorem generic_weighted : Gen.bodyHash "generic.rs::weighted" = some 935098845084524492 := Gen.bodyHash_of_row (i := 45) rfl
theorem generic_ward : Gen.bodyHash "generic.rs::ward" = some 874016737665832682 := Gen.bodyHash_of_row (i := 46) rfl
theorem generic_centroid : Gen.bodyHash "generic.rs::centroid" = some 107088843728231042 := Gen.bodyHash_of_row (i := 47) rfl
theorem generic_median : Gen.bodyHash "generic.rs::median" = some 356816801408632543 := Gen.bodyHash_of_row (i := 48) rfl

end Kodama.Fingerprint
