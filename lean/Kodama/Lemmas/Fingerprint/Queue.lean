/- Fingerprints of functions that C03, C09, C10, C12 rest on, proved once for all of them (see
`Props/C03Source.lean`).  Written by tools/mk_source_snapshot.py. -/
import Kodama.Lemmas.Fingerprint.Table
namespace Kodama.Fingerprint

theorem queue_LinkageHeap_is_empty : Gen.bodyHash "queue.rs::LinkageHeap::is_empty" = some 541810837262901355 := Gen.bodyHash_of_row (i := 14) rfl
theorem queue_LinkageHeap_len : Gen.bodyHash "queue.rs::LinkageHeap::len" = some 356601399460223757 := Gen.bodyHash_of_row (i := 15) rfl
theorem queue_LinkageHeap_pop : Gen.bodyHash "queue.rs::LinkageHeap::pop" = some 581318552547960198 := Gen.bodyHash_of_row (i := 16) rfl
theorem queue_LinkageHeap_peek : Gen.bodyHash "queue.rs::LinkageHeap::peek" = some 14713158983686933 := Gen.bodyHash_of_row (i := 17) rfl
theorem queue_LinkageHeap_heapify : Gen.bodyHash "queue.rs::LinkageHeap::heapify" = some 626637675946396237 := Gen.bodyHash_of_row (i := 18) rfl
theorem queue_LinkageHeap_priority : Gen.bodyHash "queue.rs::LinkageHeap::priority" = some 1022848217240348545 := Gen.bodyHash_of_row (i := 19) rfl
theorem queue_LinkageHeap_set_priority : Gen.bodyHash "queue.rs::LinkageHeap::set_priority" = some 396773740064790583 := Gen.bodyHash_of_row (i := 20) rfl
theorem queue_LinkageHeap_sift_up : Gen.bodyHash "queue.rs::LinkageHeap::sift_up" = some 405030374798999656 := Gen.bodyHash_of_row (i := 21) rfl
theorem queue_LinkageHeap_sift_down : Gen.bodyHash "queue.rs::LinkageHeap::sift_down" = some 480213012234795859 := Gen.bodyHash_of_row (i := 22) rfl
theorem queue_LinkageHeap_swap : Gen.bodyHash "queue.rs::LinkageHeap::swap" = some 546835196994282615 := Gen.bodyHash_of_row (i := 23) rfl
theorem queue_LinkageHeap_parent : Gen.bodyHash "queue.rs::LinkageHeap::parent" = some 414042300786923807 := Gen.bodyHash_of_row (i := 24) rfl
theorem queue_LinkageHeap_children : Gen.bodyHash "queue.rs::LinkageHeap::children" = some 140235334618584006 := Gen.bodyHash_of_row (i := 25) rfl

end Kodama.Fingerprint
