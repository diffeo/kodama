/- Fingerprints of functions that C02, C03 rest on, proved once for all of them (see
`Props/C02Source.lean`).  Written by tools/mk_source_snapshot.py. -/
import Kodama.Lemmas.Fingerprint.Table
namespace Kodama.Fingerprint

theorem chain_single : Gen.bodyHash "chain.rs::single" = some 548024668511678133 := Gen.bodyHash_of_row (i := 37) rfl
theorem chain_complete : Gen.bodyHash "chain.rs::complete" = some 1032925656827140883 := Gen.bodyHash_of_row (i := 38) rfl
theorem chain_average : Gen.bodyHash "chain.rs::average" = some 618677340003473376 := Gen.bodyHash_of_row (i := 39) rfl
theorem chain_weighted : Gen.bodyHash "chain.rs::weighted" = some 147808584175107373 := Gen.bodyHash_of_row (i := 40) rfl
theorem chain_ward : Gen.bodyHash "chain.rs::ward" = some 947791683857424921 := Gen.bodyHash_of_row (i := 41) rfl

end Kodama.Fingerprint
