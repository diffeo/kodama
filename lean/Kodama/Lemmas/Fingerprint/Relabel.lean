/- Fingerprints of functions that C01, C05 rest on, proved once for all of them (see
`Props/C01Source.lean`).  Written by tools/mk_source_snapshot.py. -/
import Kodama.Lemmas.Fingerprint.Table
namespace Kodama.Fingerprint

theorem union_LinkageUnionFind_relabel : Gen.bodyHash "union.rs::LinkageUnionFind::relabel" = some 644538061833340822 := Gen.bodyHash_of_row (i := 3) rfl

end Kodama.Fingerprint
