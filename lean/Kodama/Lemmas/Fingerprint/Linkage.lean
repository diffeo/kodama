/- Fingerprints of functions that C06, C14 rest on, proved once for all of them (see
`Props/C06Source.lean`).  Written by tools/mk_source_snapshot.py. -/
import Kodama.Lemmas.Fingerprint.Table
namespace Kodama.Fingerprint

theorem lib_linkage : Gen.bodyHash "lib.rs::linkage" = some 1100865002720859849 := Gen.bodyHash_of_row (i := 53) rfl
theorem lib_linkage_with : Gen.bodyHash "lib.rs::linkage_with" = some 71898259211120550 := Gen.bodyHash_of_row (i := 54) rfl

end Kodama.Fingerprint
