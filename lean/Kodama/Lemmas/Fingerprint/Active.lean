/- Fingerprints of functions that C03, C04, C12 rest on, proved once for all of them (see
`Props/C03Source.lean`).  Written by tools/mk_source_snapshot.py. -/
import Kodama.Lemmas.Fingerprint.Table
namespace Kodama.Fingerprint

theorem active_Active_contains : Gen.bodyHash "active.rs::Active::contains" = some 654886494140433379 := Gen.bodyHash_of_row (i := 26) rfl
theorem active_Active_remove : Gen.bodyHash "active.rs::Active::remove" = some 386005549530244905 := Gen.bodyHash_of_row (i := 27) rfl
theorem active_Active_iter : Gen.bodyHash "active.rs::Active::iter" = some 515319513971985362 := Gen.bodyHash_of_row (i := 28) rfl
theorem active_Active_range : Gen.bodyHash "active.rs::Active::range" = some 148316777747368857 := Gen.bodyHash_of_row (i := 29) rfl
theorem active_ActiveIter_next : Gen.bodyHash "active.rs::ActiveIter::next" = some 1007075780930307687 := Gen.bodyHash_of_row (i := 30) rfl
theorem active_ActiveRange_next : Gen.bodyHash "active.rs::ActiveRange::next" = some 547352909114454429 := Gen.bodyHash_of_row (i := 31) rfl

end Kodama.Fingerprint
