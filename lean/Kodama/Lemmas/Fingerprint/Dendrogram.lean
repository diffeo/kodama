/- Fingerprints of functions that C01, C19 rest on, proved once for all of them (see
`Props/C01Source.lean`).  Written by tools/mk_source_snapshot.py. -/
import Kodama.Lemmas.Fingerprint.Table
namespace Kodama.Fingerprint

theorem dendrogram_Dendrogram_new : Gen.bodyHash "dendrogram.rs::Dendrogram::new" = some 881231569632461823 := Gen.bodyHash_of_row (i := 4) rfl
theorem dendrogram_Dendrogram_push : Gen.bodyHash "dendrogram.rs::Dendrogram::push" = some 1068277134546096908 := Gen.bodyHash_of_row (i := 5) rfl
theorem dendrogram_Dendrogram_len : Gen.bodyHash "dendrogram.rs::Dendrogram::len" = some 576102335745201653 := Gen.bodyHash_of_row (i := 6) rfl
theorem dendrogram_Dendrogram_is_empty : Gen.bodyHash "dendrogram.rs::Dendrogram::is_empty" = some 762393176365876312 := Gen.bodyHash_of_row (i := 7) rfl
theorem dendrogram_Dendrogram_observations : Gen.bodyHash "dendrogram.rs::Dendrogram::observations" = some 590533105440475782 := Gen.bodyHash_of_row (i := 8) rfl
theorem dendrogram_Dendrogram_cluster_size : Gen.bodyHash "dendrogram.rs::Dendrogram::cluster_size" = some 36394306766873447 := Gen.bodyHash_of_row (i := 9) rfl
theorem dendrogram_Dendrogram_eq_with_epsilon : Gen.bodyHash "dendrogram.rs::Dendrogram::eq_with_epsilon" = some 380150401863318009 := Gen.bodyHash_of_row (i := 10) rfl
theorem dendrogram_Step_new : Gen.bodyHash "dendrogram.rs::Step::new" = some 890580594722173371 := Gen.bodyHash_of_row (i := 11) rfl
theorem dendrogram_Step_set_clusters : Gen.bodyHash "dendrogram.rs::Step::set_clusters" = some 888573702486550835 := Gen.bodyHash_of_row (i := 12) rfl
theorem dendrogram_Step_eq_with_epsilon : Gen.bodyHash "dendrogram.rs::Step::eq_with_epsilon" = some 240740203726954700 := Gen.bodyHash_of_row (i := 13) rfl

end Kodama.Fingerprint
