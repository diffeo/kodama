/- The fingerprint table `Gen.bodyHashes` (re-emitted from /repo on every run) has pairwise distinct keys, so
looking a function up returns the row that names it.  The distinctness is evaluated here, once; a fingerprint
theorem then only has to exhibit its row. -/
import Kodama.Generated.Bodies
namespace Kodama.Gen

theorem find?_key_of_getElem? {l : List (String × Nat)} (nd : (l.map Prod.fst).Nodup) {i : Nat}
    {k : String} {v : Nat} (h : l[i]? = some (k, v)) : l.find? (·.1 == k) = some (k, v) := by
  induction l generalizing i with
  | nil => simp at h
  | cons p t ih =>
    rw [List.map_cons, List.nodup_cons] at nd
    cases i with
    | zero =>
      obtain rfl : p = (k, v) := by simpa using h
      simp
    | succ i =>
      have hk : k ∈ t.map Prod.fst :=
        List.mem_map.mpr ⟨(k, v), List.mem_of_getElem? (by simpa using h), rfl⟩
      have hne : (p.1 == k) = false := by
        rw [beq_eq_false_iff_ne]; rintro rfl; exact nd.1 hk
      rw [List.find?_cons, hne]
      exact ih nd.2 (by simpa using h)

theorem bodyHashes_keys_nodup : (bodyHashes.map Prod.fst).Nodup := by decide +kernel

/-- Row `i` of the table is `(k, v)`: the fingerprint of function `k` is `v`. -/
theorem bodyHash_of_row {i : Nat} {k : String} {v : Nat} (h : bodyHashes[i]? = some (k, v)) :
    bodyHash k = some v := by
  rw [bodyHash, find?_key_of_getElem? bodyHashes_keys_nodup h]; rfl

end Kodama.Gen
