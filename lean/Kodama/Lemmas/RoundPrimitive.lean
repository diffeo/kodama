/-
`primitive_with` (the O(n³) algorithm of `src/primitive.rs`) for an approximate dissimilarity relation
(`Lemmas/RoundCore.lean`): the loop is `roundLoop_of_step` with the bookkeeping invariant `PrimInv` and the
iteration lemma `primIter_facts` (`Lemmas/MergeFacts.lean`; `argmin` finds a global minimum as soon as the live
entries are not NaN, which they are not, being `R`-values).  No reducibility is needed for TERMINATION
(`C12_primitive_total`); `LwGeOn` serves the legality of the stable sort of `relabel` only.
-/
import Kodama.Lemmas.RoundGreedyChain
import Kodama.Lemmas.OnSquares
import Kodama.Lemmas.PrimRun
namespace Kodama
open Spec
variable {α : Type} [Num α]

open Crit MTree Rnn in
/-- **`primitive_with` for an approximate relation** (a method that does not square): on a valid matrix
the call returns a well-formed dendrogram that is greedy up to `R`. -/
theorem primitiveWith_greedy (L : OrderLaws α) (chk : Bool) (m : Method) (hsq : m.onSquares = false)
    {R : MTree Nat → MTree Nat → α → Prop}
    (hge : LwGeOn (fun v => ∃ s t, R s t v) m) (C : LWCompat m R)
    (hRnan : ∀ s t v, R s t v → Num.isNaN v = false)
    (st : State α) (d : Dendrogram α) (data : Array α) (n : Nat) (h2 : 2 ≤ n)
    (hs : n < 2147483648) (hl : 2 * data.size = n * (n - 1))
    (hR : ∀ i j, i < n → j < n → i ≠ j → R (leaf i) (leaf j) ((init m n data).D i j)) :
    ∃ st' d' M', primitiveWith chk m st d data n = .ok (st', d', M') ∧
      WellFormed n d'.steps.toList ∧ GreedySw R n d'.steps.toList := by
  obtain ⟨⟨st1, dend1, M1⟩, live, σ, hloop, hp, hc⟩ :=
    roundLoop_of_step L m hge C hRnan n (primitiveIter chk m) (·.1.sizes) (·.2.1.steps.toList)
      (·.2.2) (fun k live s => PrimInv n k live s.1 s.2.1 s.2.2)
      (fun _ _ _ h => h.rep.mem_lt)
      (fun k live s σ hk hp hc => by
        obtain ⟨st, dend, M⟩ := s
        obtain ⟨st', dend', M', a, b, e, hp', F⟩ := primIter_facts L chk m n k live st dend M hk hp
          (fun x hx y hy hxy => hRnan _ _ _ (hc.table x hx y hy hxy))
        exact ⟨(st', dend', M'), a, b, e, hp', F.toRnn⟩)
      ((State.fresh n : State α), Dendrogram.new n, { data := squareData m data, n := n, acc := 0 })
      (PrimInv.init _ _ n h2 hs (by rw [squareData_size]; exact hl) rfl rfl) (roundCore_init m data n hs hl hR)
  obtain ⟨uf, d', hr, hres⟩ := greedySw_of_core L m hsq hge C hRnan st1.set h2
    (RoundPrimResult.of_inv hRnan hp hc) hc.nn
  refine ⟨{ st1 with set := uf }, d', M1, ?_, hres⟩
  rw [primitiveWith_of_loop chk m st d data n h2 hs hl hloop, hr, ok_bind,
    sqrtSteps_of_not_onSquares hsq]
  rfl

end Kodama
