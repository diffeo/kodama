/-
The method-specific update of `genericWith` (`single(..)`, …, `median(..)` of src/generic.rs,
modelled by `genericUpdate`) after `a` has been popped: the three ranges (one body, `rangeBody` of
`Lemmas/GenericBody.lean`, one step lemma `RangeInv.body`) never panic, re-establish
`QInv` (`Lemmas/GenericInv.lean`) for the live set without `a`, keep the lower-bound invariant `LB`,
and change the matrix exactly as `updateRows` (the update of `primitive`) does — one theorem,
`genericUpdate_spec`, with `genericUpdate_ok` and `genericUpdate_lb` as its closure-form corollaries.
-/
import Kodama.Lemmas.GenericInv
import Kodama.Lemmas.MergeFacts
import Kodama.Lemmas.PrimGreedyUpdate
import Kodama.Lemmas.Ok
namespace Kodama
open Spec
variable {α : Type} [Num α]

/-- What the three range loops maintain; `B` is the exception set of `QInvB`, `sizes` and `act` are
the fields of the state that the loops do not touch. -/
structure UInv (G : α → Prop) (n : Nat) (live : List Nat) (B : Nat → Nat → Prop)
    (sizes : Array Nat) (act : Active) (st : State α) (M : Mat α) : Prop where
  q : QInvB G n live B st.queue st.nearest
  m : MGood G n M
  sizes_eq : st.sizes = sizes
  active_eq : st.active = act

omit [Num α] in
theorem MGood.good_of_mget {G : α → Prop} {n : Nat} {M : Mat α} {chk : Bool} (hM : MGood G n M)
    {x y : Nat} {v : α} (hxy : x ≠ y) (hx : x < n) (hy : y < n) (h : mget chk M x y = .ok v) :
    G v := by
  rcases Nat.lt_or_gt_of_ne hxy with l | l
  · exact hM.good_of_get l hy ((mget_of_lt chk M l).symm.trans h)
  · exact hM.good_of_get l hx ((mget_of_gt chk M l).symm.trans h)

/-- One `Mat.update` on a good matrix: what it read, the good value it wrote at `(rb, cb)`, and that
no other entry changed. -/
theorem MGood.update_spec {G : α → Prop} {n : Nat} {M : Mat α} (chk : Bool) (hM : MGood G n M)
    (upd : Nat → α → α → R α) (x ra ca rb cb : Nat)
    (hupd : ∀ va vb, M.get chk ra ca = .ok va → M.get chk rb cb = .ok vb →
      ∃ v, upd x va vb = .ok v ∧ G v)
    (h1 : ra < ca) (h2 : ca < n) (h3 : rb < cb) (h4 : cb < n) :
    ∃ M' va vb v, M.update chk upd x ra ca rb cb = .ok M' ∧ MGood G n M' ∧
      M.get chk ra ca = .ok va ∧ M.get chk rb cb = .ok vb ∧ upd x va vb = .ok v ∧
      G va ∧ G vb ∧ G v ∧ M'.get chk rb cb = .ok v ∧
      ∀ r c, r < c → c < n → M'.get chk r c = if r = rb ∧ c = cb then .ok v else M.get chk r c := by
  obtain ⟨M', hM', gM'⟩ := hM.update chk upd x ra ca rb cb hupd h1 h2 h3 h4
  obtain ⟨va, vb, v, hva, hvb, hv, _, hget⟩ := Mat.update_spec chk M M' hM.valid upd x ra ca rb cb
    h3 (by rw [hM.mn]; exact h4) hM'
  rw [hM.mn] at hget
  obtain ⟨_, hv', gv⟩ := hupd va vb hva hvb
  rw [hv] at hv'; cases hv'
  exact ⟨M', va, vb, v, hM', gM', hva, hvb, hv, hM.good_of_get h1 h2 hva, hM.good_of_get h3 h4 hvb, gv,
    by rw [hget rb cb h3 h4, if_pos ⟨rfl, rfl⟩], hget⟩

section
variable {G : α → Prop} {n : Nat} {live full : List Nat} {sizes : Array Nat} {act : Active}
  {B : Nat → Nat → Prop}

/-- The branch `queue.set_priority(r, v); nearest[r] = c` of the three range bodies. -/
theorem UInv.lower (L : OrderLaws α) (gs : GoodSet G) (chk : Bool) {st : State α} {M M1 : Mat α}
    {r c : Nat} {v : α} (h : UInv G n live B sizes act st M) (gM1 : MGood G n M1)
    (hr : r ∈ live) (hc : c ∈ live) (hrc : r < c) (gv : G v) (B' : Nat → Nat → Prop)
    (hB : ∀ y c', y ≠ r → st.nearest[y]? = some c' → B y c' → B' y c') :
    ∃ q' nr', st.queue.setPriority chk r v = .ok q' ∧ aset st.nearest r c = .ok nr' ∧
      q'.prio = st.queue.prio.setIfInBounds r v ∧
      UInv G n live B' sizes act { st with queue := q', nearest := nr' } M1 := by
  obtain ⟨q', hset, hq', hprio⟩ := h.q.setPrio L gs chk hr hc hrc gv
  have hrn : r < st.nearest.size := by rw [h.q.nsz]; exact h.q.lt_n hr
  exact ⟨q', st.nearest.set r c hrn, hset, by simp only [aset, hrn, dite_true], hprio,
    hq'.setNear hrn hc hrc B' hB, gM1, h.sizes_eq, h.active_eq⟩

/-- Row `x` done: it leaves the exception set of range 1. -/
theorem mem_rest_of_ne {a x : Nat} {rest : List Nat} (y c' : Nat) (hy : y ≠ x)
    (h : c' = a ∧ y ∈ x :: rest) : c' = a ∧ y ∈ rest :=
  ⟨h.1, (List.mem_cons.mp h.2).resolve_left hy⟩

theorem fixNearest_ok (a b x : Nat) (rest : List Nat) (st : State α) (M : Mat α)
    (hb : b ∈ live) (hx : x ∈ live) (hxb : x < b)
    (h : UInv G n live (fun y c => c = a ∧ y ∈ x :: rest) sizes act st M) :
    ∃ st', fixNearest st M x a b = .ok (st', M) ∧ st'.queue = st.queue ∧
      UInv G n live (fun y c => c = a ∧ y ∈ rest) sizes act st' M := by
  obtain ⟨c, hc, hxc, _⟩ := h.q.near x hx b hb hxb
  have hxn : x < st.nearest.size := by rw [h.q.nsz]; exact h.q.lt_n hx
  unfold fixNearest
  simp only [bind, Except.bind, aget, hc, aset, hxn, dite_true, pure, Except.pure]
  by_cases hca : c = a
  · rw [if_pos hca]
    exact ⟨_, rfl, rfl, h.q.setNear hxn hb hxb _ (fun y c' hy _ => mem_rest_of_ne y c' hy), h.m,
      h.sizes_eq, h.active_eq⟩
  · rw [if_neg hca]
    refine ⟨_, rfl, rfl, h.q.weaken _ ?_, h.m, h.sizes_eq, h.active_eq⟩
    intro y c' _ hyc _ hB
    refine Or.inr (mem_rest_of_ne y c' ?_ hB)
    rintro rfl
    rw [hc] at hyc
    cases hyc
    exact hca hB.1

/-- A row above `a` cannot have the popped `a` as its candidate. -/
theorem UInv.dropRow {a x : Nat} {rest : List Nat} {st : State α} {M : Mat α}
    (h : UInv G n live (fun y c => c = a ∧ y ∈ x :: rest) sizes act st M) (hax : a < x) :
    UInv G n live (fun y c => c = a ∧ y ∈ rest) sizes act st M := by
  refine ⟨h.q.weaken _ ?_, h.m, h.sizes_eq, h.active_eq⟩
  intro y c' _ _ hyc hB
  refine Or.inr (mem_rest_of_ne y c' ?_ hB)
  rintro rfl
  exact absurd (hB.1 ▸ hyc) (Nat.lt_asymm hax)

end

/-- The matrix component of a range body is one `Mat.update`. -/
theorem rangeBody_mat {chk : Bool} {md : RMode} {rd : State α → R α} {upd : Nat → α → α → R α}
    {a ra ca r c x : Nat} {s s' : State α × Mat α}
    (e : rangeBody chk md rd upd a ra ca r c s x = .ok s') :
    s.2.update chk upd x ra ca r c = .ok s'.2 := by
  suffices h : Post (rangeBody chk md rd upd a ra ca r c s x) fun s' =>
      s.2.update chk upd x ra ca r c = .ok s'.2 from h s' e
  unfold rangeBody
  refine .bind fun M1 hM1 => ?_
  rw [hM1]
  -- every exit returns `M1` as it is
  have hels : Post (if md.fixes = true then fixNearest s.1 M1 r a c else pure (s.1, M1))
      fun s' => (.ok M1 : R (Mat α)) = .ok s'.2 :=
    .ite (fun _ => .bind fun _ _ => .ite (fun _ => .bind fun _ _ => .pure rfl) fun _ => .pure rfl)
      fun _ => .pure rfl
  exact .ite (fun _ => .bind fun _ _ => .bind fun _ _ =>
    .ite (fun _ => .bind fun _ _ => .bind fun _ _ => .pure rfl) fun _ => hels) fun _ => hels

theorem genericL3_mat {chk : Bool} {track : Bool} {upd : Nat → α → α → R α} {a b x : Nat}
    {s s' : State α × Mat α × α} (e : genericL3 chk track upd a b s x = .ok s') :
    s.2.1.update chk upd x a x b x = .ok s'.2.1 := by
  obtain ⟨st, M, mn⟩ := s
  rw [genericL3_body] at e
  obtain ⟨s1, e1, e⟩ := bind_ok.mp e
  rw [rangeBody_mat e1]
  split at e
  · obtain ⟨v, _, e⟩ := bind_ok.mp e
    cases pure_ok.mp e; rfl
  · cases pure_ok.mp e; rfl

/-- The method-independent parameters of the update: the model passes `0` / `∞` where the method
does not read `size_a`, `size_b` / the merged distance. -/
theorem updFn_eq_lw (m : Method) (sizes : Array Nat) (sa sb : Nat) (dist d0 : α) (ga gb : Nat)
    (hs : usesSizes m = true → sa = ga ∧ sb = gb) (hd : usesDist m = true → dist = d0)
    (x : Nat) (va vb : α) (hx : x < sizes.size) :
    updFn m sizes sa sb dist x va vb = .ok (lw m va vb d0 ga gb (sizes.getD x 0)) := by
  cases m
  all_goals
    first
    | (obtain ⟨e1, e2⟩ := hs rfl
       have e3 := hd rfl
       subst e1 e2 e3
       simp [updFn, lw, pure, Except.pure, bind, Except.bind, aget, hx, Array.getD])
    | (obtain ⟨e1, e2⟩ := hs rfl
       subst e1 e2
       simp [updFn, lw, pure, Except.pure])
    | (have e3 := hd rfl
       subst e3
       simp [updFn, lw, pure, Except.pure])
    | simp [updFn, lw, pure, Except.pure]

/-- The values that the update of the merge `a < b` WRITES are good: for every live `x ∉ {a, b}`
the Lance–Williams value computed from the entries `{x, a}`, `{x, b}`, `{a, b}` of the matrix `M`
(the matrix BEFORE the update) and the current sizes lies in `G`.  This is all that the update needs
instead of closure of `G` under the formula (`UpdClosed G m`, which implies it:
`updGoodAt_of_updClosed`). -/
def UpdGoodAt (G : α → Prop) (chk : Bool) (m : Method) (sizes : Array Nat) (M : Mat α)
    (live : List Nat) (a b : Nat) : Prop :=
  ∀ x ∈ live, x ≠ a → x ≠ b → ∀ va vb d0, mget chk M x a = .ok va → mget chk M x b = .ok vb →
    M.get chk a b = .ok d0 →
    G (lw m va vb d0 (sizes.getD a 0) (sizes.getD b 0) (sizes.getD x 0))

theorem updGoodAt_of_updClosed {G : α → Prop} {n : Nat} (chk : Bool) {m : Method}
    (hcl : UpdClosed G m) {sizes : Array Nat} (hsz : sizes.size = n)
    (hpos : ∀ i (h : i < sizes.size), 0 < sizes[i]) {M : Mat α} (hM : MGood G n M)
    (live : List Nat) (hlt : ∀ x ∈ live, x < n) (a b : Nat) (ha : a ∈ live) (hb : b ∈ live)
    (hab : a < b) : UpdGoodAt G chk m sizes M live a b := by
  intro x hx hxa hxb va vb d0 hva hvb hd0
  have hxn := hlt x hx
  have han := hlt a ha
  have hbn := hlt b hb
  have e := updFn_eq m sizes (sizes.getD a 0) (sizes.getD b 0) d0 x va vb (by rw [hsz]; exact hxn)
  refine hcl sizes _ _ d0 x va vb _ hpos ?_ (fun _ => hM.good_of_get hab hbn hd0)
    (hM.good_of_mget hxa hxn han hva) (hM.good_of_mget hxb hxn hbn hvb) e
  intro _
  have has : a < sizes.size := by rw [hsz]; exact han
  have hbs : b < sizes.size := by rw [hsz]; exact hbn
  simp only [Array.getD, has, hbs, dite_true]
  exact ⟨hpos a has, hpos b hbs⟩

/-- Frame of the three ranges of the update that merges into `b`: every entry `{y, b}` whose row
`y` is still to be processed (`T y`), and every entry of a pair not containing `b`, is the one of
the matrix `M0` before the update. -/
def Frame (chk : Bool) (n b : Nat) (M0 M : Mat α) (T : Nat → Prop) : Prop :=
  ∀ r c, r < c → c < n → (c = b → T r) → (r = b → T c) → M.get chk r c = M0.get chk r c

omit [Num α] in
theorem Frame.refl (chk : Bool) (n b : Nat) (M0 : Mat α) (T : Nat → Prop) :
    Frame chk n b M0 M0 T := fun _ _ _ _ _ _ => rfl

omit [Num α] in
theorem Frame.mono {chk : Bool} {n b : Nat} {M0 M : Mat α} {T T' : Nat → Prop}
    (h : Frame chk n b M0 M T) (hT : ∀ y, T' y → T y) : Frame chk n b M0 M T' :=
  fun r c hrc hcn h1 h2 => h r c hrc hcn (fun e => hT r (h1 e)) (fun e => hT c (h2 e))

omit [Num α] in
theorem Frame.step {chk : Bool} {n b : Nat} {M0 M M' : Mat α} {T T' : Nat → Prop}
    (h : Frame chk n b M0 M T) {x rb cb : Nat} {v : α}
    (hget : ∀ r c, r < c → c < n →
      M'.get chk r c = if r = rb ∧ c = cb then .ok v else M.get chk r c)
    (hkey : rb = x ∧ cb = b ∨ rb = b ∧ cb = x) (hT : ∀ y, T' y → T y ∧ y ≠ x) :
    Frame chk n b M0 M' T' := by
  intro r c hrc hcn h1 h2
  rw [hget r c hrc hcn, if_neg]
  · exact h r c hrc hcn (fun e' => (hT r (h1 e')).1) (fun e' => (hT c (h2 e')).1)
  · rintro ⟨e1, e2⟩
    rcases hkey with ⟨k1, k2⟩ | ⟨k1, k2⟩
    · exact (hT r (h1 (e2.trans k2))).2 (e1.trans k1)
    · exact (hT c (h2 (e1.trans k1))).2 (e2.trans k2)

omit [Num α] in
/-- The two entries that the step of row `x` reads are still the original ones. -/
theorem Frame.reads {chk : Bool} {n b : Nat} {M0 M : Mat α} {T : Nat → Prop}
    (h : Frame chk n b M0 M T) {a x : Nat} (hx : T x) (hxa : x ≠ a) (hxb : x ≠ b) (hab : a ≠ b)
    (hxn : x < n) (han : a < n) (hbn : b < n) :
    mget chk M x a = mget chk M0 x a ∧ mget chk M x b = mget chk M0 x b := by
  constructor
  · rcases Nat.lt_or_gt_of_ne hxa with l | l
    · rw [mget_of_lt chk M l, mget_of_lt chk M0 l]
      exact h x a l han (fun e => absurd e hab) (fun e => absurd e hxb)
    · rw [mget_of_gt chk M l, mget_of_gt chk M0 l]
      exact h a x l hxn (fun e => absurd e hxb) (fun e => absurd e hab)
  · rcases Nat.lt_or_gt_of_ne hxb with l | l
    · rw [mget_of_lt chk M l, mget_of_lt chk M0 l]
      exact h x b l hbn (fun _ => hx) (fun e => absurd e hxb)
    · rw [mget_of_gt chk M l, mget_of_gt chk M0 l]
      exact h b x l hxn (fun e => absurd e hxb) (fun _ => hx)

/-- What `LB` needs to survive the update of the merge `a < b` with `d0 = dis[[a, b]]`: `LBClosed`
for the five `L1Mode.fix` methods, positive sizes, and (from `generic_pop_min`) every live priority
`≥ d0`. -/
structure LBPre (G : α → Prop) (chk : Bool) (m : Method) (live : List Nat) (st : State α)
    (M : Mat α) (d0 : α) : Prop where
  lb : LB chk M live st.queue.prio
  closed : l1Mode m = .fix → LBClosed G m
  pos : ∀ i (h : i < st.sizes.size), 0 < st.sizes[i]
  ge : ∀ x ∈ live, ∀ px, st.queue.prio[x]? = some px → Num.lt px d0 = false

/-- The only method that does not track priorities in ranges 2 and 3 is `complete`, whose update
`max(va, vb)` is not below `vb`. -/
theorem noTrack_mono {G : α → Prop} (L : OrderLaws α) (gs : GoodSet G) (m : Method)
    (hm : tracksPriorities m = false) (sizes : Array Nat) (sa sb : Nat) (dist : α) (x : Nat)
    (va vb v p : α) (gvb : G vb) (h : updFn m sizes sa sb dist x va vb = .ok v)
    (h1 : Num.lt vb p = false) : Num.lt v p = false := by
  cases m <;> first | (simp [tracksPriorities] at hm; done) | skip
  simp only [updFn, Gen.complete, pure, Except.pure, Except.ok.injEq] at h
  subst h
  split
  · next hlt => exact L.le_trans p vb va (gs.notNaN _ gvb) h1 (L.asymm _ _ hlt)
  · exact h1

section
variable {G : α → Prop} {n : Nat} {chk : Bool} {m : Method} {live : List Nat} {st0 : State α}
  {M0 : Mat α} {d0 : α} {a b : Nat} {upd : Nat → α → α → R α}

/-- The merge `a < b` and what every row of its update writes, in terms of the matrix `M0` before
the update. -/
structure UpdCtx (G : α → Prop) (chk : Bool) (n : Nat) (live : List Nat) (M0 : Mat α)
    (upd : Nat → α → α → R α) (a b : Nat) : Prop where
  lt_n : ∀ x ∈ live, x < n
  ha : a ∈ live
  hb : b ∈ live
  hab : a < b
  good : ∀ x ∈ live, x ≠ a → x ≠ b → ∀ va vb, mget chk M0 x a = .ok va →
    mget chk M0 x b = .ok vb → ∃ v, upd x va vb = .ok v ∧ G v

omit [Num α] in
theorem UpdCtx.hb' (c : UpdCtx G chk n live M0 upd a b) : b ∈ live.filter (· ≠ a) :=
  mem_filter_ne.mpr ⟨c.hb, Nat.ne_of_gt c.hab⟩

omit [Num α] in
/-- A row that the frame still protects reads the original entries. -/
theorem UpdCtx.good_of_frame (c : UpdCtx G chk n live M0 upd a b) {M : Mat α} {T : Nat → Prop}
    (hfr : Frame chk n b M0 M T) {x : Nat} (hx : x ∈ live) (hTx : T x) (hxa : x ≠ a) (hxb : x ≠ b)
    (va vb : α) (hva : mget chk M x a = .ok va) (hvb : mget chk M x b = .ok vb) :
    ∃ v, upd x va vb = .ok v ∧ G v := by
  obtain ⟨r1, r2⟩ := hfr.reads hTx hxa hxb (Nat.ne_of_lt c.hab) (c.lt_n x hx) (c.lt_n a c.ha)
    (c.lt_n b c.hb)
  exact c.good x hx hxa hxb va vb (r1.symm.trans hva) (r2.symm.trans hvb)

/-- What the fold over one range carries: `rem` are the rows of the range still to be processed
(they alone may still have the popped `a` as candidate), the rows above `t` belong to later
ranges. -/
structure RangeInv (G : α → Prop) (chk : Bool) (m : Method) (n : Nat) (live : List Nat)
    (st0 : State α) (M0 : Mat α) (d0 : α) (a b : Nat) (t : Nat)
    (rem : List Nat) (st : State α) (M : Mat α) : Prop where
  nodup : rem.Nodup
  u : UInv G n (live.filter (· ≠ a)) (fun y c => c = a ∧ y ∈ rem) st0.sizes st0.active st M
  frame : Frame chk n b M0 M (fun y => y ∈ rem ∨ t < y)
  lb : LBPre G chk m live st0 M0 d0 → LB chk M live st.queue.prio

omit [Num α] in
theorem mget_of_key (chk : Bool) (M : Mat α) {x y r c : Nat} (hk : r = x ∧ c = y ∨ r = y ∧ c = x)
    (hrc : r < c) : mget chk M x y = M.get chk r c := by
  rcases hk with ⟨rfl, rfl⟩ | ⟨rfl, rfl⟩
  · exact mget_of_lt chk M hrc
  · exact mget_of_gt chk M hrc

/-- One step of any of the three ranges, on the fold invariant.  In all three the row `x ∉ {a, b}`
rewrites the entry `(r, cc)` at `{x, b}` from the entries `(ra, ca)` at `{x, a}` and `(r, cc)`; the
ranges differ in the mode, in where the old priority is read (`rd`), and in why a kept priority
stays a lower bound (`hkeep`). -/
theorem RangeInv.body (L : OrderLaws α) (gs : GoodSet G) (c : UpdCtx G chk n live M0 upd a b)
    (md : RMode) (rd : State α → R α) {t x ra ca r cc : Nat} {rest : List Nat} {st : State α}
    {M : Mat α} (h : RangeInv G chk m n live st0 M0 d0 a b t (x :: rest) st M) (hx : x ∈ live)
    (hxa : x ≠ a) (hxb : x ≠ b) (hxt : x ≤ t)
    (hka : ra = x ∧ ca = a ∨ ra = a ∧ ca = x) (hra : ra < ca)
    (hkb : r = x ∧ cc = b ∨ r = b ∧ cc = x) (hrc : r < cc)
    (hrd : md.lowers = true → ∃ p, st.queue.prio[r]? = some p ∧ rd st = .ok p)
    (hrow : md.fixes = true ∧ r = x ∨ md.fixes = false ∧ a < x)
    (hkeep : LBPre G chk m live st0 M0 d0 → md.lowers = false → ∀ va vb v p,
      st.queue.prio[r]? = some p → G va → G vb → G p → upd x va vb = .ok v →
      (ra = r → Num.lt va p = false) → Num.lt vb p = false → Num.lt v p = false) :
    ∃ st' M' v p, rangeBody chk md rd upd a ra ca r cc (st, M) x = .ok (st', M') ∧
      M.update chk upd x ra ca r cc = .ok M' ∧
      RangeInv G chk m n live st0 M0 d0 a b t rest st' M' ∧
      (md.lowers = false → st'.queue = st.queue) ∧
      M'.get chk r cc = .ok v ∧ st.queue.prio[r]? = some p ∧
      st'.queue.prio[r]? = some (if md.lowers = true ∧ Num.lt v p = true then v else p) := by
  have hx' := mem_filter_ne.mpr ⟨hx, hxa⟩
  obtain ⟨hr, hc⟩ : r ∈ live.filter (· ≠ a) ∧ cc ∈ live.filter (· ≠ a) := by
    rcases hkb with ⟨rfl, rfl⟩ | ⟨rfl, rfl⟩
    · exact ⟨hx', c.hb'⟩
    · exact ⟨c.hb', hx'⟩
  have hrf := (mem_filter_ne.mp hr).1
  have hnd := List.nodup_cons.mp h.nodup
  obtain ⟨M1, va, vb, v, hM1, gM1, hva, hvb, hv, gva, gvb, gv, hv1, hget⟩ :=
    h.u.m.update_spec chk upd x ra ca r cc
      (fun va vb hva hvb => c.good_of_frame h.frame hx (Or.inl List.mem_cons_self) hxa hxb va vb
        ((mget_of_key chk M hka hra).trans hva) ((mget_of_key chk M hkb hrc).trans hvb))
      hra (hka.elim (fun e => e.2 ▸ c.lt_n a c.ha) fun e => e.2 ▸ c.lt_n x hx) hrc (h.u.q.lt_n hc)
  obtain ⟨p, hp, gp⟩ := h.u.q.pgood r hr cc hc hrc
  -- row `x` done: its update wrote the entry `{x, b}` only
  have fr1 : Frame chk n b M0 M1 (fun y => y ∈ rest ∨ t < y) :=
    h.frame.step hget hkb (by
      rintro y (hy | hy)
      · exact ⟨Or.inl (List.mem_cons_of_mem _ hy), fun e' => hnd.1 (e' ▸ hy)⟩
      · exact ⟨Or.inr hy, Nat.ne_of_gt (Nat.lt_of_le_of_lt hxt hy)⟩)
  have u1 : UInv G n (live.filter (· ≠ a)) (fun y c => c = a ∧ y ∈ x :: rest) st0.sizes st0.active
      st M1 := ⟨h.u.q, gM1, h.u.sizes_eq, h.u.active_eq⟩
  -- the exits that keep the queue
  obtain ⟨stf, ef, qf, uf⟩ : ∃ stf,
      (if md.fixes = true then fixNearest st M1 r a cc else pure (st, M1)) = .ok (stf, M1) ∧
      stf.queue = st.queue ∧
      UInv G n (live.filter (· ≠ a)) (fun y c => c = a ∧ y ∈ rest) st0.sizes st0.active stf M1 := by
    rcases hrow with ⟨hf, rfl⟩ | ⟨hf, hax⟩
    · rw [if_pos hf]; exact fixNearest_ok a cc r rest st M1 hc hr hrc u1
    · rw [hf]; exact ⟨st, rfl, rfl, u1.dropRow hax⟩
  have keep : Num.lt v p = false → LBPre G chk m live st0 M0 d0 → LB chk M1 live stf.queue.prio := by
    intro hvp hP
    rw [qf]
    exact LB.keep r cc v hget c.lt_n (h.lb hP) hrf
      (fun p1 hp1 => by rw [hp] at hp1; cases hp1; exact hvp)
  unfold rangeBody
  simp only [bind, Except.bind, hM1]
  cases hl : md.lowers with
  | false =>
    simp only [Bool.false_eq_true, if_false, false_and]
    exact ⟨stf, M1, v, p, ef, rfl, ⟨hnd.2, uf, fr1, fun hP => keep (hkeep hP hl va vb v p hp gva gvb
        gp hv
        (fun e => by
          -- `ra = r` is range 1: the entry read is `(x, a)`, in the row of the priority
          obtain ⟨rfl, rfl⟩ : ra = x ∧ ca = a := hka.resolve_right fun e' =>
            (mem_filter_ne.mp hr).2 (e ▸ e'.1)
          exact h.lb hP ra hx ca c.ha hra p va (e ▸ hp) hva)
        (h.lb hP r hrf cc (mem_filter_ne.mp hc).1 hrc p vb hp hvb)) hP⟩, fun _ => qf, hv1, hp,
      by rw [qf]; exact hp⟩
  | true =>
    obtain ⟨_, hp2, hprio⟩ := hrd hl
    cases hp.symm.trans hp2
    simp only [if_true, hv1, hprio, lowerOr, true_and]
    by_cases hlt : Num.lt v p = true
    · rw [if_pos hlt]
      obtain ⟨q', nr', hset, hnr, hprio', u'⟩ : ∃ q' nr', st.queue.setPriority chk r v = .ok q' ∧
          aset st.nearest r cc = .ok nr' ∧ q'.prio = st.queue.prio.setIfInBounds r v ∧
          UInv G n (live.filter (· ≠ a)) (fun y c => c = a ∧ y ∈ rest) st0.sizes st0.active
            { st with queue := q', nearest := nr' } M1 := by
        rcases hrow with ⟨_, rfl⟩ | ⟨_, hax⟩
        · exact u1.lower L gs chk gM1 hr hc hrc gv _ (fun y c' hy _ => mem_rest_of_ne y c' hy)
        · exact (u1.dropRow hax).lower L gs chk gM1 hr hc hrc gv _ (fun _ _ _ _ hB => hB)
      simp only [hset, hnr, pure, Except.pure]
      refine ⟨_, M1, v, p, rfl, rfl, ⟨hnd.2, u', fr1, fun hP => ?_⟩, nofun, hv1, hp, ?_⟩
      · simp only [hprio']
        exact LB.lower L r cc v p hget c.lt_n (h.lb hP) hrf hp (gs.notNaN p gp) hlt
      · simp only [hprio', hlt, if_true]
        exact Array.getElem?_setIfInBounds_self_of_lt (Array.getElem?_eq_some_iff.mp hp).1
    · rw [if_neg hlt]
      exact ⟨stf, M1, v, p, ef, rfl, ⟨hnd.2, uf, fr1, keep (by simpa using hlt)⟩, nofun, hv1, hp,
        by rw [qf, if_neg hlt]; exact hp⟩

/-- From a finished range to the next one, whose rows are all above `t`. -/
theorem RangeInv.next {t t' : Nat} {rows : List Nat} {st : State α} {M : Mat α}
    (h : RangeInv G chk m n live st0 M0 d0 a b t [] st M) (hnd : rows.Nodup)
    (hT : ∀ y, y ∈ rows ∨ t' < y → t < y) :
    RangeInv G chk m n live st0 M0 d0 a b t' rows st M :=
  ⟨hnd, ⟨h.u.q.weaken _ (fun _ _ _ _ _ hB => nomatch hB.2), h.u.m, h.u.sizes_eq, h.u.active_eq⟩,
    h.frame.mono (fun y hy => Or.inr (hT y hy)), h.lb⟩

/-- Range 1: the rows `< a`.  For the `L1Mode.fix` methods the queue is the one before the update
throughout, which is where `hclosed` (from `LBClosed`) speaks of. -/
theorem genericL1_fold (L : OrderLaws α) (gs : GoodSet G) (c : UpdCtx G chk n live M0 upd a b)
    (hclosed : LBPre G chk m live st0 M0 d0 → l1Mode m = .fix → ∀ x ∈ live, ∀ va vb v p,
      st0.queue.prio[x]? = some p → G va → G vb → G p → upd x va vb = .ok v →
      Num.lt va p = false → Num.lt vb p = false → Num.lt v p = false)
    (rows : List Nat) (hrows : ∀ x ∈ rows, x ∈ live ∧ x < a) (st : State α) (M : Mat α)
    (h : RangeInv G chk m n live st0 M0 d0 a b a rows st M)
    (hq : l1Mode m = .fix → st.queue = st0.queue) :
    ∃ st' M', rows.foldlM (genericL1 chk (l1Mode m) upd a b) (st, M) = .ok (st', M') ∧
      rows.foldlM (fun (M : Mat α) x => M.update chk upd x x a x b) M = .ok M' ∧
      RangeInv G chk m n live st0 M0 d0 a b a [] st' M' := by
  obtain ⟨⟨st', M'⟩, e, p, h', _⟩ := foldlM_ok_rem_proj
    (fun rem (s : State α × Mat α) => RangeInv G chk m n live st0 M0 d0 a b a rem s.1 s.2 ∧
      (l1Mode m = .fix → s.1.queue = st0.queue))
    (genericL1 chk (l1Mode m) upd a b) (fun (M : Mat α) x => M.update chk upd x x a x b)
    (fun s => s.2) rows (st, M)
    (by
      intro x rest ⟨s1, s2⟩ hx ⟨hi, hqe⟩
      obtain ⟨hxl, hxa⟩ := hrows x hx
      have hxb : x < b := Nat.lt_trans hxa c.hab
      obtain ⟨st', M', _, _, e, eM, i', q', _⟩ := hi.body L gs c (.ofL1 (l1Mode m))
        (·.queue.priority x) (ra := x) (ca := a) (r := x) (cc := b) hxl (Nat.ne_of_lt hxa)
        (Nat.ne_of_lt hxb) (Nat.le_of_lt hxa) (.inl ⟨rfl, rfl⟩) hxa (.inl ⟨rfl, rfl⟩) hxb
        (fun _ => hi.u.q.priority_ok (mem_filter_ne.mpr ⟨hxl, Nat.ne_of_lt hxa⟩))
        (Or.inl ⟨rfl, rfl⟩) (fun hP hl va vb v p hp gva gvb gp hv h1 =>
          have hfixm := RMode.ofL1_lowers.mp hl
          hclosed hP hfixm x hxl va vb v p (hqe hfixm ▸ hp) gva gvb gp hv (h1 rfl))
      exact ⟨(st', M'), (genericL1_body ..).trans e, eM, i',
        fun hfixm => (q' (RMode.ofL1_lowers.mpr hfixm)).trans (hqe hfixm)⟩)
    ⟨h, hq⟩
  exact ⟨st', M', e, p, h'⟩

/-- Range 2: the rows strictly between `a` and `b`. -/
theorem genericL2_fold (L : OrderLaws α) (gs : GoodSet G) (c : UpdCtx G chk n live M0 upd a b)
    (hmono : tracksPriorities m = false → ∀ x va vb v p, G va → G vb → upd x va vb = .ok v →
      Num.lt vb p = false → Num.lt v p = false)
    (rows : List Nat) (hrows : ∀ x ∈ rows, a < x ∧ x < b ∧ x ∈ live) (st : State α) (M : Mat α)
    (h : RangeInv G chk m n live st0 M0 d0 a b b rows st M) :
    ∃ st' M', rows.foldlM (genericL2 chk (tracksPriorities m) upd a b) (st, M) = .ok (st', M') ∧
      rows.foldlM (fun (M : Mat α) x => M.update chk upd x a x x b) M = .ok M' ∧
      RangeInv G chk m n live st0 M0 d0 a b b [] st' M' := by
  obtain ⟨⟨st', M'⟩, e, p, h'⟩ := foldlM_ok_rem_proj
    (fun rem (s : State α × Mat α) => RangeInv G chk m n live st0 M0 d0 a b b rem s.1 s.2)
    (genericL2 chk (tracksPriorities m) upd a b) (fun (M : Mat α) x => M.update chk upd x a x x b)
    (fun s => s.2) rows (st, M)
    (by
      intro x rest ⟨s1, s2⟩ hx hi
      obtain ⟨hax, hxb, hxl⟩ := hrows x hx
      obtain ⟨st', M', _, _, e, eM, i', _⟩ := hi.body L gs c (.ofTrack (tracksPriorities m))
        (·.queue.priority x) (ra := a) (ca := x) (r := x) (cc := b) hxl (Nat.ne_of_gt hax)
        (Nat.ne_of_lt hxb) (Nat.le_of_lt hxb) (.inr ⟨rfl, rfl⟩) hax (.inl ⟨rfl, rfl⟩) hxb
        (fun _ => hi.u.q.priority_ok (mem_filter_ne.mpr ⟨hxl, Nat.ne_of_gt hax⟩))
        (Or.inr ⟨rfl, hax⟩) (fun _ ht va vb v p _ gva gvb _ hv _ => hmono ht x va vb v p gva gvb hv)
      exact ⟨(st', M'), (genericL2_body ..).trans e, eM, i'⟩)
    h
  exact ⟨st', M', e, p, h'⟩

/-- Range 3: the rows above `b`, all written into row `b`; the fold also carries
`min = priority(b)`. -/
theorem genericL3_fold (L : OrderLaws α) (gs : GoodSet G) (c : UpdCtx G chk n live M0 upd a b)
    (hmono : tracksPriorities m = false → ∀ x va vb v p, G va → G vb → upd x va vb = .ok v →
      Num.lt vb p = false → Num.lt v p = false)
    (rows : List Nat) (hrows : ∀ x ∈ rows, b < x ∧ x ∈ live) (st : State α) (M : Mat α) (mn : α)
    (h : RangeInv G chk m n live st0 M0 d0 a b n rows st M)
    (hmn : tracksPriorities m = true → st.queue.prio[b]? = some mn) :
    ∃ st' M' mn', rows.foldlM (genericL3 chk (tracksPriorities m) upd a b) (st, M, mn)
        = .ok (st', M', mn') ∧
      rows.foldlM (fun (M : Mat α) x => M.update chk upd x a x b x) M = .ok M' ∧
      RangeInv G chk m n live st0 M0 d0 a b n [] st' M' := by
  obtain ⟨⟨st', M', mn'⟩, e, p, h', _⟩ := foldlM_ok_rem_proj
    (fun rem (s : State α × Mat α × α) =>
      RangeInv G chk m n live st0 M0 d0 a b n rem s.1 s.2.1 ∧
        (tracksPriorities m = true → s.1.queue.prio[b]? = some s.2.2))
    (genericL3 chk (tracksPriorities m) upd a b) (fun (M : Mat α) x => M.update chk upd x a x b x)
    (fun s => s.2.1) rows (st, M, mn)
    (by
      intro x rest ⟨s1, s2, s3⟩ hx ⟨hi, hmn⟩
      obtain ⟨hbx, hxl⟩ := hrows x hx
      have hax : a < x := Nat.lt_trans c.hab hbx
      obtain ⟨st', M', v, p, e, eM, i', _, hv, hp, hp'⟩ := hi.body L gs c
        (.ofTrack (tracksPriorities m)) (fun _ => pure s3) (ra := a) (ca := x) (r := b) (cc := x)
        hxl (Nat.ne_of_gt hax) (Nat.ne_of_gt hbx) (Nat.le_of_lt (c.lt_n x hxl)) (.inr ⟨rfl, rfl⟩) hax
        (.inr ⟨rfl, rfl⟩) hbx
        (fun ht => ⟨s3, hmn ht, rfl⟩)
        (Or.inr ⟨rfl, hax⟩) (fun _ ht va vb v p _ gva gvb _ hv _ => hmono ht x va vb v p gva gvb hv)
      refine ⟨(st', M', if tracksPriorities m = true ∧ Num.lt v s3 = true then v else s3), ?_, eM,
        i', fun ht => by cases hp.symm.trans (hmn ht); exact hp'⟩
      rw [genericL3_body, e]
      cases ht : tracksPriorities m <;> simp [bind, Except.bind, hv, pure, Except.pure]
    )
    ⟨h, hmn⟩
  exact ⟨st', M', mn', e, p, h'⟩

end

/-- The whole update after popping `a`: `live'` is the live set without `a`; the candidate array
may still point at `a` from rows `< a` (exactly what range 1 repairs).  RUN-DEPENDENT form: instead
of closure of `G` under the formula, only the values that THIS update writes are assumed good
(`UpdGoodAt`).

Where the lower bound comes from, per range (row `x`, new entry `v`):
* range 1 (`x < a`), `L1Mode.lower` (centroid, median): the code lowers `priority(x)` to `v` if
  `v < priority(x)`;  `L1Mode.fix` (the other five): the priority is kept, `LBClosed` is needed.
* range 2 (`a < x < b`) and range 3 (row `b`): the tracking methods lower the priority; `complete`
  does not, but `max(va, vb) ≥ vb ≥ priority` (`noTrack_mono`). -/
theorem genericUpdate_spec {G : α → Prop} {n : Nat} (L : OrderLaws α) (gs : GoodSet G)
    (chk : Bool) (m : Method) (live : List Nat) (st : State α) (M : Mat α)
    (hrep : st.active.Rep live n) (hsz : st.sizes.size = n)
    (a b : Nat) (ha : a ∈ live) (hb : b ∈ live) (hab : a < b)
    (hq : QInvB G n (live.filter (· ≠ a))
      (fun y c => c = a ∧ y ∈ live.filter (fun x => decide (x < a))) st.queue st.nearest)
    (hM : MGood G n M) (hgood : UpdGoodAt G chk m st.sizes M live a b)
    (d0 : α) (hd0 : M.get chk a b = .ok d0) :
    ∃ st' M' sa sb dist, genericUpdate chk m st a b M = .ok (st', M') ∧
      QInv G n (live.filter (· ≠ a)) st'.queue st'.nearest ∧ MGood G n M' ∧
      st'.sizes = st.sizes ∧ st'.active = st.active ∧
      (LBPre G chk m live st M d0 → LB chk M' live st'.queue.prio) ∧
      (usesSizes m = true → sa = st.sizes.getD a 0 ∧ sb = st.sizes.getD b 0) ∧
      (usesDist m = true → dist = d0) ∧
      updateRows chk st.active (updFn m st.sizes sa sb dist) a b M = .ok M' := by
  have hs := hrep.sorted
  have hlt := hrep.mem_lt
  have hnd : live.Nodup := hrep.nodup
  have han : a < n := hlt a ha
  have hbn : b < n := hlt b hb
  have has : a < st.sizes.size := by rw [hsz]; exact han
  have hbs : b < st.sizes.size := by rw [hsz]; exact hbn
  have esa := optM_ok (usesSizes m) (aget st.sizes a) 0 st.sizes[a] (by simp [aget, has])
  have esb := optM_ok (usesSizes m) (aget st.sizes b) 0 st.sizes[b] (by simp [aget, hbs])
  have gd0 := hM.good_of_get hab hbn hd0
  have edist := optM_ok (usesDist m) (M.get chk a b) Num.infinity d0 hd0
  generalize hsa : (if usesSizes m = true then st.sizes[a] else 0) = sa at esa
  generalize hsb : (if usesSizes m = true then st.sizes[b] else 0) = sb at esb
  generalize hdist : (if usesDist m = true then d0 else Num.infinity) = dist at edist
  have hsab : usesSizes m = true → sa = st.sizes.getD a 0 ∧ sb = st.sizes.getD b 0 := by
    intro hu
    rw [← hsa, ← hsb]
    simp [hu, Array.getD, has, hbs]
  have hdd : usesDist m = true → dist = d0 := by
    intro hu; rw [← hdist]; simp [hu]
  have hsabpos : (∀ i (h : i < st.sizes.size), 0 < st.sizes[i]) → usesSizes m = true →
      0 < sa ∧ 0 < sb := by
    intro hpos hu
    rw [← hsa, ← hsb]
    simp only [hu, if_true]
    exact ⟨hpos a has, hpos b hbs⟩
  generalize hupd : updFn m st.sizes sa sb dist = upd
  -- what row `x` writes, in terms of the matrix before the update
  have hupd0 : ∀ x ∈ live, x ≠ a → x ≠ b → ∀ va vb, mget chk M x a = .ok va →
      mget chk M x b = .ok vb → ∃ v, upd x va vb = .ok v ∧ G v := by
    intro x hx hxa hxb va vb hva hvb
    rw [← hupd]
    exact ⟨_, updFn_eq_lw m st.sizes sa sb dist d0 _ _ hsab hdd x va vb (by rw [hsz]; exact hlt x hx),
      hgood x hx hxa hxb va vb d0 hva hvb hd0⟩
  have hmono : tracksPriorities m = false → ∀ x va vb v p, G va → G vb →
      upd x va vb = .ok v → Num.lt vb p = false → Num.lt v p = false := by
    intro ht x va vb v p gva gvb hv h1
    rw [← hupd] at hv
    exact noTrack_mono L gs m ht st.sizes sa sb dist x va vb v p gvb hv h1
  have hclosed : LBPre G chk m live st M d0 → l1Mode m = .fix → ∀ x ∈ live, ∀ va vb v p,
      st.queue.prio[x]? = some p → G va → G vb → G p → upd x va vb = .ok v →
      Num.lt va p = false → Num.lt vb p = false → Num.lt v p = false := by
    intro hP hfixm x hx va vb v p hp gva gvb gp hv h1 h2
    rw [← hupd] at hv
    exact hP.closed hfixm st.sizes sa sb dist x va vb v p hP.pos (hsabpos hP.pos)
      (fun hu => by rw [hdd hu]; exact ⟨gd0, hP.ge x hx p hp⟩) gva gvb gp hv h1 h2
  have hr1 := hrep.range_lt a (Nat.le_of_lt han)
  have hr2 := hrep.range_win a b (Nat.le_of_lt han) (Nat.le_of_lt hbn)
  have hr3 := hrep.range_ge b (Nat.le_of_lt hbn)
  have hw := sorted_window_drop live hs a b ha
  have hw3 := sorted_filter_ge_drop live hs b hb
  have c : UpdCtx G chk n live M upd a b := ⟨hlt, ha, hb, hab, hupd0⟩
  obtain ⟨st1, M1, e1, p1, i1⟩ := genericL1_fold (m := m) (st0 := st) (d0 := d0) L gs c hclosed
    (live.filter (fun x => decide (x < a)))
    (fun x hx => ⟨(List.mem_filter.mp hx).1, of_decide_eq_true (List.mem_filter.mp hx).2⟩) st M
    ⟨hnd.filter _, ⟨hq, hM, rfl, rfl⟩, Frame.refl chk n b M _, LBPre.lb⟩ (fun _ => rfl)
  obtain ⟨st2, M2, e2, p2, i2⟩ := genericL2_fold L gs c hmono _ hw st1 M1
    (i1.next ((hnd.filter _).sublist (List.drop_sublist 1 _)) (by
      rintro y (hy | hy)
      · exact (hw y hy).1
      · exact Nat.lt_trans hab hy))
  obtain ⟨p, hpb, hprio⟩ := i2.u.q.priority_ok c.hb'
  have emin := optM_ok (tracksPriorities m) (st2.queue.priority b) Num.infinity p hprio
  obtain ⟨st3, M3, mn3, e3, p3, i3⟩ := genericL3_fold L gs c hmono _ hw3.2 st2 M2
    (if tracksPriorities m = true then p else Num.infinity)
    (i2.next ((hnd.filter _).sublist (List.drop_sublist 1 _)) (by
      rintro y (hy | hy)
      · exact (hw3.2 y hy).1
      · exact Nat.lt_trans hbn hy))
    (fun ht => by simp only [ht, if_true]; exact hpb)
  refine ⟨st3, M3, sa, sb, dist, ?_, i3.u.q.weaken _ (fun _ _ _ _ _ hB => nomatch hB.2), i3.u.m, i3.u.sizes_eq, i3.u.active_eq, i3.lb, hsab,
    hdd, ?_⟩
  · rw [genericUpdate_eq]
    simp only [bind, Except.bind, esa, esb, edist, hr1, hupd, e1, i1.u.active_eq, hr2, e2, emin,
      i2.u.active_eq, hr3, e3, pure, Except.pure]
  · subst hupd
    unfold updateRows
    simp only [bind, Except.bind, hr1, hr2, hr3, p1, p2, p3]

/-- `genericUpdate_spec` under `UpdClosed`, without the `LB` and `updateRows` parts. -/
theorem genericUpdate_ok {G : α → Prop} {n : Nat} (L : OrderLaws α) (gs : GoodSet G) (chk : Bool)
    (m : Method) (hcl : UpdClosed G m) (live : List Nat) (st : State α) (M : Mat α)
    (hrep : st.active.Rep live n) (hsz : st.sizes.size = n)
    (hpos : ∀ i (h : i < st.sizes.size), 0 < st.sizes[i])
    (a b : Nat) (ha : a ∈ live) (hb : b ∈ live) (hab : a < b)
    (hq : QInvB G n (live.filter (· ≠ a))
      (fun y c => c = a ∧ y ∈ live.filter (fun x => decide (x < a))) st.queue st.nearest)
    (hM : MGood G n M) :
    ∃ st' M', genericUpdate chk m st a b M = .ok (st', M') ∧
      QInv G n (live.filter (· ≠ a)) st'.queue st'.nearest ∧ MGood G n M' ∧
      st'.sizes = st.sizes ∧ st'.active = st.active := by
  obtain ⟨d0, hd0, _⟩ := hM.get chk a b hab (hrep.mem_lt b hb)
  obtain ⟨st', M', _, _, _, e, q, gM, hs, hact, _⟩ := genericUpdate_spec L gs chk m live st M hrep
    hsz a b ha hb hab hq hM
    (updGoodAt_of_updClosed chk hcl hsz hpos hM live hrep.mem_lt a b ha hb hab) d0 hd0
  exact ⟨st', M', e, q, gM, hs, hact⟩

/-- The update keeps `LB` and is `updateRows` on the matrix: `genericUpdate_spec` with the `LB`
hypotheses supplied, closure form. -/
theorem genericUpdate_lb {G : α → Prop} {n : Nat} (L : OrderLaws α) (gs : GoodSet G) (chk : Bool)
    (m : Method) (hcl : UpdClosed G m) (hlbc : l1Mode m = .fix → LBClosed G m)
    (live : List Nat) (st : State α) (M : Mat α)
    (hrep : st.active.Rep live n) (hsz : st.sizes.size = n)
    (hpos : ∀ i (h : i < st.sizes.size), 0 < st.sizes[i])
    (a b : Nat) (ha : a ∈ live) (hb : b ∈ live) (hab : a < b)
    (hq : QInvB G n (live.filter (· ≠ a))
      (fun y c => c = a ∧ y ∈ live.filter (fun x => decide (x < a))) st.queue st.nearest)
    (hM : MGood G n M) (hlb : LB chk M live st.queue.prio)
    (d0 : α) (hd0 : M.get chk a b = .ok d0)
    (hge : ∀ x ∈ live, ∀ px, st.queue.prio[x]? = some px → Num.lt px d0 = false) :
    ∃ st' M' sa sb dist, genericUpdate chk m st a b M = .ok (st', M') ∧
      QInv G n (live.filter (· ≠ a)) st'.queue st'.nearest ∧ MGood G n M' ∧
      st'.sizes = st.sizes ∧ st'.active = st.active ∧
      LB chk M' live st'.queue.prio ∧
      (usesSizes m = true → sa = st.sizes.getD a 0 ∧ sb = st.sizes.getD b 0) ∧
      (usesDist m = true → dist = d0) ∧
      updateRows chk st.active (updFn m st.sizes sa sb dist) a b M = .ok M' := by
  obtain ⟨st', M', sa, sb, dist, e, q, gM, hs, hact, lb, rest⟩ := genericUpdate_spec L gs chk m live
    st M hrep hsz a b ha hb hab hq hM
    (updGoodAt_of_updClosed chk hcl hsz hpos hM live hrep.mem_lt a b ha hb hab) d0 hd0
  exact ⟨st', M', sa, sb, dist, e, q, gM, hs, hact, lb ⟨hlb, hlbc, hpos, hge⟩, rest⟩

end Kodama
