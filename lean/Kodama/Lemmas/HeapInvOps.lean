/-
Invariants of the indexed binary min-heap: the public operations `set_priority`, `pop`, `heapify`
(each: totality, what it changes, and preservation of heap order), the bundled invariant `Inv`, and
bracket-form corollaries.
-/
import Kodama.Lemmas.HeapInvSift
import Kodama.Lemmas.Ok
import Kodama.Model.State
import Kodama.Lemmas.Reset
namespace Kodama
namespace Heap
variable {α : Type} [Num α]

omit [Num α] in
theorem WF.withPrio {h : Heap α} (hw : WF h) (prio' : Array α) (hs : prio'.size = h.prio.size) :
    WF { h with prio := prio' } :=
  ⟨by simpa [hs] using hw.obs_size, by simpa [hs] using hw.removed_size,
    by simpa [hs] using hw.heap_le, hw.heap_obs,
    by intro o ho; simp only [hs] at ho; exact hw.removed_iff o ho,
    by simpa [hs] using hw.small⟩

theorem setIfInBounds_eq_set {β : Type} (a : Array β) (i : Nat) (v : β) (hi : i < a.size) :
    a.setIfInBounds i v = a.set i v hi := by
  simp [Array.setIfInBounds, hi]

theorem key_setPrio {h : Heap α} (hw : WF h) {po o : Nat} (hpo : h.heap[po]? = some o) (p : α) :
    ({ h with prio := h.prio.setIfInBounds o p } : Heap α).key po = p ∧
    ∀ k, k < h.heap.size → k ≠ po →
      ({ h with prio := h.prio.setIfInBounds o p } : Heap α).key k = h.key k := by
  have holt := hw.lt_of_heap hpo
  constructor
  · unfold key
    simp only [hpo, Option.getD_some, Array.getElem?_setIfInBounds_self_of_lt holt]
  · intro k hk e
    obtain ⟨ok, hok⟩ := exists_heap hk
    have : o ≠ ok := fun e' => e (hw.heap_inj hok (e' ▸ hpo))
    unfold key
    simp only [hok, Option.getD_some, Array.getElem?_setIfInBounds_ne this]

theorem noNaN_setPrio {h : Heap α} (hn : NoNaN h) (o : Nat) {p : α} (hp : Num.isNaN p = false) :
    NoNaN ({ h with prio := h.prio.setIfInBounds o p } : Heap α) := by
  intro o' a hl ha
  by_cases e : o = o'
  · subst e
    simp only [Array.getElem?_setIfInBounds_self] at ha
    split at ha
    · cases ha; exact hp
    · cases ha
  · simp only [Array.getElem?_setIfInBounds_ne e] at ha
    exact hn o' a hl ha

section SetPrioOrder
variable (L : OrderLaws α) {h h0 : Heap α} {po : Nat} {p : α}
  (ho : Ordered h) (hk : Num.isNaN (h.key po) = false)
include L ho hk

theorem setPrio_child (c : Num.lt (h.key po) p = false) (i : Nat) (h1 : 1 ≤ i)
    (h2 : i < h.heap.size) (h3 : (i - 1) / 2 = po) : Num.lt (h.key i) p = false := by
  have a := ho i h1 h2
  rw [h3] at a
  exact L.le_trans _ _ _ hk c a

theorem setPrio_parent (hpo : po < h.heap.size) (c : Num.lt p (h.key po) = false) (h1 : 1 ≤ po) :
    Num.lt p (h.key ((po - 1) / 2)) = false :=
  L.le_trans _ _ _ hk (ho po h1 hpo) c

theorem setPrio_grand (i : Nat) (h1 : 1 ≤ i) (h2 : i < h.heap.size) (h3 : (i - 1) / 2 = po)
    (h4 : 1 ≤ po) : Num.lt (h.key i) (h.key ((po - 1) / 2)) = false := by
  have a := ho i h1 h2
  rw [h3] at a
  exact L.le_trans _ _ _ hk (ho po h4 (h3 ▸ parent_lt h2)) a

variable (hpo : po < h.heap.size) (hsz : h0.heap.size = h.heap.size) (Kpo : h0.key po = p)
  (Ko : ∀ k, k < h.heap.size → k ≠ po → h0.key k = h.key k)
include hpo hsz Kpo Ko

theorem setPrio_upInv (c : Num.lt (h.key po) p = false) : UpInv h0 po := by
  constructor
  · intro i h1 h2 h3
    rw [hsz] at h2
    rw [Ko i h2 h3]
    by_cases e : (i - 1) / 2 = po
    · rw [e, Kpo]
      exact setPrio_child L ho hk c i h1 h2 e
    · rw [Ko _ (parent_lt h2) e]
      exact ho i h1 h2
  · intro i h1 h2 h3 h4
    rw [hsz] at h2
    rw [Ko i h2 (h3 ▸ parent_ne h1).symm, Ko _ (parent_lt hpo) (parent_ne h4)]
    exact setPrio_grand L ho hk i h1 h2 h3 h4

theorem setPrio_downInv (c : Num.lt p (h.key po) = false) : DownInv h0 0 po := by
  constructor
  · intro i h1 h2 _ h4
    rw [hsz] at h2
    rw [Ko _ (parent_lt h2) h4]
    by_cases e : i = po
    · rw [e, Kpo]
      exact setPrio_parent L ho hk hpo c (e ▸ h1)
    · rw [Ko i h2 e]
      exact ho i h1 h2
  · intro i h1 h2 h3 h4 _
    rw [hsz] at h2
    rw [Ko i h2 (h3 ▸ parent_ne h1).symm, Ko _ (parent_lt hpo) (parent_ne h4)]
    exact setPrio_grand L ho hk i h1 h2 h3 h4

theorem setPrio_ordered (c1 : Num.lt (h.key po) p = false) (c2 : Num.lt p (h.key po) = false) :
    Ordered h0 :=
  (setPrio_upInv L ho hk hpo hsz Kpo Ko c1).ordered fun h1 => by
    rw [Kpo, Ko _ (parent_lt hpo) (parent_ne h1)]
    exact setPrio_parent L ho hk hpo c2 h1

end SetPrioOrder

/-- `set_priority` on a live observation: total; after the write of `p` at `o` only the order of the
heap array changes (`SameLive`); heap order is kept when `p` is not NaN (by `sift_up` when the
priority went down, `sift_down` when it went up). -/
theorem setPriority_spec (chk : Bool) {h : Heap α} (hw : WF h) {o : Nat} (hl : h.Live o) (p : α) :
    ∃ h', setPriority chk h o p = .ok h' ∧
      SameLive ({ h with prio := h.prio.setIfInBounds o p } : Heap α) h' ∧
      (OrderLaws α → Ordered h → NoNaN h → Num.isNaN p = false → Ordered h') := by
  have hlt := hw.live_lt hl
  have hr := (hw.removed_iff o hlt).mpr hl
  obtain ⟨po, hpo⟩ := hl
  have hpn := pos_lt hpo
  have hold : h.prio[o]? = some h.prio[o] := by simp [hlt]
  have hkold : h.key po = h.prio[o] := key_eq hpo hold
  have hw0 : WF ({ h with prio := h.prio.setIfInBounds o p } : Heap α) :=
    hw.withPrio _ (by simp)
  obtain ⟨Kpo, Ko⟩ := key_setPrio hw hpo p
  unfold setPriority
  simp only [aget, hr, hold, guard', aset, hlt, ← setIfInBounds_eq_set, bind, Except.bind,
    Bool.not_false, if_true, dite_true]
  rw [← hkold]
  split
  · next c =>
    obtain ⟨h', hs, sl, hord⟩ := siftUp_spec chk _ _ o po hw0 hpo
      (show po < h.heap.size + 2 from Nat.lt_add_right 2 hpn)
    exact ⟨h', hs, sl, fun L ho hn hp => hord L (noNaN_setPrio hn o hp)
      (setPrio_upInv L ho (hw.key_noNaN hn hpn) hpn rfl Kpo Ko (L.asymm _ _ c))⟩
  · next c =>
    have c' : Num.lt p (h.key po) = false := by simpa using c
    split
    · obtain ⟨h', hs, sl, hord⟩ := siftDown_spec chk _ _ o po hw0 hpo
        (show h.heap.size - po ≤ h.heap.size + 2 by omega)
      exact ⟨h', hs, sl, fun L ho hn hp => (ordered_iff_from _).mpr
        (hord L (noNaN_setPrio hn o hp) 0 (Nat.zero_le _)
          (setPrio_downInv L ho (hw.key_noNaN hn hpn) hpn rfl Kpo Ko c'))⟩
    · next c2 =>
      exact ⟨_, rfl, SameLive.refl hw0, fun L ho hn _ =>
        setPrio_ordered L ho (hw.key_noNaN hn hpn) hpn rfl Kpo Ko (by simpa using c2) c'⟩

theorem Swapped.same {h : Heap α} (hw : WF h) (i : Nat) : Swapped h h i i :=
  ⟨rfl, rfl, rfl, hw, by intro k; by_cases e : k = i <;> simp [e],
    by intro k; by_cases e : k = i <;> simp [e], fun _ => Iff.rfl⟩

def dropLast (hs : Heap α) (o : Nat) : Heap α :=
  { hs with heap := hs.heap.pop, removed := hs.removed.setIfInBounds o true }

theorem popLast_spec {hs : Heap α} (hw : WF hs) {o : Nat}
    (hlast : hs.heap[hs.heap.size - 1]? = some o) :
    WF (dropLast hs o) ∧
    (∀ o', (dropLast hs o).Live o'
      ↔ hs.Live o' ∧ o' ≠ o) ∧
    (∀ k, k < hs.heap.size - 1 →
      (dropLast hs o).key k
        = hs.key k) := by
  have hn := pos_lt hlast
  have hlive : ∀ o', (dropLast hs o).Live o' ↔ hs.Live o' ∧ o' ≠ o := by
    intro o'
    unfold Live dropLast
    simp only [Array.getElem?_pop]
    constructor
    · rintro ⟨i, hi⟩
      split at hi
      · next hlt =>
        refine ⟨⟨i, hi⟩, ?_⟩
        intro e; subst e
        have := hw.heap_inj hi hlast
        omega
      · cases hi
    · rintro ⟨⟨i, hi⟩, hne⟩
      have hin := pos_lt hi
      have : i ≠ hs.heap.size - 1 := by
        intro e; subst e; rw [hlast] at hi; exact hne (Option.some.inj hi).symm
      refine ⟨i, ?_⟩
      have : i < hs.heap.size - 1 := by omega
      simp [this, hi]
  refine ⟨⟨by simpa [dropLast] using hw.obs_size, by simpa [dropLast] using hw.removed_size,
    by simp only [dropLast, Array.size_pop]; have := hw.heap_le; omega, ?_, ?_, hw.small⟩, hlive, ?_⟩
  · intro i o' hi
    simp only [dropLast, Array.getElem?_pop] at hi
    split at hi
    · exact hw.heap_obs i o' hi
    · cases hi
  · intro o' ho'
    rw [hlive o']
    simp only [dropLast, Array.getElem?_setIfInBounds]
    have holt : o < hs.removed.size := by rw [hw.removed_size]; exact hw.lt_of_heap hlast
    by_cases e : o = o'
    · subst e; simp [holt]
    · have e' : o' ≠ o := fun x => e x.symm
      simp only [e, if_false, e', ne_eq, not_false_eq_true, and_true]
      exact hw.removed_iff o' ho'
  · intro k hk
    unfold key dropLast
    simp only [Array.getElem?_pop, hk, if_true]

theorem pop_empty (chk : Bool) {h : Heap α} (h0 : h.heap.size = 0) : pop chk h = .ok (none, h) := by
  simp [pop, h0, pure, Except.pure]

theorem pop_core (chk : Bool) {h : Heap α} (hw : WF h) {o : Nat} (hp : h.peek = some o) :
    Ok (pop chk h) fun r => r.1 = some o ∧ WF r.2 ∧ r.2.prio = h.prio ∧
      r.2.removed = h.removed.setIfInBounds o true ∧ r.2.heap.size = h.heap.size - 1 ∧
      (∀ o', r.2.Live o' ↔ h.Live o' ∧ o' ≠ o) ∧
      (OrderLaws α → Ordered h → NoNaN h → Ordered r.2 ∧ NoNaN r.2) := by
  have hp0 : h.heap[0]? = some o := hp
  have hn := pos_lt hp0
  obtain ⟨ol, hol⟩ := exists_heap (h := h) (i := h.heap.size - 1) (by omega)
  unfold pop
  rw [if_neg (by omega)]
  simp only []
  -- both arms of the first `if` continue with `tail`, on a heap whose root and last entry are
  -- exchanged
  suffices tail : ∀ hs, Swapped h hs 0 (h.heap.size - 1) → Ok _ _ from Ok.ite
    (fun _ => .eq_bind (aget_of_getElem? hp0) <| .eq_bind (aget_of_getElem? hol) <|
      .bind (swap_swapped hw hp0 hol) tail)
    (fun h2 => .eq_bind rfl (tail h (by
      have : h.heap.size - 1 = 0 := by omega
      rw [this]; exact Swapped.same hw 0)))
  intro hs sw
  have hlast : hs.heap[hs.heap.size - 1]? = some o := by
    rw [sw.size, sw.heap]; simp [hp0]
  obtain ⟨wfp, livep, keyp⟩ := popLast_spec sw.wf hlast
  have holt : o < hs.removed.size := by rw [sw.wf.removed_size]; exact sw.wf.lt_of_heap hlast
  have hpsz : (dropLast hs o).heap.size = h.heap.size - 1 := by
    simp [dropLast, sw.size]
  have hkp : NoNaN h → NoNaN (dropLast hs o) := fun hn o' a hl ha =>
    hn o' a ((sw.live o').mp ((livep o').mp hl).1) (by rw [← sw.prio]; exact ha)
  refine .eq_bind (aget_of_getElem? hlast) <| .eq_bind (aset_of_lt holt true) ?_
  rw [← setIfInBounds_eq_set]
  show Ok (if (dropLast hs o).heap.size ≥ 2 then _ else _) _
  -- both arms of the second `if` return the heap they end on: `fin` says what is needed of it
  suffices fin : ∀ h', SameLive (dropLast hs o) h' →
      (OrderLaws α → Ordered h → NoNaN h → Ordered h' ∧ NoNaN h') →
      Ok (pure (some o, h')) _ from Ok.ite
    (fun h2 => by
      obtain ⟨f, hf⟩ := exists_heap (i := 0) (Nat.lt_of_lt_of_le Nat.zero_lt_two h2)
      refine .eq_bind (aget_of_getElem? hf) <| .bind (siftDown_spec chk (dropLast hs o).fuelFor _
        f 0 wfp hf (Nat.le_add_right _ 2)) fun h' ⟨sl, hord⟩ => fin h' sl fun L ho hn => ?_
      -- only the root (the former last element) can be out of order
      have inv : DownInv (dropLast hs o) 0 0 := by
        constructor
        · intro i h1 hi _ h4
          rw [hpsz] at hi
          rw [keyp i (by rw [sw.size]; exact hi), keyp _ (by rw [sw.size]; exact parent_lt hi),
            sw.key_other (Nat.ne_of_gt h1) (Nat.ne_of_lt hi),
            sw.key_other h4 (Nat.ne_of_lt (parent_lt hi))]
          exact ho i h1 (Nat.lt_of_lt_of_le hi (Nat.sub_le _ _))
        · intro i _ _ _ h4 _
          exact absurd h4 (Nat.not_succ_le_zero 0)
      exact ⟨(ordered_iff_from _).mpr (hord L (hkp hn) 0 (Nat.le_refl _) inv), sl.noNaN (hkp hn)⟩)
    (fun h2 => .eq_bind rfl <| fin _ (SameLive.refl wfp)
      fun _ _ hn => ⟨fun i h1 hi => absurd (Nat.lt_of_le_of_lt h1 hi) h2, hkp hn⟩)
  exact fun h' sl hord => .pure ⟨rfl, sl.wf, sl.prio.trans sw.prio,
    by rw [sl.removed]; simp [dropLast, sw.removed], sl.size.trans hpsz,
    fun o' => by rw [sl.live o', livep o', sw.live o'], hord⟩

theorem pop_total (chk : Bool) {h : Heap α} (hw : WF h) :
    ∃ r h', pop chk h = .ok (r, h') ∧ r = h.peek ∧ WF h' := by
  cases hp : h.peek with
  | none => exact ⟨none, h, pop_empty chk (peek_none.mp hp), rfl, hw⟩
  | some o =>
    obtain ⟨⟨_, h'⟩, a, rfl, b, _⟩ := pop_core chk hw hp
    exact ⟨_, h', a, rfl, b⟩

/-- The `for i in (0..m).rev()` loop of `heapify`: total, and it extends heap order from the
positions `≥ m` (where it holds trivially for `m = len / 2`) to the whole heap. -/
theorem heapifyLoop_spec (chk : Bool) : ∀ (m : Nat) (h : Heap α), WF h → m ≤ h.heap.size →
    ∃ h', heapifyLoop chk h (List.range m).reverse = .ok h' ∧ SameLive h h' ∧
      (OrderLaws α → NoNaN h → OrderedFrom h m → Ordered h') := by
  intro m
  induction m with
  | zero =>
    intro h hw _
    exact ⟨h, rfl, SameLive.refl hw, fun _ _ ho => (ordered_iff_from _).mpr ho⟩
  | succ m ih =>
    intro h hw hm
    obtain ⟨o, hoo⟩ := exists_heap (h := h) (i := m) (by omega)
    obtain ⟨h1, e1, sl1, ho1⟩ := siftDown_spec chk h.fuelFor h o m hw hoo
      (by simp only [fuelFor]; omega)
    obtain ⟨h', e2, sl2, ho2⟩ := ih h1 sl1.wf (by rw [sl1.size]; omega)
    refine ⟨h', ?_, sl1.trans sl2, fun L hn ho => ho2 L (sl1.noNaN hn)
      (ho1 L hn m (Nat.le_refl _) ⟨fun i h1 h2 h3 h4 => ho i h1 h2 (Nat.lt_of_le_of_ne h3 (Ne.symm h4)), ?_⟩)⟩
    · rw [List.range_succ, List.reverse_append]
      simp [heapifyLoop, aget, hoo, e1, e2, bind, Except.bind]
    · intro i _ _ _ h4 h5
      exact absurd h5 (Nat.not_le_of_gt (parent_lt_self h4))

structure Inv (h : Heap α) : Prop where
  wf : WF h
  ordered : Ordered h
  noNaN : NoNaN h

theorem fresh_Inv (L : OrderLaws α) (n : Nat) (hn : n < 2 ^ 62)
    (hmax : Num.isNaN (Num.maxValue : α) = false) : Inv (fresh n : Heap α) := by
  refine ⟨fresh_WF n hn, fresh_Ordered n (L.irrefl _), ?_⟩
  intro o a _ ha
  simp only [fresh, Array.getElem?_replicate] at ha
  split at ha
  · cases ha; exact hmax
  · cases ha

theorem setPriority_Inv (L : OrderLaws α) (chk : Bool) {h : Heap α} (hi : Inv h) {o : Nat}
    (hl : h.Live o) {p : α} (hp : Num.isNaN p = false) :
    ∃ h', setPriority chk h o p = .ok h' ∧ Inv h' ∧ h'.prio = h.prio.setIfInBounds o p ∧
      h'.removed = h.removed ∧ h'.heap.size = h.heap.size ∧ (∀ o', h'.Live o' ↔ h.Live o') := by
  obtain ⟨h', e, sl, g⟩ := setPriority_spec chk hi.wf hl p
  exact ⟨h', e, ⟨sl.wf, g L hi.ordered hi.noNaN hp, sl.noNaN (noNaN_setPrio hi.noNaN o hp)⟩,
    sl.prio, sl.removed, sl.size, sl.live⟩

theorem pop_Inv (L : OrderLaws α) (chk : Bool) {h : Heap α} (hi : Inv h) {o : Nat}
    (hp : h.peek = some o) :
    ∃ h', pop chk h = .ok (some o, h') ∧ Inv h' ∧ h'.prio = h.prio ∧
      h'.removed = h.removed.setIfInBounds o true ∧ h'.heap.size = h.heap.size - 1 ∧
      (∀ o', h'.Live o' ↔ h.Live o' ∧ o' ≠ o) := by
  obtain ⟨⟨_, h'⟩, e, rfl, a, b, c, d, f, g⟩ := pop_core chk hi.wf hp
  have := g L hi.ordered hi.noNaN
  exact ⟨h', e, ⟨a, this.1, this.2⟩, b, c, d, f⟩

/-- `heapify`: from ANY prior heap value, with the closure producing `prio'` (same length `N`), it
is total; the result is well-formed, has priorities `prio'`, nothing removed and live set
`0..N-1`; and it satisfies `Inv` when the new priorities are non-NaN. -/
theorem heapifyWith_spec (chk : Bool) (h : Heap α) (f : Array α → R (Array α)) (prio' : Array α)
    (hN : h.prio.size < 2 ^ 62)
    (hf : f (Array.replicate h.prio.size Num.maxValue) = .ok prio')
    (hsz : prio'.size = h.prio.size) :
    ∃ h', heapifyWith chk h f = .ok h' ∧ WF h' ∧ h'.prio = prio' ∧
      h'.removed = Array.replicate h.prio.size false ∧ h'.heap.size = h.prio.size ∧
      (∀ o, h'.Live o ↔ o < h.prio.size) ∧
      (OrderLaws α → (∀ a ∈ prio', Num.isNaN a = false) → Inv h') := by
  have hw0 : WF ({ (fresh h.prio.size : Heap α) with prio := prio' } : Heap α) :=
    (fresh_WF h.prio.size hN).withPrio prio' (by simp [hsz, fresh])
  obtain ⟨h', e, sl, ho⟩ := heapifyLoop_spec chk (h.prio.size / 2) _ hw0 (by simp [fresh]; omega)
  refine ⟨h', ?_, sl.wf, sl.prio, sl.removed, by rw [sl.size]; simp [fresh],
    fun o => (sl.live o).trans (fresh_live (α := α) h.prio.size o), fun L hnan => ?_⟩
  · unfold heapifyWith
    simp only [heapReset_eq_fresh, bind_ok]
    exact ⟨prio', by simpa [fresh] using hf, e⟩
  · have hn0 : NoNaN ({ (fresh h.prio.size : Heap α) with prio := prio' } : Heap α) :=
      fun o a _ ha => hnan a (Array.mem_of_getElem? ha)
    refine ⟨sl.wf, ho L hn0 ?_, sl.noNaN hn0⟩
    -- positions `≥ N / 2` have no children
    intro i h1 h2 h3
    simp [fresh] at h2
    omega

theorem heapifyWith_Inv (L : OrderLaws α) (chk : Bool) (h : Heap α) (f : Array α → R (Array α))
    (prio' : Array α) (hN : h.prio.size < 2 ^ 62)
    (hf : f (Array.replicate h.prio.size Num.maxValue) = .ok prio')
    (hsz : prio'.size = h.prio.size) (hnan : ∀ a ∈ prio', Num.isNaN a = false) :
    ∃ h', heapifyWith chk h f = .ok h' ∧ Inv h' ∧ h'.prio = prio' ∧
      h'.removed = Array.replicate h.prio.size false ∧ h'.heap.size = h.prio.size ∧
      (∀ o, h'.Live o ↔ o < h.prio.size) := by
  obtain ⟨h', e, _, b, c, d, g, hinv⟩ := heapifyWith_spec chk h f prio' hN hf hsz
  exact ⟨h', e, hinv L hnan, b, c, d, g⟩

theorem Inv.peek_min (L : OrderLaws α) {h : Heap α} (hi : Inv h) {o : Nat}
    (hp : h.peek = some o) :
    ∀ o' a a', h.Live o' → h.prio[o]? = some a → h.prio[o']? = some a' → Num.lt a' a = false :=
  Heap.peek_min L hi.wf hi.ordered hi.noNaN hp

/-- `sift_down` with the fuel the callers pass (`fuelFor`) never runs out. -/
theorem siftDown_fuelFor (chk : Bool) {h : Heap α} (hw : WF h) {o : Nat} (hl : h.Live o) :
    ∃ h', siftDown chk h.fuelFor h o = .ok h' ∧ SameLive h h' := by
  obtain ⟨p, hp⟩ := hl
  obtain ⟨h', e, sl, _⟩ := siftDown_spec chk h.fuelFor h o p hw hp (by simp only [fuelFor]; omega)
  exact ⟨h', e, sl⟩

/-- `sift_up` with the fuel the callers pass (`fuelFor`) never runs out. -/
theorem siftUp_fuelFor (chk : Bool) {h : Heap α} (hw : WF h) {o : Nat} (hl : h.Live o) :
    ∃ h', siftUp chk h.fuelFor h o = .ok h' ∧ SameLive h h' := by
  obtain ⟨p, hp⟩ := hl
  have := pos_lt hp
  obtain ⟨h', e, sl, _⟩ := siftUp_spec chk h.fuelFor h o p hw hp (by simp only [fuelFor]; omega)
  exact ⟨h', e, sl⟩

set_option linter.unusedSectionVars false in
theorem WF.bracket {h : Heap α} (hw : WF h) :
    h.obs.size = h.prio.size ∧ h.removed.size = h.prio.size ∧ h.heap.size ≤ h.prio.size ∧
    h.prio.size < 2 ^ 62 ∧
    (∀ i (hi : i < h.heap.size), h.heap[i] < h.prio.size) ∧
    (∀ i j (hi : i < h.heap.size) (hj : j < h.heap.size), h.heap[i] = h.heap[j] → i = j) ∧
    h.heap.toList.Nodup ∧
    (∀ i (hi : i < h.heap.size) (ho : h.heap[i] < h.obs.size), h.obs[h.heap[i]] = i) ∧
    (∀ o (ho : o < h.removed.size), h.removed[o] = true ↔ o ∉ h.heap) := by
  have hinj : ∀ i j (hi : i < h.heap.size) (hj : j < h.heap.size),
      h.heap[i] = h.heap[j] → i = j := by
    intro i j hi hj e
    exact hw.heap_inj (i := i) (j := j) (o := h.heap[i]) (by simp [hi]) (by simp [hj, e])
  refine ⟨hw.obs_size, hw.removed_size, hw.heap_le, hw.small, ?_, hinj, ?_, ?_, ?_⟩
  · intro i hi
    exact hw.lt_of_heap (i := i) (by simp [hi])
  · rw [List.Nodup, List.pairwise_iff_getElem]
    intro i j hi hj hlt e
    simp only [Array.length_toList] at hi hj
    simp only [Array.getElem_toList] at e
    have := hinj i j hi hj e
    omega
  · intro i hi ho
    have := hw.heap_obs i h.heap[i] (by simp [hi])
    rw [Array.getElem?_eq_some_iff] at this
    exact this.2
  · intro o ho
    have ho' : o < h.prio.size := by rw [← hw.removed_size]; exact ho
    have := hw.removed_iff o ho'
    rw [live_iff_mem] at this
    rw [← this]
    simp [ho]

set_option linter.unusedSectionVars false in
/-- Conversely, the bracket-form facts give `WF` (so `WF` says nothing more). -/
theorem WF.of_bracket {h : Heap α}
    (h1 : h.obs.size = h.prio.size) (h2 : h.removed.size = h.prio.size)
    (h3 : h.heap.size ≤ h.prio.size) (h4 : h.prio.size < 2 ^ 62)
    (h5 : ∀ i (hi : i < h.heap.size), ∃ ho : h.heap[i] < h.obs.size, h.obs[h.heap[i]] = i)
    (h6 : ∀ o (ho : o < h.removed.size), h.removed[o] = true ↔ o ∉ h.heap) : WF h := by
  refine ⟨h1, h2, h3, ?_, ?_, h4⟩
  · intro i o hi
    rw [Array.getElem?_eq_some_iff] at hi
    obtain ⟨hi1, hi2⟩ := hi
    obtain ⟨ho, e⟩ := h5 i hi1
    subst hi2
    simp [ho, e]
  · intro o ho
    have ho' : o < h.removed.size := by rw [h2]; exact ho
    rw [live_iff_mem]
    have := h6 o ho'
    constructor
    · intro hf
      have hf' : h.removed[o] = false := by
        rw [Array.getElem?_eq_some_iff] at hf; exact hf.2
      cases hm : decide (o ∈ h.heap) with
      | true => exact of_decide_eq_true hm
      | false =>
        have := this.mpr (of_decide_eq_false hm)
        rw [hf'] at this; cases this
    · intro hm
      have : ¬ h.removed[o] = true := fun e => (this.mp e) hm
      simp [ho']
      simpa using this

theorem Ordered.bracket {h : Heap α} (hw : WF h) (ho : Ordered h) (i : Nat) (h1 : 1 ≤ i)
    (hi : i < h.heap.size) :
    ∃ (b1 : h.heap[i] < h.prio.size) (b2 : h.heap[(i - 1) / 2]'(by omega) < h.prio.size),
      Num.lt h.prio[h.heap[i]] h.prio[h.heap[(i - 1) / 2]'(by omega)] = false := by
  have hq : (i - 1) / 2 < h.heap.size := parent_lt hi
  have e1 : h.heap[i]? = some h.heap[i] := by simp [hi]
  have e2 : h.heap[(i - 1) / 2]? = some h.heap[(i - 1) / 2] := by simp [hq]
  have b1 := hw.lt_of_heap e1
  have b2 := hw.lt_of_heap e2
  refine ⟨b1, b2, ?_⟩
  have := ho i h1 hi
  rwa [key_eq e1 (a := h.prio[h.heap[i]]) (by simp [b1]),
    key_eq e2 (a := h.prio[h.heap[(i - 1) / 2]]) (by simp [b2])] at this

theorem peek_min_bracket (L : OrderLaws α) {h : Heap α} (hi : Inv h) {o : Nat}
    (hp : h.peek = some o) (o' : Nat) (hm : o' ∈ h.heap) :
    ∃ (b : o < h.prio.size) (b' : o' < h.prio.size), Num.lt h.prio[o'] h.prio[o] = false := by
  have l' := (live_iff_mem h o').mpr hm
  have b := hi.wf.live_lt (peek_live hp)
  have b' := hi.wf.live_lt l'
  exact ⟨b, b', hi.peek_min L hp o' h.prio[o] h.prio[o'] l' (by simp [b]) (by simp [b'])⟩

set_option linter.unusedSectionVars false in
theorem priority_bracket {h : Heap α} (hw : WF h) {o : Nat} (hm : o ∈ h.heap) :
    ∃ b : o < h.prio.size, h.priority o = .ok h.prio[o] := by
  have l := (live_iff_mem h o).mpr hm
  obtain ⟨a, ha, e⟩ := priority_ok hw l
  have b := hw.live_lt l
  refine ⟨b, ?_⟩
  rw [e]
  have : h.prio[o]? = some h.prio[o] := by simp [b]
  rw [this] at ha
  rw [Option.some.inj ha]

end Heap
end Kodama
