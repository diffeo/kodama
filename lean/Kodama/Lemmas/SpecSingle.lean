/-
Single linkage at specification level.  Along ANY legal replay of `Spec.Naive` with `m = .single`
(`Merges`: every step merges two live labels, greedy or not) the table entry `D x y` is the minimum
of the input matrix over `leaves x × leaves y` (lower bound + attained: `SInv`, `stateAt_SInv`).
Along a greedy run whose heights are recorded up to order-equivalence and are not NaN
(`GreedyValidUpTo`; an exact `GreedyValid` run is one, `single_height_notNaN`) heights never
decrease, and the clusters alive after the steps of height `≤ h` are the connected components of
the threshold graph `entry u v ≤ h` (`GreedyValidUpTo.cut`, `.threshold`, `.count`).

Number laws: `OrderLaws` (asymmetry and co-transitivity of `<` through non-NaN middle elements) and
the input hypothesis `NoNaN n data` (no off-diagonal entry of the matrix is NaN).  No arithmetic.
Throughout, `a ≤ b` is written `Num.lt b a = false`.
-/
import Kodama.Lemmas.SpecReplay
import Kodama.Lemmas.SpecUpTo
import Kodama.Lemmas.ReduciblePos
import Kodama.Laws
import Mathlib.Logic.Relation
namespace Kodama.Spec

section Under
variable {α : Type}

/-- `Under n steps u l`: observation `u` lies beneath label `l` of the stepwise dendrogram. -/
inductive Under (n : Nat) (steps : List (Step α)) : Nat → Nat → Prop
  | obs (u : Nat) : u < n → Under n steps u u
  | left (u k : Nat) (st : Step α) :
      steps[k]? = some st → Under n steps u st.c1 → Under n steps u (n + k)
  | right (u k : Nat) (st : Step α) :
      steps[k]? = some st → Under n steps u st.c2 → Under n steps u (n + k)

variable {n : Nat} {steps : List (Step α)} {u l k : Nat} {st : Step α}

theorem Under.lt_n (h : Under n steps u l) : u < n := by
  induction h <;> assumption

theorem Under.eq_of_lt (h : Under n steps u l) (hl : l < n) : u = l := by
  cases h with
  | obs _ => rfl
  | left k st _ _ => omega
  | right k st _ _ => omega

theorem Under.node (h : Under n steps u (n + k)) (hst : steps[k]? = some st) :
    Under n steps u st.c1 ∨ Under n steps u st.c2 := by
  generalize hl : n + k = l at h
  cases h with
  | obs hu => omega
  | left k' st' hs hu =>
    have : k' = k := by omega
    subst this
    rw [hst] at hs
    cases hs
    exact Or.inl hu
  | right k' st' hs hu =>
    have : k' = k := by omega
    subst this
    rw [hst] at hs
    cases hs
    exact Or.inr hu

theorem under_node_iff (hst : steps[k]? = some st) :
    Under n steps u (n + k) ↔ Under n steps u st.c1 ∨ Under n steps u st.c2 :=
  ⟨fun h => h.node hst, fun h => h.elim (Under.left u k st hst) (Under.right u k st hst)⟩

theorem Under.index_lt (h : Under n steps u l) (hl : n ≤ l) : l - n < steps.length := by
  cases h with
  | obs hu => omega
  | left k st hs _ =>
    rcases List.getElem?_eq_some_iff.1 hs with ⟨h, -⟩
    omega
  | right k st hs _ =>
    rcases List.getElem?_eq_some_iff.1 hs with ⟨h, -⟩
    omega

theorem mem_leaves_iff
    (hord : ∀ (i : Nat) (s : Step α), steps[i]? = some s → s.c1 < s.c2 ∧ s.c2 < n + i)
    (fuel l : Nat) : l < n + fuel → (u ∈ leaves n steps fuel l ↔ Under n steps u l) := by
  have hobs : ∀ l, l < n → (u ∈ [l] ↔ Under n steps u l) := fun l hl =>
    List.mem_singleton.trans ⟨fun h => h ▸ Under.obs u (h ▸ hl), fun h => h.eq_of_lt hl⟩
  fun_induction leaves n steps fuel l with
  | case1 l hl => exact fun _ => hobs l hl
  | case2 l hl => exact fun h => absurd h hl
  | case3 fuel l hl => exact fun _ => hobs l hl
  | case4 fuel l hl s hs ih1 ih2 =>
    intro hlt
    obtain ⟨k, rfl⟩ : ∃ k, l = n + k := ⟨l - n, by omega⟩
    rw [Nat.add_sub_cancel_left] at hs
    have ho := hord k s hs
    rw [List.mem_append, ih1 (by omega), ih2 (by omega), under_node_iff hs]
  | case5 fuel l hl hs =>
    refine fun _ => ⟨fun h => (nomatch h), fun h => absurd (h.index_lt (by omega)) ?_⟩
    exact Nat.not_lt.mpr (List.getElem?_eq_none_iff.mp hs)

end Under

variable {α : Type} [Num α]

theorem single_le_of_le_left (L : OrderLaws α) (e p q : α) (hp : Num.isNaN p = false)
    (h : Num.lt e p = false) : Num.lt e (Gen.single p q) = false := by
  unfold Gen.single
  by_cases hpq : Num.lt p q = true
  · simpa [hpq] using h
  · have hpq' : Num.lt p q = false := by simpa using hpq
    simp only [hpq', Bool.false_eq_true, if_false]
    exact L.le_trans q p e hp hpq' h

theorem single_le_of_le_right (L : OrderLaws α) (e p q : α) (hq : Num.isNaN q = false)
    (h : Num.lt e q = false) : Num.lt e (Gen.single p q) = false := by
  unfold Gen.single
  by_cases hpq : Num.lt p q = true
  · simp only [hpq, if_true]
    exact L.le_trans p q e hq (L.asymm p q hpq) h
  · have hpq' : Num.lt p q = false := by simpa using hpq
    simpa [hpq'] using h

def NoNaN (n : Nat) (data : Array α) : Prop :=
  ∀ u v, u < n → v < n → u ≠ v → Num.isNaN (entry n data Num.infinity u v) = false

/-- Invariant of the state `s` before step `i` of a single-linkage run over `steps`.
* `cover`, `disj`, `nonempty`: the observation sets beneath the live labels partition `0..n`.
* `sub`: every label created so far (`l < n + i`) lies inside one live label.  Nothing in this file
  reads it; `OutOf.comp_same_under` (MstGreedyReplay.lean) does, to find the live label above a node.
* `lb`: `s.D x y ≤ entry u v` for all `u` beneath `x`, `v` beneath `y` (read `Num.lt e d = false` as
  `d ≤ e`).
* `att`: `s.D x y` is one of those entries; with `lb` it is their minimum. -/
structure SInv (n : Nat) (data : Array α) (steps : List (Step α)) (i : Nat) (s : NState α) :
    Prop where
  cover : ∀ u, u < n → ∃ x ∈ s.live, Under n steps u x
  disj : ∀ x ∈ s.live, ∀ y ∈ s.live, ∀ u, Under n steps u x → Under n steps u y → x = y
  sub : ∀ l, l < n + i → ∃ x ∈ s.live, ∀ u, Under n steps u l → Under n steps u x
  nonempty : ∀ x ∈ s.live, ∃ u, Under n steps u x
  lb : ∀ x ∈ s.live, ∀ y ∈ s.live, x ≠ y → ∀ u v, Under n steps u x → Under n steps v y →
    Num.lt (entry n data Num.infinity u v) (s.D x y) = false
  att : ∀ x ∈ s.live, ∀ y ∈ s.live, x ≠ y → ∃ u v, Under n steps u x ∧ Under n steps v y ∧
    s.D x y = entry n data Num.infinity u v

theorem init_SInv (L : OrderLaws α) (n : Nat) (data : Array α) (steps : List (Step α)) :
    SInv n data steps 0 (init .single n data) where
  cover u hu := ⟨u, (mem_init_live _ _ _ _).2 hu, Under.obs u hu⟩
  disj x hx y hy u h1 h2 := by
    rw [← h1.eq_of_lt ((mem_init_live _ _ _ _).1 hx), ← h2.eq_of_lt ((mem_init_live _ _ _ _).1 hy)]
  sub l hl := ⟨l, (mem_init_live _ _ _ _).2 hl, fun u h => h⟩
  nonempty x hx := ⟨x, Under.obs x ((mem_init_live _ _ _ _).1 hx)⟩
  lb x hx y hy _ u v h1 h2 := by
    rw [h1.eq_of_lt ((mem_init_live _ _ _ _).1 hx), h2.eq_of_lt ((mem_init_live _ _ _ _).1 hy)]
    exact L.irrefl _
  att x hx y hy _ :=
    ⟨x, y, Under.obs x ((mem_init_live _ _ _ _).1 hx), Under.obs y ((mem_init_live _ _ _ _).1 hy),
      rfl⟩

theorem SInv.notNaN {n : Nat} {data : Array α} {steps : List (Step α)} {i : Nat} {s : NState α}
    (hs : SInv n data steps i s) (hnan : NoNaN n data) (x : Nat) (hx : x ∈ s.live) (y : Nat)
    (hy : y ∈ s.live) (hxy : x ≠ y) : Num.isNaN (s.D x y) = false := by
  obtain ⟨u, v, hu, hv, e⟩ := hs.att x hx y hy hxy
  rw [e]
  refine hnan u v hu.lt_n hv.lt_n ?_
  rintro rfl
  exact hxy (hs.disj x hx y hy u hu hv)

/-- The merged pair needs only to be two live labels; its minimality is not used. -/
theorem merge_SInv (L : OrderLaws α) {n : Nat} {data : Array α} {steps : List (Step α)} {i : Nat}
    {s : NState α} {st : Step α} (hnan : NoNaN n data) (hst : steps[i]? = some st)
    (hinv : StInv n i s) (hs : SInv n data steps i s) (ha1 : st.c1 ∈ s.live)
    (ha2 : st.c2 ∈ s.live) : SInv n data steps (i + 1) (merge .single s st.c1 st.c2) := by
  have hnext : s.next = n + i := hinv.next
  have hU : ∀ u, Under n steps u s.next ↔ Under n steps u st.c1 ∨ Under n steps u st.c2 := by
    intro u; rw [hnext]; exact under_node_iff hst
  have hmem : ∀ x, x ∈ (merge .single s st.c1 st.c2).live ↔
      (x ∈ s.live ∧ x ≠ st.c1 ∧ x ≠ st.c2) ∨ x = s.next := mem_merge_live _ _ _ _
  refine ⟨?_, ?_, ?_, ?_, ?_, ?_⟩
  · intro u hu
    obtain ⟨x, hx, hux⟩ := hs.cover u hu
    by_cases h1 : x = st.c1
    · exact ⟨s.next, (hmem _).2 (Or.inr rfl), (hU u).2 (Or.inl (h1 ▸ hux))⟩
    · by_cases h2 : x = st.c2
      · exact ⟨s.next, (hmem _).2 (Or.inr rfl), (hU u).2 (Or.inr (h2 ▸ hux))⟩
      · exact ⟨x, (hmem _).2 (Or.inl ⟨hx, h1, h2⟩), hux⟩
  · intro x hx y hy u hux huy
    refine Decidable.byContradiction fun hxy => merge_pairwise (m := .single)
      (P := fun x y _ => ∀ u, Under n steps u x → Under n steps u y → False)
      (fun _ _ _ h u h1 h2 => h u h2 h1) hinv.lt
      (fun x hx y hy hxy u h1 h2 => hxy (hs.disj x hx y hy u h1 h2))
      (fun y hy hy1 hy2 u hu hv => ((hU u).1 hu).elim
        (fun h => hy1 (hs.disj y hy _ ha1 u hv h)) (fun h => hy2 (hs.disj y hy _ ha2 u hv h)))
      x hx y hy hxy u hux huy
  · intro l hl
    by_cases hl' : l = n + i
    · exact ⟨s.next, (hmem _).2 (Or.inr rfl), fun u h => by rw [hnext]; exact hl' ▸ h⟩
    · obtain ⟨x, hx, hsub⟩ := hs.sub l (by omega)
      by_cases h1 : x = st.c1
      · exact ⟨s.next, (hmem _).2 (Or.inr rfl), fun u h => (hU u).2 (Or.inl (h1 ▸ hsub u h))⟩
      · by_cases h2 : x = st.c2
        · exact ⟨s.next, (hmem _).2 (Or.inr rfl), fun u h => (hU u).2 (Or.inr (h2 ▸ hsub u h))⟩
        · exact ⟨x, (hmem _).2 (Or.inl ⟨hx, h1, h2⟩), hsub⟩
  · intro x hx
    rcases (hmem x).1 hx with ⟨hx0, -, -⟩ | rfl
    · exact hs.nonempty x hx0
    · obtain ⟨u, hu⟩ := hs.nonempty _ ha1
      exact ⟨u, (hU u).2 (Or.inl hu)⟩
  · refine merge_pairwise (P := fun x y d => ∀ u v, Under n steps u x → Under n steps v y →
        Num.lt (entry n data Num.infinity u v) d = false)
      (fun _ _ _ h u v hu hv => by rw [entry_symm]; exact h v u hv hu) hinv.lt hs.lb
      fun y hy hy1 hy2 u v hu hv => ?_
    rcases (hU u).1 hu with hu' | hu'
    · exact single_le_of_le_left L _ _ _ (hs.notNaN hnan _ ha1 _ hy (Ne.symm hy1))
        (hs.lb _ ha1 _ hy (Ne.symm hy1) u v hu' hv)
    · exact single_le_of_le_right L _ _ _ (hs.notNaN hnan _ ha2 _ hy (Ne.symm hy2))
        (hs.lb _ ha2 _ hy (Ne.symm hy2) u v hu' hv)
  · refine merge_pairwise (P := fun x y d => ∃ u v, Under n steps u x ∧ Under n steps v y ∧
        d = entry n data Num.infinity u v)
      (fun _ _ _ ⟨u, v, hu, hv, e⟩ => ⟨v, u, hv, hu, e.trans (entry_symm ..)⟩) hinv.lt hs.att
      fun y hy hy1 hy2 => ?_
    rcases Gen.single_cases (s.D st.c1 y) (s.D st.c2 y) with e | e
    · obtain ⟨u, v, hu, hv, e'⟩ := hs.att _ ha1 _ hy (Ne.symm hy1)
      exact ⟨u, v, (hU u).2 (Or.inl hu), hv, e.trans e'⟩
    · obtain ⟨u, v, hu, hv, e'⟩ := hs.att _ ha2 _ hy (Ne.symm hy2)
      exact ⟨u, v, (hU u).2 (Or.inr hu), hv, e.trans e'⟩

/-- Edge of the threshold graph at level `h`: two distinct observations with `entry ≤ h`
(exactly: `¬ h < entry`). -/
def Thr (n : Nat) (data : Array α) (h : α) (u v : Nat) : Prop :=
  u < n ∧ v < n ∧ u ≠ v ∧ Num.lt h (entry n data Num.infinity u v) = false

def Reach (n : Nat) (data : Array α) (h : α) : Nat → Nat → Prop :=
  Relation.ReflTransGen (Thr n data h)

theorem Thr.symm {n : Nat} {data : Array α} {h : α} {u v : Nat} (e : Thr n data h u v) :
    Thr n data h v u := by
  obtain ⟨h1, h2, h3, h4⟩ := e
  exact ⟨h2, h1, Ne.symm h3, by rwa [entry_symm]⟩

theorem Reach.symm {n : Nat} {data : Array α} {h : α} {u v : Nat} (e : Reach n data h u v) :
    Reach n data h v u := by
  induction e with
  | refl => exact Relation.ReflTransGen.refl
  | tail _ h2 ih => exact Relation.ReflTransGen.head h2.symm ih

theorem Reach.lt_n {n : Nat} {data : Array α} {h : α} {u v : Nat} (e : Reach n data h u v)
    (hu : u < n) : v < n := by
  induction e with
  | refl => exact hu
  | tail _ h2 _ => exact h2.2.1


theorem stateAt_SInv (L : OrderLaws α) {n : Nat} {data : Array α} {steps : List (Step α)}
    (hnan : NoNaN n data) (hm : Merges .single (init .single n data) steps) (i : Nat)
    (hi : i ≤ steps.length) :
    SInv n data steps i (stateAt .single (init .single n data) steps i) :=
  (hm.induct (init_SInv L n data steps)
    (fun _ _ hst hg hl ih => merge_SInv L hnan hst hg.st ih hl.1 hl.2.1) i hi).2

/-- The table entry of two distinct live labels is an off-diagonal entry of the matrix between them. -/
theorem SInv.entry {n : Nat} {data : Array α} {steps : List (Step α)} {i : Nat} {s : NState α}
    (hs : SInv n data steps i s) {x y : Nat} (hx : x ∈ s.live) (hy : y ∈ s.live) (hxy : x ≠ y) :
    ∃ u v, Under n steps u x ∧ Under n steps v y ∧ u ≠ v ∧
      s.D x y = entry n data Num.infinity u v := by
  obtain ⟨u, v, hu, hv, e⟩ := hs.att x hx y hy hxy
  exact ⟨u, v, hu, hv, fun h => hxy (hs.disj x hx y hy u hu (h ▸ hv)), e⟩

/-- Two observations lie in the same live cluster before step `i`. -/
def SameAt (n : Nat) (data : Array α) (steps : List (Step α)) (i : Nat) (u v : Nat) : Prop :=
  ∃ x ∈ (stateAt .single (init .single n data) steps i).live,
    Under n steps u x ∧ Under n steps v x

/-! ### Along a greedy run whose heights are recorded up to order-equivalence and are not NaN -/

section UpTo
variable (L : OrderLaws α) {n : Nat} {data : Array α} {steps : List (Step α)}
  (hnan : NoNaN n data) (hg : GreedyFromUpTo .single (init .single n data) steps)
  (hnn : ∀ s ∈ steps, Num.isNaN s.d = false)
include L hnan hg

omit L hnan in
theorem single_height {k : Nat} {st : Step α} (hst : steps[k]? = some st) :
    Num.lt st.d ((stateAt .single (init .single n data) steps k).D st.c1 st.c2) = false ∧
    Num.lt ((stateAt .single (init .single n data) steps k).D st.c1 st.c2) st.d = false :=
  ((greedyFromUpTo_iff _ _ _).1 hg k st hst).2.2.2.2.1

/-- The recorded heights never decrease: each is order-equivalent to the table value at which its
step merges (`single_height`), those never decrease (`greedyUpTo_heights_mono`) and are not NaN. -/
theorem single_heights_mono {j : Nat} {stj : Step α} (hj : steps[j]? = some stj) :
    ∀ (k : Nat) (stk : Step α), j ≤ k → steps[k]? = some stk → Num.lt stk.d stj.d = false := by
  intro k stk hjk hk
  rcases Nat.eq_or_lt_of_le hjk with rfl | hlt
  · rw [hj] at hk; cases hk
    exact L.irrefl _
  · have hrun : NoNaNRun .single n data := noNaNRun_of_lwNoNaN lwNoNaN_single hnan
    obtain ⟨hj', ej⟩ := List.getElem?_eq_some_iff.1 (rawHeights_get .single _ steps j stj hj)
    obtain ⟨hk', ek⟩ := List.getElem?_eq_some_iff.1 (rawHeights_get .single _ steps k stk hk)
    have hraw := List.pairwise_iff_getElem.1
      (greedyUpTo_heights_mono L (LwGeOn.reduciblePos L (lwGeOn_single _)) hrun hg) j k hj' hk' hlt
    rw [ej, ek] at hraw
    obtain ⟨hrj, aj⟩ := reach_step_upTo hg hj
    obtain ⟨hrk, ak⟩ := reach_step_upTo hg hk
    exact L.le_trans _ _ _ (hrun.table hrk _ ak.1 _ ak.2.1 (Nat.ne_of_lt ak.2.2.1))
      (L.le_trans _ _ _ (hrun.table hrj _ aj.1 _ aj.2.1 (Nat.ne_of_lt aj.2.2.1))
        (single_height hg hj).2 hraw) (single_height hg hk).1

include hnn

/-- All observations beneath a cluster created at height `≤ h` are connected at level `h`. -/
theorem under_reach (h : α) :
    ∀ (k : Nat) (st : Step α), steps[k]? = some st → Num.lt h st.d = false →
      ∀ u v, Under n steps u (n + k) → Under n steps v (n + k) → Reach n data h u v := by
  intro k
  induction k using Nat.strongRecOn with
  | ind k ih =>
    intro st hst hle u v hu hv
    have hk := getElem?_lt hst
    have hord := hg.merges.ordered k st hst
    have hstn := hnn st (List.mem_of_getElem? hst)
    have conn : ∀ c, c < n + k → ∀ u v, Under n steps u c → Under n steps v c →
        Reach n data h u v := by
      intro c hc u v hu hv
      by_cases hcn : c < n
      · rw [hu.eq_of_lt hcn, hv.eq_of_lt hcn]; exact Relation.ReflTransGen.refl
      · obtain ⟨k', rfl⟩ : ∃ k', c = n + k' := ⟨c - n, by omega⟩
        have hk' : k' < steps.length := by omega
        have hst' : steps[k']? = some steps[k'] := by simp [hk']
        have hm := single_heights_mono L hnan hg hst' k st (by omega) hst
        exact ih k' (by omega) _ hst' (L.le_trans _ _ _ hstn hm hle) u v hu hv
    have ha := (greedyFromUpTo_iff _ _ _).1 hg k st hst
    obtain ⟨u0, v0, hu0, hv0, hne0, e0⟩ :=
      (stateAt_SInv L hnan hg.merges k (by omega)).entry ha.1 ha.2.1 (Nat.ne_of_lt ha.2.2.1)
    have edge : Thr n data h u0 v0 := ⟨hu0.lt_n, hv0.lt_n, hne0, by
      rw [← e0]; exact L.le_trans _ _ _ hstn (single_height hg hst).1 hle⟩
    -- every observation beneath the new cluster reaches `u0`: directly, or through the edge `u0 – v0`
    have hub : ∀ w, Under n steps w (n + k) → Reach n data h w u0 := fun w hw =>
      (hw.node hst).elim (fun h' => conn st.c1 (by omega) w u0 h' hu0) fun h' =>
        (conn st.c2 (by omega) w v0 h' hv0).trans (Relation.ReflTransGen.single edge.symm)
    exact (hub u hu).trans (hub v hv).symm

omit hnn

/-- If the run is complete, or its next step is strictly above `h`, observations connected at level
`h` lie in one live cluster: a threshold edge between two live clusters would put their table entry,
and with it the next height, at or below `h`. -/
theorem reach_sameAt (h : α) (i : Nat) (hi : i ≤ steps.length)
    (hcut : (i = steps.length ∧ steps.length = n - 1) ∨
      ∃ st, steps[i]? = some st ∧ Num.lt h st.d = true)
    {u v : Nat} (hu : u < n) (e : Reach n data h u v) : SameAt n data steps i u v := by
  have hs := stateAt_SInv L hnan hg.merges i hi
  induction e with
  | refl =>
    obtain ⟨x, hx, hux⟩ := hs.cover u hu
    exact ⟨x, hx, hux, hux⟩
  | @tail v w _ h2 ih =>
    obtain ⟨x, hx, hux, hvx⟩ := ih
    obtain ⟨hv', hw, hvw, hle⟩ := h2
    obtain ⟨y, hy, hwy⟩ := hs.cover w hw
    by_cases hxy : x = y
    · subst hxy; exact ⟨x, hx, hux, hwy⟩
    · exfalso
      rcases hcut with ⟨hend, hlen⟩ | ⟨st, hst, hgt⟩
      · -- one live cluster only
        have hl := (hg.merges.good i hi).st.len
        have h1 : (stateAt .single (init .single n data) steps i).live.length = 1 := by omega
        obtain ⟨z, hz⟩ := List.length_eq_one_iff.1 h1
        rw [hz] at hx hy
        simp at hx hy
        exact hxy (hx.trans hy.symm)
      · have ha := (greedyFromUpTo_iff _ _ _).1 hg i st hst
        have hc := Nat.ne_of_lt ha.2.2.1
        have h1 := L.le_trans _ _ _ (hs.notNaN hnan x hx y hy hxy) (ha.2.2.2.1 x hx y hy hxy)
          (hs.lb x hx y hy hxy v w hvx hwy)
        have h2 := L.le_trans _ _ _ (hnan v w hv' hw hvw) h1 hle
        rw [L.le_trans _ _ _ (hs.notNaN hnan _ ha.1 _ ha.2.1 hc) (single_height hg hst).2 h2] at hgt
        cases hgt

end UpTo

/-- The cut index of level `h` in a list with non-decreasing heights: it counts the steps `≤ h`,
which are exactly the steps before it, and it is the end of the list or a step strictly above `h`. -/
theorem cut_of_sorted (L : OrderLaws α) (h : α) : ∀ (steps : List (Step α)),
    (∀ s ∈ steps, Num.isNaN s.d = false) →
    steps.Pairwise (fun s t => Num.lt t.d s.d = false) →
    ∃ i, i ≤ steps.length ∧ (steps.filter (fun st => !Num.lt h st.d)).length = i ∧
      (∀ k st, k < i → steps[k]? = some st → Num.lt h st.d = false) ∧
      (i = steps.length ∨ ∃ st, steps[i]? = some st ∧ Num.lt h st.d = true)
  | [], _, _ => ⟨0, Nat.le_refl _, rfl, fun k _ hk => by omega, Or.inl rfl⟩
  | a :: r, hnn, hs => by
    rw [List.pairwise_cons] at hs
    cases ha : Num.lt h a.d with
    | true =>
      -- everything after `a` is above `h` as well
      have hr : ∀ s ∈ r, Num.lt h s.d = true := fun s hs' => by
        rcases L.cotrans h s.d a.d (hnn s (List.mem_cons_of_mem _ hs')) ha with h' | h'
        · exact h'
        · rw [hs.1 s hs'] at h'; cases h'
      refine ⟨0, Nat.zero_le _, ?_, fun k _ hk => by omega, Or.inr ⟨a, rfl, ha⟩⟩
      rw [List.filter_cons_of_neg (by simp [ha]),
        List.filter_eq_nil_iff.mpr (fun s hs' => by simp [hr s hs'])]
      rfl
    | false =>
      obtain ⟨i, hi, hc, hb, he⟩ :=
        cut_of_sorted L h r (fun s hs' => hnn s (List.mem_cons_of_mem _ hs')) hs.2
      refine ⟨i + 1, Nat.succ_le_succ hi,
        by rw [List.filter_cons_of_pos (by simp [ha]), List.length_cons, hc], ?_, ?_⟩
      · intro k st hk hst
        cases k with
        | zero => cases hst; exact ha
        | succ k => exact hb k st (by omega) hst
      · rcases he with he | ⟨st, hst, hgt⟩
        · exact Or.inl (by rw [he]; rfl)
        · exact Or.inr ⟨st, hst, hgt⟩

theorem choose_reps (P R : Nat → Nat → Prop) (l : List Nat) (hnd : l.Nodup)
    (hne : ∀ x ∈ l, ∃ u, P x u)
    (hR : ∀ x ∈ l, ∀ y ∈ l, ∀ u v, P x u → P y v → R u v → x = y) :
    ∃ reps : List Nat, reps.length = l.length ∧ (∀ r ∈ reps, ∃ x ∈ l, P x r) ∧
      (∀ x ∈ l, ∃ r ∈ reps, P x r) ∧ reps.Pairwise (fun r r' => ¬ R r r') := by
  induction l with
  | nil => exact ⟨[], rfl, by simp, by simp, List.Pairwise.nil⟩
  | cons x t ih =>
    rw [List.nodup_cons] at hnd
    obtain ⟨u, hu⟩ := hne x List.mem_cons_self
    obtain ⟨reps, h1, h2, h3, h4⟩ := ih hnd.2
      (fun y hy => hne y (List.mem_cons_of_mem _ hy))
      (fun y hy z hz => hR y (List.mem_cons_of_mem _ hy) z (List.mem_cons_of_mem _ hz))
    refine ⟨u :: reps, by simp [h1], ?_, ?_, ?_⟩
    · intro r hr
      rcases List.mem_cons.1 hr with rfl | hr
      · exact ⟨x, List.mem_cons_self, hu⟩
      · obtain ⟨y, hy, hp⟩ := h2 r hr
        exact ⟨y, List.mem_cons_of_mem _ hy, hp⟩
    · intro y hy
      rcases List.mem_cons.1 hy with rfl | hy
      · exact ⟨u, List.mem_cons_self, hu⟩
      · obtain ⟨r, hr, hp⟩ := h3 y hy
        exact ⟨r, List.mem_cons_of_mem _ hr, hp⟩
    · rw [List.pairwise_cons]
      refine ⟨?_, h4⟩
      intro r hr hRur
      obtain ⟨y, hy, hp⟩ := h2 r hr
      have := hR x List.mem_cons_self y (List.mem_cons_of_mem _ hy) u r hu hp hRur
      exact hnd.1 (this ▸ hy)


/-! ### The threshold theorem and the count, for every greedy run up to order-equivalence -/

section Threshold
variable (L : OrderLaws α) {n : Nat} {data : Array α} {steps : List (Step α)}
  (hnan : NoNaN n data) (hv : GreedyValidUpTo .single n data steps)
  (hnn : ∀ s ∈ steps, Num.isNaN s.d = false)
include L hnan hv hnn

omit hnn in
theorem GreedyValidUpTo.heights_sorted :
    steps.Pairwise (fun s t => Num.lt t.d s.d = false) := by
  rw [List.pairwise_iff_getElem]
  intro j k hj hk hjk
  exact single_heights_mono L hnan hv.2 (j := j) (by simp [hj]) k _ (by omega) (by simp [hk])

/-- The live labels before the cut index of level `h` are the `Reach h` classes. -/
theorem GreedyValidUpTo.cut (h : α) : ∃ i, i ≤ steps.length ∧
    (steps.filter (fun st => !Num.lt h st.d)).length = i ∧
    (∀ x ∈ (stateAt .single (init .single n data) steps i).live, x < n ∨
      ∃ k st, x = n + k ∧ steps[k]? = some st ∧ Num.lt h st.d = false) ∧
    (∀ x ∈ (stateAt .single (init .single n data) steps i).live, ∀ u v,
      Under n steps u x → Under n steps v x → Reach n data h u v) ∧
    (∀ u v, u < n → Reach n data h u v → SameAt n data steps i u v) := by
  obtain ⟨i, hi, hcount, hbelow, hcut⟩ := cut_of_sorted L h steps hnn (hv.heights_sorted L hnan)
  have hinv := (hv.2.merges.good i hi).st
  have hnode : ∀ x ∈ (stateAt .single (init .single n data) steps i).live, x < n ∨
      ∃ k st, x = n + k ∧ steps[k]? = some st ∧ Num.lt h st.d = false := by
    intro x hx
    rcases Nat.lt_or_ge x n with hxn | hxn
    · exact Or.inl hxn
    · obtain ⟨k, rfl⟩ := Nat.exists_eq_add_of_le hxn
      have hki : k < i := by
        have := hinv.lt _ hx
        rw [hinv.next] at this
        exact Nat.lt_of_add_lt_add_left this
      have hst : steps[k]? = some steps[k] := List.getElem?_eq_getElem (Nat.lt_of_lt_of_le hki hi)
      exact Or.inr ⟨k, _, rfl, hst, hbelow _ _ hki hst⟩
  refine ⟨i, hi, hcount, hnode, ?_, fun u v hu hr => reach_sameAt L hnan hv.2 h i hi
    (hcut.imp (fun e => ⟨e, hv.1⟩) id) hu hr⟩
  · intro x hx u v hu hv'
    rcases hnode x hx with hxn | ⟨k, st, rfl, hst, hle⟩
    · rw [hu.eq_of_lt hxn, hv'.eq_of_lt hxn]; exact Relation.ReflTransGen.refl
    · exact under_reach L hnan hv.2 hnn h k st hst hle u v hu hv'

/-- Threshold theorem: the clusters formed by the steps of height `≤ h` are the connected
components of the threshold graph at `h`. -/
theorem GreedyValidUpTo.threshold (h : α) (u v : Nat) (hu : u < n) :
    (u = v ∨ ∃ (k : Nat) (st : Step α), steps[k]? = some st ∧ Num.lt h st.d = false ∧
      u ∈ leaves n steps steps.length (n + k) ∧ v ∈ leaves n steps steps.length (n + k)) ↔
    Reach n data h u v := by
  have hord := hv.2.merges.ordered
  obtain ⟨i, hi, -, hnode, hconn, hsame⟩ := hv.cut L hnan hnn h
  constructor
  · rintro (rfl | ⟨k, st, hst, hle, hul, hvl⟩)
    · exact Relation.ReflTransGen.refl
    · have hk := getElem?_lt hst
      exact under_reach L hnan hv.2 hnn h k st hst hle u v
        ((mem_leaves_iff hord _ _ (by omega)).1 hul) ((mem_leaves_iff hord _ _ (by omega)).1 hvl)
  · intro hr
    obtain ⟨x, hx, hux, hvx⟩ := hsame u v hu hr
    rcases hnode x hx with hxn | ⟨k, st, rfl, hst, hle⟩
    · left; rw [hux.eq_of_lt hxn, hvx.eq_of_lt hxn]
    · have hk := getElem?_lt hst
      exact Or.inr ⟨k, st, hst, hle, (mem_leaves_iff hord _ _ (by omega)).2 hux,
        (mem_leaves_iff hord _ _ (by omega)).2 hvx⟩

/-- The number of steps of height `≤ h` is `n` minus the number of `Reach h` classes. -/
theorem GreedyValidUpTo.count (h : α) :
    ∃ reps : List Nat,
      (steps.filter (fun st => !Num.lt h st.d)).length + reps.length = n ∧
      (∀ r ∈ reps, r < n) ∧
      reps.Pairwise (fun r r' => ¬ Reach n data h r r') ∧
      (∀ u, u < n → ∃ r ∈ reps, Reach n data h u r) := by
  obtain ⟨i, hi, hcount, -, hconn, hsame⟩ := hv.cut L hnan hnn h
  have hs := stateAt_SInv L hnan hv.2.merges i hi
  have hinv := (hv.2.merges.good i hi).st
  obtain ⟨reps, h1, h2, h3, h4⟩ := choose_reps (fun x u => Under n steps u x) (Reach n data h)
    _ hinv.nodup hs.nonempty (by
      intro x hx y hy u v hu hv' hr
      obtain ⟨z, hz, huz, hvz⟩ := hsame u v hu.lt_n hr
      rw [hs.disj x hx z hz u hu huz, hs.disj y hy z hz v hv' hvz])
  refine ⟨reps, ?_, ?_, h4, ?_⟩
  · have := hinv.len; omega
  · intro r hr
    obtain ⟨x, _, hp⟩ := h2 r hr
    exact hp.lt_n
  · intro u hu
    obtain ⟨x, hx, hux⟩ := hs.cover u hu
    obtain ⟨r, hr, hrx⟩ := h3 x hx
    exact ⟨r, hr, hconn x hx u r hux hrx⟩

end Threshold

/-- In an exact greedy run every height is an off-diagonal entry of the matrix between the two
merged clusters. -/
theorem single_height_attained (L : OrderLaws α) {n : Nat} {data : Array α}
    {steps : List (Step α)} (hnan : NoNaN n data)
    (hg : GreedyFrom .single (init .single n data) steps) {k : Nat} {st : Step α}
    (hst : steps[k]? = some st) :
    ∃ u v, Under n steps u st.c1 ∧ Under n steps v st.c2 ∧ u ≠ v ∧
      st.d = entry n data Num.infinity u v := by
  have ha := (greedyFrom_iff _ _ _).1 hg k st hst
  rw [ha.height]
  exact (stateAt_SInv L hnan hg.merges k (Nat.le_of_lt (getElem?_lt hst))).entry ha.mem1 ha.mem2
    (Nat.ne_of_lt ha.lt)

theorem single_height_notNaN (L : OrderLaws α) {n : Nat} {data : Array α}
    {steps : List (Step α)} (hnan : NoNaN n data)
    (hg : GreedyFrom .single (init .single n data) steps) : ∀ st ∈ steps, Num.isNaN st.d = false := by
  intro st hs
  obtain ⟨k, hst⟩ := List.mem_iff_getElem?.mp hs
  obtain ⟨u, v, hu, hv, huv, e⟩ := single_height_attained L hnan hg hst
  rw [e]; exact hnan u v hu.lt_n hv.lt_n huv

end Kodama.Spec
