/-
The label-based specification `Spec.merge` / `Spec.GreedyFrom` (Kodama/Spec/Naive.lean) keeps its
dissimilarity table equal to a criterion of the merged clusters — the generic part, for ANY number
type and any relation `R s t v` ("`v` is the criterion value between merge trees `s` and `t`") that
is symmetric and is propagated by the Lance–Williams formula of the method (`LWCompat`).

`Inv R s cl` says that state `s` is consistent with a cluster assignment `cl : label → merge tree`;
`Spec.merge` preserves it when the fresh label is sent to `node (cl a) (cl b)`.  Hence along a
`GreedyFrom` run the height of every step is `post m v` with `R (tree c1) (tree c2) v`
(`greedy_heights`), where the trees are those of `clusterTree`, whose leaves are `Spec.leaves`
(`clusterTree_leaves`).  `Criterion` is the `R` of the documented criteria (Criteria.lean);
`Props/C02.lean` proves `LWCompat` for it from the closed forms of the generated formulas.
-/
import Kodama.Lemmas.Criteria
import Kodama.Lemmas.SpecWellFormed
import Mathlib.Data.Finset.Lattice.Lemmas
namespace Kodama.Crit
open Finset MTree

variable {α : Type} [Num α]

structure LWCompat (m : Method) (R : MTree Nat → MTree Nat → α → Prop) : Prop where
  symm : ∀ s t v, R s t v → R t s v
  step : ∀ (ta tb tx : MTree Nat) (va vb vab : α),
    Disjoint ta.leaves tb.leaves → Disjoint ta.leaves tx.leaves → Disjoint tb.leaves tx.leaves →
    R ta tx va → R tb tx vb → R ta tb vab →
    R (node ta tb) tx (Spec.lw m va vb vab ta.leaves.card tb.leaves.card tx.leaves.card)

structure Inv (R : MTree Nat → MTree Nat → α → Prop) (s : Spec.NState α) (cl : Nat → MTree Nat) :
    Prop where
  nodup : s.live.Nodup
  lt_next : ∀ x ∈ s.live, x < s.next
  disj : ∀ x ∈ s.live, ∀ y ∈ s.live, x ≠ y → Disjoint (cl x).leaves (cl y).leaves
  size : ∀ x ∈ s.live, s.size x = (cl x).leaves.card
  table : ∀ x ∈ s.live, ∀ y ∈ s.live, x ≠ y → R (cl x) (cl y) (s.D x y)

def mergeCl (cl : Nat → MTree Nat) (c a b : Nat) : Nat → MTree Nat :=
  fun x => if x = c then node (cl a) (cl b) else cl x

section family
variable {m : Method} {R : MTree Nat → MTree Nat → α → Prop} {S : Nat → Prop} {tr : Nat → MTree Nat}
  {sz : Nat → Nat} {D : Nat → Nat → α} {a b : Nat}
  (disj : ∀ x, S x → ∀ y, S y → x ≠ y → Disjoint (tr x).leaves (tr y).leaves)
  (size : ∀ x, S x → sz x = (tr x).leaves.card)
  (table : ∀ x, S x → ∀ y, S y → x ≠ y → R (tr x) (tr y) (D x y))
include disj size table

/-- In a family `S` of disjoint clusters with trees `tr`, sizes `sz` and `R`-values `D` (labels of the
specification, matrix indices, indices seen through a labelling), the Lance–Williams value of a third
member against the merged pair is an `R`-value of the merged tree. -/
theorem LWCompat.row (C : LWCompat m R) (ha : S a) (hb : S b) (hab : a ≠ b) {y : Nat} (hy : S y)
    (hya : y ≠ a) (hyb : y ≠ b) :
    Disjoint (node (tr a) (tr b)).leaves (tr y).leaves ∧
    R (node (tr a) (tr b)) (tr y) (Spec.lw m (D a y) (D b y) (D a b) (sz a) (sz b) (sz y)) := by
  have hda := disj a ha y hy (Ne.symm hya)
  have hdb := disj b hb y hy (Ne.symm hyb)
  rw [leaves_node, disjoint_union_left, size a ha, size b hb, size y hy]
  exact ⟨⟨hda, hdb⟩, C.step _ _ _ _ _ _ (disj a ha b hb hab) hda hdb (table a ha y hy (Ne.symm hya))
    (table b hb y hy (Ne.symm hyb)) (table a ha b hb hab)⟩

/-- One merge of such a family: `S'` are the members after it, `c` the one that holds
`node (tr a) (tr b)`; every other member of `S'` is a survivor and keeps tree, size and entries, and the
row of `c` is the Lance–Williams value.  Disjointness, sizes and `R`-values survive. -/
theorem LWCompat.merge (C : LWCompat m R) {S' : Nat → Prop} {tr' : Nat → MTree Nat}
    {sz' : Nat → Nat} {D' : Nat → Nat → α} {c : Nat}
    (ha : S a) (hb : S b) (hab : a ≠ b) (hS' : ∀ x, S' x → x ≠ c → S x ∧ x ≠ a ∧ x ≠ b)
    (htr : ∀ x, S x → x ≠ c → tr' x = tr x) (htrc : tr' c = node (tr a) (tr b))
    (hsz : ∀ x, S x → x ≠ c → sz' x = sz x) (hszc : sz' c = sz a + sz b)
    (hD : ∀ x y, S x → S y → x ≠ y → x ≠ c → y ≠ c → D' x y = D x y)
    (hDc : ∀ y, S y → y ≠ a → y ≠ b → y ≠ c →
      D' c y = Spec.lw m (D a y) (D b y) (D a b) (sz a) (sz b) (sz y) ∧ D' y c = D' c y) :
    (∀ x, S' x → ∀ y, S' y → x ≠ y → Disjoint (tr' x).leaves (tr' y).leaves) ∧
    (∀ x, S' x → sz' x = (tr' x).leaves.card) ∧
    (∀ x, S' x → ∀ y, S' y → x ≠ y → R (tr' x) (tr' y) (D' x y)) := by
  have row := fun y (hy : S y ∧ y ≠ a ∧ y ≠ b) =>
    C.row disj size table ha hb hab hy.1 hy.2.1 hy.2.2
  refine ⟨fun x hx y hy => pairwise_of_merge
      (P := fun x y => Disjoint (tr' x).leaves (tr' y).leaves) hS'
      (fun x y hx hy hxy cx cy => by rw [htr x hx.1 cx, htr y hy.1 cy]; exact disj x hx.1 y hy.1 hxy)
      (fun y hy cy => by rw [htrc, htr y hy.1 cy]; exact ⟨(row y hy).1, (row y hy).1.symm⟩) x y hx hy,
    fun x hx => ?_, fun x hx y hy => pairwise_of_merge
      (P := fun x y => R (tr' x) (tr' y) (D' x y)) hS'
      (fun x y hx hy hxy cx cy => by
        rw [htr x hx.1 cx, htr y hy.1 cy, hD x y hx.1 hy.1 hxy cx cy]; exact table x hx.1 y hy.1 hxy)
      (fun y hy cy => ?_) x y hx hy⟩
  · by_cases cx : x = c
    · rw [cx, hszc, htrc, leaves_node, card_union_of_disjoint (disj a ha b hb hab), size a ha,
        size b hb]
    · rw [hsz x (hS' x hx cx).1 cx, htr x (hS' x hx cx).1 cx]
      exact size x (hS' x hx cx).1
  · obtain ⟨e1, e2⟩ := hDc y hy.1 hy.2.1 hy.2.2 cy
    rw [e2, e1, htrc, htr y hy.1 cy]
    exact ⟨(row y hy).2, C.symm _ _ _ (row y hy).2⟩

end family

theorem Inv.merge {m : Method} {R : MTree Nat → MTree Nat → α → Prop} (C : LWCompat m R)
    {s : Spec.NState α} {cl : Nat → MTree Nat} (h : Inv R s cl) {a b : Nat}
    (ha : a ∈ s.live) (hb : b ∈ s.live) (hab : a ≠ b) :
    Inv R (Spec.merge m s a b) (mergeCl cl s.next a b) := by
  obtain ⟨hd, hs, ht⟩ := C.merge (S' := (· ∈ (Spec.merge m s a b).live)) (c := s.next)
    (tr' := mergeCl cl s.next a b) (sz' := (Spec.merge m s a b).size) (D' := (Spec.merge m s a b).D)
    h.disj h.size h.table ha hb hab
    (fun x hx hc => ((Spec.mem_merge_live m s a b x).1 hx).resolve_right hc)
    (fun x _ hc => if_neg hc) (if_pos rfl) (fun x _ hc => if_neg hc) (if_pos rfl)
    (fun x y _ _ _ cx cy => Spec.merge_D_old m s a b x y cx cy)
    (fun y _ _ _ cy => ⟨Spec.merge_D_new m s a b y,
      (Spec.merge_D_new' m s a b y cy).trans (Spec.merge_D_new m s a b y).symm⟩)
  exact ⟨Spec.merge_live_nodup m a b h.lt_next h.nodup, Spec.merge_live_lt m a b h.lt_next, hd, hs, ht⟩

theorem Inv.init {R : MTree Nat → MTree Nat → α → Prop} (m : Method) (n : Nat) (data : Array α)
    (hR : ∀ i j, i ≠ j → R (leaf i) (leaf j) ((Spec.init m n data).D i j)) :
    Inv R (Spec.init m n data) leaf := by
  refine ⟨?_, ?_, ?_, ?_, ?_⟩
  · exact List.nodup_range
  · intro x hx; exact List.mem_range.mp hx
  · intro x _ y _ hxy
    rw [leaves_leaf, leaves_leaf, disjoint_singleton]; exact hxy
  · intro x _; rw [leaves_leaf, card_singleton]; rfl
  · intro x _ y _ hxy; exact hR x y hxy

/-- The states of greedy runs carry clusters: pairwise disjoint sets of observations whose
cardinalities are the sizes. -/
theorem _root_.Kodama.Spec.Reached.clusters {m : Method} {n : Nat} {data : Array α} {i : Nat}
    {s : Spec.NState α} (hr : Spec.Reached m n data i s) :
    ∃ cl : Nat → MTree Nat, Inv (fun _ _ (_ : α) => True) s cl ∧
      ∀ x ∈ s.live, (cl x).leaves ⊆ Finset.range n := by
  induction hr with
  | start =>
    exact ⟨leaf, Inv.init m n data fun _ _ _ => trivial, fun x hx => by
      simpa using (Spec.mem_init_live m n data x).1 hx⟩
  | @step i s st hr ha ih =>
    obtain ⟨cl, hinv, hsub⟩ := ih
    refine ⟨mergeCl cl s.next st.c1 st.c2, hinv.merge ⟨fun _ _ _ _ => trivial,
      fun _ _ _ _ _ _ _ _ _ _ _ _ => trivial⟩ ha.mem1 ha.mem2 (Nat.ne_of_lt ha.lt), fun x hx => ?_⟩
    unfold mergeCl
    split
    · exact Finset.union_subset (hsub _ ha.mem1) (hsub _ ha.mem2)
    · next h => exact hsub x (((Spec.mem_merge_live m s _ _ x).1 hx).resolve_right h).1

/-- Three distinct live clusters of a greedy run hold at most `n` observations. -/
theorem _root_.Kodama.Spec.Reached.three_le {m : Method} {n : Nat} {data : Array α} {i : Nat}
    {s : Spec.NState α} (hr : Spec.Reached m n data i s) {a b x : Nat} (ha : a ∈ s.live)
    (hb : b ∈ s.live) (hx : x ∈ s.live) (hab : a ≠ b) (hxa : x ≠ a) (hxb : x ≠ b) :
    s.size a + s.size b + s.size x ≤ n := by
  obtain ⟨cl, hinv, hsub⟩ := hr.clusters
  rw [hinv.size a ha, hinv.size b hb, hinv.size x hx,
    ← card_union_of_disjoint (hinv.disj a ha b hb hab), ← card_union_of_disjoint
      (disjoint_union_left.2 ⟨hinv.disj a ha x hx (Ne.symm hxa), hinv.disj b hb x hx (Ne.symm hxb)⟩)]
  exact (card_le_card (union_subset (union_subset (hsub a ha) (hsub b hb)) (hsub x hx))).trans
    (card_range n).le

/-- The merge tree of every label after replaying `steps` from a state whose next label is `next`. -/
def finalCl (cl : Nat → MTree Nat) (next : Nat) : List (Step α) → Nat → MTree Nat
  | [] => cl
  | st :: rest => finalCl (mergeCl cl next st.c1 st.c2) (next + 1) rest

omit [Num α] in
theorem finalCl_of_lt (cl : Nat → MTree Nat) (next : Nat) (steps : List (Step α)) (x : Nat)
    (hx : x < next) : finalCl cl next steps x = cl x := by
  induction steps generalizing cl next with
  | nil => rfl
  | cons st rest ih =>
    rw [finalCl, ih _ _ (Nat.lt_succ_of_lt hx)]
    simp [mergeCl, Nat.ne_of_lt hx]

theorem greedy_heights_from {m : Method} {R : MTree Nat → MTree Nat → α → Prop} (C : LWCompat m R)
    (steps : List (Step α)) (s : Spec.NState α) (cl : Nat → MTree Nat) (hinv : Inv R s cl)
    (hg : Spec.GreedyFrom m s steps) (i : Nat) (st : Step α) (hi : steps[i]? = some st) :
    ∃ v, R (finalCl cl s.next steps st.c1) (finalCl cl s.next steps st.c2) v ∧
      st.d = Spec.post m v := by
  induction steps generalizing s cl i with
  | nil => simp at hi
  | cons st0 rest ih =>
    obtain ⟨⟨h1, h2, hlt, _, hd, _⟩, hrest⟩ := hg
    have hinv' := hinv.merge C h1 h2 (Nat.ne_of_lt hlt)
    cases i with
    | zero =>
      simp only [List.getElem?_cons_zero, Option.some.injEq] at hi
      subst hi
      refine ⟨s.D st0.c1 st0.c2, ?_, hd⟩
      rw [finalCl_of_lt _ _ _ _ (hinv.lt_next _ h1), finalCl_of_lt _ _ _ _ (hinv.lt_next _ h2)]
      exact hinv.table _ h1 _ h2 (Nat.ne_of_lt hlt)
    | succ i =>
      simp only [List.getElem?_cons_succ] at hi
      exact ih (Spec.merge m s st0.c1 st0.c2) _ hinv' hrest i hi

/-- The merge tree of label `l` in the dendrogram `steps` on `n` observations. -/
def clusterTree (n : Nat) (steps : List (Step α)) : Nat → MTree Nat := finalCl leaf n steps

theorem greedy_heights {m : Method} {R : MTree Nat → MTree Nat → α → Prop} (C : LWCompat m R)
    (n : Nat) (data : Array α)
    (hR : ∀ i j, i ≠ j → R (leaf i) (leaf j) ((Spec.init m n data).D i j))
    (steps : List (Step α)) (hg : Spec.GreedyFrom m (Spec.init m n data) steps)
    (i : Nat) (st : Step α) (hi : steps[i]? = some st) :
    ∃ v, R (clusterTree n steps st.c1) (clusterTree n steps st.c2) v ∧ st.d = Spec.post m v :=
  greedy_heights_from C steps _ leaf (Inv.init m n data hR) hg i st hi

/-- Every step merges labels created before it (`next + i` is the label step `i` creates). -/
def LabelsOrdered (next : Nat) (steps : List (Step α)) : Prop :=
  ∀ (i : Nat) (st : Step α), steps[i]? = some st → st.c1 < next + i ∧ st.c2 < next + i

omit [Num α] in
theorem LabelsOrdered.tail {next : Nat} {st0 : Step α} {rest : List (Step α)}
    (h : LabelsOrdered next (st0 :: rest)) : LabelsOrdered (next + 1) rest := by
  intro i st hi
  have := h (i + 1) st (by simpa using hi)
  omega

theorem labelsOrdered_of_greedy {m : Method} {n : Nat} {data : Array α} {steps : List (Step α)}
    (hg : Spec.GreedyFrom m (Spec.init m n data) steps) : LabelsOrdered n steps := by
  intro i st hi
  obtain ⟨h1, h2⟩ := hg.merges.ordered i st hi
  exact ⟨Nat.lt_trans h1 h2, h2⟩

omit [Num α] in
theorem finalCl_step (cl : Nat → MTree Nat) (next : Nat) (steps : List (Step α))
    (ho : LabelsOrdered next steps) (j : Nat) (st : Step α) (hj : steps[j]? = some st) :
    finalCl cl next steps (next + j) =
      node (finalCl cl next steps st.c1) (finalCl cl next steps st.c2) := by
  induction steps generalizing cl next j with
  | nil => simp at hj
  | cons st0 rest ih =>
    cases j with
    | zero =>
      simp only [List.getElem?_cons_zero, Option.some.injEq] at hj
      subst hj
      have h := ho 0 st0 rfl
      simp only [finalCl, Nat.add_zero] at h ⊢
      rw [finalCl_of_lt _ _ _ _ (Nat.lt_succ_self _), finalCl_of_lt _ _ _ _ (Nat.lt_succ_of_lt h.1),
        finalCl_of_lt _ _ _ _ (Nat.lt_succ_of_lt h.2)]
      simp [mergeCl, Nat.ne_of_lt h.1, Nat.ne_of_lt h.2]
    | succ j =>
      simp only [List.getElem?_cons_succ] at hj
      have := ih (mergeCl cl next st0.c1 st0.c2) (next + 1) ho.tail j hj
      simp only [finalCl]
      rw [← this]; congr 1; omega

omit [Num α] in
theorem clusterTree_obs {n : Nat} (steps : List (Step α)) {l : Nat} (hl : l < n) :
    clusterTree n steps l = leaf l := finalCl_of_lt leaf n steps l hl

omit [Num α] in
theorem clusterTree_node {n : Nat} {steps : List (Step α)} (ho : LabelsOrdered n steps) {j : Nat}
    {st : Step α} (hj : steps[j]? = some st) :
    clusterTree n steps (n + j) = node (clusterTree n steps st.c1) (clusterTree n steps st.c2) :=
  finalCl_step leaf n steps ho j st hj

omit [Num α] in
/-- The observations beneath a label: `clusterTree` agrees with `Spec.leaves` (any sufficient
fuel, in particular `steps.length`). -/
theorem clusterTree_leaves (n : Nat) (steps : List (Step α)) (ho : LabelsOrdered n steps)
    (fuel l : Nat) (hl : l < n ∨ (l < n + steps.length ∧ l - n < fuel)) :
    (clusterTree n steps l).leaves = (Spec.leaves n steps fuel l).toFinset := by
  fun_induction Spec.leaves n steps fuel l with
  | case1 l c => simp [clusterTree_obs steps c]
  | case2 l c => omega
  | case3 fuel l c => simp [clusterTree_obs steps c]
  | case4 fuel l c st hst ih1 ih2 =>
    have ho' := ho _ st hst
    rw [List.toFinset_append, ← ih1 (by omega), ← ih2 (by omega), ← leaves_node,
      ← clusterTree_node ho hst, Nat.add_sub_cancel' (Nat.le_of_not_lt c)]
  | case5 fuel l c hst => rw [List.getElem?_eq_none_iff] at hst; omega

section criterion
variable {K : Type} [Field K] [LinearOrder K]

/-- `v` is the documented linkage criterion of method `m` between the clusters with merge trees
`s` and `t`, computed from the base dissimilarity `d` (squared for the methods on squares).
Single / complete / average / centroid / Ward depend on the leaf sets only; weighted / median on
the trees. -/
def Criterion (m : Method) (d : Nat → Nat → K) (s t : MTree Nat) (v : K) : Prop :=
  match m with
  | .single => IsMinOver d s.leaves t.leaves v
  | .complete => IsMaxOver d s.leaves t.leaves v
  | .average => v = avg d s.leaves t.leaves
  | .weighted => v = wdist d s t
  | .ward => v = wardc d s.leaves t.leaves
  | .centroid => v = cen d s.leaves t.leaves
  | .median => v = mdist d s t

variable {d : Nat → Nat → K}

theorem Criterion.symm [CharZero K] (hd : ∀ i j, d i j = d j i) (m : Method) (s t : MTree Nat)
    (v : K) (h : Criterion m d s t v) : Criterion m d t s v := by
  cases m <;> simp only [Criterion] at h ⊢
  · exact h.symm hd
  · exact h.symm hd
  · rw [h, avg_symm hd]
  · rw [h, wdist_symm hd]
  · rw [h, wardc_symm hd]
  · rw [h, cen_symm hd]
  · rw [h, mdist_symm hd]

theorem Criterion.leaf [CharZero K] (m : Method) (i j : Nat) :
    Criterion m d (leaf i) (leaf j) (d i j) := by
  cases m <;> simp only [Criterion, leaves_leaf]
  · exact IsMinOver.singleton i j
  · exact IsMaxOver.singleton i j
  · rw [avg_singleton]
  · rfl
  · rw [wardc_singleton]
  · rw [cen_singleton]
  · rw [mdist_leaf_leaf]

theorem Criterion.unique (m : Method) (s t : MTree Nat) (v w : K)
    (hv : Criterion m d s t v) (hw : Criterion m d s t w) : v = w := by
  cases m <;> simp only [Criterion] at hv hw
  · exact hv.unique hw
  · exact hv.unique hw
  all_goals rw [hv, hw]

end criterion

end Kodama.Crit
