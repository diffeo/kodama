/-
Runs of reciprocal-nearest-neighbour merges of a FUNCTIONAL reducible relation (`Rnn.RnnFrom`, `Rnn.RLaws`,
`Lemmas/RnnState.lean`) are runs in the sense of `Lemmas/RnnSort.lean`, and conversely.

Monotonicity "parent ≥ child": "every live cluster is at distance `≥ t` from the cluster at index `b`"
(`Far`) is preserved by a reciprocal-nearest-neighbour merge that does not touch `b` (`far_merge`:
reducibility, with threshold `t` or the height of that merge, whichever is larger), and right after a merge
at height `h` the new cluster is at distance `≥ h` from everything (`far_after_merge`).  The two lemmas maintain
`Inside` — every earlier step inside a live cluster is `Far` below that cluster's row — which gives
`StepH.mono` for every step of the run (`StepOk.stepH`, `runFrom_nnFrom_of_rnnFrom`); the classical statement
(the merge that consumes the cluster created by an earlier merge is at least as high, `parent_ge_child_at`,
exported as `C03_nnchain_parent_ge_child`, `Props/C03Nnchain.lean`) is `StepH.mono` read at one earlier step.
Back: functionality turns "some value" into "every value" (`rnnFrom_of_runFrom_nnFrom`,
`minOk_of_gmin`).  The correctness theorem goes there and back (`sorted_rnn_greedyValid`,
`Lemmas/RnnRun.lean`).
-/
import Kodama.Lemmas.RnnSort
namespace Kodama.Rnn
open Kodama.Crit MTree Finset

variable {α : Type} [Num α]

/-- Every other live cluster is at distance `≥ t` from the cluster at index `b`. -/
def Far (R : MTree Nat → MTree Nat → α → Prop) (σ : IState) (b : Nat) (t : α) : Prop :=
  ∀ z ∈ σ.live, z ≠ b → ∀ v, R (σ.tree b) (σ.tree z) v → Num.lt v t = false

theorem far_merge {m : Method} {R : MTree Nat → MTree Nat → α → Prop} (RL : RLaws m R)
    (L : OrderLaws α) (hnan : ∀ x : α, Num.isNaN x = false) {σ : IState} (ht : Tab R σ)
    {s : Step α} (hs : StepOk R σ s) {b : Nat} {t : α} (hb : b ∈ σ.live) (hb1 : s.c1 ≠ b)
    (hb2 : s.c2 ≠ b) (hfar : Far R σ b t) : Far R (σ.merge s.c1 s.c2) b t := by
  intro z hz hzb v hv
  obtain ⟨hz0, hz1⟩ := (IState.mem_merge_live σ _ _ _).mp hz
  rw [IState.merge_tree_of_ne _ _ _ _ (Ne.symm hb2)] at hv
  by_cases c : z = s.c2
  · subst c
    rw [IState.merge_tree_self] at hv
    have sym := RL.compat.symm
    obtain ⟨va, hva⟩ := ht.ex _ hs.m1 b hb hb1
    obtain ⟨vb, hvb⟩ := ht.ex _ hs.m2 b hb hb2
    have fa := hfar _ hs.m1 hb1 va (sym _ _ _ hva)
    have fb := hfar _ hs.m2 hb2 vb (sym _ _ _ hvb)
    have hred := fun t' => RL.red _ _ _ _ _ _ _ t' (ht.disj _ hs.m1 _ hs.m2 hs.ne)
      (ht.disj _ hs.m1 b hb hb1) (ht.disj _ hs.m2 b hb hb2) hs.height hva hvb (sym _ _ _ hv)
    cases hts : Num.lt t s.d
    · exact hred t hts fa fb
    · have h1 := hred s.d (L.irrefl _) (hs.nn1 b hb (Ne.symm hb1) va hva)
        (hs.nn2 b hb (Ne.symm hb2) vb hvb)
      exact le_tr L hnan (L.asymm _ _ hts) h1
  · rw [IState.merge_tree_of_ne _ _ _ _ c] at hv
    exact hfar z hz0 hzb v hv

theorem far_after_merge {m : Method} {R : MTree Nat → MTree Nat → α → Prop} (RL : RLaws m R)
    (L : OrderLaws α) {σ : IState} (ht : Tab R σ) {x : Step α} (h1 : StepOk R σ x) :
    Far R (σ.merge x.c1 x.c2) x.c2 x.d := by
  intro z hz hz2 v hv
  obtain ⟨hz0, hz1⟩ := (IState.mem_merge_live σ _ _ _).mp hz
  rw [IState.merge_tree_self, IState.merge_tree_of_ne _ _ _ _ hz2] at hv
  obtain ⟨va, hva⟩ := ht.ex _ h1.m1 z hz0 (Ne.symm hz1)
  obtain ⟨vb, hvb⟩ := ht.ex _ h1.m2 z hz0 (Ne.symm hz2)
  exact RL.red _ _ _ _ _ _ _ _ (ht.disj _ h1.m1 _ h1.m2 h1.ne)
    (ht.disj _ h1.m1 z hz0 (Ne.symm hz1)) (ht.disj _ h1.m2 z hz0 (Ne.symm hz2))
    h1.height hva hvb hv (L.irrefl _) (h1.nn1 z hz0 hz1 va hva) (h1.nn2 z hz0 hz2 vb hvb)

/-- Every recorded step inside a live cluster is at most as high as every `R`-value of that cluster's
row (`RoundInv.inside` at the level of the run). -/
def Inside (R : MTree Nat → MTree Nat → α → Prop) (σ : IState) (pre : List (Step α)) : Prop :=
  ∀ x ∈ σ.live, ∀ t ∈ pre, t.c1 ∈ (σ.tree x).leaves → Far R σ x t.d

theorem StepOk.nnAt {R : MTree Nat → MTree Nat → α → Prop} {σ : IState} {s : Step α}
    (ht : Tab R σ) (h : StepOk R σ s) : NnAt R σ s := by
  intro y hy h1 h2
  obtain ⟨va, hva⟩ := ht.ex _ h.m1 y hy (Ne.symm h1)
  obtain ⟨vb, hvb⟩ := ht.ex _ h.m2 y hy (Ne.symm h2)
  exact ⟨⟨va, hva, h.nn1 y hy h1 va hva⟩, ⟨vb, hvb, h.nn2 y hy h2 vb hvb⟩⟩

theorem StepOk.stepH {R : MTree Nat → MTree Nat → α → Prop} {σ : IState} {s : Step α}
    {pre : List (Step α)} (hsym : ∀ s t v, R s t v → R t s v) (h : StepOk R σ s)
    (hin : Inside R σ pre) : StepH R σ pre s := by
  refine ⟨h.m1, h.m2, h.ne, h.height, h.size, ?_⟩
  rintro t ht (hl | hl)
  · exact hin _ h.m1 t ht hl _ h.m2 (Ne.symm h.ne) _ h.height
  · exact hin _ h.m2 t ht hl _ h.m1 h.ne _ (hsym _ _ _ h.height)

theorem Inside.merge {m : Method} {R : MTree Nat → MTree Nat → α → Prop} (RL : RLaws m R)
    (L : OrderLaws α) (hnan : ∀ x : α, Num.isNaN x = false) {σ : IState} (ht : Tab R σ)
    (hc : Clu σ) {pre : List (Step α)} {s : Step α} (hs : StepOk R σ s) (hin : Inside R σ pre) :
    Inside R (σ.merge s.c1 s.c2) (s :: pre) := by
  intro x hx t htm hl
  obtain ⟨hx0, hx1⟩ := (IState.mem_merge_live σ _ _ _).mp hx
  have far := far_after_merge RL L ht hs
  by_cases hxb : x = s.c2
  · -- the merged cluster: everything inside is at most `s.d`, its new row at least `s.d`
    subst hxb
    rcases List.mem_cons.mp htm with e | htp
    · rw [e]; exact far
    · rw [IState.merge_tree_self, MTree.leaves_node, mem_union] at hl
      have hge := (hs.stepH RL.compat.symm hin).mono t htp hl
      exact fun z hz hzb v hv => le_tr L hnan hge (far z hz hzb v hv)
  · rw [IState.merge_tree_of_ne _ _ _ _ hxb] at hl
    rcases List.mem_cons.mp htm with e | htp
    · rw [e] at hl
      exact absurd hl (hc.not_mem hx0 hs.m1 (Ne.symm hx1))
    · exact far_merge RL L hnan ht hs hx0 (Ne.symm hx1) (Ne.symm hxb) (hin x hx0 t htp hl)

/-- A run of reciprocal-nearest-neighbour merges of a functional reducible relation is a run in the
sense of `Lemmas/RnnSort.lean` (`RunFrom`, `NnFrom`). -/
theorem runFrom_nnFrom_of_rnnFrom {m : Method} {R : MTree Nat → MTree Nat → α → Prop} (RL : RLaws m R)
    (L : OrderLaws α) (hnan : ∀ x : α, Num.isNaN x = false) :
    ∀ (l : List (Step α)) (σ : IState) (pre : List (Step α)), Tab R σ → Clu σ → Inside R σ pre →
      RnnFrom R σ l → RunFrom R σ pre l ∧ NnFrom R σ l := by
  intro l
  induction l with
  | nil => intro _ _ _ _ _ _; exact ⟨trivial, trivial⟩
  | cons s r ih =>
    intro σ pre ht hc hin h
    obtain ⟨h1, h2⟩ := ih _ (s :: pre) (ht.merge RL.compat h.1.m1 h.1.m2 h.1.ne)
      (hc.merge h.1.m1 h.1.m2 h.1.ne) (hin.merge RL L hnan ht hc h.1) h.2
    exact ⟨⟨h.1.stepH RL.compat.symm hin, h1⟩, ⟨h.1.nnAt ht, h2⟩⟩

omit [Num α] in
theorem IState.replay_leaves_mono (b : Nat) : ∀ (l : List (Step α)) (σ : IState),
    (σ.tree b).leaves ⊆ ((IState.replay σ l).tree b).leaves := by
  intro l
  induction l with
  | nil => intro σ; exact Finset.Subset.refl _
  | cons s r ih =>
    intro σ
    refine Finset.Subset.trans ?_ (ih (σ.merge s.c1 s.c2))
    by_cases c : b = s.c2
    · rw [c, IState.merge_tree_self, MTree.leaves_node]; exact Finset.subset_union_right
    · rw [IState.merge_tree_of_ne _ _ _ _ c]

/-- Parent ≥ child.  In a run of reciprocal-nearest-neighbour merges, every later step `y` that touches the
index kept by step `x` is at least as high as `x`: the cluster `x` created stays inside the tree at that
index (`IState.replay_leaves_mono`), so `StepH.mono` of `y` applies to `x`. -/
theorem parent_ge_child_at {m : Method} {R : MTree Nat → MTree Nat → α → Prop} (RL : RLaws m R)
    (L : OrderLaws α) (hnan : ∀ x : α, Num.isNaN x = false) {σ : IState} (ht : Tab R σ) (hc : Clu σ)
    {l : List (Step α)} (h : RnnFrom R σ l) (i j : Nat) (x y : Step α) (hij : i < j)
    (hx : l[i]? = some x) (hy : l[j]? = some y)
    (htouch : y.c1 = x.c2 ∨ y.c2 = x.c2) : Num.lt y.d x.d = false := by
  obtain ⟨hrun, -⟩ := runFrom_nnFrom_of_rnnFrom RL L hnan l σ [] ht hc
    (fun _ _ _ ht => absurd ht List.not_mem_nil) h
  have hX := runFrom_get l σ [] i x hrun hx
  have hin : x.c1 ∈ ((IState.replay σ (l.take j)).tree x.c2).leaves := by
    rw [← List.take_append_drop (i + 1) (l.take j), List.take_take, Nat.min_eq_left (by omega),
      List.take_add_one, hx, IState.replay_append, IState.replay_append]
    apply IState.replay_leaves_mono
    simp only [Option.toList, IState.replay]
    rw [IState.merge_tree_self, MTree.leaves_node]
    exact Finset.mem_union_left _ ((clu_replay l σ [] hc hrun i).self _ hX.m1)
  refine (runFrom_get l σ [] j y hrun hy).mono x ?_ ?_
  · rw [List.append_nil, List.mem_reverse]
    exact List.mem_iff_getElem?.mpr ⟨i, by rw [List.getElem?_take, if_pos hij]; exact hx⟩
  · rcases htouch with e | e <;> rw [e]
    exacts [.inl hin, .inr hin]

/-- Converse of `runFrom_nnFrom_of_rnnFrom`: functionality turns "some value" into "every value". -/
theorem rnnFrom_of_runFrom_nnFrom (L : OrderLaws α) {R : MTree Nat → MTree Nat → α → Prop}
    (hsym : ∀ s t v, R s t v → R t s v) (hu : ∀ s t v w, R s t v → R s t w → v = w) :
    ∀ (l : List (Step α)) (σ : IState) (pre : List (Step α)),
      RunFrom R σ pre l → NnFrom R σ l → RnnFrom R σ l := by
  intro l
  induction l with
  | nil => intro _ _ _ _; trivial
  | cons s r ih =>
    intro σ pre h hn
    refine ⟨⟨h.1.m1, h.1.m2, h.1.ne, h.1.height, h.1.size, ?_, ?_⟩, ih _ _ h.2 hn.2⟩
    · intro z hz hz1 v hv
      by_cases hz2 : z = s.c2
      · subst hz2
        rw [hu _ _ _ _ hv h.1.height]; exact L.irrefl _
      · obtain ⟨w, hw, hl⟩ := (hn.1 z hz hz1 hz2).1
        rw [hu _ _ _ _ hv hw]; exact hl
    · intro z hz hz2 v hv
      by_cases hz1 : z = s.c1
      · subst hz1
        rw [hu _ _ _ _ (hsym _ _ _ hv) h.1.height]; exact L.irrefl _
      · obtain ⟨w, hw, hl⟩ := (hn.1 z hz hz1 hz2).2
        rw [hu _ _ _ _ hv hw]; exact hl

theorem minOk_of_gmin {R : MTree Nat → MTree Nat → α → Prop}
    (hu : ∀ s t v w, R s t v → R s t w → v = w) {σ : IState} {pre l : List (Step α)}
    (h : RunFrom R σ pre l) (hg : GMinFrom R σ l) (i : Nat) (s : Step α) (hs : l[i]? = some s) :
    MinOk R (IState.replay σ (l.take i)) s := by
  have hst := runFrom_get l σ pre i s h hs
  refine ⟨hst.m1, hst.m2, hst.ne, hst.height, hst.size, fun x hx y hy hxy v hv => ?_⟩
  obtain ⟨w, hw, hl⟩ := (gminFrom_iff σ l).mp hg i s hs x hx y hy hxy
  rw [hu _ _ _ _ hv hw]; exact hl

end Kodama.Rnn
