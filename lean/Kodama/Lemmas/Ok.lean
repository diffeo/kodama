/- Walking a do-block of `Except Panic` instead of rewriting it.  `Ok e Q`: `e` returns without panic
and the result has `Q`.  It unfolds to `∃ r, e = .ok r ∧ Q r`, the shape of the totality statements
(`siftDown_spec`, `swap_swapped`, `foldlM_ok`, …; not of the iffs `bind_ok`, `aget_ok`, nor of the
equations `uadd_ok`, `aget_of_lt`), so those are arguments of the rules as they stand.  `Post e Q`:
whatever `e` returns has `Q`.  One rule per construct; a branch (`ite`) is followed into both arms,
and where the arms run into the same continuation that continuation is proved once, as a `∀` over
the value it receives. -/
import Kodama.Lemmas.Except
namespace Kodama

def Ok {α : Type} (e : R α) (Q : α → Prop) : Prop := ∃ r, e = .ok r ∧ Q r

def Post {α : Type} (e : R α) (Q : α → Prop) : Prop := ∀ r, e = .ok r → Q r

variable {α β : Type} {e : R α} {f : α → R β} {P : α → Prop} {Q : β → Prop}

theorem Ok.pure {x : α} (h : P x) : Ok (Pure.pure x) P := ⟨x, rfl, h⟩

theorem Ok.bind (h : Ok e P) (hf : ∀ x, P x → Ok (f x) Q) : Ok (e >>= f) Q := by
  obtain ⟨x, rfl, hx⟩ := h
  exact hf x hx

theorem Ok.eq_bind {x : α} (he : e = .ok x) (hf : Ok (f x) Q) : Ok (e >>= f) Q := by
  subst he; exact hf

theorem Ok.ite {c : Prop} [Decidable c] {a b : R α} (ha : c → Ok a P) (hb : ¬ c → Ok b P) :
    Ok (if c then a else b) P := by
  split
  · exact ha ‹_›
  · exact hb ‹_›

theorem Post.pure {x : α} (h : P x) : Post (Pure.pure x) P := fun _ hr => pure_ok.mp hr ▸ h

/-- The continuation may use the equation of the first part. -/
theorem Post.bind (hf : ∀ x, e = .ok x → Post (f x) Q) : Post (e >>= f) Q := fun r hr =>
  let ⟨x, hx, hfx⟩ := bind_ok.mp hr; hf x hx r hfx

theorem Post.ite {c : Prop} [Decidable c] {a b : R α} (ha : c → Post a P) (hb : ¬ c → Post b P) :
    Post (if c then a else b) P := by
  split
  · exact ha ‹_›
  · exact hb ‹_›

end Kodama
