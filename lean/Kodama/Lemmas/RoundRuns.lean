/-
The runs of the four entry points on average and weighted linkage under the standard model of
floating-point arithmetic, stated once per entry point and method (`*_greedySw`): the call returns a
well-formed dendrogram that is greedy up to the rounding relation `RAvg` / `RWgt` between working values
and merge trees (`Rnn.GreedySw`, `Lemmas/RoundGreedy*.lean`; `Sw`: cluster trees are compared up to the
order of the children of a node, `Rnn.Sw`).  The C02, C03, C06, C11 and C12 rounding
theorems are all read off these; `avgNear_of_sw` / `wgtNear_of_sw` are the reading "every returned height
is within so many rounding factors of the exact criterion of its two clusters".
-/
import Kodama.Lemmas.RoundTree
import Kodama.Lemmas.RoundWeighted
import Kodama.Lemmas.RoundGreedyChain
import Kodama.Lemmas.RoundPrimitive
import Kodama.Lemmas.RoundGeneric
import Kodama.Lemmas.Entry
import Kodama.Lemmas.GenericGreedySpec
import Kodama.Lemmas.OnSquares
namespace Kodama
open Spec Crit MTree Finset Round

variable {K : Type} {α : Type} [Num α]

/-- The exact base dissimilarities the criteria are computed from: the values of the input entries. -/
def valD (val : α → K) (n : Nat) (data : Array α) : Nat → Nat → K :=
  fun i j => val ((Spec.init .average n data).D i j)

theorem valD_symm (val : α → K) (n : Nat) (data : Array α) (i j : Nat) :
    valD val n data i j = valD val n data j i :=
  congrArg val (init_DSymm .average n data i j)

/-- The base dissimilarities of the renumbered input are those of the input, renumbered. -/
theorem valD_perm {val : α → K} {n : Nat} {data data' : Array α} {π : Nat → Nat}
    (hperm : ∀ i j, i < n → j < n →
      entry n data' Num.infinity i j = entry n data Num.infinity (π i) (π j)) :
    ∀ i j, i < n → j < n → valD val n data' i j = valD val n data (π i) (π j) := by
  intro i j hi hj
  show val (let x := Spec.entry n data' Num.infinity i j;
      if Method.average.onSquares then Num.mul x x else x) =
    val (let x := Spec.entry n data Num.infinity (π i) (π j);
      if Method.average.onSquares then Num.mul x x else x)
  rw [hperm i j hi hj]

set_option linter.unusedVariables false in
theorem init_D_average_mem (data : Array α) (n : Nat) (h2 : 2 ≤ n) (hs : n < 2147483648)
    (hl : 2 * data.size = n * (n - 1)) (i j : Nat) (hi : i < n) (hj : j < n) (hij : i ≠ j) :
    ∃ (k : Nat) (h : k < data.size), (Spec.init .average n data).D i j = data[k] :=
  let ⟨k, hk, _, e⟩ := entry_is_slot n data Num.infinity hl i j hi hj hij
  ⟨k, hk, e⟩

theorem valD_mem (val : α → K) (data : Array α) (n : Nat) (hs : n < 2147483648)
    (hl : 2 * data.size = n * (n - 1)) (i j : Nat) (hi : i < n) (hj : j < n) (hij : i ≠ j) :
    ∃ (k : Nat) (h : k < data.size), valD val n data i j = val data[k] := by
  obtain ⟨k, hk, e⟩ := init_D_average_mem data n (by omega) hs hl i j hi hj hij
  exact ⟨k, hk, congrArg val e⟩

variable [Field K] [LinearOrder K]

theorem rAvg_init {val : α → K} {fin : α → Prop} {u : K} (data : Array α) (n : Nat)
    (hs : n < 2147483648) (hl : 2 * data.size = n * (n - 1))
    (hfin : ∀ (k : Nat) (h : k < data.size), fin data[k]) (i j : Nat) (hi : i < n) (hj : j < n)
    (hij : i ≠ j) :
    RAvg val fin u n (valD val n data) (leaf i) (leaf j) ((Spec.init .average n data).D i j) := by
  obtain ⟨k, hk, e⟩ := init_D_average_mem data n (by omega) hs hl i j hi hj hij
  exact RAvg.leaf hi hj (by rw [e]; exact hfin k hk) rfl

theorem init_D_weighted_eq (n : Nat) (data : Array α) :
    (Spec.init .weighted n data).D = (Spec.init .average n data).D := rfl

/-- Through `init_D_average_mem`: the initial tables of average and weighted linkage coincide. -/
theorem rWgt_init {val : α → K} {fin : α → Prop} {u : K} (data : Array α) (n : Nat)
    (hs : n < 2147483648) (hl : 2 * data.size = n * (n - 1))
    (hfin : ∀ (k : Nat) (h : k < data.size), fin data[k]) (i j : Nat) (hi : i < n) (hj : j < n)
    (hij : i ≠ j) :
    RWgt val fin u n (valD val n data) (leaf i) (leaf j) ((Spec.init .weighted n data).D i j) := by
  obtain ⟨k, hk, e⟩ := init_D_average_mem data n (by omega) hs hl i j hi hj hij
  exact RWgt.leaf hi hj hij (by rw [init_D_weighted_eq, e]; exact hfin k hk) rfl

theorem baseOkW_valD {val : α → K} {fin : α → Prop} {dlo dhi : K} (data : Array α) (n : Nat)
    (hs : n < 2147483648) (hl : 2 * data.size = n * (n - 1)) (hdlo : 0 < dlo)
    (hdata : ∀ (k : Nat) (h : k < data.size),
      fin data[k] ∧ dlo ≤ val data[k] ∧ val data[k] ≤ dhi) :
    BaseOkW n (valD val n data) dlo dhi where
  symm := valD_symm val n data
  dlo_pos := hdlo
  entry := fun i j hi hj hij => by
    obtain ⟨k, hk, e⟩ := valD_mem val data n hs hl i j hi hj hij
    rw [e]; exact (hdata k hk).2

variable [IsStrictOrderedRing K]

set_option linter.unusedSectionVars false in
set_option linter.unusedVariables false in
theorem baseOk_valD {val : α → K} {fin : α → Prop} {dlo dhi : K} (data : Array α) (n : Nat)
    (h2 : 2 ≤ n) (hs : n < 2147483648) (hl : 2 * data.size = n * (n - 1))
    (hdlo : 0 < dlo) (hdle : dlo ≤ dhi)
    (hdata : ∀ (k : Nat) (h : k < data.size), fin data[k] ∧ In0 dlo dhi (val data[k])) :
    BaseOk n (valD val n data) dlo dhi where
  symm := valD_symm val n data
  dlo_pos := hdlo
  dlo_le := hdle
  entry := fun i j hi hj hij => by
    obtain ⟨k, hk, e⟩ := valD_mem val data n hs hl i j hi hj hij
    rw [e]; exact (hdata k hk).2

/-- Every `RWgt`-value lies in a domain that contains the finite values in the range of the run. -/
theorem rWgt_ok {val : α → K} {fin : α → Prop} {u lo hi dlo dhi : K} {N n : Nat}
    {D : Nat → Nat → K} (RM : Round.Model val fin u lo hi N) (B : BaseOkW n D dlo dhi)
    {ok : α → Prop}
    (hok : ∀ v, fin v → dlo * (1 - u) ^ (2 * n) ≤ val v → val v ≤ dhi / (1 - u) ^ (2 * n) → ok v)
    (v : α) : (∃ s t, RWgt val fin u n D s t v) → ok v := fun ⟨_, _, h⟩ =>
  hok v h.fin (h.range RM.u_nonneg RM.u_lt_one B).1 (h.range RM.u_nonneg RM.u_lt_one B).2

omit [Num α] in
theorem obs_eq_clusterTree_leaves {n : Nat} {steps : List (Step α)} (hwf : WellFormed n steps)
    (l : Nat) (hl : l < n + steps.length) :
    (Spec.leaves n steps steps.length l).toFinset = (clusterTree n steps l).leaves := by
  have hord : LabelsOrdered n steps := by
    intro i st hi
    have := hwf.ordered i st hi
    omega
  by_cases c : l < n
  · exact (clusterTree_leaves n steps hord steps.length l (Or.inl c)).symm
  · exact (clusterTree_leaves n steps hord steps.length l (Or.inr ⟨hl, by omega⟩)).symm

omit [Num α] in
/-- Leaves of the merge tree of a label below `n + length` are observations. -/
theorem clusterTree_leaves_lt {n : Nat} {steps : List (Step α)} (wf : WellFormed n steps) (l : Nat)
    (hl : l < n + steps.length) : ∀ x ∈ (clusterTree n steps l).leaves, x < n := by
  intro x hx
  rw [← obs_eq_clusterTree_leaves wf l hl] at hx
  exact leaves_lt n steps steps.length l x (List.mem_toFinset.mp hx)

omit [Num α] in
/-- For a symmetric relation the two orders in `StepSw` need not be told apart. -/
theorem Rnn.StepSw.ordered {R : MTree Nat → MTree Nat → α → Prop}
    (hsymm : ∀ {S T : MTree Nat} {v : α}, R S T v → R T S v) {n : Nat} {D : List (Step α)}
    {s : Step α} (h : Rnn.StepSw R n D s) :
    ∃ T₁ T₂ : MTree Nat, R T₁ T₂ s.d ∧ Disjoint T₁.leaves T₂.leaves ∧
      Rnn.Sw (clusterTree n D s.c1) T₁ ∧ Rnn.Sw (clusterTree n D s.c2) T₂ ∧
      s.size = T₁.leaves.card + T₂.leaves.card := by
  obtain ⟨T₁, T₂, hR, hd, hsw | hsw, hsize⟩ := h
  · exact ⟨T₁, T₂, hR, hd, hsw.1, hsw.2, hsize⟩
  · exact ⟨T₂, T₁, hsymm hR, hd.symm, hsw.1, hsw.2, by omega⟩

omit [Num α] in
/-- A returned step that satisfies `StepSw` for `RAvg`: its height is finite and within
`4·(size − 2)` factors of the exact mean over the cross pairs of the observation sets of its two labels. -/
theorem avgNear_of_sw {val : α → K} {fin : α → Prop} {u dlo dhi : K} {n : Nat}
    {D : Nat → Nat → K} (B : BaseOk n D dlo dhi) {steps : List (Step α)} (hwf : WellFormed n steps)
    {i : Nat} {s : Step α} (hi : steps[i]? = some s)
    (h : Rnn.StepSw (RAvg val fin u n D) n steps s) :
    let A := (Spec.leaves n steps steps.length s.c1).toFinset
    let B := (Spec.leaves n steps steps.length s.c2).toFinset
    fin s.d ∧ Disjoint A B ∧ s.size = A.card + B.card ∧ s.size ≤ n ∧ 0 ≤ avg D A B ∧
      Near u (4 * (s.size - 2)) (avg D A B) (val s.d) := by
  obtain ⟨T₁, T₂, hR, hdisj, a, b, hsize⟩ := h.ordered fun h => h.symm B
  have hiD : i < steps.length := (List.getElem?_eq_some_iff.mp hi).1
  have ho := hwf.ordered i s hi
  have hcard := card_add_le_of_lt hR.ls hR.lt hdisj
  simp only [obs_eq_clusterTree_leaves hwf s.c1 (by omega),
    obs_eq_clusterTree_leaves hwf s.c2 (by omega), a.leaves_eq, b.leaves_eq]
  exact ⟨hR.fin, hdisj, hsize, by omega,
    B.avg_nonneg hR.ls hR.lt hdisj T₁.leaves_nonempty T₂.leaves_nonempty, by rw [hsize]; exact hR.near⟩

omit [Num α] in
/-- A returned step that satisfies `StepSw` for `RWgt`: its height is finite and within
`2·(size − 2)` factors of the recursively halved mean over the cluster trees of its two labels. -/
theorem wgtNear_of_sw {val : α → K} {fin : α → Prop} {u dlo dhi : K} {n : Nat}
    {D : Nat → Nat → K} (B : BaseOkW n D dlo dhi) {steps : List (Step α)} {s : Step α}
    (h : Rnn.StepSw (RWgt val fin u n D) n steps s) :
    let w := wdist D (clusterTree n steps s.c1) (clusterTree n steps s.c2)
    fin s.d ∧ s.size ≤ n ∧ 0 ≤ w ∧ Near u (2 * (s.size - 2)) w (val s.d) := by
  obtain ⟨T₁, T₂, hR, hdisj, a, b, hsize⟩ := h.ordered fun h => h.symm B
  have hcard := card_add_le_of_lt hR.ls hR.lt hdisj
  simp only [a.wdist_left, b.wdist_right]
  exact ⟨hR.fin, by omega, le_trans B.dlo_pos.le (B.wdist_mem T₁ T₂ hR.ls hR.lt hdisj).1,
    by rw [hsize]; exact hR.near⟩

/-- In a run that is greedy up to `RAvg` every height is finite, not NaN and non-negative. -/
theorem finite_nonneg_of_avgSw {val : α → K} {fin : α → Prop} {u lo hi dlo dhi : K} {N n : Nat}
    (RM : Round.Model val fin u lo hi N) {D : Nat → Nat → K} (B : BaseOk n D dlo dhi)
    {steps : List (Step α)} (hwf : WellFormed n steps)
    (hall : Rnn.GreedySw (RAvg val fin u n D) n steps) :
    ∀ s ∈ steps, fin s.d ∧ Num.isNaN s.d = false ∧ 0 ≤ val s.d := by
  intro s hs
  obtain ⟨i, hi⟩ := List.mem_iff_getElem?.mp hs
  obtain ⟨hf, _, _, _, hnn, hnear⟩ := avgNear_of_sw B hwf hi (hall i s hi).1
  exact ⟨hf, RM.notNaN _ hf, hnear.nonneg RM.u_lt_one hnn⟩

theorem finite_nonneg_of_wgtSw {val : α → K} {fin : α → Prop} {u lo hi dlo dhi : K} {N n : Nat}
    (RM : Round.Model val fin u lo hi N) {D : Nat → Nat → K} (B : BaseOkW n D dlo dhi)
    {steps : List (Step α)} (hall : Rnn.GreedySw (RWgt val fin u n D) n steps) :
    ∀ s ∈ steps, fin s.d ∧ Num.isNaN s.d = false ∧ 0 ≤ val s.d := by
  intro s hs
  obtain ⟨i, hi⟩ := List.mem_iff_getElem?.mp hs
  obtain ⟨hf, _, hnn, hnear⟩ := wgtNear_of_sw B (hall i s hi).1
  exact ⟨hf, RM.notNaN _ hf, hnear.nonneg RM.u_lt_one hnn⟩

omit [Num α] in
/-- One step of the conclusion of the `C02_*_average_rounded` theorems (height within `4·(size − 2)`
rounding factors of the exact mean, `size ≤ n`), and `γ` absorbs up to `4·n` factors: the height is
within `γ · mean` of the mean.  The numbers (`f64`: `10⁻⁹`; `f32`: `10⁻³`; or `c`, `γ` with `4·n·u ≤ c`,
`1 ≤ (1+γ)(1−c)`) enter through `hw` only. -/
theorem avgNear_step_tol {val : α → K} {fin : α → Prop} {u γ : K} {n : Nat} {D : Nat → Nat → K}
    {s : Step α} {A B : Finset Nat} (h0 : 0 ≤ u) (hu : u < 1)
    (hw : ∀ k, k ≤ 4 * n → 1 ≤ (1 + γ) * (1 - u) ^ k)
    (h : fin s.d ∧ Disjoint A B ∧ s.size = A.card + B.card ∧ s.size ≤ n ∧ 0 ≤ avg D A B ∧
      Near u (4 * (s.size - 2)) (avg D A B) (val s.d)) :
    |val s.d - avg D A B| ≤ γ * avg D A B :=
  near_abs_sub_le h0 hu h.2.2.2.2.1 h.2.2.2.2.2 (hw _ (by have := h.2.2.2.1; omega))

theorem in0_base_run {u dlo dhi x : K} {n : Nat} (h0 : 0 ≤ u) (hu : u < 1) (hn : 1 ≤ n)
    (hdlo : 0 < dlo) (hdle : dlo ≤ dhi) (hx : In0 dlo dhi x) :
    In0 (vlo u n dlo) (vhi u n dhi) x := by
  have hw := pow_w_pos hu (4 * n)
  have hw1 := pow_w_le_one h0 hu (4 * n)
  have hnK : (1 : K) ≤ (n : K) := by exact_mod_cast hn
  have hnn : (1 : K) ≤ (n : K) * (n : K) := one_le_mul_of_one_le_of_one_le hnK hnK
  refine hx.weaken ?_ ?_
  · exact (mul_le_of_le_one_right (div_nonneg hdlo.le (zero_le_one.trans hnn)) hw1).trans
      (div_le_self hdlo.le hnn)
  · exact (le_div_iff₀ hw).mpr (mul_le_of_le_one_right (hdlo.le.trans hdle) hw1)

theorem Round.Near.agree {u A x y : K} {k : Nat} (hu : u < 1) (hx : Near u k A x)
    (hy : Near u k A y) : Near u (2 * k) x y := by
  have half : ∀ {x y : K}, x * (1 - u) ^ k ≤ A → A * (1 - u) ^ k ≤ y →
      x * (1 - u) ^ (2 * k) ≤ y := by
    intro x y h1 h2
    rw [two_mul, pow_add, ← mul_assoc]
    exact (mul_le_mul_of_nonneg_right h1 (pow_w_pos hu k).le).trans h2
  exact ⟨half hx.2 hy.1, half hy.2 hx.1⟩

/-! ## The runs, average linkage

Hypotheses of this section, those of the `C02_*_average_rounded` theorems: `<` is a strict weak order off
NaN; the standard model; a valid condensed matrix whose entries are finite and `0` or in `[dlo, dhi]`;
no overflow or underflow (`RangeOk`).  Each lemma says: the call returns a well-formed dendrogram that is
greedy up to `RAvg`. -/

section Average
variable (L : OrderLaws α) {val : α → K} {fin : α → Prop} {u lo hi : K} {N : Nat}
  (RM : Round.Model val fin u lo hi N)
  (chk : Bool) (st : State α) (d : Dendrogram α) (data : Array α) (n : Nat)
  (h2 : 2 ≤ n) (hs : n < 2147483648) (hl : 2 * data.size = n * (n - 1))
  {dlo dhi : K} (hdlo : 0 < dlo) (hdle : dlo ≤ dhi)
  (hdata : ∀ (k : Nat) (h : k < data.size), fin data[k] ∧ In0 dlo dhi (val data[k]))
  (Rg : RangeOk u lo hi N n dlo dhi)
include L RM h2 hs hl hdlo hdle hdata Rg

theorem nnchain_average_greedySw :
    ∃ st' d' M', nnchainWith chk .average st d data n = .ok (st', d', M') ∧
      WellFormed n d'.steps.toList ∧
      Rnn.GreedySw (RAvg val fin u n (valD val n data)) n d'.steps.toList :=
  nnchainWith_greedy L chk .average rfl (lwGeOn_average L _)
    (lwCompat_RAvg RM (baseOk_valD data n h2 hs hl hdlo hdle hdata) Rg)
    (fun _ _ _ h => RM.notNaN _ h.fin) st d data n h2 hs hl
    (fun k hk => RM.notNaN _ (hdata k hk).1) (rAvg_init data n hs hl fun k hk => (hdata k hk).1)

/-- `linkage_with(Average)` is dispatched to `nnchain_with`. -/
theorem linkage_average_greedySw :
    ∃ st' d' M', linkageWith chk .average st d data n = .ok (st', d', M') ∧
      WellFormed n d'.steps.toList ∧
      Rnn.GreedySw (RAvg val fin u n (valD val n data)) n d'.steps.toList := by
  rw [linkageWith_nnchain chk .average .average (by decide) rfl]
  exact nnchain_average_greedySw L RM chk st d data n h2 hs hl hdlo hdle hdata Rg

theorem primitive_average_greedySw :
    ∃ st' d' M', primitiveWith chk .average st d data n = .ok (st', d', M') ∧
      WellFormed n d'.steps.toList ∧
      Rnn.GreedySw (RAvg val fin u n (valD val n data)) n d'.steps.toList :=
  primitiveWith_greedy L chk .average rfl (lwGeOn_average L _)
    (lwCompat_RAvg RM (baseOk_valD data n h2 hs hl hdlo hdle hdata) Rg)
    (fun _ _ _ h => RM.notNaN _ h.fin) st d data n h2 hs hl
    (rAvg_init data n hs hl fun k hk => (hdata k hk).1)

/-- `generic_with` needs in addition: `==` implies `≤`, `max_value` is not NaN, and a good set `G`
(`Lemmas/GenericInv.lean`) that contains every finite value in the range of the run. -/
theorem generic_average_greedySw (hbeq : BeqLe α) (hmax : Num.isNaN (Num.maxValue : α) = false)
    {G : α → Prop} (gs : GoodSet G)
    (hG : ∀ v, fin v → In0 (vlo u n dlo) (vhi u n dhi) (val v) → G v) :
    ∃ st' d' M', genericWith chk .average st d data n = .ok (st', d', M') ∧
      WellFormed n d'.steps.toList ∧
      Rnn.GreedySw (RAvg val fin u n (valD val n data)) n d'.steps.toList :=
  have B := baseOk_valD data n h2 hs hl hdlo hdle hdata
  genericWith_greedy L hbeq gs chk .average rfl (fun _ => lbClosed_average L gs) hmax
    (lwGeOn_average L _) (lwCompat_RAvg RM B Rg)
    (fun _ _ _ h => RM.notNaN _ h.fin)
    (fun _ _ v hd h => hG v h.fin (h.range RM.u_nonneg RM.u_lt_one B hd))
    st d data n h2 hs hl
    (fun i hi => hG _ (hdata i hi).1
      (in0_base_run RM.u_nonneg RM.u_lt_one (by omega) hdlo hdle (hdata i hi).2))
    (rAvg_init data n hs hl fun k hk => (hdata k hk).1)

end Average

/-! ## The runs, weighted linkage

Hypotheses of this section, those of the `C02_*_weighted_rounded` theorems: as above with strictly positive
entries in `[dlo, dhi]` and `RangeOkW`, and reducibility of the weighted update on a domain `ok`
(`ChainGeOn ok .weighted`) that contains every finite value in the range of the run.  Each lemma says: the
call returns a well-formed dendrogram that is greedy up to `RWgt`. -/

section Weighted
variable (L : OrderLaws α) {val : α → K} {fin : α → Prop} {u lo hi : K} {N : Nat}
  (RM : Round.Model val fin u lo hi N) {ok : α → Prop} (hge : ChainGeOn ok .weighted)
  (chk : Bool) (st : State α) (d : Dendrogram α) (data : Array α) (n : Nat)
  (h2 : 2 ≤ n) (hs : n < 2147483648) (hl : 2 * data.size = n * (n - 1))
  {dlo dhi : K} (hdlo : 0 < dlo)
  (hdata : ∀ (k : Nat) (h : k < data.size), fin data[k] ∧ dlo ≤ val data[k] ∧ val data[k] ≤ dhi)
  (Rg : RangeOkW u lo hi n dlo dhi)
  (hok : ∀ v, fin v → dlo * (1 - u) ^ (2 * n) ≤ val v → val v ≤ dhi / (1 - u) ^ (2 * n) → ok v)
include L RM hge h2 hs hl hdlo hdata Rg hok

theorem nnchain_weighted_greedySw :
    ∃ st' d' M', nnchainWith chk .weighted st d data n = .ok (st', d', M') ∧
      WellFormed n d'.steps.toList ∧
      Rnn.GreedySw (RWgt val fin u n (valD val n data)) n d'.steps.toList :=
  have B := baseOkW_valD data n hs hl hdlo hdata
  nnchainWith_greedy L chk .weighted rfl (hge.lw.mono (rWgt_ok RM B hok)) (lwCompat_RWgt RM B Rg)
    (fun _ _ _ h => RM.notNaN _ h.fin) st d data n h2 hs hl
    (fun k hk => RM.notNaN _ (hdata k hk).1) (rWgt_init data n hs hl fun k hk => (hdata k hk).1)

/-- `linkage_with(Weighted)` is dispatched to `nnchain_with`. -/
theorem linkage_weighted_greedySw :
    ∃ st' d' M', linkageWith chk .weighted st d data n = .ok (st', d', M') ∧
      WellFormed n d'.steps.toList ∧
      Rnn.GreedySw (RWgt val fin u n (valD val n data)) n d'.steps.toList := by
  rw [linkageWith_nnchain chk .weighted .weighted (by decide) rfl]
  exact nnchain_weighted_greedySw L RM hge chk st d data n h2 hs hl hdlo hdata Rg hok

theorem primitive_weighted_greedySw :
    ∃ st' d' M', primitiveWith chk .weighted st d data n = .ok (st', d', M') ∧
      WellFormed n d'.steps.toList ∧
      Rnn.GreedySw (RWgt val fin u n (valD val n data)) n d'.steps.toList :=
  have B := baseOkW_valD data n hs hl hdlo hdata
  primitiveWith_greedy L chk .weighted rfl (hge.lw.mono (rWgt_ok RM B hok)) (lwCompat_RWgt RM B Rg)
    (fun _ _ _ h => RM.notNaN _ h.fin) st d data n h2 hs hl
    (rWgt_init data n hs hl fun k hk => (hdata k hk).1)

/-- `generic_with`: the domain is a good set.  Reducibility is used twice here: for the lower-bound
invariant of the heap (`LBClosed`) and for the legality of the sort. -/
theorem generic_weighted_greedySw (hbeq : BeqLe α) (hmax : Num.isNaN (Num.maxValue : α) = false)
    (gs : GoodSet ok) :
    ∃ st' d' M', genericWith chk .weighted st d data n = .ok (st', d', M') ∧
      WellFormed n d'.steps.toList ∧
      Rnn.GreedySw (RWgt val fin u n (valD val n data)) n d'.steps.toList := by
  have B := baseOkW_valD data n hs hl hdlo hdata
  have hw := pow_w_pos RM.u_lt_one (2 * n)
  have hw1 := pow_w_le_one RM.u_nonneg RM.u_lt_one (2 * n)
  -- the input entries lie in the range of the run, hence in `ok`
  have hin : ∀ i (h : i < data.size), ok data[i] := by
    intro i hi
    obtain ⟨f, l1, l2⟩ := hdata i hi
    refine hok _ f (le_trans (mul_le_of_le_one_right hdlo.le hw1) l1) ?_
    rw [le_div_iff₀ hw]
    exact le_trans (mul_le_of_le_one_right (le_trans hdlo.le l1) hw1) l2
  exact genericWith_greedy L hbeq gs chk .weighted rfl
    (fun _ => lbClosed_weighted_of_chainGeOn L gs hge) hmax (hge.lw.mono (rWgt_ok RM B hok))
    (lwCompat_RWgt RM B Rg) (fun _ _ _ h => RM.notNaN _ h.fin)
    (fun s t v _ h => rWgt_ok RM B hok v ⟨s, t, h⟩)
    st d data n h2 hs hl hin (rWgt_init data n hs hl fun k hk => (hdata k hk).1)

end Weighted

end Kodama
