/-
C03 for `generic_with`: the simulation.  The loop invariant `GenSim` is `GenInv` (totality,
GenericRun.lean) + `LB` (every priority is a lower bound of its row, so the popped pair is a global
minimum) + `PrimSim` (the simulation of `primitive_with`: matrix = specification table in merge-order
labels).  One iteration satisfies `MergeFacts` (`genIter_facts`), so the step lemma of
`primitive_with` (`primSim_step_facts`) applies, and `genericWith` is loop ; relabel ;
sqrt with the greedy-run certificate `PrimGreedyResult` attached (`genericWith_sim`).  Under the
specification-level hypothesis `Spec.RunGood` the values an update writes are good because they are
entries of the next specification state (`GenSim.updGoodAt_of_runGood`).
-/
import Kodama.Lemmas.GenericRun
import Kodama.Lemmas.PrimGreedyRun
import Kodama.Lemmas.PrimGreedyRelabel
namespace Kodama
open Spec
variable {α : Type} [Num α]

structure GenSim (G : α → Prop) (chk : Bool) (m : Method) (n : Nat) (data : Array α) (k : Nat)
    (live : List Nat) (st : State α) (dend : Dendrogram α) (M : Mat α) : Prop where
  gen : GenInv G n k live st dend M
  lb : LB chk M live st.queue.prio
  sim : ∃ s mo, PrimSim chk m n data k live st dend M s mo

/-- What one iteration does, in terms of the matrix BEFORE the iteration: it merges a live pair
`a < b` whose entry `dist` is a minimum over all live pairs. -/
def GlobalMinPair (chk : Bool) (M : Mat α) (live : List Nat) (a b : Nat) (dist : α) : Prop :=
  a < b ∧ a ∈ live ∧ b ∈ live ∧ M.get chk a b = .ok dist ∧
    ∀ x ∈ live, ∀ y ∈ live, x < y → ∀ w, M.get chk x y = .ok w → Num.lt w dist = false

/-- `GlobalMinPair` (as read by `Mat.get`, row `<` column) from its `Mat.dval` form. -/
theorem globalMinPair_of_dval (chk : Bool) {M : Mat α} (hv : M.Valid) {live : List Nat}
    (hlt : ∀ x ∈ live, x < M.n) {a b : Nat} (hab : a < b) (ha : a ∈ live) (hb : b ∈ live)
    (hmin : ∀ x ∈ live, ∀ y ∈ live, x ≠ y → Num.lt (M.dval x y) (M.dval a b) = false) :
    GlobalMinPair chk M live a b (M.dval a b) := by
  refine ⟨hab, ha, hb, Mat.get_dval chk M hv a b hab (hlt b hb), fun x hx y hy hxy w hw => ?_⟩
  rw [Mat.get_dval chk M hv x y hxy (hlt y hy)] at hw
  rw [← Except.ok.inj hw]
  exact hmin x hx y hy (Nat.ne_of_lt hxy)

/-- From the specification-level hypothesis `Spec.RunGood` to the values one update writes.
Under the simulation invariant, merging a globally closest live pair `a < b` is an admissible greedy
step of the specification, so the table of the NEXT specification state — whose new entries are
exactly the Lance–Williams values that the update of the model is about to write — is good. -/
theorem GenSim.updGoodAt_of_runGood {G : α → Prop} {chk : Bool} {m : Method} {n : Nat}
    {data : Array α} {k : Nat} {live : List Nat} {st : State α} {dend : Dendrogram α} {M : Mat α}
    (inv : GenSim G chk m n data k live st dend M) (hsym : LwSymm α m)
    (hrun : RunGood G m n data) (a b : Nat) (hab : a < b) (ha : a ∈ live) (hb : b ∈ live)
    (hmin : ∀ x ∈ live, ∀ y ∈ live, x ≠ y → Num.lt (M.dval x y) (M.dval a b) = false) :
    UpdGoodAt G chk m st.sizes M live a b := by
  obtain ⟨s, mo, sim⟩ := inv.sim
  have hds := sim.dsymm
  have hane : a ≠ b := Nat.ne_of_lt hab
  have hv := sim.inv.mvalid
  have hlt : ∀ x ∈ live, x < M.n := fun x hx => by rw [sim.inv.mn]; exact sim.inv.rep.mem_lt x hx
  obtain ⟨V, hdv⟩ := sim.view
  have hsize := sim.size
  generalize labAt n (rawOf dend) k = lab at *
  obtain ⟨-, -, hadm⟩ := V.admissible (m := m) ha hb hane (fun x hx y hy hxy => by
    rw [← hdv a ha b hb hane, ← hdv x hx y hy hxy]
    exact hmin x hx y hy hxy)
  -- the extended run is greedy, hence its table is good
  have ht := hrun _ ((greedyFrom_append m _ mo _).mpr ⟨sim.greedy, by rw [← sim.state]; exact hadm⟩)
  rw [replay_append, ← sim.state] at ht
  simp only [replay] at ht
  rw [Step.new_c1, Step.new_c2] at ht
  have V' := V.merge (m := m) ha hb hane
  intro z hz hza hzb va vb d0 hva hvb hd0
  rw [mget, Mat.get_dval' chk M hv z a hza (hlt z hz) (hlt a ha), hdv z hz a ha hza] at hva
  rw [mget, Mat.get_dval' chk M hv z b hzb (hlt z hz) (hlt b hb), hdv z hz b hb hzb] at hvb
  rw [Mat.get_dval chk M hv a b hab (hlt b hb), hdv a ha b hb hane] at hd0
  injection hva with hva
  injection hvb with hvb
  injection hd0 with hd0
  have key : G ((merge m s (min (lab a) (lab b)) (max (lab a) (lab b))).D
      (if z = b then s.next else lab z) (if b = b then s.next else lab b)) :=
    ht _ (V'.mem (x := z) (mem_filter_ne.mpr ⟨hz, hza⟩)) _
    (V'.mem (x := b) (mem_filter_ne.mpr ⟨hb, hane.symm⟩))
    (V'.ne (mem_filter_ne.mpr ⟨hz, hza⟩) (mem_filter_ne.mpr ⟨hb, hane.symm⟩) hzb)
  rw [V.merge_D hsym hz hb hzb, if_neg hzb, if_pos rfl] at key
  rw [← hva, ← hvb, ← hd0, hsize z hz, hsize a ha, hsize b hb, hds (lab z), hds (lab z)]
  exact key

/-- One iteration of the main loop of `generic_with` is total, merges a globally closest live
pair, and advances the invariant. -/
theorem genericIter_sim' {G : α → Prop} (L : OrderLaws α) (hbeq : BeqLe α) (gs : GoodSet G)
    (chk : Bool) (m : Method) (hlbc : l1Mode m = .fix → LBClosed G m)
    (hsym : LwSymm α m)
    (n : Nat) (data : Array α) (k : Nat) (live : List Nat) (st : State α) (dend : Dendrogram α)
    (M : Mat α) (hk : k + 1 < n) (inv : GenSim G chk m n data k live st dend M)
    (hgood : ∀ a b, a < b → a ∈ live → b ∈ live →
      (∀ x ∈ live, ∀ y ∈ live, x ≠ y → Num.lt (M.dval x y) (M.dval a b) = false) →
      UpdGoodAt G chk m st.sizes M live a b) :
    ∃ st' dend' M' a b dist sz, GlobalMinPair chk M live a b dist ∧
      dend' = { dend with steps := dend.steps.push (Step.new a b dist sz) } ∧
      genericIter chk m (st, dend, M) = .ok (st', dend', M') ∧
      GenSim G chk m n data (k + 1) (live.filter (· ≠ a)) st' dend' M' := by
  have hv := inv.gen.prim.mvalid
  have hlt : ∀ x ∈ live, x < M.n := by rw [inv.gen.prim.mn]; exact inv.gen.prim.rep.mem_lt
  obtain ⟨st', dend', M', a, b, e, ginv', lb', F⟩ :=
    genIter_facts L hbeq gs chk m hlbc n k live st dend M hk inv.gen inv.lb hgood
  obtain ⟨s0, mo, sim⟩ := inv.sim
  refine ⟨st', dend', M', a, b, M.dval a b, st.sizes.getD a 0 + st.sizes.getD b 0,
    globalMinPair_of_dval chk hv hlt F.lt F.ma F.mb F.min, ?_, e, ginv', lb',
    primSim_step_facts chk m hsym n data k live st st' dend dend' M M' s0 mo sim F ginv'.prim⟩
  -- `MergeFacts` speaks of the step lists; the dendrograms also agree on `obs`
  have h1 : dend'.steps = dend.steps.push
      (Step.new a b (M.dval a b) (st.sizes.getD a 0 + st.sizes.getD b 0)) :=
    Array.toList_inj.mp (by rw [F.hsteps, Array.toList_push, Step.new_of_lt F.lt])
  have h2 : dend'.obs = dend.obs := ginv'.prim.obs.trans inv.gen.prim.obs.symm
  obtain ⟨steps', obs'⟩ := dend'
  simp only at h1 h2
  rw [h1, h2]

set_option linter.unusedVariables false in
theorem genericIter_sim_run {G : α → Prop} (L : OrderLaws α) (hbeq : BeqLe α) (gs : GoodSet G)
    (chk : Bool) (m : Method) (hlbc : l1Mode m = .fix → LBClosed G m)
    (hsym : LwSymm α m) (hmax : Num.isNaN (Num.maxValue : α) = false)
    (n : Nat) (data : Array α) (hrun : RunGood G m n data) (k : Nat) (live : List Nat)
    (st : State α) (dend : Dendrogram α)
    (M : Mat α) (hk : k + 1 < n) (inv : GenSim G chk m n data k live st dend M) :
    ∃ st' dend' M' a b dist sz, GlobalMinPair chk M live a b dist ∧
      dend' = { dend with steps := dend.steps.push (Step.new a b dist sz) } ∧
      genericIter chk m (st, dend, M) = .ok (st', dend', M') ∧
      GenSim G chk m n data (k + 1) (live.filter (· ≠ a)) st' dend' M' :=
  genericIter_sim' L hbeq gs chk m hlbc hsym n data k live st dend M hk inv
    (inv.updGoodAt_of_runGood hsym hrun)

/-- The main loop of `genericWith` from any state satisfying `GenSim`: total, and the raw dendrogram
relabelled in merge order is a greedy run of the specification (`simLoop_of_step` with the
bookkeeping invariant `GenInv ∧ LB` and the iteration lemma `genIter_facts`).  `hgood` gives, at
every state satisfying the invariant, the goodness of the values that the update of a globally
closest pair writes. -/
theorem genericLoop_sim' {G : α → Prop} (L : OrderLaws α) (hbeq : BeqLe α) (gs : GoodSet G)
    (chk : Bool) (m : Method) (hlbc : l1Mode m = .fix → LBClosed G m)
    (hsym : LwSymm α m) (n : Nat) (data : Array α)
    (st : State α) (dend : Dendrogram α) (M : Mat α)
    (inv0 : GenSim G chk m n data 0 (List.range n) st dend M)
    (hgood : ∀ k live st' dend' M', k + 1 < n → GenSim G chk m n data k live st' dend' M' →
      ∀ a b, a < b → a ∈ live → b ∈ live →
      (∀ x ∈ live, ∀ y ∈ live, x ≠ y → Num.lt (M'.dval x y) (M'.dval a b) = false) →
      UpdGoodAt G chk m st'.sizes M' live a b) :
    ∃ st1 dend1 M1, iterM (genericIter chk m) (n - 1) (st, dend, M) = .ok (st1, dend1, M1) ∧
      PrimGreedyResult m n data dend1 M1 ∧ (∀ s ∈ dend1.steps.toList, G s.d) := by
  obtain ⟨σ0, mo0, sim0⟩ := inv0.sim
  obtain ⟨⟨st1, dend1, M1⟩, _, e, hj, hres⟩ := simLoop_of_step chk m hsym n data (genericIter chk m)
    (·.1) (·.2.1) (·.2.2)
    (fun k live s => GenInv G n k live s.1 s.2.1 s.2.2 ∧ LB chk s.2.2 live s.1.queue.prio)
    (fun _ _ _ h => h.1.prim)
    (fun k live s σ mo hk hp sim => by
      obtain ⟨st, dend, M⟩ := s
      obtain ⟨st', dend', M', a, b, e, ginv', lb', F⟩ :=
        genIter_facts L hbeq gs chk m hlbc n k live st dend M hk hp.1 hp.2
          (hgood k live st dend M hk ⟨hp.1, hp.2, σ, mo, sim⟩)
      exact ⟨(st', dend', M'), a, b, e, ⟨ginv', lb'⟩, F⟩)
    (st, dend, M) ⟨inv0.gen, inv0.lb⟩ sim0
  exact ⟨st1, dend1, M1, e, hres, hj.1.dgood⟩

set_option linter.unusedVariables false in
theorem genericLoop_sim {G : α → Prop} (L : OrderLaws α) (hbeq : BeqLe α) (gs : GoodSet G)
    (chk : Bool) (m : Method) (hcl : UpdClosed G m) (hlbc : l1Mode m = .fix → LBClosed G m)
    (hsym : LwSymm α m) (hmax : Num.isNaN (Num.maxValue : α) = false) (n : Nat) (data : Array α)
    (h2 : 2 ≤ n) (st : State α) (dend : Dendrogram α) (M : Mat α)
    (inv0 : GenSim G chk m n data 0 (List.range n) st dend M) :
    ∃ st1 dend1 M1, iterM (genericIter chk m) (n - 1) (st, dend, M) = .ok (st1, dend1, M1) ∧
      PrimGreedyResult m n data dend1 M1 ∧ (∀ s ∈ dend1.steps.toList, G s.d) :=
  genericLoop_sim' L hbeq gs chk m hlbc hsym n data st dend M inv0
    (fun _ _ _ _ _ _ inv a b hab ha hb _ => inv.gen.updGoodAt_of_updClosed chk hcl a b ha hb hab)

/-- `genericWith` on a valid matrix with good entries: the (total) loop with its greedy-run
certificate, followed by `relabel` and `sqrt`.  General form: `hgood` gives, at every state
satisfying the simulation invariant, the goodness of the values that the update of a globally
closest pair writes. -/
theorem genericWith_sim' {G : α → Prop} (L : OrderLaws α) (hbeq : BeqLe α) (gs : GoodSet G)
    (chk : Bool) (m : Method) (hlbc : l1Mode m = .fix → LBClosed G m)
    (hsym : LwSymm α m) (hmax : Num.isNaN (Num.maxValue : α) = false)
    (st : State α) (d : Dendrogram α) (data : Array α) (n : Nat) (h2 : 2 ≤ n)
    (hs : n < 2147483648) (hl : 2 * data.size = n * (n - 1))
    (hin : ∀ i (h : i < (squareData m data).size), G (squareData m data)[i])
    (hgood : ∀ k live st' dend' M', k + 1 < n → GenSim G chk m n data k live st' dend' M' →
      ∀ a b, a < b → a ∈ live → b ∈ live →
      (∀ x ∈ live, ∀ y ∈ live, x ≠ y → Num.lt (M'.dval x y) (M'.dval a b) = false) →
      UpdGoodAt G chk m st'.sizes M' live a b) :
    LoopTail m (fun _ dend M => PrimGreedyResult m n data dend M ∧ ∀ s ∈ dend.steps.toList, G s.d)
      (genericWith chk m st d data n) := by
  obtain ⟨q, nr, hstart0, ginv0, lb0⟩ := genericStart_ok L gs chk m hmax data n h2 hs hl hin
  have sim0 := primSim_init chk m data n hs hl rfl ginv0.prim
  obtain ⟨st1, dend1, M1, hloop, hres, hdg⟩ :=
    genericLoop_sim' L hbeq gs chk m hlbc hsym n data _ _ _ ⟨ginv0, lb0, _, _, sim0⟩ hgood
  exact ⟨st1, dend1, M1, ⟨hres, hdg⟩,
    genericWith_of_start (s1 := (st1, dend1, M1)) chk m st d data n h2 hs hl hstart0 hloop⟩

theorem genericWith_sim {G : α → Prop} (L : OrderLaws α) (hbeq : BeqLe α) (gs : GoodSet G)
    (chk : Bool) (m : Method) (hcl : UpdClosed G m) (hlbc : l1Mode m = .fix → LBClosed G m)
    (hsym : LwSymm α m) (hmax : Num.isNaN (Num.maxValue : α) = false)
    (st : State α) (d : Dendrogram α) (data : Array α) (n : Nat) (h2 : 2 ≤ n)
    (hs : n < 2147483648) (hl : 2 * data.size = n * (n - 1))
    (hin : ∀ i (h : i < (squareData m data).size), G (squareData m data)[i]) :
    LoopTail m (fun _ dend M => PrimGreedyResult m n data dend M ∧ ∀ s ∈ dend.steps.toList, G s.d)
      (genericWith chk m st d data n) :=
  genericWith_sim' L hbeq gs chk m hlbc hsym hmax st d data n h2 hs hl hin
    (fun _ _ _ _ _ _ inv a b hab ha hb _ => inv.gen.updGoodAt_of_updClosed chk hcl a b ha hb hab)

/-- `Spec.RunGood` (empty run) gives good (squared) inputs. -/
theorem Spec.RunGood.inputs {G : α → Prop} {m : Method} {n : Nat} {data : Array α}
    (hrun : RunGood G m n data) (hs : n < 2147483648) (hl : 2 * data.size = n * (n - 1)) :
    ∀ i (h : i < (squareData m data).size), G (squareData m data)[i] := by
  intro i hi
  have hsz : (squareData m data).size = data.size := squareData_size m data
  have hlen := pairs_length n
  have hil : i < (pairs n).length := by rw [hsz] at hi; omega
  obtain ⟨hxy, hyn, hidx⟩ := pairs_getElem_idxN n i hil
  generalize (pairs n)[i].1 = x at hxy hyn hidx
  generalize (pairs n)[i].2 = y at hxy hyn hidx
  have g := init_get true m data n hs hl x y hxy hyn
  have g' := Mat.get_eq_aget true ({ data := squareData m data, n := n, acc := 0 } : Mat α) x y hxy hyn
    hs
  rw [g, hidx] at g'
  obtain ⟨_, g''⟩ := aget_ok.mp g'.symm
  rw [g'']
  exact hrun [] trivial x (by simp [replay, init]; omega) y (by simpa [replay, init] using hyn)
    (by omega)

/-- `genericWith` under the run-dependent hypothesis `Spec.RunGood`: the (total) loop with its
greedy-run certificate, followed by `relabel` and `sqrt`. -/
theorem genericWith_sim_run {G : α → Prop} (L : OrderLaws α) (hbeq : BeqLe α) (gs : GoodSet G)
    (chk : Bool) (m : Method) (hlbc : l1Mode m = .fix → LBClosed G m)
    (hsym : LwSymm α m) (hmax : Num.isNaN (Num.maxValue : α) = false)
    (st : State α) (d : Dendrogram α) (data : Array α) (n : Nat) (h2 : 2 ≤ n)
    (hs : n < 2147483648) (hl : 2 * data.size = n * (n - 1))
    (hrun : RunGood G m n data) :
    LoopTail m (fun _ dend M => PrimGreedyResult m n data dend M ∧ ∀ s ∈ dend.steps.toList, G s.d)
      (genericWith chk m st d data n) :=
  genericWith_sim' L hbeq gs chk m hlbc hsym hmax st d data n h2 hs hl (hrun.inputs hs hl)
    (fun _ _ _ _ _ _ inv => inv.updGoodAt_of_runGood hsym hrun)

end Kodama
