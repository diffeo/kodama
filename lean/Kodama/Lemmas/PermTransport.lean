/-
Renumbering the observations, at the level of step lists (no numbers involved except where stated):
`steps.map (mapStep f)` for a label map `f` (`Lemmas/SpecPerm.lean`: observations renumbered by a
permutation, internal labels fixed, the two children of a step re-sorted) is again well formed, has the
corresponding consumed / present labels, sizes, and — as finite sets — the images of the observation
sets, on which `σ π n` is `π` (`σ_eq_on_leaves`).  Used by `Props/C11Rounding.lean`.
-/
import Kodama.Lemmas.SpecPerm
import Mathlib.Data.Finset.Image
namespace Kodama.Spec
variable {α : Type}

theorem LabelMap.lt_add_iff {n : Nat} {f : Nat → Nat} (hf : LabelMap n f) (l i : Nat) :
    f l < n + i ↔ l < n + i := by
  by_cases hl : l < n
  · have := hf.lt l hl
    constructor <;> intro _ <;> omega
  · rw [hf.fix l (by omega)]

theorem LabelMap.surj' {n : Nat} {f : Nat → Nat} (hf : LabelMap n f) (l : Nat) : ∃ l', f l' = l := by
  by_cases hl : l < n
  · obtain ⟨l', _, h⟩ := hf.surj l hl; exact ⟨l', h⟩
  · exact ⟨l, hf.fix l (by omega)⟩

theorem LabelMap.injective {n : Nat} {f : Nat → Nat} (hf : LabelMap n f) : Function.Injective f :=
  fun a b h => hf.inj a b h

theorem getElem?_map_mapStep {f : Nat → Nat} {steps : List (Step α)} {i : Nat} {s' : Step α}
    (h : (steps.map (mapStep f))[i]? = some s') : ∃ s, steps[i]? = some s ∧ mapStep f s = s' := by
  rwa [List.getElem?_map, Option.map_eq_some_iff] at h

theorem mapStep_labels (f : Nat → Nat) (st : Step α) (l : Nat) :
    ((mapStep f st).c1 = l ∨ (mapStep f st).c2 = l) ↔ (f st.c1 = l ∨ f st.c2 = l) := by
  rcases mapStep_cases f st with ⟨e1, e2, _⟩ | ⟨e1, e2, _⟩ <;> rw [e1, e2]
  exact Or.comm

theorem usedBefore_mapStep {n : Nat} {f : Nat → Nat} (hf : LabelMap n f) (steps : List (Step α))
    (i l : Nat) : UsedBefore (steps.map (mapStep f)) i (f l) ↔ UsedBefore steps i l := by
  unfold UsedBefore
  constructor
  · rintro ⟨j, s', hj, hs', hl⟩
    obtain ⟨s, hs, rfl⟩ := getElem?_map_mapStep hs'
    exact ⟨j, s, hj, hs,
      ((mapStep_labels f s (f l)).mp hl).imp (fun h => hf.inj _ _ h) (fun h => hf.inj _ _ h)⟩
  · rintro ⟨j, s, hj, hs, hl⟩
    refine ⟨j, mapStep f s, hj, by rw [List.getElem?_map, hs]; rfl, ?_⟩
    exact (mapStep_labels f s (f l)).mpr (hl.imp (fun h => by rw [h]) (fun h => by rw [h]))

theorem sz_mapStep {n : Nat} {f : Nat → Nat} (hf : LabelMap n f) (steps : List (Step α)) (l : Nat) :
    sz n (steps.map (mapStep f)) (f l) = sz n steps l := by
  unfold sz
  by_cases hl : l < n
  · rw [if_pos hl, if_pos (hf.lt l hl)]
  · rw [if_neg hl, if_neg (fun h => hl ((hf.lt_iff l).1 h)), hf.fix l (by omega), List.getElem?_map]
    cases steps[l - n]? with
    | none => rfl
    | some s => simp

theorem wellFormed_mapStep {n : Nat} {f : Nat → Nat} (hf : LabelMap n f) {steps : List (Step α)}
    (wf : WellFormed n steps) : WellFormed n (steps.map (mapStep f)) := by
  refine ⟨by rw [List.length_map]; exact wf.len, ?_, ?_, ?_⟩
  · intro i s' hi
    obtain ⟨s, hs, rfl⟩ := getElem?_map_mapStep hi
    have o := wf.ordered i s hs
    have hne : f s.c1 ≠ f s.c2 := fun h => by have := hf.inj _ _ h; omega
    have b1 : f s.c1 < n + i := (hf.lt_add_iff _ _).mpr (by omega)
    have b2 : f s.c2 < n + i := (hf.lt_add_iff _ _).mpr o.2
    rcases mapStep_cases f s with ⟨e1, e2, h⟩ | ⟨e1, e2, h⟩ <;> rw [e1, e2] <;> constructor <;> omega
  · intro i s' hi
    obtain ⟨s, hs, rfl⟩ := getElem?_map_mapStep hi
    have fr := wf.fresh i s hs
    have u1 : ¬ UsedBefore (steps.map (mapStep f)) i (f s.c1) :=
      fun h => fr.1 ((usedBefore_mapStep hf steps i s.c1).mp h)
    have u2 : ¬ UsedBefore (steps.map (mapStep f)) i (f s.c2) :=
      fun h => fr.2 ((usedBefore_mapStep hf steps i s.c2).mp h)
    rcases mapStep_cases f s with ⟨e1, e2, _⟩ | ⟨e1, e2, _⟩ <;> rw [e1, e2]
    · exact ⟨u1, u2⟩
    · exact ⟨u2, u1⟩
  · intro i s' hi
    obtain ⟨s, hs, rfl⟩ := getElem?_map_mapStep hi
    have hsz := wf.size i s hs
    rw [mapStep_size, hsz]
    rcases mapStep_cases f s with ⟨e1, e2, _⟩ | ⟨e1, e2, _⟩ <;>
      rw [e1, e2, sz_mapStep hf, sz_mapStep hf]
    exact Nat.add_comm _ _

theorem leaves_toFinset_mapStep {n : Nat} {f : Nat → Nat} (hf : LabelMap n f) (steps : List (Step α))
    (fuel l : Nat) :
    (leaves n (steps.map (mapStep f)) fuel (f l)).toFinset = (leaves n steps fuel l).toFinset.image f := by
  rw [List.toFinset_eq_of_perm _ _ (leaves_mapStep_gen hf steps fuel l)]
  ext x
  simp only [List.mem_toFinset, List.mem_map, Finset.mem_image]

end Kodama.Spec

namespace Kodama
open Spec
variable {α : Type}

theorem σ_eq_on_leaves (π : Nat → Nat) (n : Nat) (steps : List (Step α)) (fuel l : Nat) :
    ∀ x ∈ (Spec.leaves n steps fuel l).toFinset, σ π n x = π x :=
  fun x hx => σ_of_lt π (leaves_lt n steps fuel l x (List.mem_toFinset.mp hx))

end Kodama
