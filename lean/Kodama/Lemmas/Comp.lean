/- Component maps of `Spec.RawTree`: processing edges from the left, appending an edge at the end;
the growing forest of a main loop (`RawForest`). -/
import Kodama.Spec.RawTree
namespace Kodama.Spec

def compAfter (c : Nat → Nat) (es : List (Nat × Nat)) : Nat → Nat :=
  es.foldl (fun c e => joinComp c e.1 e.2) c

@[simp] theorem compAfter_nil (c : Nat → Nat) : compAfter c [] = c := rfl

@[simp] theorem compAfter_cons (c : Nat → Nat) (e : Nat × Nat) (es : List (Nat × Nat)) :
    compAfter c (e :: es) = compAfter (joinComp c e.1 e.2) es := rfl

theorem compAfter_append (c : Nat → Nat) (es fs : List (Nat × Nat)) :
    compAfter c (es ++ fs) = compAfter (compAfter c es) fs := by
  simp [compAfter, List.foldl_append]

theorem allEff_append_singleton (c : Nat → Nat) (es : List (Nat × Nat)) (u v : Nat) :
    AllEff c (es ++ [(u, v)]) ↔ AllEff c es ∧ compAfter c es u ≠ compAfter c es v := by
  induction es generalizing c with
  | nil => simp [AllEff]
  | cons e es ih =>
    obtain ⟨a, b⟩ := e
    simp only [List.cons_append, AllEff, compAfter_cons, ih, and_assoc]

/-- Joining the components of two members `a`, `b` of a set on which the component map is injective
leaves it injective on the set without one of the two. -/
theorem joinComp_injOn_remove (c : Nat → Nat) (S : Nat → Prop)
    (hinj : ∀ x, S x → ∀ y, S y → x ≠ y → c x ≠ c y) {a b r : Nat} (ha : S a) (hb : S b)
    (hr : r = a ∨ r = b) (x : Nat) (hx : S x) (hxr : x ≠ r) (y : Nat) (hy : S y)
    (hyr : y ≠ r) (hxy : x ≠ y) : joinComp c a b x ≠ joinComp c a b y := by
  unfold joinComp
  by_cases hxa : x = a
  · -- then `b` was removed, and `y` is a third member
    have hrb : r = b := hr.resolve_left (fun h => hxr (hxa.trans h.symm))
    have hya : c y ≠ c a := hinj y hy a ha (fun h => hxy (hxa.trans h.symm))
    rw [hxa, if_pos rfl, if_neg hya]
    exact hinj b hb y hy (fun h => hyr (h.symm.trans hrb.symm))
  · have hxa' : c x ≠ c a := hinj x hx a ha hxa
    rw [if_neg hxa']
    by_cases hya : y = a
    · have hrb : r = b := hr.resolve_left (fun h => hyr (hya.trans h.symm))
      rw [hya, if_pos rfl]
      exact hinj x hx b hb (fun h => hxr (h.trans hrb.symm))
    · rw [if_neg (hinj y hy a ha hya)]
      exact hinj x hx y hy hxy

/-- `raw` is a forest on `0..n-1`, given in an effective order, in which the members of `S` lie in
pairwise different trees: what every main loop knows of its raw steps. -/
structure RawForest (n : Nat) (S : Nat → Prop) (raw : List (Nat × Nat)) : Prop where
  eff : AllEff id raw
  inRange : ∀ e ∈ raw, e.1 < n ∧ e.2 < n
  comp : ∀ x, S x → ∀ y, S y → x ≠ y → compAfter id raw x ≠ compAfter id raw y

/-- An edge between two members of `S` is effective; afterwards `S` without one of its two ends
is a set of representatives again. -/
theorem RawForest.snoc {n : Nat} {S S' : Nat → Prop} {raw : List (Nat × Nat)}
    (h : RawForest n S raw) {u v r : Nat} (hu : S u) (hv : S v) (huv : u ≠ v)
    (hun : u < n) (hvn : v < n) (hr : r = u ∨ r = v) (hS : ∀ x, S' x → S x ∧ x ≠ r) :
    RawForest n S' (raw ++ [(u, v)]) where
  eff := (allEff_append_singleton ..).mpr ⟨h.eff, h.comp u hu v hv huv⟩
  inRange := by
    intro e he
    rcases List.mem_append.mp he with he | he
    · exact h.inRange e he
    · cases List.mem_singleton.mp he; exact ⟨hun, hvn⟩
  comp := by
    intro x hx y hy hxy
    rw [compAfter_append]
    exact joinComp_injOn_remove _ S h.comp hu hv hr x (hS x hx).1 (hS x hx).2 y (hS y hy).1
      (hS y hy).2 hxy

end Kodama.Spec
