/-
Naturality in relational form (`RelR`, `Lemmas/Simulation.lean`), needed for `generic` under a
homomorphism that does NOT fix `T::max_value()`.  The heap priorities (and the running minima of
`generic`) are then related *pointwise* by `VR h x y := y = h x ∨ (x = MAX ∧ y = MAX)` instead of
being an `Array.map` image; everything else stays functional.  `SentinelSafe h` says that
comparisons of data with the sentinel come out the same on both sides — all that is needed of `h`
at the sentinel.
-/
import Kodama.Lemmas.Naturality
import Kodama.Lemmas.Tail
namespace Kodama
variable {α β : Type} [Num α] [Num β]

/-- The frame of the `_with` entry points preserves any relation that holds of the early return
on an empty matrix and that the bodies preserve; the prior dendrograms are reset and play no part. -/
theorem withFrame_rel {σ : State α × Dendrogram α × Mat α → State β × Dendrogram β × Mat β → Prop}
    (h₂ : α → β) {body : State α → Dendrogram α → Mat α → R (State α × Dendrogram α × Mat α)}
    {body' : State β → Dendrogram β → Mat β → R (State β × Dendrogram β × Mat β)} (chk : Bool)
    (st : State α) (st' : State β) (d : Dendrogram α) (d' : Dendrogram β) (data : Array α) (n : Nat)
    (h0 : ∀ M : Mat α, σ (st, Dendrogram.new M.n, M) (st', Dendrogram.new M.n, mapMat h₂ M))
    (hb : ∀ M : Mat α, RelR σ (body (st.reset M.n) (Dendrogram.new M.n) M)
      (body' (st'.reset M.n) (Dendrogram.new M.n) (mapMat h₂ M))) :
    RelR σ (withFrame chk st d data n body) (withFrame chk st' d' (data.map h₂) n body') := by
  unfold withFrame
  refine RelR.bind_eq (mapMat h₂) (Mat.new_nat ..) (fun M => ?_)
  simp only [mapMat_n, dendrogramReset_eq]
  split
  · exact RelR.pure (h0 M)
  · exact hb M

/-- What is needed of `h` at `T::max_value()` when it does NOT fix it: comparisons of data with
the sentinel come out the same on both sides. -/
structure SentinelSafe (h : α → β) : Prop where
  lt_r : ∀ x, Num.lt (h x) (Num.maxValue : β) = Num.lt x (Num.maxValue : α)
  lt_l : ∀ x, Num.lt (Num.maxValue : β) (h x) = Num.lt (Num.maxValue : α) x
  beq_r : ∀ x, Num.beq (h x) (Num.maxValue : β) = Num.beq x (Num.maxValue : α)
  lt_mm : Num.lt (Num.maxValue : β) (Num.maxValue : β) = Num.lt (Num.maxValue : α) (Num.maxValue : α)

theorem SentinelSafe.of_fix {h : α → β} (H : OrdHom h) (hmax : h Num.maxValue = Num.maxValue) :
    SentinelSafe h :=
  ⟨fun x => by rw [← hmax, H.lt], fun x => by rw [← hmax, H.lt], fun x => by rw [← hmax, H.beq],
   by rw [← hmax, H.lt]⟩

theorem SentinelSafe.comp {γ : Type} [Num γ] {f : α → β} {g : β → γ} (F : SentinelSafe f)
    (G : SentinelSafe g) : SentinelSafe (g ∘ f) :=
  ⟨fun x => by simp only [Function.comp, G.lt_r, F.lt_r],
   fun x => by simp only [Function.comp, G.lt_l, F.lt_l],
   fun x => by simp only [Function.comp, G.beq_r, F.beq_r],
   by rw [G.lt_mm, F.lt_mm]⟩

def VR (h : α → β) (x : α) (y : β) : Prop :=
  y = h x ∨ (x = Num.maxValue ∧ y = Num.maxValue)

theorem VR.of_map (h : α → β) (x : α) : VR h x (h x) := Or.inl rfl
theorem VR.max (h : α → β) : VR h (Num.maxValue : α) (Num.maxValue : β) := Or.inr ⟨rfl, rfl⟩

theorem VR.lt {h : α → β} (H : OrdHom h) (S : SentinelSafe h) {x x' : α} {y y' : β}
    (r : VR h x y) (r' : VR h x' y') : Num.lt y y' = Num.lt x x' := by
  rcases r with rfl | ⟨rfl, rfl⟩ <;> rcases r' with rfl | ⟨rfl, rfl⟩
  · exact H.lt ..
  · exact S.lt_r ..
  · exact S.lt_l ..
  · exact S.lt_mm

theorem VR.beq_cell {h : α → β} (H : OrdHom h) (S : SentinelSafe h) (v : α) {x : α} {y : β}
    (r : VR h x y) : Num.beq (h v) y = Num.beq v x := by
  rcases r with rfl | ⟨rfl, rfl⟩
  · exact H.beq ..
  · exact S.beq_r ..

def AR (h : α → β) (a : Array α) (b : Array β) : Prop :=
  b.size = a.size ∧ ∀ i (h1 : i < a.size) (h2 : i < b.size), VR h a[i] b[i]

theorem AR.of_map (h : α → β) (a : Array α) : AR h a (a.map h) :=
  ⟨by simp, fun i h1 h2 => by simp only [Array.getElem_map]; exact VR.of_map ..⟩

/-- When `h` fixes the sentinel, `VR h` is the graph of `h`, so related arrays are images. -/
theorem AR.eq_map {h : α → β} (hmax : h Num.maxValue = Num.maxValue) {a : Array α} {b : Array β}
    (r : AR h a b) : b = a.map h := by
  apply Array.ext (by simp [r.1])
  intro i h1 h2
  rw [Array.getElem_map]
  rcases r.2 i (by simpa using h2) h1 with e | ⟨e1, e2⟩
  · exact e
  · rw [e1, e2, hmax]

theorem aget_rel {h : α → β} {a : Array α} {b : Array β} (r : AR h a b) (i : Nat) :
    RelR (VR h) (aget a i) (aget b i) := by
  unfold aget
  by_cases hi : i < a.size
  · have hi' : i < b.size := by rw [r.1]; exact hi
    simp only [hi, hi', getElem?_pos]
    exact r.2 i hi hi'
  · have hi' : ¬ i < b.size := by rw [r.1]; exact hi
    simp only [hi, hi', getElem?_neg, not_false_eq_true]
    rfl

theorem aset_rel {h : α → β} {a : Array α} {b : Array β} (r : AR h a b) (i : Nat) {x : α} {y : β}
    (rv : VR h x y) : RelR (AR h) (aset a i x) (aset b i y) := by
  unfold aset
  by_cases hi : i < a.size
  · have hi' : i < b.size := by rw [r.1]; exact hi
    simp only [hi, hi', dite_true]
    refine ⟨by simp [r.1], fun j h1 h2 => ?_⟩
    simp only [Array.getElem_set]
    split
    · exact rv
    · exact r.2 j (by simpa using h1) (by simpa using h2)
  · have hi' : ¬ i < b.size := by rw [r.1]; exact hi
    simp only [hi, hi', dite_false]
    rfl

end Kodama
