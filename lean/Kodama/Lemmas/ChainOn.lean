/-
The outer loop of `nnchainWith` for update formulas that are reducible only ON A DOMAIN of values
(`ChainReducibleOn α ok m`) — the form in which reducibility is true of IEEE floats for WEIGHTED
linkage (`Lemmas/WeightedMono.lean`).

`ChainReducible α m` (`Lemmas/ChainIter.lean`) quantifies over ALL non-NaN values.  For the weighted
update `½·(a + b)` that is false of floats, but ONLY through overflow (`a = b = t = −max_value`:
`a + b = −∞`, `½·(−∞) < t`) and through `∞ + (−∞) = NaN`; on finite values of moderate magnitude it is
a consequence of the monotonicity of round-to-nearest.  The chain invariant only ever applies the
reducibility clauses to ENTRIES OF THE CURRENT MATRIX between live clusters (`d(a,b)`, `d(c,a)`,
`d(c,b)`, and a link `d(p,q)` of the chain), so it suffices that every input entry lies in a domain
`ok : α → Prop` (`OkData ok data`) and that on `ok` arguments the update is reducible, creates no NaN
and stays in the domain (`ChainReducibleOn α ok m`).  "Every distance between two live clusters is
`ok`" (`OkLive`) is then an additional invariant of the outer loop (`chainIter_ok_on`,
`chainLoop_ok_on`, `nnchainWith_eq_on`); C01 / C12 / C14 on a domain are read off `nnchainWith_eq_on`
(`C01_nnchain_on`, `C12_nnchain_ok_on`, `C14_nnchain_tight_on`), and the weighted files
(`Props/C01Weighted.lean`, `Props/C12Weighted.lean`, `Props/C14Weighted.lean`) instantiate them.
`ChainReducible α m` is the special case `ok := fun _ => True` (`ChainReducible.on`,
`chainReducible_of_on_univ`).
-/
import Kodama.Lemmas.ChainRun
namespace Kodama
open Spec
variable {α : Type} [Num α]

/-- `ChainReducible` restricted to a domain `ok` of values: whenever `d(a,b) ≤ t ≤ d(a,x), d(b,x)`, all
four values in the domain (and not NaN, sizes positive), the new distance `d(a∪b, x)` is `≥ t` (`ge`),
is not NaN (`nan`) and lies in the domain again (`closed`). -/
structure ChainReducibleOn (α : Type) [Num α] (ok : α → Prop) (m : MethodChain) : Prop where
  ge : ∀ (sizes : Array Nat) (sa sb : Nat) (dab : α) (x : Nat) (va vb v t : α),
    0 < sa → 0 < sb → ok dab → ok va → ok vb → ok t →
    Num.isNaN dab = false → Num.isNaN va = false → Num.isNaN vb = false →
    Num.isNaN t = false → Num.lt t dab = false → Num.lt va t = false → Num.lt vb t = false →
    chainUpdFn m sizes sa sb dab x va vb = .ok v → Num.lt v t = false
  nan : ∀ (sizes : Array Nat) (sa sb : Nat) (dab : α) (x : Nat) (va vb v : α),
    0 < sa → 0 < sb → ok dab → ok va → ok vb →
    Num.isNaN dab = false → Num.isNaN va = false → Num.isNaN vb = false →
    Num.lt va dab = false → Num.lt vb dab = false →
    chainUpdFn m sizes sa sb dab x va vb = .ok v → Num.isNaN v = false
  closed : ∀ (sizes : Array Nat) (sa sb : Nat) (dab : α) (x : Nat) (va vb v : α),
    0 < sa → 0 < sb → ok dab → ok va → ok vb →
    Num.isNaN dab = false → Num.isNaN va = false → Num.isNaN vb = false →
    Num.lt va dab = false → Num.lt vb dab = false →
    chainUpdFn m sizes sa sb dab x va vb = .ok v → ok v

theorem ChainReducible.on {m : MethodChain} (h : ChainReducible α m) :
    ChainReducibleOn α (fun _ => True) m where
  ge := fun sizes sa sb dab x va vb v t hsa hsb _ _ _ _ => h.ge sizes sa sb dab x va vb v t hsa hsb
  nan := fun sizes sa sb dab x va vb v hsa hsb _ _ _ => h.nan sizes sa sb dab x va vb v hsa hsb
  closed := fun _ _ _ _ _ _ _ _ _ _ _ _ _ _ _ _ _ _ _ => trivial

theorem chainReducible_of_on_univ {m : MethodChain} (h : ChainReducibleOn α (fun _ => True) m) :
    ChainReducible α m where
  ge := fun sizes sa sb dab x va vb v t hsa hsb =>
    h.ge sizes sa sb dab x va vb v t hsa hsb trivial trivial trivial trivial
  nan := fun sizes sa sb dab x va vb v hsa hsb =>
    h.nan sizes sa sb dab x va vb v hsa hsb trivial trivial trivial

/-- One outer iteration of `nnchainWith` for a method that is reducible on the domain `ok`: total,
merges two distinct live clusters `a < b`, and re-establishes the invariant — `ChainInv` together with
"every distance between live clusters is `ok`" — with `live' = live` minus the smaller index.  The
reducibility clauses are applied to matrix entries between live clusters only, which are `ok` by the
additional invariant. -/
theorem chainIter_ok_on (L : OrderLaws α) (chk : Bool) (m : MethodChain) (ok : α → Prop)
    (hred : ChainReducibleOn α ok m)
    (n k : Nat) (live : List Nat) (st : State α) (dend : Dendrogram α) (M : Mat α)
    (hk : k + 1 < n) (inv : ChainInv n k live st dend M) (hok : OkLive ok M live) :
    ∃ st' dend' M' a b, chainIter chk m ⟨st, dend, M⟩ = .ok ⟨st', dend', M'⟩ ∧
      ChainInv n (k + 1) (live.filter (· ≠ a)) st' dend' M' ∧
      ChainStepFacts m n live st dend M st' dend' M' a b ∧
      OkLive ok M' (live.filter (· ≠ a)) := by
  have hsp := inv.sizes_pos
  have hnn := inv.nonan
  have hlt := inv.prim.rep.mem_lt
  -- the arguments of the reducibility clauses at a reciprocal pair
  have args : ∀ a ∈ live, ∀ b ∈ live, a < b →
      (∀ c, (c = a ∨ c = b) → ∀ x ∈ live, x ≠ c → Num.lt (M.dval c x) (M.dval a b) = false) →
      ∀ x ∈ live, x ≠ a → x ≠ b → ∀ v,
      chainUpdFn m st.sizes (st.sizes.getD a 0) (st.sizes.getD b 0) (M.dval a b) x
        (M.dval x a) (M.dval x b) = .ok v → Num.isNaN v = false ∧ ok v := by
    intro a ha b hb hab hnnab x hx hxa hxb v hv
    have h1 : Num.lt (M.dval x a) (M.dval a b) = false := by
      rw [Mat.dval_comm]; exact hnnab a (Or.inl rfl) x hx hxa
    have h2 : Num.lt (M.dval x b) (M.dval a b) = false := by
      rw [Mat.dval_comm]; exact hnnab b (Or.inr rfl) x hx hxb
    have hab' := Nat.ne_of_lt hab
    exact ⟨hred.nan _ _ _ _ _ _ _ _ (hsp a ha) (hsp b hb) (hok a ha b hb hab') (hok x hx a ha hxa)
        (hok x hx b hb hxb) (hnn a ha b hb hab') (hnn x hx a ha hxa) (hnn x hx b hb hxb) h1 h2 hv,
      hred.closed _ _ _ _ _ _ _ _ (hsp a ha) (hsp b hb) (hok a ha b hb hab') (hok x hx a ha hxa)
        (hok x hx b hb hxb) (hnn a ha b hb hab') (hnn x hx a ha hxa) (hnn x hx b hb hxb) h1 h2 hv⟩
  obtain ⟨st', dend', M', a, b, e, cinv, F⟩ := chainIter_step L chk m hred.ge n k live st dend M hk inv
    (fun a ha b hb hab h x hx hxa hxb v hv => (args a ha b hb hab h x hx hxa hxb v hv).1) hok
  refine ⟨st', dend', M', a, b, e, cinv, F, ?_⟩
  exact livePairs_merge (P := ok) hlt hok
    (fun x hx hxa hxb => (args a F.ma b F.mb F.lt F.nn x hx hxa hxb _ (F.upd x hx hxa hxb)).2) F.frame

/-- `chainIter_ok_on` for unrestricted reducibility (`ok := fun _ => True`). -/
theorem chainIter_ok_ext (L : OrderLaws α) (chk : Bool) (m : MethodChain) (hred : ChainReducible α m)
    (n k : Nat) (live : List Nat) (st : State α) (dend : Dendrogram α) (M : Mat α)
    (hk : k + 1 < n) (inv : ChainInv n k live st dend M) :
    ∃ st' dend' M' a b, chainIter chk m ⟨st, dend, M⟩ = .ok ⟨st', dend', M'⟩ ∧
      ChainInv n (k + 1) (live.filter (· ≠ a)) st' dend' M' ∧
      ChainStepFacts m n live st dend M st' dend' M' a b := by
  obtain ⟨st', dend', M', a, b, e, cinv, F, -⟩ :=
    chainIter_ok_on L chk m _ hred.on n k live st dend M hk inv (fun _ _ _ _ _ => trivial)
  exact ⟨st', dend', M', a, b, e, cinv, F⟩

theorem chainLoop_ok_on (L : OrderLaws α) (chk : Bool) (m : MethodChain) (ok : α → Prop)
    (hred : ChainReducibleOn α ok m)
    (data : Array α) (n : Nat) (h2 : 2 ≤ n) (hs : n < 2147483648)
    (hl : 2 * data.size = n * (n - 1)) (hnan : NoNaNData data) (hd : OkData ok data) :
    ∃ s1 : ChainSt α,
      iterM (chainIter chk m) (n - 1)
        ⟨{ (State.fresh n : State α) with chain := #[] }, Dendrogram.new n,
          { data := data, n := n, acc := 0 }⟩ = .ok s1 ∧
      ChainLoopResult n s1.dend s1.M := by
  obtain ⟨s1, e, -, hres⟩ := chainLoop_of_step chk m n h2
    (fun j s => ∃ live, ChainInv n j live s.st s.dend s.M ∧ OkLive ok s.M live)
    (fun j s ⟨live, hinv, _⟩ => ⟨live, hinv⟩)
    (fun j s hj ⟨live, hinv, hok⟩ => by
      obtain ⟨st', dend', M', a, b, e, hinv', -, hok'⟩ :=
        chainIter_ok_on L chk m ok hred n j live s.st s.dend s.M hj hinv hok
      exact ⟨⟨st', dend', M'⟩, e, _, hinv', hok'⟩)
    ⟨{ (State.fresh n : State α) with chain := #[] }, Dendrogram.new n,
      { data := data, n := n, acc := 0 }⟩
    ⟨List.range n, chainInv_init data n h2 hs hl hnan, okLive_init ok data n hl hd⟩
  exact ⟨s1, e, hres⟩

/-- `nnchainWith` on a valid matrix is the (total) loop followed by `relabel` and `sqrt`, under
reducibility ON THE DOMAIN `ok` of the (squared) input. -/
theorem nnchainWith_eq_on (L : OrderLaws α) (chk : Bool) (m : MethodChain) (ok : α → Prop)
    (hred : ChainReducibleOn α ok m)
    (st : State α) (d : Dendrogram α) (data : Array α) (n : Nat) (h2 : 2 ≤ n)
    (hs : n < 2147483648) (hl : 2 * data.size = n * (n - 1))
    (hnan : NoNaNData (squareData m.intoMethod data))
    (hd : OkData ok (squareData m.intoMethod data)) :
    LoopTail m.intoMethod (fun _ dend M => ChainLoopResult n dend M)
      (nnchainWith chk m st d data n) := by
  obtain ⟨s1, hloop, hres⟩ := chainLoop_ok_on L chk m ok hred (squareData m.intoMethod data) n h2 hs
    (by rw [squareData_size]; exact hl) hnan hd
  exact ⟨s1.st, s1.dend, s1.M, hres, nnchainWith_of_loop chk m st d data n h2 hs hl hloop⟩

end Kodama
