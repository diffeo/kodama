/-
Forest lemma: "every edge joins two different components of the edges before it" does not depend
on the order in which the edges are listed, nor on the orientation of the edges.

Done directly on component maps `c : Nat → Nat`: `AllEff` only depends on the
kernel of `c`, and the kernel of `joinComp c u v` is the kernel of `c` joined with the edge `(u,v)`
(`joinComp_eq_iff`, the map version of DESIGN Appendix A.2 `sup_edge_rel`).
-/
import Kodama.Spec.RawTree
namespace Kodama.Spec

theorem joinComp_eq_iff (c : Nat → Nat) (u v a b : Nat) :
    joinComp c u v a = joinComp c u v b ↔
      c a = c b ∨ (c a = c u ∧ c v = c b) ∨ (c a = c v ∧ c u = c b) := by
  unfold joinComp
  generalize c a = A, c b = B, c u = U, c v = V
  split <;> split <;> omega

/-- Symmetric form: two labels end up together iff they were together or each lay in one of the
two joined components. -/
theorem joinComp_eq_iff' (c : Nat → Nat) (u v a b : Nat) :
    joinComp c u v a = joinComp c u v b ↔
      c a = c b ∨ ((c a = c u ∨ c a = c v) ∧ (c b = c u ∨ c b = c v)) := by
  rw [joinComp_eq_iff]
  constructor
  · rintro (h | ⟨h1, h2⟩ | ⟨h1, h2⟩)
    · exact Or.inl h
    · exact Or.inr ⟨Or.inl h1, Or.inr h2.symm⟩
    · exact Or.inr ⟨Or.inr h1, Or.inl h2.symm⟩
  · rintro (h | ⟨h1 | h1, h2 | h2⟩)
    · exact Or.inl h
    · exact Or.inl (h1.trans h2.symm)
    · exact Or.inr (Or.inl ⟨h1, h2.symm⟩)
    · exact Or.inr (Or.inr ⟨h1, h2.symm⟩)
    · exact Or.inl (h1.trans h2.symm)

theorem ker_le_joinComp (c : Nat → Nat) (u v : Nat) {a b : Nat} (h : c a = c b) :
    joinComp c u v a = joinComp c u v b :=
  (joinComp_eq_iff c u v a b).mpr (Or.inl h)

theorem joinComp_edge (c : Nat → Nat) (u v : Nat) : joinComp c u v u = joinComp c u v v :=
  (joinComp_eq_iff c u v u v).mpr (Or.inr (Or.inl ⟨rfl, rfl⟩))

/-- `joinComp c u v` has the least kernel containing that of `c` and the pair `(u, v)`. -/
theorem joinComp_least {c d : Nat → Nat} {u v : Nat} (hcd : ∀ a b, c a = c b → d a = d b)
    (huv : d u = d v) : ∀ a b, joinComp c u v a = joinComp c u v b → d a = d b := by
  intro a b h
  rcases (joinComp_eq_iff c u v a b).mp h with h | ⟨h1, h2⟩ | ⟨h1, h2⟩
  · exact hcd a b h
  · exact (hcd a u h1).trans (huv.trans (hcd v b h2))
  · exact (hcd a v h1).trans (huv.symm.trans (hcd u b h2))

def KerEq (c c' : Nat → Nat) : Prop := ∀ a b, c a = c b ↔ c' a = c' b

theorem KerEq.refl (c : Nat → Nat) : KerEq c c := fun _ _ => Iff.rfl

theorem KerEq.symm {c c' : Nat → Nat} (h : KerEq c c') : KerEq c' c := fun a b => (h a b).symm

theorem KerEq.trans {c c' c'' : Nat → Nat} (h : KerEq c c') (h' : KerEq c' c'') : KerEq c c'' :=
  fun a b => (h a b).trans (h' a b)

theorem KerEq.joinComp {c c' : Nat → Nat} (h : KerEq c c') (u v : Nat) :
    KerEq (joinComp c u v) (joinComp c' u v) := by
  intro a b
  rw [joinComp_eq_iff, joinComp_eq_iff, h a b, h a u, h v b, h a v, h u b]

theorem allEff_congr {c c' : Nat → Nat} (h : KerEq c c') (es : List (Nat × Nat)) :
    AllEff c es ↔ AllEff c' es := by
  induction es generalizing c c' with
  | nil => simp [AllEff]
  | cons e es ih =>
    obtain ⟨u, v⟩ := e
    simp only [AllEff]
    exact and_congr (not_congr (h u v)) (ih (h.joinComp u v))

theorem joinComp_comm (c : Nat → Nat) (u v x y : Nat) :
    KerEq (joinComp (joinComp c u v) x y) (joinComp (joinComp c x y) u v) := by
  have key : ∀ (u v x y a b : Nat), joinComp (joinComp c u v) x y a = joinComp (joinComp c u v) x y b →
      joinComp (joinComp c x y) u v a = joinComp (joinComp c x y) u v b := by
    intro u v x y
    apply joinComp_least
    · apply joinComp_least
      · intro a b h
        exact ker_le_joinComp _ _ _ (ker_le_joinComp c x y h)
      · exact joinComp_edge _ u v
    · exact ker_le_joinComp _ _ _ (joinComp_edge c x y)
  intro a b
  exact ⟨key u v x y a b, key x y u v a b⟩

theorem joinComp_flip (c : Nat → Nat) (u v : Nat) :
    KerEq (joinComp c u v) (joinComp c v u) := by
  intro a b
  rw [joinComp_eq_iff, joinComp_eq_iff]
  exact or_congr_right Or.comm

theorem allEff_swap (c : Nat → Nat) (u v x y : Nat) (es : List (Nat × Nat)) :
    AllEff c ((u, v) :: (x, y) :: es) → AllEff c ((x, y) :: (u, v) :: es) := by
  simp only [AllEff]
  rintro ⟨huv, hxy, hrest⟩
  refine ⟨?_, ?_, (allEff_congr (joinComp_comm c u v x y) es).mp hrest⟩
  · exact fun h => hxy (ker_le_joinComp c u v h)
  · intro h
    apply hxy
    rw [joinComp_eq_iff] at h ⊢
    rcases h with h | ⟨h1, h2⟩ | ⟨h1, h2⟩
    · exact absurd h huv
    · exact Or.inr (Or.inl ⟨h1.symm, h2.symm⟩)
    · exact Or.inr (Or.inr ⟨h2, h1⟩)

theorem allEff_perm {es es' : List (Nat × Nat)} (p : es.Perm es') :
    ∀ c, AllEff c es → AllEff c es' := by
  induction p with
  | nil => intro c h; exact h
  | cons e _ ih => intro c h; obtain ⟨u, v⟩ := e; exact ⟨h.1, ih _ h.2⟩
  | swap e1 e2 l =>
    intro c h; obtain ⟨u, v⟩ := e1; obtain ⟨x, y⟩ := e2; exact allEff_swap c x y u v l h
  | trans _ _ ih1 ih2 => intro c h; exact ih2 c (ih1 c h)

theorem allEff_perm_iff {es es' : List (Nat × Nat)} (p : es.Perm es') (c : Nat → Nat) :
    AllEff c es ↔ AllEff c es' :=
  ⟨allEff_perm p c, allEff_perm p.symm c⟩

theorem allEff_flip_head (c : Nat → Nat) (u v : Nat) (es : List (Nat × Nat)) :
    AllEff c ((u, v) :: es) ↔ AllEff c ((v, u) :: es) := by
  simp only [AllEff]
  rw [allEff_congr (joinComp_flip c u v) es]
  constructor <;> rintro ⟨h1, h2⟩ <;> exact ⟨fun h => h1 h.symm, h2⟩

/-- Re-orienting any of the edges (e.g. `Step.new`'s smaller-label-first) preserves `AllEff`. -/
theorem allEff_map_orient (f : Nat × Nat → Nat × Nat)
    (hf : ∀ e, f e = e ∨ f e = (e.2, e.1)) (es : List (Nat × Nat)) :
    ∀ c, AllEff c es → AllEff c (es.map f) := by
  induction es with
  | nil => intro c h; exact h
  | cons e es ih =>
    intro c h
    obtain ⟨u, v⟩ := e
    rw [List.map_cons]
    rcases hf (u, v) with h1 | h1 <;> rw [h1]
    · exact ⟨h.1, ih _ h.2⟩
    · have h' := (allEff_flip_head c u v es).mp h
      exact ⟨h'.1, ih _ h'.2⟩

theorem RawTree.perm {n : Nat} {raw raw' : List (Nat × Nat)} (p : raw.Perm raw')
    (h : RawTree n raw) : RawTree n raw' where
  len := by rw [← p.length_eq]; exact h.len
  inRange := fun e he => h.inRange e (p.symm.subset he)
  eff := allEff_perm p _ h.eff

theorem RawTree.map_orient {n : Nat} {raw : List (Nat × Nat)} (f : Nat × Nat → Nat × Nat)
    (hf : ∀ e, f e = e ∨ f e = (e.2, e.1)) (h : RawTree n raw) : RawTree n (raw.map f) where
  len := by rw [List.length_map]; exact h.len
  inRange := by
    intro e he
    obtain ⟨e0, he0, rfl⟩ := List.mem_map.mp he
    have := h.inRange e0 he0
    rcases hf e0 with h1 | h1 <;> rw [h1] <;> simp [this]
  eff := allEff_map_orient f hf raw _ h.eff

end Kodama.Spec
