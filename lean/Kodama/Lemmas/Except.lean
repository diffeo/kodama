/- Reasoning about `Except Panic` do-blocks: when a bind, an array access or a guard returns `.ok`
(equivalences: `bind_ok`, `pure_ok`, `map_ok`, `aget_ok`, `aset_ok`, `guard_ok`), and what an
operation returns when its guard holds (forward rules, for `rw`; `uadd_ok`, `umul_ok`, `udiv_ok`
are of this second kind despite the suffix). `foldlM_inv`: an invariant kept by every successful
step is kept by a successful `foldlM`. -/
import Kodama.Basic
namespace Kodama

theorem bind_ok {α β : Type} {e : R α} {f : α → R β} {r : β} :
    (e >>= f) = .ok r ↔ ∃ x, e = .ok x ∧ f x = .ok r := by
  cases e with
  | error p => simp [bind, Except.bind]
  | ok x => simp [bind, Except.bind]

theorem bind_error {α β : Type} {e : R α} {f : α → R β} {p : Panic} (h : e = .error p) :
    (e >>= f) = .error p := by
  subst h; rfl

theorem pure_ok {α : Type} {x r : α} : (pure x : R α) = .ok r ↔ x = r := by
  simp [pure, Except.pure]

theorem map_ok {α β : Type} {e : R α} {f : α → β} {r : β} :
    (f <$> e) = .ok r ↔ ∃ x, e = .ok x ∧ f x = r := by
  cases e with
  | error p => simp [Functor.map, Except.map]
  | ok x => simp [Functor.map, Except.map]

theorem aget_ok {α : Type} {a : Array α} {i : Nat} {v : α} :
    aget a i = .ok v ↔ ∃ h : i < a.size, a[i] = v := by
  unfold aget
  by_cases h : i < a.size
  · simp [h]
  · simp [h]

theorem aset_ok {α : Type} {a b : Array α} {i : Nat} {v : α} :
    aset a i v = .ok b ↔ ∃ h : i < a.size, b = a.set i v h := by
  unfold aset
  by_cases h : i < a.size
  · simp [h, eq_comm]
  · simp [h]

theorem guard_ok {b : Bool} {p : Panic} : guard' b p = .ok () ↔ b = true := by
  unfold guard'; cases b <;> simp

theorem foldlM_inv {σ β : Type} (P : σ → Prop) (f : σ → β → R σ) (l : List β)
    (hstep : ∀ s x s', x ∈ l → P s → f s x = .ok s' → P s') :
    ∀ s s', P s → l.foldlM f s = .ok s' → P s' := by
  induction l with
  | nil => intro s s' hs h; exact pure_ok.mp h ▸ hs
  | cons x xs ih =>
    intro s s' hs h
    obtain ⟨s1, h1, h2⟩ := bind_ok.mp h
    exact ih (fun s x s' hx => hstep s x s' (List.mem_cons_of_mem _ hx)) s1 s'
      (hstep s x s1 List.mem_cons_self hs h1) h2

/-! ### forward rules: the value of an operation whose guard holds -/

theorem ok_bind {α β : Type} (x : α) (f : α → R β) : (Except.ok x >>= f) = f x := rfl

theorem aget_of_getElem? {α : Type} {a : Array α} {i : Nat} {v : α} (h : a[i]? = some v) :
    aget a i = .ok v := by
  simp only [aget, h]

theorem aget_of_lt {α : Type} {a : Array α} {i : Nat} (h : i < a.size) : aget a i = .ok a[i] :=
  aget_of_getElem? (Array.getElem?_eq_getElem h)

theorem aset_of_lt {α : Type} {a : Array α} {i : Nat} (h : i < a.size) (v : α) :
    aset a i v = .ok (a.set i v h) := by
  simp only [aset, h, dite_true]

theorem aset_spec {α : Type} (a : Array α) {i : Nat} (v : α) (h : i < a.size) :
    ∃ b, aset a i v = .ok b ∧ b.size = a.size ∧
      ∀ j, b[j]? = if j = i then some v else a[j]? := by
  refine ⟨a.set i v h, aset_of_lt h v, Array.size_set .., fun j => ?_⟩
  rw [Array.getElem?_set]
  by_cases hj : j = i
  · subst hj; simp
  · have : ¬ i = j := fun e => hj e.symm
    simp [hj, this]

theorem usub_of_le (chk : Bool) {a b : Nat} (h : b ≤ a) : usub chk a b = .ok (a - b) := by
  simp only [usub, h, if_true]

theorem uadd_ok (chk : Bool) {a b : Nat} (h : a + b < usizeMod) : uadd chk a b = .ok (a + b) := by
  simp only [uadd, h, if_true]

theorem umul_ok (chk : Bool) {a b : Nat} (h : a * b < usizeMod) : umul chk a b = .ok (a * b) := by
  simp only [umul, h, if_true]

theorem umul_false (a b : Nat) : umul false a b = .ok (a * b % usizeMod) := by
  unfold umul
  split
  · rw [Nat.mod_eq_of_lt ‹_›]
  · rfl

theorem umul_overflow {a b : Nat} (h : ¬ a * b < usizeMod) : umul true a b = .error .arith := by
  unfold umul
  rw [if_neg h]
  rfl

theorem ite_some_cases {α : Type} {c : Prop} [Decidable c] {a b : α} {r : Option α}
    (h : (if c then some a else r) = some b) : (c ∧ a = b) ∨ r = some b := by
  by_cases hc : c
  · rw [if_pos hc] at h; exact Or.inl ⟨hc, Option.some.inj h⟩
  · rw [if_neg hc] at h; exact Or.inr h

theorem udiv_ok (chk : Bool) (a : Nat) {b : Nat} (h : b ≠ 0) : udiv chk a b = .ok (a / b) := by
  simp only [udiv, h, if_false]

theorem of_exists_ok {σ δ μ : Type} {f : R (σ × δ × μ)} {P : δ → Prop}
    (h : ∃ s d m, f = .ok (s, d, m) ∧ P d) {s : σ} {d : δ} {m : μ}
    (hret : f = .ok (s, d, m)) : P d := by
  obtain ⟨s', d', m', hrun', hp⟩ := h
  rw [hret] at hrun'
  simp only [Except.ok.injEq, Prod.mk.injEq] at hrun'
  obtain ⟨-, rfl, -⟩ := hrun'
  exact hp

/-- "The call returns some result with property `P`" is monotone in `P`: a property of an entry
point from a theorem about that entry point and a fact about what it returns alone. -/
theorem exists_ok_imp {σ δ μ : Type} {f : R (σ × δ × μ)} {P Q : δ → Prop}
    (h : ∃ s d m, f = .ok (s, d, m) ∧ P d) (hPQ : ∀ d, P d → Q d) :
    ∃ s d m, f = .ok (s, d, m) ∧ Q d := by
  obtain ⟨s, d, m, hr, hp⟩ := h
  exact ⟨s, d, m, hr, hPQ d hp⟩

/-- The same of two calls: what holds of both results, from what is known of each. -/
theorem exists_ok_pair {σ δ μ σ' μ' : Type} {f₁ : R (σ × δ × μ)} {f₂ : R (σ' × δ × μ')}
    {P₁ P₂ : δ → Prop} {Q : δ → δ → Prop} (h₁ : ∃ s d m, f₁ = .ok (s, d, m) ∧ P₁ d)
    (h₂ : ∃ s d m, f₂ = .ok (s, d, m) ∧ P₂ d) (hQ : ∀ d₁ d₂, P₁ d₁ → P₂ d₂ → Q d₁ d₂) :
    ∃ s₁ d₁ m₁ s₂ d₂ m₂, f₁ = .ok (s₁, d₁, m₁) ∧ f₂ = .ok (s₂, d₂, m₂) ∧ Q d₁ d₂ := by
  obtain ⟨s₁, d₁, m₁, hr₁, hp₁⟩ := h₁
  obtain ⟨s₂, d₂, m₂, hr₂, hp₂⟩ := h₂
  exact ⟨s₁, d₁, m₁, s₂, d₂, m₂, hr₁, hr₂, hQ d₁ d₂ hp₁ hp₂⟩

end Kodama
