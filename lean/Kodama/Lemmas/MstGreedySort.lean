/-
Stability of `List.mergeSort` with laws that only hold on the members of the list, in index form:
if `a` stands before `b` in a duplicate-free `l` and `le a b`, then `a` stands before `b` in
`l.mergeSort le` (`mergeSort_stable_index`).
-/
import Kodama.Lemmas.Sort
import Kodama.Lemmas.SortedList
namespace Kodama

theorem pair_sublist_of_getElem? {β : Type} {a b : β} {l : List β} {i j : Nat} (hij : i < j)
    (hi : l[i]? = some a) (hj : l[j]? = some b) : [a, b].Sublist l := by
  obtain ⟨hi1, rfl⟩ := List.getElem?_eq_some_iff.mp hi
  obtain ⟨hj1, rfl⟩ := List.getElem?_eq_some_iff.mp hj
  exact List.map_getElem_sublist (is := [⟨i, hi1⟩, ⟨j, hj1⟩]) (List.pairwise_pair.mpr hij)

/-- In a duplicate-free list the members stand in the order of their indices. -/
theorem index_lt_of_pair_sublist {β : Type} {a b : β} {l : List β} (hnd : l.Nodup)
    (hsub : [a, b].Sublist l) {j i : Nat} (hj : l[j]? = some a) (hi : l[i]? = some b) : j < i := by
  have hp : l.Pairwise (fun x y => ∀ j i : Nat, l[j]? = some x → l[i]? = some y → j < i) := by
    rw [List.pairwise_iff_getElem]
    intro p q hp hq hpq j i hj hi
    have ej := nodup_getElem?_inj hnd hj (List.getElem?_eq_getElem hp)
    have ei := nodup_getElem?_inj hnd hi (List.getElem?_eq_getElem hq)
    omega
  exact List.pairwise_pair.mp (hp.sublist hsub) j i hj hi

/-- `List.pair_sublist_mergeSort` with transitivity and totality on the members only. -/
theorem pair_sublist_mergeSort_of_mem {β : Type} (le : β → β → Bool) (l : List β)
    (trans : ∀ a ∈ l, ∀ b ∈ l, ∀ c ∈ l, le a b = true → le b c = true → le a c = true)
    (total : ∀ a ∈ l, ∀ b ∈ l, (le a b || le b a) = true) {a b : β} (hab : le a b = true)
    (h : [a, b].Sublist l) : [a, b].Sublist (l.mergeSort le) := by
  let le' : {x // x ∈ l} → {x // x ∈ l} → Bool := fun a b => le a.1 b.1
  have hmap := map_attach_mergeSort le l
  have h' : [a, b].Sublist (l.attach.map Subtype.val) := by simpa using h
  obtain ⟨c, hc, hce⟩ := List.sublist_map_iff.mp h'
  match c, hc, hce with
  | [a', b'], hc, hce =>
    simp only [List.map_cons, List.map_nil, List.cons.injEq, and_true] at hce
    obtain ⟨rfl, rfl⟩ := hce
    have := List.pair_sublist_mergeSort (le := le')
      (fun a b c => trans a.1 a.2 b.1 b.2 c.1 c.2)
      (fun a b => total a.1 a.2 b.1 b.2) (a := a') (b := b') hab hc
    rw [← hmap]
    exact this.map Subtype.val
  | [], _, hce => simp at hce
  | [_], _, hce => simp at hce
  | _ :: _ :: _ :: _, _, hce => simp at hce

theorem mergeSort_stable_index {β : Type} (le : β → β → Bool) (l : List β) (hnd : l.Nodup)
    (trans : ∀ a ∈ l, ∀ b ∈ l, ∀ c ∈ l, le a b = true → le b c = true → le a c = true)
    (total : ∀ a ∈ l, ∀ b ∈ l, (le a b || le b a) = true) {a b : β} {t' t : Nat} (ht : t' < t)
    (ha : l[t']? = some a) (hb : l[t]? = some b) (hab : le a b = true) {j i : Nat}
    (hj : (l.mergeSort le)[j]? = some a) (hi : (l.mergeSort le)[i]? = some b) : j < i :=
  index_lt_of_pair_sublist ((List.mergeSort_perm l le).nodup_iff.mpr hnd)
    (pair_sublist_mergeSort_of_mem le l trans total hab (pair_sublist_of_getElem? ht ha hb)) hj hi

end Kodama
