/-
Runs of merges in the index-based setting of `Lemmas/RnnState.lean`, for a relation `R` between merge trees
and values that need NOT be functional, and the combinatorial core of the nearest-neighbour-chain
correctness theorem (Müllner 2011, Thm 3) for them.  The exact theorem (functional `R`, `Rnn.RnnFrom`) is the
special case obtained through `Lemmas/RnnMono.lean`; the rounded one uses these runs directly
(`Lemmas/RoundCore.lean`, `RoundGreedy.lean`).

Notions, each in a positional form (about `L[i]` in the state reached by `L.take i`; what loop invariants
extend by one step) and a recursive form (what the exchange argument inducts on), related by `allFrom_iff`:
`StepH`/`RunH`/`RunFrom` — a step merges two live clusters at an `R`-value of their trees and is AT LEAST AS
HIGH AS EVERY EARLIER STEP INSIDE THE TWO (`mono`); `NnAt`/`NnRun`/`NnFrom` — the two merged clusters are
reciprocal nearest neighbours up to `R` (against every other live cluster there is SOME `R`-value not below
the step); `GMinAt`/`GMinRun`/`GMinFrom` — the step is a global minimum up to `R`.

Two ADJACENT steps whose heights are strictly out of order (`h₂ < h₁`) touch disjoint index pairs (were one
of the second's clusters the one the first created, `mono` would give `h₂ ≥ h₁`: `StepH.indep`), so they can
be exchanged, and both stay reciprocal nearest neighbours — the higher one, which comes second after the
exchange, by reducibility in existential form (`RedE`) against the pair merged before it (`run_swap`).  Hence
the STABLE sort by height (insertion sort, `Lemmas/Sort.lean`) of such a run is such a run (`run_isort`).  A
SORTED run with `NnFrom` that merges everything is a global minimum at every step (`gmin_of_sorted`): a live
pair untouched by the current step is still live, unchanged, at the next one, which is a global minimum of
what is left and at least as high.  `sorted_run` is the whole stage in one statement, for both tracks.

`ins`, `isort` are `insG`, `isortG` at `stepLe` (`isort_eq_isortG`).
-/
import Kodama.Lemmas.RnnState
import Kodama.Model.Relabel
import Kodama.Lemmas.Relabel
namespace Kodama.Rnn
open Kodama.Crit MTree Finset

variable {α : Type} [Num α]

def ins (x : Step α) : List (Step α) → List (Step α)
  | [] => [x]
  | y :: r => if stepLe x y then x :: y :: r else y :: ins x r

def isort : List (Step α) → List (Step α)
  | [] => []
  | x :: r => ins x (isort r)

theorem ins_eq_insG (x : Step α) (l : List (Step α)) : ins x l = insG stepLe x l := by
  induction l with
  | nil => rfl
  | cons y r ih => simp only [ins, insG, ih]

theorem isort_eq_isortG (l : List (Step α)) : isort l = isortG stepLe l := by
  induction l with
  | nil => rfl
  | cons x r ih => simp only [isort, isortG, ih, ins_eq_insG]

theorem isort_perm (l : List (Step α)) : (isort l).Perm l := by
  rw [isort_eq_isortG]
  exact isortG_perm stepLe l

structure StepH (R : MTree Nat → MTree Nat → α → Prop) (σ : IState) (pre : List (Step α))
    (s : Step α) : Prop where
  m1 : s.c1 ∈ σ.live
  m2 : s.c2 ∈ σ.live
  ne : s.c1 ≠ s.c2
  height : R (σ.tree s.c1) (σ.tree s.c2) s.d
  size : s.size = (σ.tree s.c1).leaves.card + (σ.tree s.c2).leaves.card
  mono : ∀ t ∈ pre, (t.c1 ∈ (σ.tree s.c1).leaves ∨ t.c1 ∈ (σ.tree s.c2).leaves) →
    Num.lt s.d t.d = false

def RunH (R : MTree Nat → MTree Nat → α → Prop) (n : Nat) (L : List (Step α)) : Prop :=
  ∀ (i : Nat) (s : Step α), L[i]? = some s →
    StepH R (IState.replay (IState.init n) (L.take i)) (L.take i) s

omit [Num α] in
theorem forall_take_snoc {β : Type} {P : List β → β → Prop} {L : List β} {s : β}
    (h : ∀ (i : Nat) (t : β), L[i]? = some t → P (L.take i) t) (hs : P L s) :
    ∀ (i : Nat) (t : β), (L ++ [s])[i]? = some t → P ((L ++ [s]).take i) t := by
  intro i t hi
  rcases getElem?_snoc_cases hi with ⟨c, hi⟩ | ⟨rfl, rfl⟩
  · rw [List.take_append_of_le_length (Nat.le_of_lt c)]
    exact h i t hi
  · rwa [List.take_left']
    rfl

theorem RunH.nil (R : MTree Nat → MTree Nat → α → Prop) (n : Nat) : RunH R n [] := by
  intro i s h; simp at h

theorem RunH.snoc {R : MTree Nat → MTree Nat → α → Prop} {n : Nat} {L : List (Step α)}
    {s : Step α} (h : RunH R n L) (hs : StepH R (IState.replay (IState.init n) L) L s) :
    RunH R n (L ++ [s]) :=
  forall_take_snoc (P := fun pre t => StepH R (IState.replay (IState.init n) pre) pre t) h hs

structure Clu (σ : IState) : Prop where
  nodup : σ.live.Nodup
  disj : ∀ x ∈ σ.live, ∀ y ∈ σ.live, x ≠ y → Disjoint (σ.tree x).leaves (σ.tree y).leaves
  self : ∀ x ∈ σ.live, x ∈ (σ.tree x).leaves

theorem Clu.init (n : Nat) : Clu (IState.init n) where
  nodup := List.nodup_range
  disj := by
    intro x _ y _ hxy
    simp only [IState.init, leaves_leaf, disjoint_singleton]; exact hxy
  self := by intro x _; simp [IState.init]

theorem Clu.merge {σ : IState} (h : Clu σ) {a b : Nat} (ha : a ∈ σ.live) (hb : b ∈ σ.live)
    (hab : a ≠ b) : Clu (σ.merge a b) := by
  have hdisjc : ∀ y ∈ σ.live, y ≠ a → y ≠ b →
      Disjoint (node (σ.tree a) (σ.tree b)).leaves (σ.tree y).leaves := fun y hy hya hyb => by
    rw [MTree.leaves_node, disjoint_union_left]
    exact ⟨h.disj a ha y hy (Ne.symm hya), h.disj b hb y hy (Ne.symm hyb)⟩
  refine ⟨h.nodup.filter _,
    IState.merge_pairwise (P := fun s t => Disjoint s.leaves t.leaves) (fun _ _ h => h.symm)
      h.disj hdisjc, ?_⟩
  intro x hx
  obtain ⟨hx1, hx2⟩ := (IState.mem_merge_live σ a b x).mp hx
  by_cases cx : x = b
  · subst cx
    rw [IState.merge_tree_self, MTree.leaves_node]
    exact mem_union_right _ (h.self x hb)
  · rw [IState.merge_tree_of_ne _ _ _ _ cx]
    exact h.self x hx1

theorem Clu.not_mem {σ : IState} (h : Clu σ) {x y : Nat} (hx : x ∈ σ.live) (hy : y ∈ σ.live)
    (hxy : y ≠ x) : y ∉ (σ.tree x).leaves := fun hin =>
  (Finset.disjoint_left.mp (h.disj y hy x hx hxy)) (h.self y hy) hin

theorem StepH.congr_pre {R : MTree Nat → MTree Nat → α → Prop} {σ : IState}
    {pre pre' : List (Step α)} {s : Step α} (h : StepH R σ pre s)
    (hsub : ∀ t, t ∈ pre' → t ∈ pre) : StepH R σ pre' s :=
  ⟨h.m1, h.m2, h.ne, h.height, h.size, fun t ht => h.mono t (hsub t ht)⟩

/-- All steps of `L`, replayed from `σ` after the steps `pre`, satisfy `StepH`. -/
def RunFrom (R : MTree Nat → MTree Nat → α → Prop) : IState → List (Step α) → List (Step α) → Prop
  | _, _, [] => True
  | σ, pre, s :: rest => StepH R σ pre s ∧ RunFrom R (σ.merge s.c1 s.c2) (s :: pre) rest

theorem RunFrom.congr_pre {R : MTree Nat → MTree Nat → α → Prop} :
    ∀ (L : List (Step α)) (σ : IState) (pre pre' : List (Step α)),
      (∀ t, t ∈ pre' → t ∈ pre) → RunFrom R σ pre L → RunFrom R σ pre' L := by
  intro L
  induction L with
  | nil => intro _ _ _ _ _; trivial
  | cons s r ih =>
    intro σ pre pre' hsub h
    refine ⟨h.1.congr_pre hsub, ih _ (s :: pre) (s :: pre') ?_ h.2⟩
    intro t ht
    rcases List.mem_cons.mp ht with e | ht
    · rw [e]; exact List.mem_cons_self
    · exact List.mem_cons_of_mem _ (hsub t ht)

/-- A step `y` taken right after `x` at a strictly smaller height joins two clusters that were live
before `x` and are neither of `x`'s two: were one of them the cluster `x` created, `y.mono` at `x`
would give `¬ y.d < x.d`. -/
theorem StepH.indep {R : MTree Nat → MTree Nat → α → Prop} {σ : IState} (hc : Clu σ)
    {pre : List (Step α)} {x y : Step α} (hx : StepH R σ pre x)
    (hy : StepH R (σ.merge x.c1 x.c2) (x :: pre) y) (hlt : Num.lt y.d x.d = true) :
    (y.c1 ∈ σ.live ∧ y.c1 ≠ x.c1 ∧ y.c1 ≠ x.c2) ∧ (y.c2 ∈ σ.live ∧ y.c2 ≠ x.c1 ∧ y.c2 ≠ x.c2) := by
  obtain ⟨y1l, y1a⟩ := (IState.mem_merge_live σ _ _ _).mp hy.m1
  obtain ⟨y2l, y2a⟩ := (IState.mem_merge_live σ _ _ _).mp hy.m2
  have hxself : x.c1 ∈ (node (σ.tree x.c1) (σ.tree x.c2)).leaves := by
    rw [MTree.leaves_node]; exact mem_union_left _ (hc.self _ hx.m1)
  have y1b : y.c1 ≠ x.c2 := by
    intro e
    have := hy.mono x List.mem_cons_self (Or.inl (by rw [e, IState.merge_tree_self]; exact hxself))
    rw [hlt] at this; cases this
  have y2b : y.c2 ≠ x.c2 := by
    intro e
    have := hy.mono x List.mem_cons_self (Or.inr (by rw [e, IState.merge_tree_self]; exact hxself))
    rw [hlt] at this; cases this
  exact ⟨⟨y1l, y1a, y1b⟩, ⟨y2l, y2a, y2b⟩⟩

omit [Num α] in
/-- A predicate on runs defined by recursion along `IState.merge`, with one condition `P` per step that
may read the steps already made (newest first), holds iff `P` holds at every index of the replay. -/
theorem allFrom_iff {F : IState → List (Step α) → List (Step α) → Prop}
    {P : IState → List (Step α) → Step α → Prop} (hnil : ∀ σ pre, F σ pre [])
    (hcons : ∀ σ pre s r, F σ pre (s :: r) ↔ P σ pre s ∧ F (σ.merge s.c1 s.c2) (s :: pre) r)
    (σ : IState) (pre L : List (Step α)) :
    F σ pre L ↔ ∀ (i : Nat) (s : Step α), L[i]? = some s →
      P (IState.replay σ (L.take i)) ((L.take i).reverse ++ pre) s := by
  induction L generalizing σ pre with
  | nil => simp [hnil]
  | cons x r ih =>
    have e : ∀ j, IState.replay σ ((x :: r).take (j + 1)) = IState.replay (σ.merge x.c1 x.c2) (r.take j)
        ∧ ((x :: r).take (j + 1)).reverse ++ pre = (r.take j).reverse ++ x :: pre := fun j => by
      simp [IState.replay]
    rw [hcons, ih]
    constructor
    · rintro ⟨h0, hr⟩ (_ | j) s hi
      · cases hi
        exact h0
      · rw [(e j).1, (e j).2]
        exact hr j s hi
    · intro h
      refine ⟨h 0 x rfl, fun j s hj => ?_⟩
      rw [← (e j).1, ← (e j).2]
      exact h (j + 1) s hj

theorem runFrom_iff {R : MTree Nat → MTree Nat → α → Prop} (σ : IState) (pre L : List (Step α)) :
    RunFrom R σ pre L ↔ ∀ (i : Nat) (s : Step α), L[i]? = some s →
      StepH R (IState.replay σ (L.take i)) ((L.take i).reverse ++ pre) s :=
  allFrom_iff (fun _ _ => trivial) (fun _ _ _ _ => Iff.rfl) σ pre L

theorem runFrom_of_runH {R : MTree Nat → MTree Nat → α → Prop} {n : Nat} {L : List (Step α)}
    (h : RunH R n L) : RunFrom R (IState.init n) [] L :=
  (runFrom_iff _ [] L).mpr (fun i s hi => (h i s hi).congr_pre (fun t ht => by simpa using ht))

theorem runFrom_get {R : MTree Nat → MTree Nat → α → Prop} (L : List (Step α)) (σ : IState)
    (pre : List (Step α)) (i : Nat) (s : Step α) (h : RunFrom R σ pre L) (hi : L[i]? = some s) :
    StepH R (IState.replay σ (L.take i)) ((L.take i).reverse ++ pre) s :=
  (runFrom_iff σ pre L).mp h i s hi

theorem clu_replay {R : MTree Nat → MTree Nat → α → Prop} :
    ∀ (L : List (Step α)) (σ : IState) (pre : List (Step α)), Clu σ → RunFrom R σ pre L →
      ∀ i, Clu (IState.replay σ (L.take i)) := by
  intro L
  induction L with
  | nil => intro σ _ hc _ i; simpa [IState.replay] using hc
  | cons x r ih =>
    intro σ pre hc h i
    cases i with
    | zero => simpa [IState.replay] using hc
    | succ j =>
      simp only [List.take_succ_cons, IState.replay]
      exact ih _ _ (hc.merge h.1.m1 h.1.m2 h.1.ne) h.2 j

/-- In index state `σ` every pair of distinct live clusters has an `R`-value that is not below the
height of the step `s`. -/
def GMinAt (R : MTree Nat → MTree Nat → α → Prop) (σ : IState) (s : Step α) : Prop :=
  ∀ x ∈ σ.live, ∀ y ∈ σ.live, x ≠ y → ∃ v, R (σ.tree x) (σ.tree y) v ∧ Num.lt v s.d = false

def GMinRun (R : MTree Nat → MTree Nat → α → Prop) (n : Nat) (L : List (Step α)) : Prop :=
  ∀ (i : Nat) (s : Step α), L[i]? = some s →
    GMinAt R (IState.replay (IState.init n) (L.take i)) s

/-- In state `σ`, each of the two clusters merged by `s` has, against every other live cluster, an
`R`-value that is not below `s.d` (reciprocal nearest neighbours up to `R`). -/
def NnAt (R : MTree Nat → MTree Nat → α → Prop) (σ : IState) (s : Step α) : Prop :=
  ∀ y ∈ σ.live, y ≠ s.c1 → y ≠ s.c2 →
    (∃ v, R (σ.tree s.c1) (σ.tree y) v ∧ Num.lt v s.d = false) ∧
    (∃ v, R (σ.tree s.c2) (σ.tree y) v ∧ Num.lt v s.d = false)

def NnRun (R : MTree Nat → MTree Nat → α → Prop) (n : Nat) (L : List (Step α)) : Prop :=
  ∀ (i : Nat) (s : Step α), L[i]? = some s →
    NnAt R (IState.replay (IState.init n) (L.take i)) s

theorem NnRun.nil (R : MTree Nat → MTree Nat → α → Prop) (n : Nat) : NnRun R n [] := by
  intro i s h; simp at h

theorem NnRun.snoc {R : MTree Nat → MTree Nat → α → Prop} {n : Nat} {L : List (Step α)}
    {s : Step α} (h : NnRun R n L) (hs : NnAt R (IState.replay (IState.init n) L) s) :
    NnRun R n (L ++ [s]) :=
  forall_take_snoc (P := fun pre t => NnAt R (IState.replay (IState.init n) pre) t) h hs

def NnFrom (R : MTree Nat → MTree Nat → α → Prop) : IState → List (Step α) → Prop
  | _, [] => True
  | σ, s :: rest => NnAt R σ s ∧ NnFrom R (σ.merge s.c1 s.c2) rest

theorem nnFrom_iff {R : MTree Nat → MTree Nat → α → Prop} (σ : IState) (L : List (Step α)) :
    NnFrom R σ L ↔ ∀ (i : Nat) (s : Step α), L[i]? = some s →
      NnAt R (IState.replay σ (L.take i)) s :=
  allFrom_iff (F := fun σ _ L => NnFrom R σ L) (P := fun σ _ s => NnAt R σ s)
    (fun _ _ => trivial) (fun _ _ _ _ => Iff.rfl) σ [] L

def GMinFrom (R : MTree Nat → MTree Nat → α → Prop) : IState → List (Step α) → Prop
  | _, [] => True
  | σ, s :: rest => GMinAt R σ s ∧ GMinFrom R (σ.merge s.c1 s.c2) rest

theorem gminFrom_iff {R : MTree Nat → MTree Nat → α → Prop} (σ : IState) (L : List (Step α)) :
    GMinFrom R σ L ↔ ∀ (i : Nat) (s : Step α), L[i]? = some s →
      GMinAt R (IState.replay σ (L.take i)) s :=
  allFrom_iff (F := fun σ _ L => GMinFrom R σ L) (P := fun σ _ s => GMinAt R σ s)
    (fun _ _ => trivial) (fun _ _ _ _ => Iff.rfl) σ [] L

theorem length_merge_live {σ : IState} (hc : Clu σ) {a b : Nat} (ha : a ∈ σ.live) :
    (σ.merge a b).live.length + 1 = σ.live.length :=
  Spec.filter_ne_length σ.live a hc.nodup ha

/-- The head `s` of a run is a global minimum if it merges reciprocal nearest neighbours and the rest of the
run — every step a global minimum — starts at least as high: a live pair untouched by `s` is live, unchanged,
at the next step.  If there is no next step (the length hypothesis), `s` merged the last two clusters. -/
theorem gmin_head (L : OrderLaws α) {R : MTree Nat → MTree Nat → α → Prop}
    (hsym : ∀ s t v, R s t v → R t s v) (hRnan : ∀ s t v, R s t v → Num.isNaN v = false)
    {σ : IState} {pre l : List (Step α)} {s : Step α} (hc : Clu σ)
    (h : RunFrom R σ pre (s :: l)) (hn : NnAt R σ s) (hg : GMinFrom R (σ.merge s.c1 s.c2) l)
    (hsort : ∀ s' ∈ l.head?, Num.lt s'.d s.d = false)
    (hlen : σ.live.length = l.length + 2) : GMinAt R σ s := by
  intro x hx y hy hxy
  by_cases x1 : x = s.c1
  · by_cases y2 : y = s.c2
    · rw [x1, y2]; exact ⟨s.d, h.1.height, L.irrefl _⟩
    · rw [x1]; exact (hn y hy (by rw [← x1]; exact Ne.symm hxy) y2).1
  · by_cases x2 : x = s.c2
    · by_cases y1 : y = s.c1
      · rw [x2, y1]; exact ⟨s.d, hsym _ _ _ h.1.height, L.irrefl _⟩
      · rw [x2]; exact (hn y hy y1 (by rw [← x2]; exact Ne.symm hxy)).2
    · by_cases y1 : y = s.c1
      · obtain ⟨v, hv, hl⟩ := (hn x hx x1 x2).1
        rw [y1]; exact ⟨v, hsym _ _ _ hv, hl⟩
      · by_cases y2 : y = s.c2
        · obtain ⟨v, hv, hl⟩ := (hn x hx x1 x2).2
          rw [y2]; exact ⟨v, hsym _ _ _ hv, hl⟩
        · -- untouched by `s`: still live, unchanged, after it
          have hx' : x ∈ (σ.merge s.c1 s.c2).live := (IState.mem_merge_live σ _ _ _).mpr ⟨hx, x1⟩
          have hy' : y ∈ (σ.merge s.c1 s.c2).live := (IState.mem_merge_live σ _ _ _).mpr ⟨hy, y1⟩
          cases l with
          | nil =>
            -- `s` merged the last two clusters
            have hl := length_merge_live hc (b := s.c2) h.1.m1
            obtain ⟨w, hw⟩ := List.length_eq_one_iff.mp
              (show (σ.merge s.c1 s.c2).live.length = 1 by simp only [List.length_nil] at hlen; omega)
            rw [hw, List.mem_singleton] at hx' hy'
            exact absurd (hx'.trans hy'.symm) hxy
          | cons s' l' =>
            obtain ⟨v, hv, hlv⟩ := hg.1 x hx' y hy' hxy
            rw [IState.merge_tree_of_ne _ _ _ _ x2, IState.merge_tree_of_ne _ _ _ _ y2] at hv
            exact ⟨v, hv, L.le_trans s.d s'.d v (hRnan _ _ _ h.2.1.height) (hsort s' rfl) hlv⟩

theorem gmin_of_sorted (L : OrderLaws α) {R : MTree Nat → MTree Nat → α → Prop}
    (hsym : ∀ s t v, R s t v → R t s v) (hRnan : ∀ s t v, R s t v → Num.isNaN v = false) :
    ∀ (l : List (Step α)) (σ : IState) (pre : List (Step α)), Clu σ →
      RunFrom R σ pre l → NnFrom R σ l →
      l.Pairwise (fun a b => Num.lt b.d a.d = false) →
      σ.live.length = l.length + 1 → GMinFrom R σ l := by
  intro l
  induction l with
  | nil => intro _ _ _ _ _ _ _; trivial
  | cons s r ih =>
    intro σ pre hc h hn hsort hlen
    simp only [List.length_cons] at hlen
    have hl := length_merge_live hc (b := s.c2) h.1.m1
    have hg := ih _ (s :: pre) (hc.merge h.1.m1 h.1.m2 h.1.ne) h.2 hn.2
      (List.pairwise_cons.mp hsort).2 (by omega)
    exact ⟨gmin_head L hsym hRnan hc h hn.1 hg
      (fun s' hs' => (List.pairwise_cons.mp hsort).1 s' (List.mem_of_mem_head? hs')) (by omega), hg⟩

/-- Reducibility of a relation on merge trees in EXISTENTIAL form: if `d(A,B) ≤ t ≤ d(A,X), d(B,X)` for
some values of the three pairs (`t` itself a value of `R`), then SOME value of `(A ∪ B, X)` is `≥ t`. -/
def RedE (R : MTree Nat → MTree Nat → α → Prop) : Prop :=
  ∀ (ta tb tx s u : MTree Nat) (vab va vb t : α),
    Disjoint ta.leaves tb.leaves → Disjoint ta.leaves tx.leaves → Disjoint tb.leaves tx.leaves →
    R ta tb vab → R ta tx va → R tb tx vb → R s u t →
    Num.lt t vab = false → Num.lt va t = false → Num.lt vb t = false →
    ∃ v, R (node ta tb) tx v ∧ Num.lt v t = false

theorem RLaws.redE {m : Method} {R : MTree Nat → MTree Nat → α → Prop} (RL : RLaws m R) : RedE R := by
  intro ta tb tx s u vab va vb t dab dax dbx rab ra rb _ h0 h1 h2
  have hv := RL.compat.step _ _ _ _ _ _ dab dax dbx ra rb rab
  exact ⟨_, hv, RL.red _ _ _ _ _ _ _ _ dab dax dbx rab ra rb hv h0 h1 h2⟩

/-- **Adjacent exchange.**  Two consecutive steps with strictly decreasing heights are independent
(`StepH.indep`) and commute.  Both stay reciprocal nearest neighbours: `y`, now first, because the two
clusters of `x` were at least `x.d > y.d` away from it; `x`, now second, against the cluster that `y`
creates by reducibility (`RedE`) at `t := x.d`. -/
theorem run_swap (L : OrderLaws α) {R : MTree Nat → MTree Nat → α → Prop}
    (hsym : ∀ s t v, R s t v → R t s v) (hred : RedE R)
    (hRnan : ∀ s t v, R s t v → Num.isNaN v = false)
    {σ : IState} (hc : Clu σ) {pre : List (Step α)} {x y : Step α} {rest : List (Step α)}
    (h : RunFrom R σ pre (x :: y :: rest)) (hn : NnFrom R σ (x :: y :: rest))
    (hlt : Num.lt y.d x.d = true) :
    RunFrom R σ pre (y :: x :: rest) ∧ NnFrom R σ (y :: x :: rest) := by
  obtain ⟨hx, hy, hrest⟩ := h
  obtain ⟨nx, ny, nrest⟩ := hn
  obtain ⟨⟨y1l, y1a, y1b⟩, ⟨y2l, y2a, y2b⟩⟩ := StepH.indep hc hx hy hlt
  have t1 : (σ.merge x.c1 x.c2).tree y.c1 = σ.tree y.c1 := IState.merge_tree_of_ne _ _ _ _ y1b
  have t2 : (σ.merge x.c1 x.c2).tree y.c2 = σ.tree y.c2 := IState.merge_tree_of_ne _ _ _ _ y2b
  have u1 : (σ.merge y.c1 y.c2).tree x.c1 = σ.tree x.c1 :=
    IState.merge_tree_of_ne _ _ _ _ (Ne.symm y2a)
  have u2 : (σ.merge y.c1 y.c2).tree x.c2 = σ.tree x.c2 :=
    IState.merge_tree_of_ne _ _ _ _ (Ne.symm y2b)
  have hcomm := IState.merge_comm σ x.c1 x.c2 y.c1 y.c2 y1b y2b (Ne.symm y2a)
  have hy' : StepH R σ pre y :=
    ⟨y1l, y2l, hy.ne, by rw [← t1, ← t2]; exact hy.height, by rw [← t1, ← t2]; exact hy.size,
      fun t ht hin => hy.mono t (List.mem_cons_of_mem _ ht) (by rw [t1, t2]; exact hin)⟩
  have hx' : StepH R (σ.merge y.c1 y.c2) (y :: pre) x := by
    refine ⟨(IState.mem_merge_live σ _ _ _).mpr ⟨hx.m1, Ne.symm y1a⟩,
      (IState.mem_merge_live σ _ _ _).mpr ⟨hx.m2, Ne.symm y1b⟩, hx.ne,
      by rw [u1, u2]; exact hx.height, by rw [u1, u2]; exact hx.size, ?_⟩
    intro t ht hin
    rw [u1, u2] at hin
    rcases List.mem_cons.mp ht with e | ht
    · exfalso
      rw [e] at hin
      rcases hin with hin | hin
      · exact hc.not_mem hx.m1 y1l y1a hin
      · exact hc.not_mem hx.m2 y1l y1b hin
    · exact hx.mono t ht hin
  have hxnan : Num.isNaN x.d = false := hRnan _ _ _ hx.height
  have hyx : Num.lt x.d y.d = false := L.asymm _ _ hlt
  obtain ⟨⟨va1, ra1, la1⟩, ⟨va2, ra2, la2⟩⟩ := nx y.c1 y1l y1a y1b
  obtain ⟨⟨vb1, rb1, lb1⟩, ⟨vb2, rb2, lb2⟩⟩ := nx y.c2 y2l y2a y2b
  have hdown : ∀ v, Num.lt v x.d = false → Num.lt v y.d = false := fun v hv =>
    L.le_trans y.d x.d v hxnan hyx hv
  refine ⟨⟨hy', hx', ?_⟩, ?_, ?_, by rw [← hcomm]; exact nrest⟩
  · rw [← hcomm]
    refine RunFrom.congr_pre rest _ (y :: x :: pre) (x :: y :: pre) ?_ hrest
    intro t ht
    simp only [List.mem_cons] at ht ⊢
    rcases ht with h | h | h
    · exact Or.inr (Or.inl h)
    · exact Or.inl h
    · exact Or.inr (Or.inr h)
  · intro z hz hz1 hz2
    by_cases c1 : z = x.c1
    · subst c1
      exact ⟨⟨va1, hsym _ _ _ ra1, hdown _ la1⟩, ⟨vb1, hsym _ _ _ rb1, hdown _ lb1⟩⟩
    · by_cases c2 : z = x.c2
      · subst c2
        exact ⟨⟨va2, hsym _ _ _ ra2, hdown _ la2⟩, ⟨vb2, hsym _ _ _ rb2, hdown _ lb2⟩⟩
      · have hz' : z ∈ (σ.merge x.c1 x.c2).live := (IState.mem_merge_live σ _ _ _).mpr ⟨hz, c1⟩
        have tz : (σ.merge x.c1 x.c2).tree z = σ.tree z := IState.merge_tree_of_ne _ _ _ _ c2
        have := ny z hz' hz1 hz2
        rw [t1, t2, tz] at this
        exact this
  · intro z hz hz1 hz2
    obtain ⟨hzl, hzy1⟩ := (IState.mem_merge_live σ _ _ _).mp hz
    rw [u1, u2]
    by_cases c : z = y.c2
    · rw [c, IState.merge_tree_self]
      have dab := hc.disj _ y1l _ y2l hy.ne
      have key : ∀ (w : Nat) (hw : w ∈ σ.live) (hw1 : w ≠ y.c1) (hwz : w ≠ y.c2) (va vb : α),
          R (σ.tree w) (σ.tree y.c1) va → Num.lt va x.d = false →
          R (σ.tree w) (σ.tree y.c2) vb → Num.lt vb x.d = false →
          ∃ v, R (σ.tree w) (node (σ.tree y.c1) (σ.tree y.c2)) v ∧ Num.lt v x.d = false := by
        intro w hw hw1 hwz va vb ra la rb lb
        obtain ⟨v, hv, hl⟩ := hred _ _ _ _ _ y.d va vb x.d dab (hc.disj _ y1l _ hw (Ne.symm hw1))
          (hc.disj _ y2l _ hw (Ne.symm hwz)) hy'.height (hsym _ _ _ ra) (hsym _ _ _ rb) hx.height
          hyx la lb
        exact ⟨v, hsym _ _ _ hv, hl⟩
      exact ⟨key x.c1 hx.m1 (Ne.symm y1a) (Ne.symm y2a) va1 vb1 ra1 la1 rb1 lb1,
        key x.c2 hx.m2 (Ne.symm y1b) (Ne.symm y2b) va2 vb2 ra2 la2 rb2 lb2⟩
    · rw [IState.merge_tree_of_ne _ _ _ _ c]
      exact nx z hzl hz1 hz2

theorem run_ins (L : OrderLaws α) {R : MTree Nat → MTree Nat → α → Prop}
    (hsym : ∀ s t v, R s t v → R t s v) (hred : RedE R)
    (hRnan : ∀ s t v, R s t v → Num.isNaN v = false) (x : Step α) :
    ∀ (l : List (Step α)) (σ : IState) (pre : List (Step α)), Clu σ →
      RunFrom R σ pre (x :: l) → NnFrom R σ (x :: l) →
      RunFrom R σ pre (insG stepLe x l) ∧ NnFrom R σ (insG stepLe x l) := by
  intro l
  induction l with
  | nil => intro σ pre _ h hn; exact ⟨h, hn⟩
  | cons y r ih =>
    intro σ pre hc h hn
    unfold insG
    by_cases c : stepLe x y = true
    · rw [if_pos c]; exact ⟨h, hn⟩
    · rw [if_neg c]
      have hlt : Num.lt y.d x.d = true := by
        simp only [stepLe, Bool.not_eq_true', Bool.not_eq_false] at c
        simpa using c
      obtain ⟨hs, hs'⟩ := run_swap L hsym hred hRnan hc h hn hlt
      obtain ⟨h1, h2⟩ := ih _ _ (hc.merge hs.1.m1 hs.1.m2 hs.1.ne) hs.2 hs'.2
      exact ⟨⟨hs.1, h1⟩, hs'.1, h2⟩

theorem run_isort (L : OrderLaws α) {R : MTree Nat → MTree Nat → α → Prop}
    (hsym : ∀ s t v, R s t v → R t s v) (hred : RedE R)
    (hRnan : ∀ s t v, R s t v → Num.isNaN v = false) :
    ∀ (l : List (Step α)) (σ : IState) (pre : List (Step α)), Clu σ →
      RunFrom R σ pre l → NnFrom R σ l →
      RunFrom R σ pre (isortG stepLe l) ∧ NnFrom R σ (isortG stepLe l) := by
  intro l
  induction l with
  | nil => intro σ pre _ h hn; exact ⟨h, hn⟩
  | cons x r ih =>
    intro σ pre hc h hn
    obtain ⟨h1, h2⟩ := ih _ _ (hc.merge h.1.m1 h.1.m2 h.1.ne) h.2 hn.2
    exact run_ins L hsym hred hRnan x _ σ pre hc ⟨h.1, h1⟩ ⟨hn.1, h2⟩

/-- **The sort stage.**  The stable sort of a complete run of reciprocal-nearest-neighbour merges is the
insertion sort of the run, again such a run, and every step of it is a global minimum. -/
theorem sorted_run (L : OrderLaws α) {R : MTree Nat → MTree Nat → α → Prop}
    (hsym : ∀ s t v, R s t v → R t s v) (hred : RedE R)
    (hRnan : ∀ s t v, R s t v → Num.isNaN v = false) {σ : IState} {pre raw : List (Step α)}
    (hc : Clu σ) (hlen : σ.live.length = raw.length + 1) (h : RunFrom R σ pre raw)
    (hn : NnFrom R σ raw) :
    raw.mergeSort stepLe = isortG stepLe raw ∧
    (isortG stepLe raw).Pairwise (fun s t => Num.lt t.d s.d = false) ∧
    RunFrom R σ pre (isortG stepLe raw) ∧ NnFrom R σ (isortG stepLe raw) ∧
    GMinFrom R σ (isortG stepLe raw) := by
  have hnan : ∀ s ∈ raw, Num.isNaN s.d = false := fun s hs => by
    obtain ⟨j, hj⟩ := List.getElem?_of_mem hs
    exact hRnan _ _ _ (runFrom_get raw σ pre j s h hj).height
  have hms := mergeSort_stepLe_eq_isortG L raw hnan
  have hsorted := hms ▸ pairwise_mergeSort_stepLe L raw hnan
  obtain ⟨hS, hSn⟩ := run_isort L hsym hred hRnan raw σ pre hc h hn
  exact ⟨hms, hsorted, hS, hSn, gmin_of_sorted L hsym hRnan _ σ pre hc hS hSn hsorted
    (by rw [(isortG_perm stepLe raw).length_eq]; exact hlen)⟩

end Kodama.Rnn
