/-
Non-vacuity of the heap invariants: a toy `Num Nat`, a concrete `heapify` / `pop` /
`set_priority` run checked by kernel evaluation (`rfl`), and the general theorems instantiated
on it (so their hypotheses are jointly satisfiable).
-/
import Kodama.Lemmas.HeapInvOps
namespace Kodama.HeapExample
open Kodama Heap

/-- Toy number type: `Nat` with its usual order (no NaN). Local instance only. -/
@[reducible] def toyNum : Num Nat where
  lt a b := decide (a < b)
  beq a b := decide (a = b)
  add := Nat.add
  sub := Nat.sub
  mul := Nat.mul
  div := Nat.div
  ofNat n := n
  half := 0
  quarter := 0
  sqrt a := a
  abs a := a
  maxValue := 1000
  infinity := 1000
  isNaN _ := false

attribute [local instance] toyNum

theorem toyLaws : OrderLaws Nat where
  asymm a b h := by
    have : a < b := by simpa [Num.lt] using h
    simp [Num.lt]; omega
  cotrans a b c _ h := by
    have : a < c := by simpa [Num.lt] using h
    simp only [Num.lt, decide_eq_true_eq]; omega

/-- An arbitrary (ill-formed) prior heap value whose `priorities` has length 6. -/
def junk : Heap Nat := ⟨#[7, 7], #[], #[0, 0, 0, 0, 0, 0], #[true]⟩

def newPrio : Array Nat → R (Array Nat) := fun _ => .ok #[5, 3, 4, 1, 2, 1]

/-- `heapify` from the junk value (observations 3 and 5 tie for the minimum). -/
def h1 : Heap Nat :=
  ⟨#[3, 4, 5, 1, 0, 2], #[4, 3, 5, 0, 1, 2], #[5, 3, 4, 1, 2, 1],
   #[false, false, false, false, false, false]⟩

example : heapifyWith true junk newPrio = .ok h1 := by rfl
example : heapifyWith false junk newPrio = .ok h1 := by rfl

/-- `pop` returns observation 3 (priority 1), marks it removed, re-heapifies. -/
def h2 : Heap Nat :=
  ⟨#[5, 4, 2, 1, 0], #[4, 3, 2, 5, 1, 0], #[5, 3, 4, 1, 2, 1],
   #[false, false, false, true, false, false]⟩

example : h1.peek = some 3 := by rfl
example : pop true h1 = .ok (some 3, h2) := by rfl
example : priority h2 5 = .ok 1 := by rfl
example : priority h2 3 = .error .assertFail := by rfl

/-- Tie behaviour of `sift_up`: lowering observation 4 (position 1, priority 2) to priority 1,
EQUAL to its parent's (observation 5 at the root), swaps them (`if prio[parent] < prio[o] break`
does not fire on a tie). -/
def h3 : Heap Nat :=
  ⟨#[4, 5, 2, 1, 0], #[4, 3, 2, 5, 0, 1], #[5, 3, 4, 1, 1, 1],
   #[false, false, false, true, false, false]⟩

example : setPriority true h2 4 1 = .ok h3 := by rfl

/-- The general theorem applies to this run: hypotheses are satisfiable. -/
example : ∃ h', heapifyWith true junk newPrio = .ok h' ∧ Inv h' ∧ h'.prio = #[5, 3, 4, 1, 2, 1] ∧
    (∀ o, h'.Live o ↔ o < 6) := by
  obtain ⟨h', e, i, p, _, _, l⟩ := heapifyWith_Inv toyLaws true junk newPrio #[5, 3, 4, 1, 2, 1]
    (by decide) rfl rfl (by intro a _; rfl)
  exact ⟨h', e, i, p, l⟩

theorem h1_Inv : Inv h1 := by
  obtain ⟨h', e, i, _⟩ := heapifyWith_Inv toyLaws true junk newPrio #[5, 3, 4, 1, 2, 1]
    (by decide) rfl rfl (by intro a _; rfl)
  have : h' = h1 := by
    have e' : heapifyWith true junk newPrio = .ok h1 := by rfl
    rw [e] at e'; exact Except.ok.inj e'
  rw [← this]; exact i

example : ∃ h', pop true h1 = .ok (some 3, h') ∧ Inv h' ∧ (∀ o', h'.Live o' ↔ h1.Live o' ∧ o' ≠ 3) := by
  obtain ⟨h', e, i, _, _, _, l⟩ := pop_Inv toyLaws true h1_Inv (o := 3) rfl
  exact ⟨h', e, i, l⟩

/-- `Ordered` genuinely fails on a mis-ordered heap (the predicate is not trivially true). -/
example : ¬ Ordered (⟨#[0, 1], #[0, 1], #[5, 3], #[false, false]⟩ : Heap Nat) := by
  intro h
  have := h 1 (by decide) (by decide)
  exact absurd this (by decide)

end Kodama.HeapExample
