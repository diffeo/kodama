/-
Two computations in `Except Panic` run in simulation: `RelR ρ e e'` says that they panic alike or
return `ρ`-related values.  Rules for `bind`, `if`, `foldlM`, `iterM`; an equation
`e' = φ <$> e` is the case where `ρ` is the graph of `φ` (`RelR.of_eq`, `RelR.eq_map`).  Used for two
models of one function (`Lemmas/UnionFindCompress.lean`) and for one model over two number types
(`Lemmas/Naturality*.lean`).
-/
import Kodama.Model.Primitive
namespace Kodama

def RelR {A A' : Type} (ρ : A → A' → Prop) (e : R A) (e' : R A') : Prop :=
  match e, e' with
  | .ok a, .ok a' => ρ a a'
  | .error p, .error p' => p = p'
  | _, _ => False

theorem RelR.pure {A A' : Type} {ρ : A → A' → Prop} {a : A} {a' : A'} (h : ρ a a') :
    RelR ρ (pure a : R A) (pure a' : R A') := h

theorem RelR.error {A A' : Type} {ρ : A → A' → Prop} (p : Panic) :
    RelR ρ (.error p : R A) (.error p : R A') := rfl

theorem RelR.cases {A A' : Type} {ρ : A → A' → Prop} {e : R A} {e' : R A'} (h : RelR ρ e e') :
    (∃ p, e = .error p ∧ e' = .error p) ∨ (∃ a a', e = .ok a ∧ e' = .ok a' ∧ ρ a a') := by
  cases e with
  | error p =>
    cases e' with
    | error p' => exact Or.inl ⟨p, rfl, congrArg _ (Eq.symm h)⟩
    | ok a' => exact h.elim
  | ok a =>
    cases e' with
    | error p' => exact h.elim
    | ok a' => exact Or.inr ⟨a, a', rfl, rfl, h⟩

theorem RelR.bind' {A A' B B' : Type} {ρ : A → A' → Prop} {σ : B → B' → Prop} {e : R A}
    {e' : R A'} {f : A → R B} {f' : A' → R B'} (he : RelR ρ e e')
    (hf : ∀ a a', ρ a a' → e = .ok a → e' = .ok a' → RelR σ (f a) (f' a')) :
    RelR σ (e >>= f) (e' >>= f') := by
  rcases he.cases with ⟨p, rfl, rfl⟩ | ⟨a, a', rfl, rfl, h⟩
  · exact rfl
  · exact hf a a' h rfl rfl

theorem RelR.bind_same' {A B B' : Type} {σ : B → B' → Prop} {e : R A}
    {f : A → R B} {f' : A → R B'} (hf : ∀ a, e = .ok a → RelR σ (f a) (f' a)) :
    RelR σ (e >>= f) (e >>= f') := by
  cases e with
  | error p => rfl
  | ok a => exact hf a rfl

theorem RelR.bind {A A' B B' : Type} {ρ : A → A' → Prop} {σ : B → B' → Prop} {e : R A}
    {e' : R A'} {f : A → R B} {f' : A' → R B'} (he : RelR ρ e e')
    (hf : ∀ a a', ρ a a' → RelR σ (f a) (f' a')) : RelR σ (e >>= f) (e' >>= f') :=
  he.bind' fun a a' h _ _ => hf a a' h

/-- `RelR.bind` for a relation in which the right value is the image `F a p` of the left one and a
witness `p` with `G a p`: the continuation is compared at `a` and `F a p`. -/
theorem RelR.bind_img {A A' B B' P : Type} {G : A → P → Prop} {F : A → P → A'}
    {σ : B → B' → Prop} {e : R A} {e' : R A'} {f : A → R B} {f' : A' → R B'}
    (he : RelR (fun a a' => ∃ p, G a p ∧ a' = F a p) e e')
    (hf : ∀ a p, G a p → RelR σ (f a) (f' (F a p))) : RelR σ (e >>= f) (e' >>= f') :=
  he.bind (fun a _ ⟨p, g, e⟩ => e ▸ hf a p g)

theorem RelR.bind_same {A B B' : Type} {σ : B → B' → Prop} {e : R A}
    {f : A → R B} {f' : A → R B'} (hf : ∀ a, RelR σ (f a) (f' a)) :
    RelR σ (e >>= f) (e >>= f') :=
  RelR.bind_same' fun a _ => hf a

theorem RelR.ite {B B' : Type} {σ : B → B' → Prop} {c : Prop} [Decidable c] {x y : R B}
    {x' y' : R B'} (hx : RelR σ x x') (hy : RelR σ y y') :
    RelR σ (if c then x else y) (if c then x' else y') := by
  split <;> assumption

theorem RelR.mono {A A' : Type} {ρ ρ' : A → A' → Prop} {e : R A} {e' : R A'}
    (h : RelR ρ e e') (hm : ∀ a a', ρ a a' → ρ' a a') : RelR ρ' e e' := by
  cases e <;> cases e' <;> first | exact hm _ _ h | exact h

theorem RelR.of_eq {A A' : Type} (φ : A → A') {e : R A} {e' : R A'} (he : e' = φ <$> e) :
    RelR (fun a a' => a' = φ a) e e' := by
  subst he; cases e <;> rfl

/-- Converse of `RelR.of_eq`: a simulation by the graph of `φ` is a functional naturality equation. -/
theorem RelR.eq_map {A A' : Type} {φ : A → A'} {e : R A} {e' : R A'}
    (r : RelR (fun a a' => a' = φ a) e e') : e' = φ <$> e := by
  cases e <;> cases e' <;> first | exact r.elim | (cases r; rfl)

/-- Two runs in simulation by `f a = g a'` agree on what `f`, resp. `g`, shows of them. -/
theorem RelR.map_eq {A A' C : Type} {f : A → C} {g : A' → C} {e : R A} {e' : R A'}
    (r : RelR (fun a a' => f a = g a') e e') : f <$> e = g <$> e' := by
  cases e <;> cases e' <;> first | exact r.elim | exact congrArg _ r

theorem RelR.bind_eq {A A' B B' : Type} (φ : A → A') {σ : B → B' → Prop} {e : R A}
    {e' : R A'} {f : A → R B} {f' : A' → R B'} (he : e' = φ <$> e)
    (hf : ∀ a, RelR σ (f a) (f' (φ a))) : RelR σ (e >>= f) (e' >>= f') :=
  (RelR.of_eq φ he).bind (fun a _ e => e ▸ hf a)

theorem foldlM_rel {σ σ' X : Type} (ρ : σ → σ' → Prop) (f : σ → X → R σ) (f' : σ' → X → R σ')
    (hf : ∀ s s' x, ρ s s' → RelR ρ (f s x) (f' s' x)) (l : List X) (s : σ) (s' : σ')
    (h : ρ s s') : RelR ρ (l.foldlM f s) (l.foldlM f' s') := by
  induction l generalizing s s' with
  | nil => exact h
  | cons x xs ih =>
    simp only [List.foldlM]
    exact RelR.bind (hf s s' x h) (fun a a' ha => ih a a' ha)

theorem iterM_rel {σ σ' : Type} (ρ : σ → σ' → Prop) (f : σ → R σ) (f' : σ' → R σ')
    (hf : ∀ s s', ρ s s' → RelR ρ (f s) (f' s')) (k : Nat) (s : σ) (s' : σ') (h : ρ s s') :
    RelR ρ (iterM f k s) (iterM f' k s') := by
  induction k generalizing s s' with
  | zero => exact h
  | succ k ih =>
    simp only [iterM]
    exact RelR.bind (hf s s' h) (fun a a' ha => ih a a' ha)

theorem foldlM_img {σ σ' X P : Type} {G : σ → P → Prop} {F : σ → P → σ'} {f : σ → X → R σ}
    {f' : σ' → X → R σ'}
    (hf : ∀ s p x, G s p → RelR (fun t t' => ∃ q, G t q ∧ t' = F t q) (f s x) (f' (F s p) x))
    (l : List X) (s : σ) (p : P) (g : G s p) :
    RelR (fun t t' => ∃ q, G t q ∧ t' = F t q) (l.foldlM f s) (l.foldlM f' (F s p)) :=
  foldlM_rel _ f f' (fun s _ x ⟨p, g, e⟩ => e ▸ hf s p x g) l s _ ⟨p, g, rfl⟩

theorem iterM_img {σ σ' P : Type} {G : σ → P → Prop} {F : σ → P → σ'} {f : σ → R σ}
    {f' : σ' → R σ'}
    (hf : ∀ s p, G s p → RelR (fun t t' => ∃ q, G t q ∧ t' = F t q) (f s) (f' (F s p)))
    (k : Nat) (s : σ) (p : P) (g : G s p) :
    RelR (fun t t' => ∃ q, G t q ∧ t' = F t q) (iterM f k s) (iterM f' k (F s p)) :=
  iterM_rel _ f f' (fun s _ ⟨p, g, e⟩ => e ▸ hf s p g) k s _ ⟨p, g, rfl⟩

end Kodama
