/-
Naturality: `LinkageHeap` relationally (priorities related by `VR`, shape identical).
-/
import Kodama.Lemmas.NaturalityRel
set_option linter.unusedSectionVars false
namespace Kodama
variable {α β : Type} [Num α] [Num β]

def reprio (p' : Array β) (q : Heap α) : Heap β := ⟨q.heap, q.obs, p', q.removed⟩

@[simp] theorem reprio_heap (p' : Array β) (q : Heap α) : (reprio p' q).heap = q.heap := rfl
@[simp] theorem reprio_obs (p' : Array β) (q : Heap α) : (reprio p' q).obs = q.obs := rfl
@[simp] theorem reprio_prio (p' : Array β) (q : Heap α) : (reprio p' q).prio = p' := rfl
@[simp] theorem reprio_removed (p' : Array β) (q : Heap α) : (reprio p' q).removed = q.removed := rfl

/-- Swaps and sifts move labels only: the priority arrays `p`, `p'` stay as they are on both
sides. -/
def HR (p : Array α) (p' : Array β) (q : Heap α) (q' : Heap β) : Prop :=
  q.prio = p ∧ q' = reprio p' q

def HeapR (h : α → β) (q : Heap α) (q' : Heap β) : Prop :=
  ∃ p', AR h q.prio p' ∧ q' = reprio p' q

theorem HR.toHeapR {h : α → β} {p : Array α} {p' : Array β} (r : AR h p p') {q : Heap α}
    {q' : Heap β} (hr : HR p p' q q') : HeapR h q q' :=
  ⟨p', hr.1 ▸ r, hr.2⟩

omit [Num α] [Num β] in
theorem Heap.swap_rel {p : Array α} (p' : Array β) (q : Heap α) (hq : q.prio = p) (o1 o2 : Nat) :
    RelR (HR p p') (q.swap o1 o2) ((reprio p' q).swap o1 o2) := by
  unfold Heap.swap
  simp only [reprio_obs, reprio_heap]
  refine RelR.bind_same (fun p1 => ?_)
  refine RelR.bind_same (fun p2 => ?_)
  refine RelR.bind_same (fun heap => ?_)
  refine RelR.bind_same (fun obs => ?_)
  exact RelR.pure ⟨hq, rfl⟩

def PR (h : α → β) (a : Nat × α) (b : Nat × β) : Prop := ∃ y, VR h a.2 y ∧ b = (a.1, y)

/-- The comparison of a child's priority with the candidate's in `sift_down`. -/
theorem Heap.pickChild_rel {h : α → β} (H : OrdHom h) (S : SentinelSafe h) (l c : Nat) {pl pc : α}
    {pl' pc' : β} (rl : VR h pl pl') (rc : VR h pc pc') :
    RelR (PR h) (pure (if Num.lt pl pc = true then (l, pl) else (c, pc)) : R (Nat × α))
      (pure (if Num.lt pl' pc' = true then (l, pl') else (c, pc'))) := by
  rw [VR.lt H S rl rc]
  split
  · exact ⟨pl', rl, rfl⟩
  · exact ⟨pc', rc, rfl⟩

theorem Heap.siftDown_rel {h : α → β} (H : OrdHom h) (S : SentinelSafe h) (chk : Bool)
    (fuel : Nat) (q : Heap α) {p : Array α} (hq : q.prio = p) (p' : Array β) (r : AR h p p')
    (o : Nat) :
    RelR (HR p p') (Heap.siftDown chk fuel q o) (Heap.siftDown chk fuel (reprio p' q) o) := by
  induction fuel generalizing q with
  | zero => rfl
  | succ fuel ih =>
    unfold Heap.siftDown
    simp only [reprio_obs, reprio_heap, reprio_prio, hq]
    refine RelR.bind_same (fun i => ?_)
    refine RelR.bind_same (fun t1 => ?_)
    refine RelR.bind_same (fun li => ?_)
    refine RelR.bind_same (fun t2 => ?_)
    refine RelR.bind_same (fun ri => ?_)
    refine RelR.bind (aget_rel r o) (fun po po' rpo => ?_)
    -- `do` copies the rest of the block into both arms of each `match` on a child slot; the
    -- copies are the same term, so each is one goal (`?right`, then `?swap`), stated where the
    -- slot is empty and used again where the child's priority is read and compared.
    rcases q.heap[li]? with _ | l
    refine RelR.bind (ρ := PR h) (RelR.pure ⟨po', rpo, rfl⟩) ?right
    rotate_left
    · refine RelR.bind (aget_rel r l) (fun pl pl' rpl => ?_)
      exact RelR.bind (Heap.pickChild_rel H S l o rpl rpo) ?right
    rintro ⟨c, pc⟩ _ ⟨pc', rpc, rfl⟩
    rcases q.heap[ri]? with _ | l
    refine RelR.bind (ρ := PR h) (RelR.pure ⟨pc', rpc, rfl⟩) ?swap
    rotate_left
    · refine RelR.bind (aget_rel r l) (fun pl pl' rpl => ?_)
      exact RelR.bind (Heap.pickChild_rel H S l c rpl rpc) ?swap
    rintro ⟨c2, _⟩ _ ⟨_, _, rfl⟩
    refine RelR.ite (RelR.pure ⟨hq, rfl⟩) ?_
    refine RelR.bind (Heap.swap_rel p' q hq o c2) (fun q1 _ ⟨e1, e⟩ => ?_)
    exact e ▸ ih q1 e1

theorem Heap.siftUp_rel {h : α → β} (H : OrdHom h) (S : SentinelSafe h) (chk : Bool)
    (fuel : Nat) (q : Heap α) {p : Array α} (hq : q.prio = p) (p' : Array β) (r : AR h p p')
    (o : Nat) :
    RelR (HR p p') (Heap.siftUp chk fuel q o) (Heap.siftUp chk fuel (reprio p' q) o) := by
  induction fuel generalizing q with
  | zero => rfl
  | succ fuel ih =>
    unfold Heap.siftUp
    simp only [reprio_obs, reprio_heap, reprio_prio, hq]
    refine RelR.bind_same (fun i => ?_)
    refine RelR.ite (RelR.pure ⟨hq, rfl⟩) ?_
    refine RelR.bind_same (fun po => ?_)
    refine RelR.bind (aget_rel r po) (fun ppo ppo' r1 => ?_)
    refine RelR.bind (aget_rel r o) (fun pp pp' r2 => ?_)
    rw [VR.lt H S r1 r2]
    refine RelR.ite (RelR.pure ⟨hq, rfl⟩) ?_
    refine RelR.bind (Heap.swap_rel p' q hq o po) (fun q1 _ ⟨e1, e⟩ => ?_)
    exact e ▸ ih q1 e1

theorem Heap.pop_rel {h : α → β} (H : OrdHom h) (S : SentinelSafe h) (chk : Bool)
    (q : Heap α) {p : Array α} (hq : q.prio = p) (p' : Array β) (r : AR h p p') :
    RelR (fun a a' => a.2.prio = p ∧ a' = (a.1, reprio p' a.2)) (q.pop chk)
      ((reprio p' q).pop chk) := by
  unfold Heap.pop
  simp only [reprio_heap]
  -- `do` copies the rest of the block into both branches of the optional first swap: one goal,
  -- `?rest`, used in both
  refine RelR.ite (RelR.pure ⟨hq, rfl⟩)
    (RelR.ite ?_ (RelR.bind (ρ := HR p p') (RelR.pure ⟨hq, rfl⟩) ?rest))
  · refine RelR.bind_same (fun first => ?_)
    refine RelR.bind_same (fun last => ?_)
    exact RelR.bind (Heap.swap_rel p' q hq first last) ?rest
  rintro q1 _ ⟨e1, rfl⟩
  simp only [reprio_heap, reprio_removed]
  refine RelR.bind_same (fun last => ?_)
  refine RelR.bind_same (fun removed => ?_)
  refine RelR.ite ?_ (RelR.pure ⟨e1, rfl⟩)
  refine RelR.bind_same (fun first => ?_)
  refine RelR.bind (Heap.siftDown_rel H S chk _
    { q1 with heap := q1.heap.pop, removed := removed } e1 p' r first) (fun q2 _ ⟨e2, e⟩ => ?_)
  exact RelR.pure ⟨e2, e ▸ rfl⟩

theorem Heap.heapifyLoop_rel {h : α → β} (H : OrdHom h) (S : SentinelSafe h) (chk : Bool)
    (q : Heap α) {p : Array α} (hq : q.prio = p) (p' : Array β) (r : AR h p p') (l : List Nat) :
    RelR (HR p p') (Heap.heapifyLoop chk q l) (Heap.heapifyLoop chk (reprio p' q) l) := by
  induction l generalizing q with
  | nil => exact RelR.pure ⟨hq, rfl⟩
  | cons i is ih =>
    unfold Heap.heapifyLoop
    simp only [reprio_heap]
    refine RelR.bind_same (fun o => ?_)
    refine RelR.bind (Heap.siftDown_rel H S chk _ q hq p' r o) (fun q1 _ ⟨e1, e⟩ => ?_)
    exact e ▸ ih q1 e1

theorem Heap.priority_rel {h : α → β} (q : Heap α) (p' : Array β) (r : AR h q.prio p') (o : Nat) :
    RelR (VR h) (q.priority o) ((reprio p' q).priority o) := by
  unfold Heap.priority
  simp only [reprio_removed, reprio_prio]
  refine RelR.bind_same (fun r1 => ?_)
  refine RelR.bind_same (fun _ => ?_)
  exact aget_rel r o

theorem Heap.setPriority_rel {h : α → β} (H : OrdHom h) (S : SentinelSafe h) (chk : Bool)
    (q : Heap α) (p' : Array β) (r : AR h q.prio p') (o : Nat) {x : α} {y : β} (rv : VR h x y) :
    RelR (HeapR h) (q.setPriority chk o x) ((reprio p' q).setPriority chk o y) := by
  unfold Heap.setPriority
  simp only [reprio_removed, reprio_prio]
  refine RelR.bind_same (fun r1 => ?_)
  refine RelR.bind_same (fun _ => ?_)
  refine RelR.bind (aget_rel r o) (fun old old' rold => ?_)
  refine RelR.bind (aset_rel r o rv) (fun prio prio' rprio => ?_)
  rw [VR.lt H S rv rold, VR.lt H S rold rv]
  refine RelR.ite ?_ (RelR.ite ?_ ?_)
  · exact (Heap.siftUp_rel H S chk _ { q with prio := prio } rfl prio' rprio o).mono
      (fun a a' ha => HR.toHeapR rprio ha)
  · exact (Heap.siftDown_rel H S chk _ { q with prio := prio } rfl prio' rprio o).mono
      (fun a a' ha => HR.toHeapR rprio ha)
  · exact RelR.pure ⟨prio', rprio, rfl⟩

theorem Heap.heapifyWith_rel {h : α → β} (H : OrdHom h) (S : SentinelSafe h) (chk : Bool)
    (q : Heap α) (p' : Array β) (hsz : p'.size = q.prio.size) (init : Array α) (init' : Array β)
    (ri : AR h init init') :
    RelR (HeapR h) (q.heapifyWith chk (fun _ => pure init))
      ((reprio p' q).heapifyWith chk (fun _ => pure init')) := by
  unfold Heap.heapifyWith
  simp only [reprio_prio, hsz, heapReset_eq_fresh]
  refine RelR.bind (ρ := AR h) (RelR.pure ri) (fun prio prio' rprio => ?_)
  exact (Heap.heapifyLoop_rel H S chk { (Heap.fresh q.prio.size : Heap α) with prio := prio } rfl
    prio' rprio _).mono (fun a a' ha => HR.toHeapR rprio ha)

end Kodama
