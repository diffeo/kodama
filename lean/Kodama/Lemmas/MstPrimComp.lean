/-
Component maps `compAt es i` (components after the first `i` processed edges): they only grow,
they join the endpoints of each of the first `i` edges, and two observations in one component were
first joined by some edge before `i`.
-/
import Kodama.Lemmas.RelabelWF
namespace Kodama
open Spec

theorem compAt_mono (es : List (Nat × Nat)) {i : Nat} {u v : Nat}
    (h : compAt es i u = compAt es i v) : ∀ k, i ≤ k → compAt es k u = compAt es k v := by
  intro k hk
  induction k with
  | zero =>
    have : i = 0 := by omega
    subst this; exact h
  | succ k ih =>
    by_cases hik : i = k + 1
    · subst hik; exact h
    · have := ih (by omega)
      cases he : es[k]? with
      | none => simp only [compAt, he]; exact this
      | some e => rw [compAt_succ he]; exact ker_le_joinComp _ _ _ this

theorem compAt_edge (es : List (Nat × Nat)) {j k : Nat} {e : Nat × Nat} (he : es[j]? = some e)
    (hjk : j < k) : compAt es k e.1 = compAt es k e.2 := by
  have : compAt es (j + 1) e.1 = compAt es (j + 1) e.2 := by
    rw [compAt_succ he]; exact joinComp_edge _ _ _
  exact compAt_mono es this k (by omega)

theorem compAt_first_join (es : List (Nat × Nat)) {u v : Nat} (huv : u ≠ v) :
    ∀ m, compAt es m u = compAt es m v →
      ∃ k e, k < m ∧ es[k]? = some e ∧ compAt es (k + 1) u = compAt es (k + 1) e.1 ∧
        compAt es (k + 1) v = compAt es (k + 1) e.1 := by
  intro m
  induction m with
  | zero => intro h; exact absurd h huv
  | succ m ih =>
    intro h
    by_cases hm : compAt es m u = compAt es m v
    · obtain ⟨k, e, hk, he, h1, h2⟩ := ih hm
      exact ⟨k, e, by omega, he, h1, h2⟩
    · cases he : es[m]? with
      | none => simp only [compAt, he] at h; exact absurd h hm
      | some e =>
        refine ⟨m, e, Nat.lt_succ_self m, he, ?_, ?_⟩
        · rw [compAt_succ he] at h ⊢
          rw [joinComp_eq_iff] at h ⊢
          rcases h with h | ⟨h1, _⟩ | ⟨h1, _⟩
          · exact absurd h hm
          · exact Or.inl h1
          · exact Or.inr (Or.inr ⟨h1, rfl⟩)
        · rw [compAt_succ he] at h ⊢
          rw [joinComp_eq_iff] at h ⊢
          rcases h with h | ⟨_, h2⟩ | ⟨_, h2⟩
          · exact absurd h hm
          · exact Or.inr (Or.inr ⟨h2.symm, rfl⟩)
          · exact Or.inl h2.symm

end Kodama
