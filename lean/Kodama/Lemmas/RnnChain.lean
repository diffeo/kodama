/-
Model side of the nearest-neighbour-chain correctness theorem: the raw steps that the loop of
`nnchainWith` records are a run of reciprocal-nearest-neighbour merges (`Rnn.RnnFrom`) from `n`
singletons (`chainLoop_rnn`).  The loop invariant `ChainTreeInv` adds to `ChainInv`: every live matrix
entry is the `R`-value of the merge trees of the two clusters (`R` any functional relation propagated by
the method's formula, `LWCompat`), recorded sizes are cluster cardinalities, and the steps so far are
such a run ending in the current index state.  One iteration extends the run because `ChainStepFacts`
(`Lemmas/ChainIter.lean`) says that the merged pair `a < b` are nearest neighbours of each other w.r.t.
the current matrix, ties included.  `TabCore` is the part of the invariant that does not need `R` to be
functional and does not mention the data structures of `nnchain_with`; it is shared with the invariant for
approximate relations (`RoundCore`, `Lemmas/RoundCore.lean`), whatever the algorithm.
-/
import Kodama.Lemmas.ChainOn
import Kodama.Lemmas.RnnState
import Kodama.Lemmas.MergeFacts
import Kodama.Lemmas.MstPrimEntry
import Kodama.Lemmas.PrimGreedyLabels
namespace Kodama
open Spec
variable {α : Type} [Num α]

open Crit MTree in
/-- `ChainReducible` (the closure property of the update formula) gives the laws of the abstract run
for every relation `R` that the formula propagates and that is functional. -/
theorem rlaws_of_reducible {mc : MethodChain} {R : MTree Nat → MTree Nat → α → Prop}
    (C : LWCompat mc.intoMethod R) (hu : ∀ s t v w, R s t v → R s t w → v = w)
    (hred : ChainReducible α mc) (hnan : ∀ x : α, Num.isNaN x = false) :
    Rnn.RLaws mc.intoMethod R where
  compat := C
  unique := hu
  red := by
    intro ta tb tx vab va vb v t hab hax hbx hvab hva hvb hv h1 h2 h3
    have e := hu _ _ _ _ hv (C.step ta tb tx va vb vab hab hax hbx hva hvb hvab)
    refine hred.ge #[tx.leaves.card] ta.leaves.card tb.leaves.card vab 0 va vb v t
      (Finset.card_pos.mpr ta.leaves_nonempty) (Finset.card_pos.mpr tb.leaves_nonempty)
      (hnan _) (hnan _) (hnan _) (hnan _) h1 h2 h3 ?_
    rw [chainUpdFn_eq mc _ _ _ _ 0 _ _ (by simp), e]
    simp

/-- The initial matrix holds the initial table of the spec (entry form). -/
theorem init_dval (m : Method) (data : Array α) (n : Nat) (hs : n < 2147483648)
    (hl : 2 * data.size = n * (n - 1)) (x y : Nat) (hx : x < n) (hy : y < n) (hxy : x ≠ y) :
    ({ data := squareData m data, n := n, acc := 0 } : Mat α).dval x y = (init m n data).D x y := by
  have hl' : 2 * (squareData m data).size = n * (n - 1) := by rw [squareData_size]; exact hl
  have h2 : 2 ≤ n := by omega
  have hv : ({ data := squareData m data, n := n, acc := 0 } : Mat α).Valid := ⟨h2, hs, hl'⟩
  have key : ∀ x y, x < y → y < n →
      ({ data := squareData m data, n := n, acc := 0 } : Mat α).dval x y = (init m n data).D x y := by
    intro x y hxy hy
    have g1 := init_get true m data n hs hl x y hxy hy
    have g2 := Mat.get_dval true _ hv x y hxy hy
    rw [g1] at g2
    injection g2 with g2
    exact g2.symm
  by_cases c : x < y
  · exact key x y c hy
  · rw [Mat.dval_comm, init_DSymm m n data x y]
    exact key y x (by omega) hx

open Crit MTree Rnn in
/-- What the loop invariants that relate the matrix to a relation `R` between merge trees and values share,
whatever the algorithm: with `σ` the index state reached by the raw steps recorded so far, every live matrix
entry is an `R`-value of the two cluster trees and recorded sizes are cluster cardinalities.  Preserved by
every iteration that satisfies `RnnFacts` (`TabCore.step`; only `LWCompat` is needed). -/
structure TabCore (R : MTree Nat → MTree Nat → α → Prop) (n : Nat) (live : List Nat)
    (sizes : Array Nat) (steps : List (Step α)) (M : Mat α) (σ : IState) : Prop where
  state : σ = IState.replay (IState.init n) steps
  live_eq : σ.live = live
  tab : Tab R σ
  table : ∀ x ∈ live, ∀ y ∈ live, x ≠ y → R (σ.tree x) (σ.tree y) (M.dval x y)
  sizes : ∀ x ∈ live, sizes.getD x 0 = (σ.tree x).leaves.card

section TabCore
open Crit MTree Rnn Finset
variable {m : Method} {R : MTree Nat → MTree Nat → α → Prop} {n : Nat} {live : List Nat}
  {sizes sizes' : Array Nat} {steps steps' : List (Step α)} {M M' : Mat α} {σ : IState} {a b : Nat}

/-- The Lance–Williams update of the current matrix at a live `x` is an `R`-value of the merged tree (and
the two trees are disjoint). -/
theorem TabCore.row (C : LWCompat m R) (inv : TabCore R n live sizes steps M σ) {x : Nat}
    (ha : a ∈ live) (hb : b ∈ live) (hx : x ∈ live) (hab : a ≠ b) (hxa : x ≠ a) (hxb : x ≠ b) :
    Disjoint (node (σ.tree a) (σ.tree b)).leaves (σ.tree x).leaves ∧
    R (node (σ.tree a) (σ.tree b)) (σ.tree x)
      (lw m (M.dval x a) (M.dval x b) (M.dval a b) (sizes.getD a 0) (sizes.getD b 0)
        (sizes.getD x 0)) := by
  have hl := inv.live_eq
  subst hl
  rw [M.dval_comm x a, M.dval_comm x b]
  exact C.row inv.tab.disj inv.sizes inv.table ha hb hab hx hxa hxb

theorem TabCore.step (C : LWCompat m R) (hlt : ∀ x ∈ live, x < n)
    (inv : TabCore R n live sizes steps M σ)
    (F : RnnFacts m n live sizes sizes' steps steps' M M' a b) :
    TabCore R n (live.filter (· ≠ a)) sizes' steps' M' (σ.merge a b) := by
  have hab : a ≠ b := Nat.ne_of_lt F.lt
  have hl := inv.live_eq
  subst hl
  obtain ⟨hd, hs, ht⟩ := C.merge (S' := (· ∈ (σ.merge a b).live)) (c := b) (tr' := (σ.merge a b).tree)
    (sz' := (sizes'.getD · 0)) (D' := M'.dval) inv.tab.disj inv.sizes inv.table F.ma F.mb hab
    (fun x hx hc => ⟨(mem_filter_ne.mp hx).1, (mem_filter_ne.mp hx).2, hc⟩)
    (fun x _ hc => IState.merge_tree_of_ne _ _ _ _ hc) (IState.merge_tree_self _ _ _)
    (fun x _ hc => by rw [F.hsizes, if_neg hc]) (by rw [F.hsizes, if_pos rfl])
    (fun x y hx hy hxy cx cy => F.frame x y (hlt x hx) (hlt y hy) hxy (fun h => cy h.1) (fun h => cx h.1))
    (fun y hy hya hyb _ => ⟨by rw [M'.dval_comm, F.upd y hy hya hyb, M.dval_comm y a, M.dval_comm y b],
      M'.dval_comm y b⟩)
  exact
    { state := by rw [F.hsteps, IState.replay_append, ← inv.state]; rfl
      live_eq := rfl
      tab := ⟨inv.tab.nodup.filter _, hd, fun x hx y hy hxy => ⟨_, ht x hx y hy hxy⟩⟩
      table := ht
      sizes := hs }

end TabCore

open Crit MTree Rnn Finset in
theorem tabCore_init (m : Method) {R : MTree Nat → MTree Nat → α → Prop}
    (data : Array α) (n : Nat) (hs : n < 2147483648) (hl : 2 * data.size = n * (n - 1))
    (hR : ∀ i j, i < n → j < n → i ≠ j → R (leaf i) (leaf j) ((init m n data).D i j)) :
    TabCore R n (List.range n) (Array.replicate n 1) []
      ({ data := squareData m data, n := n, acc := 0 } : Mat α) (IState.init n) where
  state := rfl
  live_eq := rfl
  tab :=
    { nodup := List.nodup_range
      disj := by
        intro x _ y _ hxy
        simp only [IState.init, leaves_leaf, disjoint_singleton]; exact hxy
      ex := fun x hx y hy hxy =>
        ⟨_, hR x y (List.mem_range.mp hx) (List.mem_range.mp hy) hxy⟩ }
  table := by
    intro x hx y hy hxy
    rw [init_dval m data n hs hl x y (List.mem_range.mp hx) (List.mem_range.mp hy) hxy]
    exact hR x y (List.mem_range.mp hx) (List.mem_range.mp hy) hxy
  sizes := by
    intro x hx
    have : x < n := List.mem_range.mp hx
    simp [Array.getD, this, IState.init]

/-- One outer iteration of `nnchainWith` in terms of the interface: `chainUpdFn` computes `Spec.lw`. -/
theorem ChainStepFacts.toRnn {mc : MethodChain} {n : Nat} {live : List Nat} {st st' : State α}
    {dend dend' : Dendrogram α} {M M' : Mat α} {a b : Nat}
    (F : ChainStepFacts mc n live st dend M st' dend' M' a b)
    (hsz : ∀ x ∈ live, x < st.sizes.size) :
    RnnFacts mc.intoMethod n live st.sizes st'.sizes dend.steps.toList dend'.steps.toList M M' a b where
  lt := F.lt
  ma := F.ma
  mb := F.mb
  hsteps := F.steps_toList
  hsizes := F.sizes
  nn := F.nn
  upd := fun x hx hxa hxb => by
    have h := F.upd x hx hxa hxb
    rw [chainUpdFn_eq mc _ _ _ _ x _ _ (hsz x hx)] at h
    exact (Except.ok.inj h).symm
  frame := F.frame

open Crit MTree Rnn in
structure ChainTreeInv (R : MTree Nat → MTree Nat → α → Prop) (n k : Nat) (live : List Nat)
    (st : State α) (dend : Dendrogram α) (M : Mat α) (σ : IState) : Prop where
  chain : ChainInv n k live st dend M
  state : σ = IState.replay (IState.init n) dend.steps.toList
  live_eq : σ.live = live
  run : RnnFrom R (IState.init n) dend.steps.toList
  tab : Tab R σ
  table : ∀ x ∈ live, ∀ y ∈ live, x ≠ y → R (σ.tree x) (σ.tree y) (M.dval x y)
  sizes : ∀ x ∈ live, st.sizes.getD x 0 = (σ.tree x).leaves.card

open Crit MTree Rnn in
theorem ChainTreeInv.core {R : MTree Nat → MTree Nat → α → Prop} {n k : Nat} {live : List Nat}
    {st : State α} {dend : Dendrogram α} {M : Mat α} {σ : IState}
    (inv : ChainTreeInv R n k live st dend M σ) :
    TabCore R n live st.sizes dend.steps.toList M σ :=
  { inv with }

open Crit MTree Rnn in
theorem chainTreeInv_step (L : OrderLaws α) (chk : Bool) (mc : MethodChain)
    (hred : ChainReducible α mc) {R : MTree Nat → MTree Nat → α → Prop}
    (C : LWCompat mc.intoMethod R) (hu : ∀ s t v w, R s t v → R s t w → v = w)
    (n k : Nat) (live : List Nat) (st : State α) (dend : Dendrogram α) (M : Mat α) (σ : IState)
    (hk : k + 1 < n) (inv : ChainTreeInv R n k live st dend M σ) :
    ∃ st' dend' M' a b, chainIter chk mc ⟨st, dend, M⟩ = .ok ⟨st', dend', M'⟩ ∧
      ChainStepFacts mc n live st dend M st' dend' M' a b ∧
      ChainTreeInv R n (k + 1) (live.filter (· ≠ a)) st' dend' M' (σ.merge a b) := by
  obtain ⟨st', dend', M', a, b, e, cinv', F⟩ :=
    chainIter_ok_ext L chk mc hred n k live st dend M hk inv.chain
  have hlt := inv.chain.prim.rep.mem_lt
  have core' := inv.core.step C hlt
    (F.toRnn fun x hx => by rw [inv.chain.prim.sizes_sz]; exact hlt x hx)
  refine ⟨st', dend', M', a, b, e, F, { core' with chain := cinv', run := ?_ }⟩
  have hab : a ≠ b := Nat.ne_of_lt F.lt
  -- the recorded step merges reciprocal nearest neighbours: `R` is functional, so every `R`-value of a
  -- live pair is the matrix entry
  rw [F.steps_toList, rnnFrom_append, ← inv.state]
  refine ⟨inv.run, by rw [inv.live_eq]; exact F.ma, by rw [inv.live_eq]; exact F.mb, hab,
    inv.table a F.ma b F.mb hab, by rw [inv.sizes a F.ma, inv.sizes b F.mb], ?_, ?_⟩
  · intro z hz hza v hv
    rw [inv.live_eq] at hz
    rw [hu _ _ _ _ hv (inv.table a F.ma z hz (Ne.symm hza))]
    exact F.nn a (Or.inl rfl) z hz hza
  · intro z hz hzb v hv
    rw [inv.live_eq] at hz
    rw [hu _ _ _ _ hv (inv.table b F.mb z hz (Ne.symm hzb))]
    exact F.nn b (Or.inr rfl) z hz hzb

open Crit MTree Rnn in
theorem chainTreeInv_init (mc : MethodChain) {R : MTree Nat → MTree Nat → α → Prop}
    (data : Array α) (n : Nat) (h2 : 2 ≤ n) (hs : n < 2147483648)
    (hl : 2 * data.size = n * (n - 1)) (hnan : NoNaNData (squareData mc.intoMethod data))
    (hR : ∀ i j, i ≠ j → R (leaf i) (leaf j) ((init mc.intoMethod n data).D i j)) :
    ChainTreeInv R n 0 (List.range n) ({ (State.fresh n : State α) with chain := #[] })
      (Dendrogram.new n) ({ data := squareData mc.intoMethod data, n := n, acc := 0 } : Mat α)
      (IState.init n) :=
  { tabCore_init mc.intoMethod data n hs hl (fun i j _ _ => hR i j) with
    chain := chainInv_init _ n h2 hs (by rw [squareData_size]; exact hl) hnan
    run := by simp [Dendrogram.new, RnnFrom] }

structure ChainRnnResult (R : Crit.MTree Nat → Crit.MTree Nat → α → Prop) (n : Nat)
    (dend : Dendrogram α) (M : Mat α) : Prop where
  res : ChainLoopResult n dend M
  run : Rnn.RnnFrom R (Rnn.IState.init n) dend.steps.toList

open Crit MTree Rnn in
/-- The loop of `nnchain_with` performs a run of reciprocal-nearest-neighbour merges. -/
theorem chainLoop_rnn (L : OrderLaws α) (chk : Bool) (mc : MethodChain)
    (hred : ChainReducible α mc) {R : MTree Nat → MTree Nat → α → Prop}
    (C : LWCompat mc.intoMethod R) (hu : ∀ s t v w, R s t v → R s t w → v = w)
    (data : Array α) (n : Nat) (h2 : 2 ≤ n) (hs : n < 2147483648)
    (hl : 2 * data.size = n * (n - 1)) (hnan : NoNaNData (squareData mc.intoMethod data))
    (hR : ∀ i j, i ≠ j → R (leaf i) (leaf j) ((init mc.intoMethod n data).D i j)) :
    ∃ s1 : ChainSt α,
      iterM (chainIter chk mc) (n - 1)
        ⟨{ (State.fresh n : State α) with chain := #[] }, Dendrogram.new n,
          { data := squareData mc.intoMethod data, n := n, acc := 0 }⟩ = .ok s1 ∧
      ChainRnnResult R n s1.dend s1.M := by
  obtain ⟨s1, e, ⟨live, σ, hinv⟩, hres⟩ := chainLoop_of_step chk mc n h2
    (fun j (s : ChainSt α) => ∃ live σ, ChainTreeInv R n j live s.st s.dend s.M σ)
    (fun j s ⟨live, σ, hinv⟩ => ⟨live, hinv.chain⟩)
    (fun j s hj ⟨live, σ, hinv⟩ => by
      obtain ⟨st', dend', M', a, b, e, _, hinv'⟩ :=
        chainTreeInv_step L chk mc hred C hu n j live s.st s.dend s.M σ hj hinv
      exact ⟨⟨st', dend', M'⟩, e, _, _, hinv'⟩)
    ⟨{ (State.fresh n : State α) with chain := #[] }, Dendrogram.new n,
      { data := squareData mc.intoMethod data, n := n, acc := 0 }⟩
    ⟨List.range n, IState.init n, chainTreeInv_init mc data n h2 hs hl hnan hR⟩
  exact ⟨s1, e, hres, hinv.run⟩

end Kodama
