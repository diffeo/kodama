/- Lemmas for C18 (model of the `locations` tool, `Model/Locations.lean`).  Whatever the split trees of
the schedule, fork–join evaluation (`parMatrix_eq`) and the job list run in any order that covers
every job (`allJobs_flatMap`, `runJobs_eq`) produce the row-major enumeration `matrixSpec`.  The
little-endian 8-byte codec round-trips in both directions (`decodeLE_encodeLE`, `encodeLE_decodeLE`). -/
import Kodama.Model.Locations
namespace Kodama.Loc
open Spec

theorem range'_cut (k lo hi : Nat) :
    List.range' lo (cut k lo hi - lo) ++ List.range' (cut k lo hi) (hi - cut k lo hi)
      = List.range' lo (hi - lo) := by
  unfold cut
  have h1 : lo + min k (hi - lo) - lo = min k (hi - lo) := by omega
  have h2 : hi - (lo + min k (hi - lo)) = (hi - lo) - min k (hi - lo) := by omega
  rw [h1, h2, List.range'_append_1]
  congr 1
  omega

theorem flatMap_single {α β : Type} (g : α → β) (l : List α) :
    l.flatMap (fun x => [g x]) = l.map g := by
  rw [List.map_eq_flatMap]

theorem flatMap_congr' {α β : Type} (l : List α) (f g : α → List β)
    (h : ∀ a, a ∈ l → f a = g a) : l.flatMap f = l.flatMap g := by
  rw [List.flatMap_def, List.flatMap_def, List.map_congr_left h]

theorem parRange_eq {β : Type} (g : Nat → List β) (s : Split) :
    ∀ lo hi, parRange g s lo hi = (List.range' lo (hi - lo)).flatMap g := by
  induction s with
  | leaf => intro lo hi; rfl
  | node k l r ihl ihr =>
    intro lo hi
    simp only [parRange]
    rw [ihl, ihr, ← List.flatMap_append, range'_cut]

theorem pairsUpTo_eq (n : Nat) : ∀ r, pairsUpTo n r = (List.range r).flatMap (rowPairs n) := by
  intro r
  induction r with
  | zero => rfl
  | succ r ih =>
    rw [pairsUpTo, ih, List.range_succ, List.flatMap_append, List.flatMap_singleton]

theorem pairs_eq (n : Nat) : pairs n = (List.range n).flatMap (rowPairs n) := by
  unfold pairs
  rw [pairsUpTo_eq]
  cases n with
  | zero => rfl
  | succ m =>
    rw [List.range_succ, List.flatMap_append, List.flatMap_singleton]
    have : rowPairs (m + 1) m = [] := by simp [rowPairs]
    rw [this, List.append_nil]
    rfl

theorem row_eq {β : Type} (n i : Nat) (f : Nat → Nat → β) :
    (List.range' (i + 1) (n - (i + 1))).map (f i) = (rowPairs n i).map (fun p => f p.1 p.2) := by
  rw [List.range'_eq_map_range]
  simp [rowPairs, List.map_map, Function.comp_def]

theorem nested_eq_spec {β : Type} (n : Nat) (f : Nat → Nat → β) :
    (List.range' 0 (n - 0)).flatMap (fun i => (List.range' (i + 1) (n - (i + 1))).map (f i))
      = matrixSpec n f := by
  unfold matrixSpec
  rw [pairs_eq, List.map_flatMap, Nat.sub_zero, ← List.range_eq_range']
  apply flatMap_congr'
  intro i _
  exact row_eq n i f

theorem parMatrix_eq {β : Type} (s : Sched) (n : Nat) (f : Nat → Nat → β) :
    parMatrix s n f = matrixSpec n f := by
  unfold parMatrix
  rw [parRange_eq]
  rw [← nested_eq_spec]
  apply flatMap_congr'
  intro i _
  rw [parRange_eq, flatMap_single]

theorem jobs_flatMap {β : Type} (g : Nat → List β) (s : Split) :
    ∀ lo hi, (s.jobs lo hi).flatMap (fun o => (List.range' o.1 (o.2 - o.1)).flatMap g)
      = (List.range' lo (hi - lo)).flatMap g := by
  induction s with
  | leaf => intro lo hi; simp [Split.jobs]
  | node k l r ihl ihr =>
    intro lo hi
    simp only [Split.jobs]
    rw [List.flatMap_append, ihl, ihr, ← List.flatMap_append, range'_cut]

theorem allJobs_flatMap {β : Type} (s : Sched) (n : Nat) (f : Nat → Nat → β) :
    (allJobs s n).flatMap (jobWork f) = matrixSpec n f := by
  unfold allJobs
  rw [List.flatMap_assoc]
  have h1 : ∀ o : Nat × Nat,
      ((List.range' o.1 (o.2 - o.1)).flatMap fun i =>
          ((s.inner i).jobs (i + 1) n).map fun c => (i, c.1, c.2)).flatMap (jobWork f)
        = (List.range' o.1 (o.2 - o.1)).flatMap
            (fun i => (List.range' (i + 1) (n - (i + 1))).map (f i)) := by
    intro o
    rw [List.flatMap_assoc]
    apply flatMap_congr'
    intro i _
    rw [List.flatMap_map]
    have := jobs_flatMap (fun j => [f i j]) (s.inner i) (i + 1) n
    simp only [flatMap_single] at this
    exact this
  simp only [h1]
  rw [jobs_flatMap (fun i => (List.range' (i + 1) (n - (i + 1))).map (f i)) s.outer 0 n]
  exact nested_eq_spec n f

theorem lookup_done {γ β : Type} (jobs : List γ) (work : γ → List β) (i : Nat)
    (hi : i < jobs.length) :
    ∀ ord : List Nat, i ∈ ord →
      (ord.filterMap fun a => jobs[a]?.map fun j => (a, work j)).lookup i = some (work jobs[i]) := by
  intro ord
  induction ord with
  | nil => intro h; cases h
  | cons a t ih =>
    intro hmem
    rw [List.filterMap_cons]
    by_cases hia : i = a
    · subst hia
      rw [List.getElem?_eq_getElem hi]
      simp
    · have hit : i ∈ t := by
        cases hmem with
        | head => exact absurd rfl hia
        | tail _ h => exact h
      cases hja : jobs[a]? with
      | none => simpa using ih hit
      | some j =>
        have : (i == a) = false := by simpa using hia
        simp only [Option.map_some, List.lookup_cons, this]
        exact ih hit

theorem flatMap_by_index {γ β : Type} (work : γ → List β) :
    ∀ jobs : List γ,
      (List.range jobs.length).flatMap (fun i => ((jobs[i]?).map work).getD []) = jobs.flatMap work := by
  intro jobs
  induction jobs with
  | nil => rfl
  | cons j t ih =>
    rw [List.length_cons, List.range_succ_eq_map, List.flatMap_cons, List.flatMap_cons,
      List.flatMap_map]
    simp only [List.getElem?_cons_zero, Option.map_some, Option.getD_some, Nat.succ_eq_add_one,
      List.getElem?_cons_succ]
    rw [ih]

theorem runJobs_eq {γ β : Type} (jobs : List γ) (work : γ → List β) (ord : List Nat)
    (hall : ∀ i, i < jobs.length → i ∈ ord) : runJobs jobs work ord = jobs.flatMap work := by
  unfold runJobs
  rw [← flatMap_by_index work jobs]
  apply flatMap_congr'
  intro i hi
  have hi' : i < jobs.length := List.mem_range.mp hi
  rw [lookup_done jobs work i hi' ord (hall i hi'), List.getElem?_eq_getElem hi']
  rfl

theorem decodeWord_horner (b0 b1 b2 b3 b4 b5 b6 b7 : Nat) :
    decodeWord b0 b1 b2 b3 b4 b5 b6 b7 =
      b0 + 256 * (b1 + 256 * (b2 + 256 * (b3 + 256 * (b4 + 256 * (b5 + 256 * (b6 + 256 * b7)))))) := by
  unfold decodeWord
  omega

theorem encodeWord_div (w : Nat) :
    encodeWord w = [w % 256, w / 256 % 256, w / 256 / 256 % 256, w / 256 / 256 / 256 % 256,
      w / 256 / 256 / 256 / 256 % 256, w / 256 / 256 / 256 / 256 / 256 % 256,
      w / 256 / 256 / 256 / 256 / 256 / 256 % 256,
      w / 256 / 256 / 256 / 256 / 256 / 256 / 256 % 256] := by
  simp only [encodeWord, Nat.div_div_eq_div_mul]

/-- The bytes of a word put together again: each Horner step is `w % 256 + 256 * (w / 256) = w`. -/
theorem decodeWord_bytes (w : Nat) (h : w < 18446744073709551616) :
    decodeWord (w % 256) (w / 256 % 256) (w / 256 / 256 % 256) (w / 256 / 256 / 256 % 256)
      (w / 256 / 256 / 256 / 256 % 256) (w / 256 / 256 / 256 / 256 / 256 % 256)
      (w / 256 / 256 / 256 / 256 / 256 / 256 % 256)
      (w / 256 / 256 / 256 / 256 / 256 / 256 / 256 % 256) = w := by
  have h7 : w / 256 / 256 / 256 / 256 / 256 / 256 / 256 < 256 := by omega
  rw [decodeWord_horner, Nat.mod_eq_of_lt h7]
  simp only [Nat.mod_add_div]

theorem byte_step (b q : Nat) (hb : b < 256) :
    (b + 256 * q) % 256 = b ∧ (b + 256 * q) / 256 = q := by
  omega

/-- The word of eight bytes taken apart again: each step strips one Horner layer (`byte_step`). -/
theorem encodeWord_decodeWord (b0 b1 b2 b3 b4 b5 b6 b7 : Nat) (h0 : b0 < 256) (h1 : b1 < 256)
    (h2 : b2 < 256) (h3 : b3 < 256) (h4 : b4 < 256) (h5 : b5 < 256) (h6 : b6 < 256)
    (h7 : b7 < 256) :
    encodeWord (decodeWord b0 b1 b2 b3 b4 b5 b6 b7) = [b0, b1, b2, b3, b4, b5, b6, b7] := by
  rw [encodeWord_div, decodeWord_horner]
  simp only [(byte_step _ _ h0).1, (byte_step _ _ h0).2, (byte_step _ _ h1).1, (byte_step _ _ h1).2,
    (byte_step _ _ h2).1, (byte_step _ _ h2).2, (byte_step _ _ h3).1, (byte_step _ _ h3).2,
    (byte_step _ _ h4).1, (byte_step _ _ h4).2, (byte_step _ _ h5).1, (byte_step _ _ h5).2,
    (byte_step _ _ h6).1, (byte_step _ _ h6).2, Nat.mod_eq_of_lt h7]

theorem decodeLE_append_word (w : Nat) (rest : List Nat) (h : w < 18446744073709551616) :
    decodeLE (encodeWord w ++ rest) = (decodeLE rest).map (w :: ·) := by
  rw [encodeWord_div]
  simp only [List.cons_append, List.nil_append]
  rw [decodeLE, decodeWord_bytes w h]

/-- Despite the name a statement about the list codec `decodeLE`, on the eight bytes of one word. -/
theorem decodeWord_encodeWord (w : Nat) (h : w < 18446744073709551616) :
    decodeLE (encodeWord w) = some [w] := by
  rw [← List.append_nil (encodeWord w), decodeLE_append_word w [] h]
  rfl

theorem encodeLE_cons (w : Nat) (t : List Nat) : encodeLE (w :: t) = encodeWord w ++ encodeLE t :=
  List.flatMap_cons

theorem decodeLE_encodeLE (ws : List Nat) (h : ∀ w, w ∈ ws → w < 18446744073709551616) :
    decodeLE (encodeLE ws) = some ws := by
  induction ws with
  | nil => rfl
  | cons w t ih =>
    rw [encodeLE_cons, decodeLE_append_word w _ (h w (List.mem_cons_self ..)),
      ih (fun x hx => h x (List.mem_cons_of_mem _ hx))]
    rfl

theorem decodeLE_isSome_iff : ∀ bs : List Nat, (decodeLE bs).isSome ↔ bs.length % 8 = 0
  | [] => by simp [decodeLE]
  | [_] => by simp [decodeLE]
  | [_, _] => by simp [decodeLE]
  | [_, _, _] => by simp [decodeLE]
  | [_, _, _, _] => by simp [decodeLE]
  | [_, _, _, _, _] => by simp [decodeLE]
  | [_, _, _, _, _, _] => by simp [decodeLE]
  | [_, _, _, _, _, _, _] => by simp [decodeLE]
  | _ :: _ :: _ :: _ :: _ :: _ :: _ :: _ :: rest => by
    have ih := decodeLE_isSome_iff rest
    simp only [decodeLE, Option.isSome_map, List.length_cons]
    rw [ih]
    omega

theorem decodeLE_length (bs ws : List Nat) (h : decodeLE bs = some ws) :
    8 * ws.length = bs.length := by
  induction bs using decodeLE.induct generalizing ws with
  | case1 => cases h; rfl
  | case2 b0 b1 b2 b3 b4 b5 b6 b7 rest ih =>
    rw [decodeLE, Option.map_eq_some_iff] at h
    obtain ⟨ws', h1, rfl⟩ := h
    have := ih ws' h1
    simp only [List.length_cons]
    omega
  | case3 t h0 h8 => rw [decodeLE.eq_3 t h0 h8] at h; cases h

/-- Loading and saving again reproduces the file (bytes are `< 256`). -/
theorem encodeLE_decodeLE (bs ws : List Nat) (hb : ∀ b, b ∈ bs → b < 256)
    (h : decodeLE bs = some ws) : encodeLE ws = bs := by
  induction bs using decodeLE.induct generalizing ws with
  | case1 => cases h; rfl
  | case2 b0 b1 b2 b3 b4 b5 b6 b7 rest ih =>
    rw [decodeLE, Option.map_eq_some_iff] at h
    obtain ⟨ws', h1, rfl⟩ := h
    simp only [List.forall_mem_cons] at hb
    obtain ⟨h0, h1', h2, h3, h4, h5, h6, h7, hr⟩ := hb
    rw [encodeLE_cons, ih ws' hr h1, encodeWord_decodeWord b0 b1 b2 b3 b4 b5 b6 b7 h0 h1' h2 h3 h4 h5 h6 h7]
    rfl
  | case3 t h0 h8 => rw [decodeLE.eq_3 t h0 h8] at h; cases h

end Kodama.Loc
