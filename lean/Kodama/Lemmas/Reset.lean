/-
The reset bodies translated from the source produce the canonical fresh value from ANY prior value
(every buffer an arbitrary array of arbitrary length).
-/
import Kodama.Model.State
namespace Kodama

theorem size_vresize {β : Type} (a : Array β) (n : Nat) (v : β) : (vresize a n v).size = n := by
  unfold vresize; split <;> simp <;> omega

theorem vresize_vclear {β : Type} (a : Array β) (n : Nat) (v : β) :
    vresize (vclear a) n v = Array.replicate n v := by
  simp [vresize, vclear]

theorem size_vfill {β : Type} (a : Array β) (n : Nat) (f : Nat → β) : (vfill a n f).size = a.size := by
  unfold vfill
  induction n generalizing a with
  | zero => simp
  | succ n ih => simp [List.range_succ, List.foldl_append, ih]

theorem vfill_succ {β : Type} (a : Array β) (n : Nat) (f : Nat → β) :
    vfill a (n + 1) f = (vfill a n f).setIfInBounds n (f n) := by
  simp [vfill, List.range_succ, List.foldl_append]

theorem getElem?_vfill {β : Type} (a : Array β) (n : Nat) (f : Nat → β) (i : Nat) :
    (vfill a n f)[i]? = if i < n ∧ i < a.size then some (f i) else a[i]? := by
  induction n with
  | zero => simp [vfill]
  | succ n ih =>
    rw [vfill_succ, Array.getElem?_setIfInBounds, size_vfill, ih]
    by_cases h : n = i
    · subst h
      by_cases h2 : n < a.size
      · simp [h2]
      · simp [h2]
    · by_cases h2 : i < n
      · have : i < n + 1 := by omega
        simp [h, h2, this]
      · have : ¬ i < n + 1 := by omega
        simp [h, h2, this]

/-- Filling a resized vector gives the table of `f`, whatever was there. -/
theorem vfill_vresize {β : Type} (a : Array β) (n : Nat) (v : β) (f : Nat → β) :
    vfill (vresize a n v) n f = Array.ofFn (n := n) (fun i => f i.val) := by
  apply Array.ext
  · simp [size_vfill, size_vresize]
  · intro i h1 h2
    have hn : i < n := by simpa using h2
    have := getElem?_vfill (vresize a n v) n f i
    rw [size_vresize] at this
    simp only [hn, and_self, if_true] at this
    have h3 := Array.getElem?_eq_some_iff.mp this
    obtain ⟨_, h4⟩ := h3
    simp [h4]

theorem vfillAll_vresize {β : Type} (a : Array β) (n : Nat) (v : β) (f : Nat → β) :
    vfillAll (vresize a n v) f = Array.ofFn (n := n) (fun i => f i.val) := by
  apply Array.ext
  · simp [vfillAll, size_vresize]
  · intro i h1 h2
    simp [vfillAll]

theorem ofFn_id_eq_range (n : Nat) : Array.ofFn (n := n) (fun i => i.val) = Array.range n := by
  apply Array.ext <;> simp

theorem ofFn_const {β : Type} (n : Nat) (v : β) : Array.ofFn (n := n) (fun _ => v) = Array.replicate n v := by
  apply Array.ext <;> simp

theorem activeReset_eq_fresh (s : Active) (n : Nat) : Gen.activeReset s n = Active.fresh n := by
  simp [Gen.activeReset, Active.fresh, vfill_vresize]

theorem heapReset_eq_fresh {α : Type} [Num α] (s : Heap α) (n : Nat) :
    Gen.heapReset s n = Heap.fresh n := by
  simp [Gen.heapReset, Heap.fresh, vfill_vresize, ofFn_id_eq_range, ofFn_const]

theorem ufReset_eq_fresh (s : UF) (n : Nat) : Gen.ufReset s n = UF.fresh n := by
  simp only [Gen.ufReset, UF.fresh, UF.sizeFor, vfillAll_vresize, ofFn_id_eq_range]

theorem dendrogramReset_eq {α : Type} [Num α] (d : Dendrogram α) (n : Nat) :
    d.reset n = Dendrogram.new n := by
  simp [Dendrogram.reset, Gen.dendrogramReset, Dendrogram.new, vclear]

theorem State.reset_eq_fresh {α : Type} [Num α] (st : State α) (n : Nat) :
    st.reset n = State.fresh n := by
  simp [State.reset, Gen.stateReset, State.fresh, vresize_vclear, activeReset_eq_fresh,
    heapReset_eq_fresh, ufReset_eq_fresh]

end Kodama
