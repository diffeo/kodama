/-
Merge-order labels of a raw step list (no law of the number type is used).

The main loops of `primitive` (and `generic`) record raw steps `(a, b, d, size)` between matrix
INDICES: the cluster at index `a` is merged into the cluster at index `b`, index `a` dies.
`labAt n es i x` is the label of the cluster living at index `x` before raw step `i`
(`x` itself initially; `n + j` after step `j` merged into `x`), `liveAt n es i` the live indices,
`MergeTrace n es` says that every raw step merges two distinct live indices, and
`mergeOrder m n L` is the raw step list `L` relabelled in merge order (step `i` creates label `n + i`)
with heights `Spec.post`-ed.  The four fields of `Step.new` (`Step.new_c1`, `_c2`, `_d`, `_size`) are here too.
-/
import Kodama.Spec.Naive
import Kodama.Lemmas.RelabelWF
namespace Kodama
open Spec
variable {α : Type}

def labAt (n : Nat) (es : List (Nat × Nat)) : Nat → Nat → Nat
  | 0 => fun x => x
  | i + 1 =>
    match es[i]? with
    | some e => fun x => if x = e.2 then n + i else labAt n es i x
    | none => labAt n es i

def liveAt (n : Nat) (es : List (Nat × Nat)) : Nat → List Nat
  | 0 => List.range n
  | i + 1 =>
    match es[i]? with
    | some e => (liveAt n es i).filter (fun x => decide (x ≠ e.1))
    | none => liveAt n es i

def MergeTrace (n : Nat) (es : List (Nat × Nat)) : Prop :=
  ∀ (i : Nat) (e : Nat × Nat), es[i]? = some e →
    e.1 ∈ liveAt n es i ∧ e.2 ∈ liveAt n es i ∧ e.1 ≠ e.2

theorem labAt_succ {n : Nat} {es : List (Nat × Nat)} {i : Nat} {e : Nat × Nat}
    (h : es[i]? = some e) (x : Nat) :
    labAt n es (i + 1) x = if x = e.2 then n + i else labAt n es i x := by
  simp only [labAt, h]

theorem liveAt_succ {n : Nat} {es : List (Nat × Nat)} {i : Nat} {e : Nat × Nat}
    (h : es[i]? = some e) :
    liveAt n es (i + 1) = (liveAt n es i).filter (fun x => decide (x ≠ e.1)) := by
  simp only [liveAt, h]

theorem labAt_append (n : Nat) (es fs : List (Nat × Nat)) :
    ∀ i, i ≤ es.length → labAt n (es ++ fs) i = labAt n es i := by
  intro i
  induction i with
  | zero => intro _; rfl
  | succ i ih =>
    intro hi
    have hi' : i < es.length := by omega
    have e1 : (es ++ fs)[i]? = es[i]? := List.getElem?_append_left hi'
    simp only [labAt, e1, ih (by omega)]

theorem liveAt_append (n : Nat) (es fs : List (Nat × Nat)) :
    ∀ i, i ≤ es.length → liveAt n (es ++ fs) i = liveAt n es i := by
  intro i
  induction i with
  | zero => intro _; rfl
  | succ i ih =>
    intro hi
    have hi' : i < es.length := by omega
    have e1 : (es ++ fs)[i]? = es[i]? := List.getElem?_append_left hi'
    simp only [liveAt, e1, ih (by omega)]

theorem liveAt_nodup (n : Nat) (es : List (Nat × Nat)) : ∀ i, (liveAt n es i).Nodup := by
  intro i
  induction i with
  | zero => exact List.nodup_range
  | succ i ih =>
    simp only [liveAt]
    split
    · exact ih.filter _
    · exact ih

theorem liveAt_lt (n : Nat) (es : List (Nat × Nat)) : ∀ i, ∀ x ∈ liveAt n es i, x < n := by
  intro i
  induction i with
  | zero => intro x hx; exact List.mem_range.mp hx
  | succ i ih =>
    intro x hx
    simp only [liveAt] at hx
    split at hx
    · exact ih x (List.mem_filter.mp hx).1
    · exact ih x hx

theorem liveAt_succ_sub {n : Nat} {es : List (Nat × Nat)} {i : Nat} :
    ∀ x ∈ liveAt n es (i + 1), x ∈ liveAt n es i := by
  intro x hx
  simp only [liveAt] at hx
  split at hx
  · exact (List.mem_filter.mp hx).1
  · exact hx

theorem labAt_lt (n : Nat) (es : List (Nat × Nat)) : ∀ i x, x < n → labAt n es i x < n + i := by
  intro i
  induction i with
  | zero => intro x hx; exact hx
  | succ i ih =>
    intro x hx
    have := ih x hx
    cases he : es[i]? with
    | none => simp only [labAt, he]; omega
    | some e =>
      rw [labAt_succ he]
      split <;> omega

theorem labAt_inj (n : Nat) (es : List (Nat × Nat)) : ∀ i, ∀ x ∈ liveAt n es i,
    ∀ y ∈ liveAt n es i, labAt n es i x = labAt n es i y → x = y := by
  intro i
  induction i with
  | zero => intro x _ y _ h; exact h
  | succ i ih =>
    intro x hx y hy h
    have hx' := liveAt_succ_sub x hx
    have hy' := liveAt_succ_sub y hy
    have lx := labAt_lt n es i x (liveAt_lt n es i x hx')
    have ly := labAt_lt n es i y (liveAt_lt n es i y hy')
    cases he : es[i]? with
    | none =>
      simp only [labAt, he] at h
      exact ih x hx' y hy' h
    | some e =>
      rw [labAt_succ he, labAt_succ he] at h
      by_cases c1 : x = e.2
      · by_cases c2 : y = e.2
        · rw [c1, c2]
        · rw [if_pos c1, if_neg c2] at h; omega
      · by_cases c2 : y = e.2
        · rw [if_neg c1, if_pos c2] at h; omega
        · rw [if_neg c1, if_neg c2] at h
          exact ih x hx' y hy' h

theorem MergeTrace.append {n : Nat} {es : List (Nat × Nat)} (h : MergeTrace n es) (a b : Nat)
    (ha : a ∈ liveAt n es es.length) (hb : b ∈ liveAt n es es.length) (hab : a ≠ b) :
    MergeTrace n (es ++ [(a, b)]) := by
  intro i e he
  rcases getElem?_snoc_cases he with ⟨hi, he⟩ | ⟨rfl, rfl⟩
  · rw [liveAt_append n es _ i (Nat.le_of_lt hi)]
    exact h i e he
  · rw [liveAt_append n es _ _ (Nat.le_refl _)]
    exact ⟨ha, hb, hab⟩

theorem MergeTrace.nil (n : Nat) : MergeTrace n [] := by
  intro i e he; simp at he

variable [Num α]

def moStep (m : Method) (n : Nat) (es : List (Nat × Nat)) (i : Nat) (s : Step α) : Step α :=
  Step.new (labAt n es i s.c1) (labAt n es i s.c2) (Spec.post m s.d) s.size

def mergeOrder (m : Method) (n : Nat) (L : List (Step α)) : List (Step α) :=
  L.mapIdx (fun i s => moStep m n (edgesOf L) i s)

theorem mergeOrder_length (m : Method) (n : Nat) (L : List (Step α)) :
    (mergeOrder m n L).length = L.length := by
  simp [mergeOrder]

theorem mergeOrder_get (m : Method) (n : Nat) (L : List (Step α)) (i : Nat) :
    (mergeOrder m n L)[i]? = L[i]?.map (moStep m n (edgesOf L) i) := by
  simp [mergeOrder, List.getElem?_mapIdx]

omit [Num α] in
theorem Step.new_c1 (c1 c2 : Nat) (d : α) (sz : Nat) : (Step.new c1 c2 d sz).c1 = min c1 c2 := by
  rw [Step.new_eq]

omit [Num α] in
theorem Step.new_c2 (c1 c2 : Nat) (d : α) (sz : Nat) : (Step.new c1 c2 d sz).c2 = max c1 c2 := by
  rw [Step.new_eq]

omit [Num α] in
theorem Step.new_d (c1 c2 : Nat) (d : α) (sz : Nat) : (Step.new c1 c2 d sz).d = d := by
  rw [Step.new_eq]

omit [Num α] in
theorem Step.new_size (c1 c2 : Nat) (d : α) (sz : Nat) : (Step.new c1 c2 d sz).size = sz := by
  rw [Step.new_eq]

end Kodama
