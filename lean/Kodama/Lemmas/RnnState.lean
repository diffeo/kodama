/-
Abstract, index-based view of a run of reciprocal-nearest-neighbour merges (the raw steps of
`nnchain_with` before `relabel`): the state is the list of live matrix indices together with the
merge tree of the cluster living at each index; a raw step `(a, b, h, size)` merges the cluster at
index `a` into the one at index `b` (index `a` dies), exactly as `State.merge` / `updateRows` do.

Dissimilarities are NOT stored: they are given by a relation `R s t v` ("`v` is the dissimilarity of
the clusters with merge trees `s` and `t`") that is propagated by the Lance–Williams formula
(`Crit.LWCompat`), functional (`unique`) and reducible (`red`): bundle `RLaws`, built by `rlaws_of_reducible`
(`Lemmas/RnnChain.lean`) from `LWCompat`, functionality and `ChainReducible`.  Used at the
documented criteria `Crit.Criterion m d` over a linearly ordered field for all five chain methods, and at
`IsMinOver`/`IsMaxOver` over any linear order for single/complete (`Props/C03Nnchain.lean`).

`RnnFrom R σ L`: every step of `L`, replayed from `σ`, merges two distinct live indices that are
RECIPROCAL NEAREST NEIGHBOURS, at their dissimilarity and with the right size (`StepOk`).
`MinOk`: the same with "globally closest pair" in place of "reciprocal nearest neighbours" (the
index-based form of `Spec.Admissible`).
-/
import Kodama.Lemmas.CriteriaSpec
import Kodama.Laws
import Kodama.Model.Dendrogram
namespace Kodama.Rnn
open Kodama.Crit MTree Finset

variable {α : Type} [Num α]

theorem le_tr (L : OrderLaws α) (hnan : ∀ x : α, Num.isNaN x = false) {a b c : α}
    (h1 : Num.lt b a = false) (h2 : Num.lt c b = false) : Num.lt c a = false :=
  L.le_trans a b c (hnan b) h1 h2

/-- Index-based state: the live matrix indices and the merge tree of the cluster at each index. -/
structure IState where
  live : List Nat
  tree : Nat → MTree Nat

namespace IState

/-- Merge the cluster at index `a` into the cluster at index `b`; index `a` dies. -/
def merge (σ : IState) (a b : Nat) : IState where
  live := σ.live.filter (fun x => decide (x ≠ a))
  tree := fun x => if x = b then node (σ.tree a) (σ.tree b) else σ.tree x

def init (n : Nat) : IState := ⟨List.range n, leaf⟩

def replay (σ : IState) : List (Step α) → IState
  | [] => σ
  | s :: r => replay (σ.merge s.c1 s.c2) r

omit [Num α] in
theorem replay_append (σ : IState) (l1 l2 : List (Step α)) :
    replay σ (l1 ++ l2) = replay (replay σ l1) l2 := by
  induction l1 generalizing σ with
  | nil => rfl
  | cons s r ih => simp [replay, ih]

theorem mem_merge_live (σ : IState) (a b x : Nat) :
    x ∈ (σ.merge a b).live ↔ x ∈ σ.live ∧ x ≠ a := by
  simp [merge, List.mem_filter]

theorem merge_tree_of_ne (σ : IState) (a b x : Nat) (h : x ≠ b) :
    (σ.merge a b).tree x = σ.tree x := by
  simp [merge, h]

theorem merge_tree_self (σ : IState) (a b : Nat) :
    (σ.merge a b).tree b = node (σ.tree a) (σ.tree b) := by
  simp [merge]

/-- Two merges on disjoint index pairs commute. -/
theorem merge_comm (σ : IState) (a1 b1 a2 b2 : Nat) (h1 : a2 ≠ b1) (h2 : b2 ≠ b1) (h3 : a1 ≠ b2) :
    (σ.merge a1 b1).merge a2 b2 = (σ.merge a2 b2).merge a1 b1 := by
  have hl : ((σ.merge a1 b1).merge a2 b2).live = ((σ.merge a2 b2).merge a1 b1).live := by
    simp only [merge, List.filter_filter]
    apply List.filter_congr
    intro x _
    exact Bool.and_comm _ _
  have ht : ((σ.merge a1 b1).merge a2 b2).tree = ((σ.merge a2 b2).merge a1 b1).tree := by
    funext x
    simp only [merge]
    by_cases c2 : x = b2
    · subst c2
      have : ¬ x = b1 := h2
      simp [this, h1]
    · by_cases c1 : x = b1
      · subst c1
        have hb : ¬ x = b2 := c2
        have ha : ¬ a1 = b2 := h3
        simp [hb, ha]
      · simp [c1, c2]
  cases hσ : (σ.merge a1 b1).merge a2 b2
  cases hτ : (σ.merge a2 b2).merge a1 b1
  rw [hσ] at hl ht
  rw [hτ] at hl ht
  simp only at hl ht
  rw [hl, ht]

/-- A symmetric property of every two live clusters survives a merge once it holds between the
merged cluster and every other live one. -/
theorem merge_pairwise {P : MTree Nat → MTree Nat → Prop} (hsymm : ∀ s t, P s t → P t s)
    {σ : IState} {a b : Nat}
    (hP : ∀ x ∈ σ.live, ∀ y ∈ σ.live, x ≠ y → P (σ.tree x) (σ.tree y))
    (hnew : ∀ y ∈ σ.live, y ≠ a → y ≠ b → P (node (σ.tree a) (σ.tree b)) (σ.tree y)) :
    ∀ x ∈ (σ.merge a b).live, ∀ y ∈ (σ.merge a b).live, x ≠ y →
      P ((σ.merge a b).tree x) ((σ.merge a b).tree y) := by
  refine fun x hx y hy => pairwise_of_merge (O := fun x => x ∈ σ.live ∧ x ≠ a) (c := b)
    (P := fun x y => P ((σ.merge a b).tree x) ((σ.merge a b).tree y))
    (fun x hx _ => (mem_merge_live σ a b x).mp hx)
    (fun x y hx hy hxy cx cy => by
      rw [merge_tree_of_ne _ _ _ _ cx, merge_tree_of_ne _ _ _ _ cy]; exact hP x hx.1 y hy.1 hxy)
    (fun y hy hc => ?_) x y hx hy
  rw [merge_tree_self, merge_tree_of_ne _ _ _ _ hc]
  exact ⟨hnew y hy.1 hy.2 hc, hsymm _ _ (hnew y hy.1 hy.2 hc)⟩

end IState

structure RLaws (m : Method) (R : MTree Nat → MTree Nat → α → Prop) : Prop where
  compat : LWCompat m R
  unique : ∀ s t v w, R s t v → R s t w → v = w
  /-- reducibility: `d(A,B) ≤ t ≤ d(A,X), d(B,X)` gives `t ≤ d(A ∪ B, X)` -/
  red : ∀ (ta tb tx : MTree Nat) (vab va vb v t : α),
    Disjoint ta.leaves tb.leaves → Disjoint ta.leaves tx.leaves → Disjoint tb.leaves tx.leaves →
    R ta tb vab → R ta tx va → R tb tx vb → R (node ta tb) tx v →
    Num.lt t vab = false → Num.lt va t = false → Num.lt vb t = false → Num.lt v t = false

/-- Consistency of an index state: distinct live indices, pairwise disjoint clusters, every pair of
live clusters has a dissimilarity. -/
structure Tab (R : MTree Nat → MTree Nat → α → Prop) (σ : IState) : Prop where
  nodup : σ.live.Nodup
  disj : ∀ x ∈ σ.live, ∀ y ∈ σ.live, x ≠ y → Disjoint (σ.tree x).leaves (σ.tree y).leaves
  ex : ∀ x ∈ σ.live, ∀ y ∈ σ.live, x ≠ y → ∃ v, R (σ.tree x) (σ.tree y) v

theorem Tab.merge {m : Method} {R : MTree Nat → MTree Nat → α → Prop} (C : LWCompat m R)
    {σ : IState} (h : Tab R σ) {a b : Nat} (ha : a ∈ σ.live) (hb : b ∈ σ.live) (hab : a ≠ b) :
    Tab R (σ.merge a b) := by
  have hdisjc : ∀ y ∈ σ.live, y ≠ a → y ≠ b →
      Disjoint (node (σ.tree a) (σ.tree b)).leaves (σ.tree y).leaves := fun y hy hya hyb => by
    rw [leaves_node, disjoint_union_left]
    exact ⟨h.disj a ha y hy (Ne.symm hya), h.disj b hb y hy (Ne.symm hyb)⟩
  have hexc : ∀ y ∈ σ.live, y ≠ a → y ≠ b → ∃ v, R (node (σ.tree a) (σ.tree b)) (σ.tree y) v := by
    intro y hy hya hyb
    obtain ⟨va, hva⟩ := h.ex a ha y hy (Ne.symm hya)
    obtain ⟨vb, hvb⟩ := h.ex b hb y hy (Ne.symm hyb)
    obtain ⟨vab, hvab⟩ := h.ex a ha b hb hab
    exact ⟨_, C.step _ _ _ _ _ _ (h.disj a ha b hb hab) (h.disj a ha y hy (Ne.symm hya))
      (h.disj b hb y hy (Ne.symm hyb)) hva hvb hvab⟩
  exact ⟨h.nodup.filter _,
    IState.merge_pairwise (P := fun s t => Disjoint s.leaves t.leaves) (fun _ _ h => h.symm)
      h.disj hdisjc,
    IState.merge_pairwise (P := fun s t => ∃ v, R s t v) (fun _ _ ⟨v, hv⟩ => ⟨v, C.symm _ _ _ hv⟩)
      h.ex hexc⟩

/-- The raw step `s` merges two reciprocal nearest neighbours of state `σ`. -/
structure StepOk (R : MTree Nat → MTree Nat → α → Prop) (σ : IState) (s : Step α) : Prop where
  m1 : s.c1 ∈ σ.live
  m2 : s.c2 ∈ σ.live
  ne : s.c1 ≠ s.c2
  height : R (σ.tree s.c1) (σ.tree s.c2) s.d
  size : s.size = (σ.tree s.c1).leaves.card + (σ.tree s.c2).leaves.card
  nn1 : ∀ z ∈ σ.live, z ≠ s.c1 → ∀ v, R (σ.tree s.c1) (σ.tree z) v → Num.lt v s.d = false
  nn2 : ∀ z ∈ σ.live, z ≠ s.c2 → ∀ v, R (σ.tree s.c2) (σ.tree z) v → Num.lt v s.d = false

/-- All steps of `L`, replayed from `σ`, merge reciprocal nearest neighbours. -/
def RnnFrom (R : MTree Nat → MTree Nat → α → Prop) : IState → List (Step α) → Prop
  | _, [] => True
  | σ, s :: rest => StepOk R σ s ∧ RnnFrom R (σ.merge s.c1 s.c2) rest

theorem rnnFrom_append (R : MTree Nat → MTree Nat → α → Prop) (σ : IState) (l : List (Step α))
    (s : Step α) : RnnFrom R σ (l ++ [s]) ↔ RnnFrom R σ l ∧ StepOk R (IState.replay σ l) s := by
  induction l generalizing σ with
  | nil => simp [RnnFrom, IState.replay]
  | cons x r ih => simp only [List.cons_append, RnnFrom, IState.replay, ih, and_assoc]

theorem RnnFrom.tab {m : Method} {R : MTree Nat → MTree Nat → α → Prop} (C : LWCompat m R)
    {σ : IState} {L : List (Step α)} (h : RnnFrom R σ L) (ht : Tab R σ) :
    Tab R (IState.replay σ L) := by
  induction L generalizing σ with
  | nil => exact ht
  | cons s r ih => exact ih h.2 (ht.merge C h.1.m1 h.1.m2 h.1.ne)

/-- The raw step `s` merges a globally closest pair of state `σ`. -/
structure MinOk (R : MTree Nat → MTree Nat → α → Prop) (σ : IState) (s : Step α) : Prop where
  m1 : s.c1 ∈ σ.live
  m2 : s.c2 ∈ σ.live
  ne : s.c1 ≠ s.c2
  height : R (σ.tree s.c1) (σ.tree s.c2) s.d
  size : s.size = (σ.tree s.c1).leaves.card + (σ.tree s.c2).leaves.card
  min : ∀ x ∈ σ.live, ∀ y ∈ σ.live, x ≠ y → ∀ v, R (σ.tree x) (σ.tree y) v →
    Num.lt v s.d = false

end Kodama.Rnn
