/-
From an index-based greedy run (every step a `Rnn.MinOk` step of the index state reached so far,
`Lemmas/RnnState.lean`) to the label-based specification `Spec.GreedyFrom` (`Spec/Naive.lean`), with the
merge-order labels of the list (`mergeOrder`, `Lemmas/PrimGreedyLabels.lean`).

`Sim R σ lab st`: the spec state `st` is the index state `σ` seen through the labelling `lab`
(live labels = labels of live indices, sizes = cluster cardinalities, every table entry is the
`R`-value of the two cluster trees).  Its labelling part is a `Spec.View` (`Lemmas/SpecView.lean`), which
carries `Sim.merge` (`Spec.LwSymm` enters there: the spec orders the two merged LABELS, the tree of the
index state orders the two INDICES) and makes a `MinOk` step of the index state an `Admissible` step of
the spec.  Along the run, by position: the index state after `i` steps, seen through `labAt … i`, is the
replay of the relabelled list (`sim_replay`), so the relabelled list is a greedy run (`greedyFrom_of_minOk`).
`moFrom` is the same relabelling by recursion on the list, from any labelling.
-/
import Kodama.Lemmas.RnnState
import Kodama.Lemmas.SpecView
namespace Kodama.Rnn
open Kodama.Crit MTree Finset

variable {α : Type} [Num α]

/-- The raw steps relabelled in list order starting from the labelling `lab` and next label `nxt`,
heights `Spec.post`-ed. -/
def moFrom (m : Method) (lab : Nat → Nat) (nxt : Nat) : List (Step α) → List (Step α)
  | [] => []
  | s :: rest => Step.new (lab s.c1) (lab s.c2) (Spec.post m s.d) s.size ::
      moFrom m (fun x => if x = s.c2 then nxt else lab x) (nxt + 1) rest

theorem moFrom_length (m : Method) (lab : Nat → Nat) (nxt : Nat) (L : List (Step α)) :
    (moFrom m lab nxt L).length = L.length := by
  induction L generalizing lab nxt with
  | nil => rfl
  | cons s r ih => simp [moFrom, ih]

structure Sim (R : MTree Nat → MTree Nat → α → Prop) (σ : IState) (lab : Nat → Nat)
    (st : Spec.NState α) : Prop where
  nodup : σ.live.Nodup
  inj : ∀ x ∈ σ.live, ∀ y ∈ σ.live, lab x = lab y → x = y
  live : ∀ l, l ∈ st.live ↔ ∃ x ∈ σ.live, lab x = l
  lt : ∀ x ∈ σ.live, lab x < st.next
  dsymm : Spec.DSymm st
  disj : ∀ x ∈ σ.live, ∀ y ∈ σ.live, x ≠ y → Disjoint (σ.tree x).leaves (σ.tree y).leaves
  size : ∀ x ∈ σ.live, st.size (lab x) = (σ.tree x).leaves.card
  table : ∀ x ∈ σ.live, ∀ y ∈ σ.live, x ≠ y → R (σ.tree x) (σ.tree y) (st.D (lab x) (lab y))

omit [Num α] in
theorem Sim.tab {R : MTree Nat → MTree Nat → α → Prop} {σ : IState} {lab : Nat → Nat}
    {st : Spec.NState α} (h : Sim R σ lab st) : Tab R σ :=
  ⟨h.nodup, h.disj, fun x hx y hy hxy => ⟨_, h.table x hx y hy hxy⟩⟩

omit [Num α] in
theorem Sim.view {R : MTree Nat → MTree Nat → α → Prop} {σ : IState} {lab : Nat → Nat}
    {st : Spec.NState α} (h : Sim R σ lab st) : Spec.View σ.live lab st :=
  ⟨h.inj, h.live, h.lt, h.dsymm⟩

theorem Sim.merge {m : Method} {R : MTree Nat → MTree Nat → α → Prop} (C : LWCompat m R)
    (hsym : Spec.LwSymm α m) {σ : IState} {lab : Nat → Nat} {st : Spec.NState α}
    (h : Sim R σ lab st) {a b : Nat} (ha : a ∈ σ.live) (hb : b ∈ σ.live) (hab : a ≠ b) :
    Sim R (σ.merge a b) (fun x => if x = b then st.next else lab x)
      (Spec.merge m st (min (lab a) (lab b)) (max (lab a) (lab b))) := by
  have V' := h.view.merge ha hb hab (m := m)
  obtain ⟨hd, hs, ht⟩ := C.merge (S' := (· ∈ (σ.merge a b).live)) (c := b) (tr' := (σ.merge a b).tree)
    (sz' := fun x => (Spec.merge m st (min (lab a) (lab b)) (max (lab a) (lab b))).size
      (if x = b then st.next else lab x))
    (D' := fun x y => (Spec.merge m st (min (lab a) (lab b)) (max (lab a) (lab b))).D
      (if x = b then st.next else lab x) (if y = b then st.next else lab y))
    h.disj h.size h.table ha hb hab
    (fun x hx hc => ⟨((IState.mem_merge_live σ a b x).mp hx).1,
      ((IState.mem_merge_live σ a b x).mp hx).2, hc⟩)
    (fun x _ hc => IState.merge_tree_of_ne _ _ _ _ hc) (IState.merge_tree_self _ _ _)
    (fun x hx hc => by rw [h.view.merge_size hsym hx, if_neg hc])
    (by rw [h.view.merge_size hsym hb, if_pos rfl])
    (fun x y hx hy hxy cx cy => by rw [h.view.merge_D hsym hx hy hxy, if_neg cx, if_neg cy])
    (fun y hy _ hyb _ => ⟨by rw [h.view.merge_D hsym hb hy (Ne.symm hyb), if_pos rfl],
      V'.dsymm _ _⟩)
  exact ⟨h.nodup.filter _, V'.inj, V'.live, V'.lt, V'.dsymm, hd, hs, ht⟩

theorem Sim.admissible {m : Method} {R : MTree Nat → MTree Nat → α → Prop}
    (hu : ∀ s t v w, R s t v → R s t w → v = w) {σ : IState} {lab : Nat → Nat}
    {st : Spec.NState α} (h : Sim R σ lab st) {s : Step α} (hs : MinOk R σ s) :
    Spec.Admissible m st (Step.new (lab s.c1) (lab s.c2) (Spec.post m s.d) s.size) := by
  have hd : st.D (lab s.c1) (lab s.c2) = s.d :=
    hu _ _ _ _ (h.table _ hs.m1 _ hs.m2 hs.ne) hs.height
  have := (h.view.admissible (m := m) hs.m1 hs.m2 hs.ne (fun x hx y hy hxy => by
    rw [hd]; exact hs.min x hx y hy hxy _ (h.table x hx y hy hxy))).2.2
  rwa [hd, h.size _ hs.m1, h.size _ hs.m2, ← hs.size] at this

theorem sim_init {R : MTree Nat → MTree Nat → α → Prop} (m : Method) (n : Nat) (data : Array α)
    (hR : ∀ i j, i ≠ j → R (leaf i) (leaf j) ((Spec.init m n data).D i j)) :
    Sim R (IState.init n) id (Spec.init m n data) where
  nodup := List.nodup_range
  inj := fun _ _ _ _ e => e
  live := by
    intro l
    simp only [Spec.init, IState.init, id]
    constructor
    · intro h; exact ⟨l, h, rfl⟩
    · rintro ⟨x, hx, rfl⟩; exact hx
  lt := by intro x hx; exact List.mem_range.mp hx
  dsymm := Spec.init_DSymm m n data
  disj := by
    intro x _ y _ hxy
    simp only [IState.init, leaves_leaf, disjoint_singleton]; exact hxy
  size := by intro x _; simp [IState.init, Spec.init]
  table := by intro x _ y _ hxy; exact hR x y hxy

/-- Along a list `S` of which every step merges two distinct live indices of the index state reached so far
(all that is used of `MinOk` here), the replay of its merge-order relabelling is that index state seen through
the merge-order labelling. -/
theorem sim_replay {m : Method} {R : MTree Nat → MTree Nat → α → Prop} (C : LWCompat m R)
    (hsym : Spec.LwSymm α m) (n : Nat) (data : Array α)
    (hR : ∀ i j, i ≠ j → R (leaf i) (leaf j) ((Spec.init m n data).D i j)) (S : List (Step α))
    (hg : ∀ (i : Nat) (s : Step α), S[i]? = some s →
      MinOk R (IState.replay (IState.init n) (S.take i)) s) :
    ∀ i, i ≤ S.length →
      Sim R (IState.replay (IState.init n) (S.take i)) (labAt n (edgesOf S) i)
        (Spec.stateAt m (Spec.init m n data) (mergeOrder m n S) i) ∧
      (Spec.stateAt m (Spec.init m n data) (mergeOrder m n S) i).next = n + i := by
  intro i
  induction i with
  | zero => intro _; rw [Spec.stateAt_zero]; exact ⟨sim_init m n data hR, rfl⟩
  | succ i ih =>
    intro hi
    obtain ⟨hsim, hnext⟩ := ih (by omega)
    have hs : S[i]? = some S[i] := List.getElem?_eq_getElem (by omega)
    have hok := hg i _ hs
    have hD : (mergeOrder m n S)[i]? = some (moStep m n (edgesOf S) i S[i]) := by
      rw [mergeOrder_get, hs]; rfl
    rw [Spec.stateAt_succ _ _ _ _ _ hD, Spec.merge_next, hnext]
    refine ⟨?_, rfl⟩
    rw [moStep, Step.new_c1, Step.new_c2, List.take_add_one, hs, IState.replay_append,
      funext (labAt_succ (edgesOf_at hs)), ← hnext]
    exact hsim.merge C hsym hok.m1 hok.m2 hok.ne

/-- An index-based greedy run from the singletons, relabelled in merge order, is a greedy run of the
label-based specification. -/
theorem greedyFrom_of_minOk {m : Method} {R : MTree Nat → MTree Nat → α → Prop} (C : LWCompat m R)
    (hu : ∀ s t v w, R s t v → R s t w → v = w) (hsym : Spec.LwSymm α m) (n : Nat) (data : Array α)
    (hR : ∀ i j, i ≠ j → R (leaf i) (leaf j) ((Spec.init m n data).D i j)) (S : List (Step α))
    (hg : ∀ (i : Nat) (s : Step α), S[i]? = some s →
      MinOk R (IState.replay (IState.init n) (S.take i)) s) :
    Spec.GreedyFrom m (Spec.init m n data) (mergeOrder m n S) := by
  refine (Spec.greedyFrom_iff _ _ _).mpr fun i st hst => ?_
  rw [mergeOrder_get] at hst
  obtain ⟨s, hs, rfl⟩ := Option.map_eq_some_iff.mp hst
  exact (sim_replay C hsym n data hR S hg i (Nat.le_of_lt (Spec.getElem?_lt hs))).1.admissible hu
    (hg i s hs)

end Kodama.Rnn
