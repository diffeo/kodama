/-
Non-negativity of the Lance–Williams tables of a GREEDY run, exact arithmetic (for
`Props/C12NonNeg.lean`).

In a greedy run the merged pair `(A, B)` has the minimum current dissimilarity `c`, so `c ≤ a := d(A,X)`
and `c ≤ b := d(B,X)` for every other live cluster `X`.  If `0 ≤ c` every update is `≥ 0`:

* single / complete   one of `a`, `b`;
* average / weighted  a mean of `a`, `b` (in exact arithmetic the clamp of `Gen.average` is a no-op);
* Ward                `((sx+sa)·a + (sx+sb)·b − sx·c)/(sa+sb+sx) ≥ (sa·a + (sx+sb)·b)/(…) ≥ 0`
                      because `sx·c ≤ sx·a`;
* centroid            `(sa·a+sb·b)/(sa+sb) − sa·sb·c/(sa+sb)² ≥ c·(sa²+sa·sb+sb²)/(sa+sb)² ≥ 0`;
* median              `(a+b)/2 − c/4 ≥ 3c/4 ≥ 0`.

(`C12_lw_nonneg`, `Props/C12NonNeg.lean`; its arithmetic is `mean_ge`, `amgm_quarter`, `ward_half`,
`Lemmas/FieldNum.lean`.)  NOTE that for centroid, median and Ward the hypothesis `c ≤ a`, `c ≤ b` is
essential: `lw` of three arbitrary non-negative numbers can be negative (`a = b = 0`, `c = 1`), so the
set `{v | 0 ≤ v}` is NOT closed under the update (`UpdClosed` fails) and the statement is genuinely
about GREEDY runs.

The hypothesis being run-dependent, the table invariant `RunGood (0 ≤ ·)` (`C12_greedy_table_nonneg`) is obtained
through `runGood_strengthen`, an induction principle over greedy runs in which only updates OF A CLOSEST
PAIR have to be considered.  For the methods on squares (Ward, centroid, median) the initial table
consists of squares, hence is non-negative WITHOUT any hypothesis on the input (`init_TableNonneg`).

Hypotheses: `FieldLaws K` over a linearly ordered field (`IsStrictOrderedRing K`); what is known about
floats is in `Props/C12NonNeg.lean`.
-/
import Kodama.Lemmas.FieldNum
import Kodama.Lemmas.GenericRun
import Kodama.Lemmas.GenericGreedySpec
import Kodama.Lemmas.CriteriaSpec
namespace Kodama
open Spec

section strengthen
variable {α : Type} [Num α]

/-- If every table value of every greedy run lies in `G`, the initial table
lies in `G'`, and every update of a CLOSEST pair (`c` not above `a`, `b`; positive sizes with
`sa + sb + sx ≤ n`) whose arguments lie in `G'` and whose result lies in `G` has its result in `G'`,
then every table value of every greedy run lies in `G'`. -/
theorem runGood_strengthen {G G' : α → Prop} {m : Method} {n : Nat} {data : Array α}
    (hrun : RunGood G m n data) (h0 : TableGood G' (init m n data))
    (hstep : ∀ (a b c : α) (sa sb sx : Nat), 0 < sa → 0 < sb → 0 < sx → sa + sb + sx ≤ n →
      G' a → G' b → G' c → Num.lt a c = false → Num.lt b c = false →
      G (lw m a b c sa sb sx) → G' (lw m a b c sa sb sx)) :
    RunGood G' m n data := by
  refine runGood_iff.2 fun i s hr => ?_
  induction hr with
  | start => exact h0
  | @step i s st hr ha ih =>
    have g := hr.good
    have h12 : st.c1 ≠ st.c2 := Nat.ne_of_lt ha.lt
    refine merge_TableGood_of_upd g.st.lt ih fun x hx hx1 hx2 => ?_
    -- the updated entry is the table entry `(next, x)` of the successor, which is reachable
    have hG := runGood_iff.1 hrun _ _ (hr.step ha) s.next
      ((mem_merge_live m s _ _ _).2 (.inr rfl)) x ((mem_merge_live m s _ _ _).2 (.inl ⟨hx, hx1, hx2⟩))
      (Nat.ne_of_gt (g.st.lt x hx))
    rw [merge_D_new] at hG
    exact hstep _ _ _ _ _ _ (g.pos _ ha.mem1) (g.pos _ ha.mem2) (g.pos _ hx)
      (hr.three_le ha.mem1 ha.mem2 hx h12 hx1 hx2)
      (ih _ ha.mem1 x hx (Ne.symm hx1)) (ih _ ha.mem2 x hx (Ne.symm hx2)) (ih _ ha.mem1 _ ha.mem2 h12)
      (ha.min _ ha.mem1 x hx (Ne.symm hx1)) (ha.min _ ha.mem2 x hx (Ne.symm hx2)) hG

end strengthen

variable {K : Type} [Field K] [LinearOrder K] [IsStrictOrderedRing K] [Num K]

/-- Every live off-diagonal table value is non-negative. -/
abbrev TableNonneg (s : NState K) : Prop := TableGood (fun v : K => 0 ≤ v) s

/-- The initial table is non-negative when the input entries are — and unconditionally for the methods
on squares (Ward, centroid, median), whose initial table consists of squares. -/
theorem init_TableNonneg (F : FieldLaws K) (m : Method) (data : Array K) (n : Nat) (h2 : 2 ≤ n)
    (hs : n < 2147483648) (hl : 2 * data.size = n * (n - 1))
    (hin : m.onSquares = false → ∀ v ∈ data.toList, 0 ≤ v) : TableNonneg (init m n data) := by
  refine init_TableGood_entries m data n h2 hs hl fun v hv => ?_
  cases hm : m.onSquares with
  | true => simp only [if_true]; rw [F.mul]; exact mul_self_nonneg v
  | false => simpa using hin hm v hv

theorem init_TableNonneg_of_onSquares (F : FieldLaws K) (m : Method) (hm : m.onSquares = true)
    (data : Array K) (n : Nat) (h2 : 2 ≤ n) (hs : n < 2147483648)
    (hl : 2 * data.size = n * (n - 1)) : TableNonneg (init m n data) :=
  init_TableNonneg F m data n h2 hs hl (fun h => by rw [hm] at h; cases h)

end Kodama
