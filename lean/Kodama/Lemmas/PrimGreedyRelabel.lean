/-
C03, the `relabel` pass, for every entry point whose main loop records raw steps between matrix
indices.  If the raw steps, IN THE ORDER `relabel` PROCESSES THEM, obey the index discipline
(`MergeTrace`), the label `rootAt` that `relabel` has for a live index is its merge-order label `labAt`
(`rootAt_eq_labAt`, list reasoning only), so output step `i` carries the merge-order labels and the
height of the `i`-th processed raw step (`relabel_mergeorder_proc`).  The sizes need no separate
argument: two step lists with the same labels and heights whose sizes both obey the `Spec.sz`
recurrence are equal (`wf_size_unique`), hence the steps returned after `sqrtSteps` are `mergeOrder`
of the processed raw steps whenever the latter is well formed (`relabel_eq_mergeOrder`), and
greedy-valid when that is (`relabel_greedyValid`).
-/
import Kodama.Lemmas.PrimGreedyLabels
import Kodama.Lemmas.RelabelWF
import Kodama.Lemmas.SpecWellFormed
namespace Kodama
open Spec
variable {α : Type}

theorem rootAt_eq_labAt {n : Nat} {es : List (Nat × Nat)} (htr : MergeTrace n es) :
    ∀ i, ∀ x ∈ liveAt n es i, rootAt n es i x = labAt n es i x := by
  intro i
  induction i with
  | zero => intro x _; rfl
  | succ i ih =>
    intro x hx
    have hx' := liveAt_succ_sub x hx
    cases he : es[i]? with
    | none => simp only [rootAt, labAt, he]; exact ih x hx'
    | some e =>
      obtain ⟨h1, h2, -⟩ := htr i e he
      rw [liveAt_succ he] at hx
      have hxa : x ≠ e.1 := by simpa using (List.mem_filter.mp hx).2
      rw [rootAt_succ he, labAt_succ he, ih x hx', ih _ h1, ih _ h2]
      -- labels of live indices are distinct, and `x` is not the index that dies
      by_cases c : x = e.2
      · rw [if_pos c, if_pos (Or.inr (by rw [c]))]
      · rw [if_neg c, if_neg]
        rintro (e1 | e2)
        · exact hxa (labAt_inj n es i x hx' _ h1 e1)
        · exact c (labAt_inj n es i x hx' _ h2 e2)

variable [Num α]

theorem relabel_mergeorder_proc (m : Method) (uf0 uf : UF) (d d' : Dendrogram α) (n : Nat)
    (hn : 1 ≤ n) (hobs : d.obs = n) (hraw : RawTree n (edgesOf d.steps.toList))
    (htr : MergeTrace n (edgesOf (processed m d.steps).toList))
    (h : relabel m uf0 d = .ok (uf, d')) :
    ∀ (i : Nat) (s0 : Step α), (processed m d.steps).toList[i]? = some s0 →
      ∃ s', d'.steps.toList[i]? = some s' ∧
        s'.c1 = min (labAt n (edgesOf (processed m d.steps).toList) i s0.c1)
                    (labAt n (edgesOf (processed m d.steps).toList) i s0.c2) ∧
        s'.c2 = max (labAt n (edgesOf (processed m d.steps).toList) i s0.c1)
                    (labAt n (edgesOf (processed m d.steps).toList) i s0.c2) ∧
        s'.d = s0.d := by
  intro i s0 hi
  have hr := relabel_roots m uf0 uf d d' n hn hobs hraw h i s0 hi
  obtain ⟨m1, m2, -⟩ := htr i _ (edgesOf_at hi)
  rwa [rootAt_eq_labAt htr i _ m1, rootAt_eq_labAt htr i _ m2] at hr

omit [Num α] in
theorem wf_size_unique (n : Nat) (L L' : List (Step α)) (hlen : L.length = L'.length)
    (hsame : ∀ (i : Nat) (s s' : Step α), L[i]? = some s → L'[i]? = some s' → s.c1 = s'.c1 ∧ s.c2 = s'.c2 ∧ s.d = s'.d)
    (hord : ∀ (i : Nat) (s : Step α), L[i]? = some s → s.c1 < s.c2 ∧ s.c2 < n + i)
    (hsz : ∀ (i : Nat) (s : Step α), L[i]? = some s → s.size = sz n L s.c1 + sz n L s.c2)
    (hsz' : ∀ (i : Nat) (s : Step α), L'[i]? = some s → s.size = sz n L' s.c1 + sz n L' s.c2) : L = L' := by
  have hget : ∀ {j}, j < L.length → ∃ s s', L[j]? = some s ∧ L'[j]? = some s' := fun hj =>
    ⟨_, _, List.getElem?_eq_getElem hj, List.getElem?_eq_getElem (hlen ▸ hj)⟩
  have hlab : LabAgree L.length L L' := fun j hj => by
    obtain ⟨s, s', hs, hs'⟩ := hget hj
    obtain ⟨e1, e2, -⟩ := hsame j s s' hs hs'
    rw [hs, hs', Option.map_some, Option.map_some, e1, e2]
  -- the labels determine the sizes (`sz_lab`), so the steps agree in all four fields
  refine List.ext_getElem hlen fun j hj hj' => ?_
  obtain ⟨s, s', hs, hs'⟩ := hget hj
  obtain ⟨e1, e2, e3⟩ := hsame j s s' hs hs'
  have e4 := sz_lab hlab (fun j s hs => ⟨Nat.lt_trans (hord j s hs).1 (hord j s hs).2, (hord j s hs).2⟩)
    (Nat.le_refl _) hsz hsz' (n + j) (by omega)
  rw [sz_node hs, sz_node hs'] at e4
  rw [(List.getElem?_eq_some_iff.mp hs).2, (List.getElem?_eq_some_iff.mp hs').2]
  cases s; cases s'
  simp only at e1 e2 e3 e4
  subst e1 e2 e3 e4
  rfl

theorem sqrtSteps_toList (m : Method) (d : Dendrogram α) :
    (sqrtSteps m d).steps.toList = d.steps.toList.map (fun s => { s with d := Spec.post m s.d }) := by
  unfold sqrtSteps Spec.post
  cases m.onSquares
  · simp only [Bool.false_eq_true, if_false]
    symm
    exact List.map_id' _
  · simp

/-- `hwf` holds for a greedy-valid list (`greedyValid_wellFormed`). -/
theorem relabel_eq_mergeOrder (m : Method) (uf0 uf : UF) (d d' : Dendrogram α) (n : Nat)
    (hn : 2 ≤ n) (hobs : d.obs = n) (hraw : RawTree n (edgesOf d.steps.toList))
    (htr : MergeTrace n (edgesOf (processed m d.steps).toList))
    (hwf : WellFormed n (mergeOrder m n (processed m d.steps).toList))
    (h : relabel m uf0 d = .ok (uf, d')) :
    (sqrtSteps m d').steps.toList = mergeOrder m n (processed m d.steps).toList := by
  obtain ⟨_, hwf'⟩ := relabel_wellFormed m uf0 uf d d' n hn hobs hraw h
  have hlab := relabel_mergeorder_proc m uf0 uf d d' n (by omega) hobs hraw htr h
  rw [sqrtSteps_toList]
  apply wf_size_unique n
  · rw [List.length_map, hwf'.len, hwf.len]
  · intro i s s' hs hs'
    rw [List.getElem?_map, Option.map_eq_some_iff] at hs
    rw [mergeOrder_get, Option.map_eq_some_iff] at hs'
    obtain ⟨t, ht, rfl⟩ := hs
    obtain ⟨s0, h0, rfl⟩ := hs'
    obtain ⟨t', ht', c1, c2, dd⟩ := hlab i s0 h0
    cases ht.symm.trans ht'
    simp only [moStep, Step.new_c1, Step.new_c2, Step.new_d, c1, c2, dd]
    exact ⟨trivial, trivial, trivial⟩
  · exact (hwf'.map (fun s => { s with d := Spec.post m s.d }) fun _ => ⟨rfl, rfl, rfl⟩).ordered
  · exact (hwf'.map (fun s => { s with d := Spec.post m s.d }) fun _ => ⟨rfl, rfl, rfl⟩).size
  · exact hwf.size

/-- The tail after the main loop, for every entry point: if the raw steps, in the order `relabel`
processes them, obey the index discipline and their merge-order relabelling is greedy-valid, then
`relabel` succeeds (no NaN among the heights) and `sqrtSteps` of its result is that relabelling. -/
theorem relabel_greedyValid {m : Method} {n : Nat} {data : Array α} (dend : Dendrogram α)
    (h2 : 2 ≤ n) (hobs : dend.obs = n) (hraw : RawTree n (edgesOf dend.steps.toList))
    (hnan : ∀ s ∈ dend.steps.toList, Num.isNaN s.d = false)
    (htr : MergeTrace n (edgesOf (processed m dend.steps).toList))
    (hv : GreedyValid m n data (mergeOrder m n (processed m dend.steps).toList)) (uf0 : UF) :
    ∃ uf d', relabel m uf0 dend = .ok (uf, d') ∧
      (sqrtSteps m d').steps.toList = mergeOrder m n (processed m dend.steps).toList ∧
      GreedyValid m n data (sqrtSteps m d').steps.toList := by
  obtain ⟨⟨uf, d'⟩, hr⟩ := relabel_total m uf0 dend n h2 hobs hraw (Or.inr (Or.inr hnan))
  have heq := relabel_eq_mergeOrder m uf0 uf dend d' n h2 hobs hraw htr
    (greedyValid_wellFormed hv) hr
  exact ⟨uf, d', hr, heq, by rw [heq]; exact hv⟩

end Kodama
