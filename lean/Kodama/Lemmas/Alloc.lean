/- Facts about the allocation cost model (`Model/Alloc.lean`) used by `Props/C20.lean`: what `reserve`,
`resize` and a run of pushes request from the allocator, the per-buffer bounds `bufBound`, and `Phase`:
what one growth phase of a call may do to the capacities (`callWith` is four of them in sequence,
`callWith_eq_phases`, `callPhases_phase`). -/
import Kodama.Model.Alloc
namespace Kodama
namespace Alloc

theorem total_append (a b : List Ev) : total (a ++ b) = total a + total b := by
  induction a with
  | nil => simp [total]
  | cons e es ih => simp [total, ih, Nat.add_assoc]

theorem count_append (a b : List Ev) : count (a ++ b) = count a + count b := by
  simp [count, List.filter_append]

theorem largest_append (a b : List Ev) : largest (a ++ b) = max (largest a) (largest b) := by
  induction a with
  | nil => simp [largest]
  | cons e es ih => simp [largest, ih, Nat.max_assoc]

theorem total_append_le {a b : List Ev} {ta tb : Nat} (ha : total a ≤ ta) (hb : total b ≤ tb) :
    total (a ++ b) ≤ ta + tb :=
  total_append a b ▸ Nat.add_le_add ha hb

theorem largest_append_le {a b : List Ev} {k : Nat} (ha : largest a ≤ k) (hb : largest b ≤ k) :
    largest (a ++ b) ≤ k :=
  largest_append a b ▸ Nat.max_le.mpr ⟨ha, hb⟩

theorem largest_le_total (es : List Ev) : largest es ≤ total es := by
  induction es with
  | nil => simp [largest, total]
  | cons e es ih => simp only [largest, total]; omega

theorem peakFrom_le (live : Nat) (es : List Ev) : peakFrom live es ≤ live + total es := by
  induction es generalizing live with
  | nil => simp [peakFrom, total]
  | cons e es ih =>
    cases e with
    | alloc b => have := ih (live + b); simp only [peakFrom, total, Ev.req]; omega
    | free b => have := ih (live - b); simp only [peakFrom, total, Ev.req]; omega
    | realloc o n => have := ih (live - o + n); simp only [peakFrom, total, Ev.req]; omega

theorem peakFrom_ge (live : Nat) (es : List Ev) : live ≤ peakFrom live es := by
  cases es with
  | nil => simp [peakFrom]
  | cons e es => cases e <;> simp only [peakFrom] <;> omega

theorem stepBytes_eq (w : Width) : stepBytes w = 32 := by cases w <;> rfl

theorem elem_steps (w : Width) : Buf.steps.elem w = 32 := stepBytes_eq w

/-- Every element but a step is between 1 and 8 bytes. -/
theorem elem_bounds (w : Width) (b : Buf) : 1 ≤ b.elem w ∧ (b.elem w ≤ 8 ∨ b = .steps) := by
  cases w <;> cases b <;> decide

theorem elem_pos (w : Width) (b : Buf) : 1 ≤ b.elem w := (elem_bounds w b).1

theorem elem_le (w : Width) (b : Buf) : b.elem w ≤ 32 :=
  (elem_bounds w b).2.elim (Nat.le_trans · (by decide)) (· ▸ Nat.le_of_eq (elem_steps w))

theorem Buf.elem_le8 (w : Width) {b : Buf} (h : b ≠ .steps) : b.elem w ≤ 8 :=
  (elem_bounds w b).2.resolve_right h

theorem minNonZeroCap_le (s : Nat) : minNonZeroCap s ≤ 8 := by
  unfold minNonZeroCap; split <;> try split
  all_goals omega

theorem growEv_req (s cap cap' : Nat) : (growEv s cap cap').req = cap' * s := by
  unfold growEv; split <;> rfl

theorem growEv_isReq (s cap cap' : Nat) : (growEv s cap cap').isReq = true := by
  unfold growEv; split <;> rfl

theorem growAmortized_spec (s cap req : Nat) :
    2 * cap ≤ growAmortized s cap req ∧ req ≤ growAmortized s cap req ∧
    (cap < req → growAmortized s cap req ≤ 2 * req + 8) :=
  ⟨Nat.le_trans (Nat.le_max_left ..) (Nat.le_max_left ..),
    Nat.le_trans (Nat.le_max_right ..) (Nat.le_max_left ..),
    fun h => by have := minNonZeroCap_le s; unfold growAmortized; omega⟩

theorem reserveTo_of_le {s cap req : Nat} (h : req ≤ cap) : reserveTo s cap req = (cap, []) :=
  if_pos h

theorem reserveTo_of_lt {s cap req : Nat} (h : cap < req) :
    reserveTo s cap req
      = (growAmortized s cap req, [growEv s cap (growAmortized s cap req)]) :=
  if_neg (Nat.not_le.mpr h)

/-- `reserve` never shrinks the capacity, makes room for what is required, at most doubles what is
required (plus the minimum capacity), and requests at most the bytes of the new capacity; twice
the capacity gained pays for the request. -/
theorem reserveTo_spec (s cap req : Nat) :
    cap ≤ (reserveTo s cap req).1 ∧ req ≤ (reserveTo s cap req).1 ∧
    (reserveTo s cap req).1 ≤ max cap (2 * req + 8) ∧
    total (reserveTo s cap req).2 + 2 * (cap * s) ≤ 2 * ((reserveTo s cap req).1 * s) ∧
    total (reserveTo s cap req).2 ≤ (2 * req + 8) * s := by
  by_cases h : req ≤ cap
  · rw [reserveTo_of_le h]
    exact ⟨Nat.le_refl _, h, Nat.le_max_left .., Nat.le_of_eq (Nat.zero_add _), Nat.zero_le _⟩
  · have h := Nat.lt_of_not_le h
    rw [reserveTo_of_lt h]
    obtain ⟨g1, g2, g3⟩ := growAmortized_spec s cap req
    have g3 := g3 h
    have h1 : 2 * (cap * s) ≤ growAmortized s cap req * s := by
      rw [← Nat.mul_assoc]; exact Nat.mul_le_mul_right s g1
    simp only [total, growEv_req, Nat.add_zero]
    exact ⟨by omega, g2, Nat.le_trans g3 (Nat.le_max_right ..), by omega,
      Nat.mul_le_mul_right s g3⟩

theorem reserveTo_cap_le (s cap req : Nat) : (reserveTo s cap req).1 ≤ max cap (2 * req + 8) :=
  (reserveTo_spec s cap req).2.2.1

/-- `resize(n, v)` on a vector whose length does not exceed its capacity (true of every `Vec`)
changes the capacity exactly like "make room for `n` elements": the length does not matter. -/
theorem resize_eq_reserveTo (s cap len n : Nat) (h : len ≤ cap) :
    resize s cap len n = reserveTo s cap n := by
  unfold resize reserve reserveTo
  by_cases h1 : n ≤ len
  · have : n ≤ cap := by omega
    simp [h1, this]
  · by_cases h2 : n ≤ cap
    · have : ¬ cap - len < n - len := by omega
      simp [h1, h2, this]
    · have h3 : cap - len < n - len := by omega
      have h4 : len + (n - len) = n := by omega
      simp [h1, h2, h3, h4]

theorem clearResize_eq_reserveTo (s cap n : Nat) : clearResize s cap n = reserveTo s cap n :=
  resize_eq_reserveTo s cap 0 n (Nat.zero_le _)

theorem withCapacity_total (s n : Nat) : total (withCapacity s n).2 = n * s := by
  unfold withCapacity; split
  · subst_vars; simp [total]
  · simp [total, Ev.req]

theorem withCapacity_cap (s n : Nat) : (withCapacity s n).1 = n := by
  unfold withCapacity; split <;> simp_all

theorem push_free {s cap len : Nat} (h : len < cap) : push s cap len = (cap, []) := by
  simp [push, h]

theorem pushN_free (s k cap len : Nat) (h : len + k ≤ cap) : pushN s k cap len = (cap, []) := by
  induction k generalizing len with
  | zero => rfl
  | succ k ih =>
    have h1 : len < cap := by omega
    simp only [pushN, push_free h1]
    rw [ih (len + 1) (by omega)]
    rfl

theorem push_eq_reserveTo (s cap len : Nat) : push s cap len = reserveTo s cap (len + 1) := by
  by_cases h1 : len < cap
  · rw [push_free h1, reserveTo_of_le h1]
  · exact if_neg h1

theorem pushN_succ (s k cap len : Nat) :
    pushN s (k + 1) cap len
      = ((pushN s k (push s cap len).1 (len + 1)).1,
         (push s cap len).2 ++ (pushN s k (push s cap len).1 (len + 1)).2) := rfl

/-- `k` pushes on a vector with `len ≤ cap`: the capacity never shrinks, holds all elements and at
most doubles them; what is requested in total is at most twice the capacity gained
(amortisation), and no single request exceeds the doubled final length. -/
theorem pushN_spec (s k : Nat) {cap len : Nat} (h : len ≤ cap) :
    cap ≤ (pushN s k cap len).1 ∧ len + k ≤ (pushN s k cap len).1 ∧
    (pushN s k cap len).1 ≤ max cap (2 * (len + k) + 8) ∧
    total (pushN s k cap len).2 + 2 * (cap * s) ≤ 2 * ((pushN s k cap len).1 * s) ∧
    largest (pushN s k cap len).2 ≤ (2 * (len + k) + 8) * s := by
  induction k generalizing cap len with
  | zero => exact ⟨Nat.le_refl _, h, Nat.le_max_left .., Nat.le_of_eq (Nat.zero_add _), Nat.zero_le _⟩
  | succ k ih =>
    rw [pushN_succ, push_eq_reserveTo]
    simp only [total_append, largest_append]
    obtain ⟨p1, p2, p3, p4, p5⟩ := reserveTo_spec s cap (len + 1)
    obtain ⟨q1, q2, q3, q4, q5⟩ := ih p2
    rw [show len + 1 + k = len + (k + 1) by omega] at q2 q3 q5
    have hl := Nat.le_trans (largest_le_total _) p5
    have hs : (2 * (len + 1) + 8) * s ≤ (2 * (len + (k + 1)) + 8) * s :=
      Nat.mul_le_mul_right s (by omega)
    exact ⟨Nat.le_trans p1 q1, q2, by omega, by omega, Nat.max_le.mpr ⟨Nat.le_trans hl hs, q5⟩⟩

theorem pushN_total_le (s k cap len : Nat) (h : len ≤ cap) :
    total (pushN s k cap len).2 ≤ 2 * ((2 * (len + k) + 8) * s) := by
  obtain ⟨h1, _, h3, h4, _⟩ := pushN_spec s k h
  by_cases hc : (pushN s k cap len).1 ≤ cap
  · have := Nat.mul_le_mul_right s hc
    omega
  · have := Nat.mul_le_mul_right s (show (pushN s k cap len).1 ≤ 2 * (len + k) + 8 by omega)
    omega

/-- The pushes onto `steps` (32-byte elements), starting from length 0. -/
theorem pushN_steps_le (w : Width) (k cap : Nat) :
    total (pushN (Buf.steps.elem w) k cap 0).2 ≤ 128 * k + 512 ∧
    largest (pushN (Buf.steps.elem w) k cap 0).2 ≤ 64 * k + 256 := by
  rw [elem_steps]
  obtain ⟨_, _, _, _, hl⟩ := pushN_spec 32 k (Nat.zero_le cap)
  have ht := pushN_total_le 32 k cap 0 (Nat.zero_le _)
  omega

theorem sortScratchBytes_le (len : Nat) : sortScratchBytes 32 len ≤ 32 * len := by
  unfold sortScratchBytes sortAllocLen
  split
  · omega
  · split <;> omega

theorem sortScratch_cases (s len : Nat) :
    sortScratch s len = [] ∨
    sortScratch s len = [.alloc (sortScratchBytes s len), .free (sortScratchBytes s len)] := by
  unfold sortScratch; split <;> simp

theorem sortScratch_total (s len : Nat) : total (sortScratch s len) = sortScratchBytes s len := by
  unfold sortScratch; split
  · simp_all [total]
  · simp [total, Ev.req]

theorem sortScratch_largest (s len : Nat) : largest (sortScratch s len) = sortScratchBytes s len := by
  unfold sortScratch; split
  · simp_all [largest]
  · simp [largest, Ev.req]

theorem sortScratch_count (s len : Nat) : count (sortScratch s len) ≤ 1 := by
  unfold sortScratch; split
  · simp [count]
  · simp [count, List.filter, Ev.isReq]

theorem Caps.set_self (c : Caps) (b : Buf) : c.set b (c b) = c := by
  funext b'
  unfold Caps.set
  split
  · subst_vars; rfl
  · rfl

theorem Caps.set_same (c : Caps) (b : Buf) (v : Nat) : (c.set b v) b = v := by simp [Caps.set]

theorem Caps.set_other (c : Caps) (b b' : Buf) (v : Nat) (h : b' ≠ b) : (c.set b v) b' = c b' := by
  simp [Caps.set, h]

theorem Caps.le_set (c : Caps) {b : Buf} {v : Nat} (h : c b ≤ v) (b' : Buf) :
    c b' ≤ (c.set b v) b' := by
  by_cases hb : b' = b
  · rw [hb, Caps.set_same]; exact h
  · rw [Caps.set_other _ _ _ _ hb]; exact Nat.le_refl _

/-- The bound used for one buffer: at most doubled, plus the minimum capacity. -/
def bufBound (w : Width) (m : Nat) (b : Buf) : Nat := (2 * b.needObs m + 8) * b.elem w

def boundSum (w : Width) (m : Nat) : List Buf → Nat
  | [] => 0
  | b :: bs => bufBound w m b + boundSum w m bs

/-- `needObs` is one of three functions of the number of observations (`2 * 0 - 1 = 0`). -/
theorem Buf.needObs_cases (b : Buf) :
    (∀ m, b.needObs m = m) ∨ (∀ m, b.needObs m = m - 1) ∨ (∀ m, b.needObs m = 2 * m - 1) := by
  cases b
  case setParents => exact .inr (.inr fun m => by simp only [Buf.needObs]; split <;> omega)
  case steps => exact .inr (.inl fun _ => rfl)
  all_goals exact .inl fun _ => rfl

theorem Buf.needObs_le (m : Nat) (b : Buf) : b.needObs m ≤ 2 * m := by
  rcases b.needObs_cases with h | h | h <;> rw [h] <;> omega

theorem bufBound_le_of_ne_steps (w : Width) (m : Nat) {b : Buf} (h : b ≠ .steps) :
    bufBound w m b ≤ 32 * m + 64 :=
  calc (2 * b.needObs m + 8) * b.elem w
      ≤ (2 * (2 * m) + 8) * 8 :=
        Nat.mul_le_mul (by have := Buf.needObs_le m b; omega) (Buf.elem_le8 w h)
    _ = 32 * m + 64 := by omega

/-- The sums of `bufBound` over the three lists of buffers that `callWith` resizes. -/
theorem boundSum_le (w : Width) {m : Nat} (hm : m ≠ 0) :
    boundSum w m Buf.stateBufs ≤ 178 * m + 632 ∧ boundSum w m Buf.heapBufs ≤ 50 * m + 200 ∧
    boundSum w m [.setParents] ≤ 32 * m + 48 := by
  cases w <;>
    simp only [boundSum, bufBound, Buf.stateBufs, Buf.heapBufs, Buf.needObs, Buf.elem, Width.bytes,
      if_neg hm] <;>
    omega

/-- What one growth phase `f` of a call for `m` observations may do to the capacities: none shrinks,
those in `S` end at what the call needs, the requests sum to at most `T` and none is matrix-sized, and on
capacities that already suffice nothing happens. -/
structure Phase (w : Width) (m : Nat) (S : Buf → Prop) (T : Nat) (f : Caps → Caps × List Ev) :
    Prop where
  mono : ∀ c b, c b ≤ (f c).1 b
  need : ∀ c b, S b → b.needObs m ≤ (f c).1 b
  total : ∀ c, total (f c).2 ≤ T
  largest : ∀ c, largest (f c).2 ≤ 64 * (m - 1) + 256
  warm : ∀ c, (∀ b, b.needObs m ≤ c b) → f c = (c, [])

def seq (f g : Caps → Caps × List Ev) : Caps → Caps × List Ev :=
  fun c => ((g (f c).1).1, (f c).2 ++ (g (f c).1).2)

theorem Phase.seq {w : Width} {m T T' : Nat} {S S' : Buf → Prop} {f g : Caps → Caps × List Ev}
    (hf : Phase w m S T f) (hg : Phase w m S' T' g) :
    Phase w m (fun b => S b ∨ S' b) (T + T') (seq f g) where
  mono c b := Nat.le_trans (hf.mono c b) (hg.mono _ b)
  need c b h := h.elim (fun h => Nat.le_trans (hf.need c b h) (hg.mono _ b)) (hg.need _ b)
  total c := total_append_le (hf.total c) (hg.total _)
  largest c := largest_append_le (hf.largest c) (hg.largest _)
  warm c h := by simp only [Alloc.seq, hf.warm c h, hg.warm c h, List.append_nil]

theorem Phase.one (w : Width) (m : Nat) {b : Buf} (hb : b ≠ .steps) :
    Phase w m (· = b) (bufBound w m b)
      (fun c => (c.set b (reserveTo (b.elem w) (c b) (b.needObs m)).1,
                 (reserveTo (b.elem w) (c b) (b.needObs m)).2)) where
  mono c := Caps.le_set c (reserveTo_spec ..).1
  need c b' h := by subst h; simp only [Caps.set_same]; exact (reserveTo_spec ..).2.1
  total c := (reserveTo_spec ..).2.2.2.2
  largest c := by
    have := (reserveTo_spec (b.elem w) (c b) (b.needObs m)).2.2.2.2
    have := largest_le_total (reserveTo (b.elem w) (c b) (b.needObs m)).2
    have := bufBound_le_of_ne_steps w m hb
    unfold bufBound at this
    show Alloc.largest (reserveTo (b.elem w) (c b) (b.needObs m)).2 ≤ _
    omega
  warm c h := by simp only [reserveTo_of_le (h b), Caps.set_self]

theorem Phase.ensureAll (w : Width) (m : Nat) (bs : List Buf) (hs : .steps ∉ bs) :
    Phase w m (· ∈ bs) (boundSum w m bs) (ensureAll w m bs) := by
  induction bs with
  | nil => exact ⟨fun _ _ => Nat.le_refl _, fun _ _ h => (nomatch h), fun _ => Nat.le_refl _,
      fun _ => Nat.zero_le _, fun _ _ => rfl⟩
  | cons b bs ih =>
    have h := (Phase.one w m (b := b) (fun e => hs (e ▸ List.mem_cons_self))).seq
      (ih (fun h => hs (List.mem_cons_of_mem _ h)))
    exact ⟨h.mono, fun c b' hb' => h.need c b' (List.mem_cons.mp hb'), h.total, h.largest, h.warm⟩

def pushSteps (w : Width) (m : Nat) : Caps → Caps × List Ev := fun c =>
  (c.set .steps (pushN (Buf.steps.elem w) (m - 1) (c .steps) 0).1,
   (pushN (Buf.steps.elem w) (m - 1) (c .steps) 0).2)

theorem Phase.pushSteps (w : Width) (m : Nat) :
    Phase w m (· = .steps) (128 * (m - 1) + 512) (pushSteps w m) where
  mono c := Caps.le_set c (pushN_spec _ _ (Nat.zero_le _)).1
  need c b h := by
    subst h
    simp only [Alloc.pushSteps, Caps.set_same]
    exact Nat.le_trans (Nat.le_of_eq (Nat.zero_add _).symm) (pushN_spec _ _ (Nat.zero_le _)).2.1
  total c := (pushN_steps_le w _ _).1
  largest c := (pushN_steps_le w _ _).2
  warm c h := by
    have e : pushN (Buf.steps.elem w) (m - 1) (c .steps) 0 = (c .steps, []) :=
      pushN_free _ _ _ _ (Nat.le_trans (Nat.le_of_eq (Nat.zero_add _)) (h .steps))
    simp only [Alloc.pushSteps, e, Caps.set_self]

theorem Phase.cond {w : Width} {m T : Nat} {S : Buf → Prop} {f : Caps → Caps × List Ev}
    (p : Prop) [Decidable p] (hf : Phase w m S T f) :
    Phase w m (fun _ => False) T (fun c => if p then f c else (c, [])) := by
  by_cases hp : p <;> simp only [hp, if_true, if_false]
  · exact ⟨hf.mono, fun _ _ h => h.elim, hf.total, hf.largest, hf.warm⟩
  · exact ⟨fun _ _ => Nat.le_refl _, fun _ _ h => h.elim, fun _ => Nat.zero_le _,
      fun _ => Nat.zero_le _, fun _ _ => rfl⟩

/-- The growth phases of `callWith`: `state.reset`, the heap of the generic route, the pushes,
`set.reset`. -/
def callPhases (alg : Alg) (meth : Method) (w : Width) (m : Nat) : Caps → Caps × List Ev :=
  seq (seq (seq (ensureAll w m Buf.stateBufs)
    (fun c => if route alg meth = .generic then ensureAll w m Buf.heapBufs c else (c, [])))
    (pushSteps w m)) (ensureAll w m [.setParents])

/-- A call is its growth phases followed by the scratch buffer of the sort. -/
theorem callWith_eq_phases (c : Caps) (alg : Alg) (meth : Method) (w : Width) {n : Nat}
    (hm : normObs n ≠ 0) :
    callWith c alg meth w n =
      ((callPhases alg meth w (normObs n) c).1, (callPhases alg meth w (normObs n) c).2 ++
        if (relabelMethod alg meth).requiresSorting
          then sortScratch (Buf.steps.elem w) (normObs n - 1) else []) := by
  unfold callWith
  simp only [hm, if_false]
  rfl

/-- Every buffer is in `Buf.stateBufs` or is `steps`, so the phases together serve all of them. -/
theorem callPhases_phase (alg : Alg) (meth : Method) (w : Width) (m : Nat) :
    Phase w m (fun _ => True)
      (boundSum w m Buf.stateBufs + boundSum w m Buf.heapBufs + (128 * (m - 1) + 512)
        + boundSum w m [.setParents])
      (callPhases alg meth w m) :=
  have P := (((Phase.ensureAll w m Buf.stateBufs (by decide)).seq
    (Phase.cond (route alg meth = .generic) (Phase.ensureAll w m Buf.heapBufs (by decide)))).seq
    (Phase.pushSteps w m)).seq (Phase.ensureAll w m [.setParents] (by decide))
  ⟨P.mono, fun c b _ => P.need c b (by cases b <;> decide), P.total, P.largest, P.warm⟩

theorem dropState_total (w : Width) (c : Caps) : total (dropState w c) = 0 := by
  unfold dropState
  induction (Buf.stateBufs.filter (fun b => c b ≠ 0)) with
  | nil => rfl
  | cons b bs ih => simp [total, Ev.req] at ih ⊢; exact ih

theorem dropState_largest (w : Width) (c : Caps) : largest (dropState w c) = 0 := by
  have := largest_le_total (dropState w c)
  rw [dropState_total] at this
  omega

theorem normObs_mono {n n' : Nat} (h : n ≤ n') : normObs n ≤ normObs n' := by
  unfold normObs; split <;> split <;> omega

theorem needObs_mono {m m' : Nat} (h : m ≤ m') (b : Buf) : b.needObs m ≤ b.needObs m' := by
  rcases b.needObs_cases with e | e | e <;> rw [e, e] <;> omega

theorem need_mono {n n' : Nat} (h : n ≤ n') (b : Buf) : b.need n ≤ b.need n' :=
  needObs_mono (normObs_mono h) b

theorem normObs_le (n : Nat) : normObs n ≤ n := by unfold normObs; split <;> omega

theorem le_chainMaxLen (len : Nat) (ops : List ChainOp) : len ≤ chainMaxLen len ops := by
  cases ops with
  | nil => exact Nat.le_refl _
  | cons o os => cases o <;> exact Nat.le_max_left ..

/-- A script that never makes the chain longer than its capacity causes no allocator call and
leaves the capacity alone. -/
theorem chainScript_free (cap len : Nat) (ops : List ChainOp) (h : chainMaxLen len ops ≤ cap) :
    (chainScript cap len ops).1 = cap ∧ (chainScript cap len ops).2.2 = [] := by
  induction ops generalizing len with
  | nil => exact ⟨rfl, rfl⟩
  | cons op ops ih =>
    cases op with
    | push =>
      have h : chainMaxLen (len + 1) ops ≤ cap := (Nat.max_le.mp h).2
      simp only [chainScript, push_free (Nat.le_trans (le_chainMaxLen ..) h)]
      exact ih (len + 1) h
    | pop => exact ih (len - 1) (Nat.max_le.mp h).2
    | clear => exact ih 0 (Nat.max_le.mp h).2

end Alloc
end Kodama
