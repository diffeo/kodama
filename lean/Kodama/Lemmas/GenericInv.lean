/-
Invariants for `genericWith` (Müllner's generic algorithm, src/generic.rs): the value hypotheses
(`GoodSet`, `UpdClosed`, `LBClosed`), matrices whose entries are all good (`MGood`), the lower-bound
invariant `LB` (every priority is a lower bound of its row), and the heap / `nearest[]` invariant
`QInvB` with its preservation lemmas.

Value hypotheses (all explicit, never axioms):
* `GoodSet G`  : `G` is a user-chosen set of "good" numbers: every `G v` is non-NaN, strictly below
                 `T::max_value()` and satisfies `v == v`.
* `UpdClosed G m` : `G` is closed under the Lance–Williams update of method `m` as `generic.rs`
                 calls it (positive cluster sizes; merged distance in `G` where the method reads it).
                 Proved outright for `single` and `complete` (`updClosed_single/complete`).
                 Not needed by the invariants: the update lemma (`genericUpdate_spec`) asks
                 only that the values THIS update writes are good
                 (`UpdGoodAt`, `Lemmas/GenericInvUpdate.lean`); `UpdClosed` implies that
                 (`updGoodAt_of_updClosed`), as do the run-dependent hypotheses `Spec.RunGood`
                 (`Lemmas/SpecRunGood.lean`) and `GenericRunGood` (`Lemmas/GenericRun.lean`).
-/
import Kodama.Lemmas.GenericBody
import Kodama.Lemmas.Layout
import Kodama.Lemmas.ActiveRefine
import Kodama.Lemmas.HeapInvOps
import Kodama.Lemmas.Loop
namespace Kodama
open Spec
variable {α : Type} [Num α]

structure GoodSet (G : α → Prop) : Prop where
  notNaN : ∀ v, G v → Num.isNaN v = false
  ltMax : ∀ v, G v → Num.lt v Num.maxValue = true
  beqRefl : ∀ v, G v → Num.beq v v = true

/-- `G` is closed under the update of method `m`, as called by `generic.rs`: the size table is
positive, `size_a`, `size_b` are positive where the method reads them, and the merged distance is
good where the method reads it. -/
def UpdClosed (G : α → Prop) (m : Method) : Prop :=
  ∀ (sizes : Array Nat) (sa sb : Nat) (dist : α) (x : Nat) (va vb v : α),
    (∀ i (h : i < sizes.size), 0 < sizes[i]) →
    (usesSizes m = true → 0 < sa ∧ 0 < sb) → (usesDist m = true → G dist) →
    G va → G vb → updFn m sizes sa sb dist x va vb = .ok v → G v

theorem updClosed_single (G : α → Prop) : UpdClosed G .single := by
  intro sizes sa sb dist x va vb v _ _ _ ha hb h
  simp only [updFn, Gen.single, pure, Except.pure, Except.ok.injEq] at h
  subst h
  split
  · exact ha
  · exact hb

theorem updClosed_complete (G : α → Prop) : UpdClosed G .complete := by
  intro sizes sa sb dist x va vb v _ _ _ ha hb h
  simp only [updFn, Gen.complete, pure, Except.pure, Except.ok.injEq] at h
  subst h
  split
  · exact ha
  · exact hb

/-- The update of method `m` never falls below a common lower bound `p` of its two arguments
(all values good; positive sizes; for the methods that read the merged distance: that distance is
good and `≤ p`).  True in exact arithmetic for single, complete, average, weighted, Ward; for the
clamped average and the guarded, clamped Ward in every ordered number type (`lbClosed_average`,
`lbClosed_ward`); for weighted over floats only on a domain without overflow
(`lbClosed_weighted_of_chainGeOn`, `Lemmas/RoundGeneric.lean`); not needed for centroid and median. -/
def LBClosed (G : α → Prop) (m : Method) : Prop :=
  ∀ (sizes : Array Nat) (sa sb : Nat) (dist : α) (x : Nat) (va vb v p : α),
    (∀ i (h : i < sizes.size), 0 < sizes[i]) →
    (usesSizes m = true → 0 < sa ∧ 0 < sb) →
    (usesDist m = true → G dist ∧ Num.lt p dist = false) →
    G va → G vb → G p → updFn m sizes sa sb dist x va vb = .ok v →
    Num.lt va p = false → Num.lt vb p = false → Num.lt v p = false

/-- Centroid and median lower the candidates they touch (`l1Mode ≠ .fix`), so `LBClosed` is never
asked of them. -/
theorem lbClosed_of_centroid_median {G : α → Prop} {m : Method} (hm : m = .centroid ∨ m = .median)
    (h : l1Mode m = .fix) : LBClosed G m := by
  rcases hm with rfl | rfl <;> cases h

structure MGood (G : α → Prop) (n : Nat) (M : Mat α) : Prop where
  valid : M.Valid
  mn : M.n = n
  good : ∀ i (h : i < M.data.size), G M.data[i]

omit [Num α] in
theorem MGood.get {G : α → Prop} {n : Nat} {M : Mat α} (chk : Bool) (hM : MGood G n M)
    (r c : Nat) (hrc : r < c) (hcn : c < n) : ∃ v, M.get chk r c = .ok v ∧ G v := by
  have hcn' : c < M.n := by rw [hM.mn]; exact hcn
  unfold Mat.get
  rw [Mat.idx_ok chk M r c hrc hcn' hM.valid.small]
  have h1 := idxN_lt M.n r c hrc hcn'
  have h2 := hM.valid.size
  have hlt : Gen.idxN M.n r c < M.data.size := by omega
  refine ⟨M.data[Gen.idxN M.n r c], ?_, hM.good _ hlt⟩
  simp [bind, Except.bind, aget, hlt]

omit [Num α] in
theorem MGood.good_of_get {G : α → Prop} {n : Nat} {M : Mat α} {chk : Bool} (hM : MGood G n M)
    {r c : Nat} {v : α} (hrc : r < c) (hcn : c < n) (h : M.get chk r c = .ok v) : G v := by
  obtain ⟨w, hw, gw⟩ := hM.get chk r c hrc hcn
  rw [h] at hw; cases hw; exact gw

/-- A scan of row `a` of a good matrix for its smallest entry over the columns `cols`, from a start
whose key is the entry at its tag: the step reads `M[a, x]` and, when that is strictly smaller,
takes it as key and `x` as tag.  The scan is total, the final key is the (good) entry at the final
tag, and a lower bound of the entries at the start tag and at `cols`. -/
theorem MGood.scanRow {G : α → Prop} {n : Nat} {M : Mat α} (L : OrderLaws α) (gs : GoodSet G)
    (chk : Bool) (hM : MGood G n M) {σ : Type} (I : σ → Prop) (key : σ → α) (tag : σ → Nat)
    (a : Nat) (cols : List Nat) (hcols : ∀ x ∈ cols, a < x ∧ x < n) (f : σ → Nat → R σ)
    (hf : ∀ acc x v, I acc → x ∈ cols → M.get chk a x = .ok v → ∃ acc', f acc x = .ok acc' ∧
      I acc' ∧ (key acc', tag acc') = if Num.lt v (key acc) then (v, x) else (key acc, tag acc))
    (acc : σ) (hI : I acc) (h1 : a < tag acc) (h2 : tag acc < n)
    (h0 : M.get chk a (tag acc) = .ok (key acc)) :
    ∃ r, cols.foldlM f acc = .ok r ∧ I r ∧ (tag r = tag acc ∨ tag r ∈ cols) ∧
      M.get chk a (tag r) = .ok (key r) ∧ G (key r) ∧
      ∀ x, x = tag acc ∨ x ∈ cols → ∀ v, M.get chk a x = .ok v → Num.lt v (key r) = false := by
  have hval : ∀ x ∈ cols, M.get chk a x = .ok (M.dval a x) := fun x hx =>
    Mat.get_dval chk M hM.valid a x (hcols x hx).1 (by rw [hM.mn]; exact (hcols x hx).2)
  have gval : ∀ x ∈ cols, G (M.dval a x) := fun x hx =>
    hM.good_of_get (hcols x hx).1 (hcols x hx).2 (hval x hx)
  have g0 : G (key acc) := hM.good_of_get h1 h2 h0
  obtain ⟨r, e, hr, -, hle, hmin, hfin⟩ := foldlM_scanMin L (fun _ => I) key tag (M.dval a) id cols f
    (fun _ s x hx hs => hf s x _ hs hx (hval x hx)) (fun x hx => gs.notNaN _ (gval x hx)) acc hI
    (gs.notNaN _ g0)
  refine ⟨r, e, hr, ?_, ?_, ?_, ?_⟩
  · exact hfin.elim (fun h => .inl h.2) fun ⟨x, hx, _, h, _⟩ => .inr (h ▸ hx)
  · rcases hfin with ⟨k, t⟩ | ⟨x, hx, k, t, _⟩
    · rw [k, t]; exact h0
    · rw [k, t]; exact hval x hx
  · rcases hfin with ⟨k, _⟩ | ⟨x, hx, k, _⟩
    · rw [k]; exact g0
    · rw [k]; exact gval x hx
  · rintro x (rfl | hx) v hv
    · cases h0.symm.trans hv; exact hle
    · cases (hval x hx).symm.trans hv; exact hmin x hx

set_option linter.unusedSectionVars false in
theorem MGood.update {G : α → Prop} {n : Nat} {M : Mat α} (chk : Bool) (hM : MGood G n M)
    (upd : Nat → α → α → R α) (x ra ca rb cb : Nat)
    (hupd : ∀ va vb, M.get chk ra ca = .ok va → M.get chk rb cb = .ok vb →
      ∃ v, upd x va vb = .ok v ∧ G v)
    (h1 : ra < ca) (h2 : ca < n) (h3 : rb < cb) (h4 : cb < n) :
    ∃ M', M.update chk upd x ra ca rb cb = .ok M' ∧ MGood G n M' := by
  obtain ⟨va, hva, gva⟩ := hM.get chk ra ca h1 h2
  obtain ⟨vb, hvb, gvb⟩ := hM.get chk rb cb h3 h4
  obtain ⟨v, hv, gv⟩ := hupd va vb hva hvb
  have h4' : cb < M.n := by rw [hM.mn]; exact h4
  have i1 := idxN_lt M.n rb cb h3 h4'
  have i2 := hM.valid.size
  have hlt : Gen.idxN M.n rb cb < M.data.size := by omega
  have hset : M.set chk rb cb v = .ok { M with data := M.data.set (Gen.idxN M.n rb cb) v hlt } := by
    unfold Mat.set
    rw [Mat.idx_ok chk M rb cb h3 h4' hM.valid.small]
    simp [bind, Except.bind, aset, hlt, pure, Except.pure]
  refine ⟨({ M with data := M.data.set (Gen.idxN M.n rb cb) v hlt } : Mat α).tick 2, ?_, ?_⟩
  · unfold Mat.update
    simp only [bind, Except.bind, hva, hvb, hv, hset, pure, Except.pure]
  · refine ⟨hM.valid.of_eq rfl (by simp [Mat.tick]), hM.mn, ?_⟩
    intro i hi
    simp only [Mat.tick, Array.getElem_set]
    split
    · exact gv
    · exact hM.good i (by simpa [Mat.tick] using hi)

/-- `v < p`, `p ≤ w` (`p` not NaN) give `v ≤ w`. -/
theorem OrderLaws.le_of_lt_le (L : OrderLaws α) {v p w : α} (hp : Num.isNaN p = false)
    (h1 : Num.lt v p = true) (h2 : Num.lt w p = false) : Num.lt w v = false := by
  cases h : Num.lt w v
  · rfl
  · rcases L.cotrans w p v hp h with h' | h'
    · rw [h2] at h'; cases h'
    · rw [L.asymm v p h1] at h'; cases h'

/-- Every live row's priority is a lower bound of the row's entries at live columns. -/
def LB (chk : Bool) (M : Mat α) (live : List Nat) (prio : Array α) : Prop :=
  ∀ x ∈ live, ∀ y ∈ live, x < y → ∀ p v, prio[x]? = some p → M.get chk x y = .ok v →
    Num.lt v p = false

theorem LB.mono {chk : Bool} {M : Mat α} {live live' : List Nat} {prio : Array α}
    (h : LB chk M live prio) (hsub : ∀ x ∈ live', x ∈ live) : LB chk M live' prio :=
  fun x hx y hy hxy p v hp hv => h x (hsub x hx) y (hsub y hy) hxy p v hp hv

/-- One entry `(r, c)` of the matrix changes to `v`, the priorities of the rows `≠ r` stay, and the
new priority of row `r` is a lower bound of `v` and of the old entries of the row. -/
theorem LB.update_entry {chk : Bool} {n : Nat} {M M1 : Mat α} {full : List Nat}
    {prio prio' : Array α} (r c : Nat) (v : α)
    (hget : ∀ r' c', r' < c' → c' < n →
      M1.get chk r' c' = if r' = r ∧ c' = c then .ok v else M.get chk r' c')
    (hlt : ∀ z ∈ full, z < n) (hlb : LB chk M full prio)
    (hother : ∀ z, z ≠ r → prio'[z]? = prio[z]?)
    (hrow : ∀ p', prio'[r]? = some p' → Num.lt v p' = false ∧
      ∀ y ∈ full, r < y → y ≠ c → ∀ w, M.get chk r y = .ok w → Num.lt w p' = false) :
    LB chk M1 full prio' := by
  intro z hz y hy hzy p w hp hw
  rw [hget z y hzy (hlt y hy)] at hw
  by_cases hzr : z = r
  · subst hzr
    obtain ⟨h1, h2⟩ := hrow p hp
    by_cases hyc : y = c
    · subst hyc
      simp only [and_self, if_true] at hw
      injection hw with hw
      rw [← hw]; exact h1
    · have : ¬ (z = z ∧ y = c) := fun e => hyc e.2
      rw [if_neg this] at hw
      exact h2 y hy hzy hyc w hw
  · have : ¬ (z = r ∧ y = c) := fun e => hzr e.1
    rw [if_neg this] at hw
    rw [hother z hzr] at hp
    exact hlb z hz y hy hzy p w hp hw

/-- `LB.update_entry` when the priorities do not change: the new entry is not below the priority of
its row. -/
theorem LB.keep {chk : Bool} {n : Nat} {M M1 : Mat α} {full : List Nat} {prio : Array α}
    (r c : Nat) (v : α)
    (hget : ∀ r' c', r' < c' → c' < n →
      M1.get chk r' c' = if r' = r ∧ c' = c then .ok v else M.get chk r' c')
    (hlt : ∀ z ∈ full, z < n) (hlb : LB chk M full prio) (hr : r ∈ full)
    (hv : ∀ p, prio[r]? = some p → Num.lt v p = false) :
    LB chk M1 full prio :=
  LB.update_entry r c v hget hlt hlb (fun _ _ => rfl)
    (fun p' hp' => ⟨hv p' hp', fun y hy hry _ w hw => hlb r hr y hy hry p' w hp' hw⟩)

/-- `LB.update_entry` when the priority of row `r` is lowered to the new entry `v < p`. -/
theorem LB.lower (L : OrderLaws α) {chk : Bool} {n : Nat} {M M1 : Mat α} {full : List Nat}
    {prio : Array α} (r c : Nat) (v p : α)
    (hget : ∀ r' c', r' < c' → c' < n →
      M1.get chk r' c' = if r' = r ∧ c' = c then .ok v else M.get chk r' c')
    (hlt : ∀ z ∈ full, z < n) (hlb : LB chk M full prio) (hr : r ∈ full)
    (hp : prio[r]? = some p) (hpn : Num.isNaN p = false) (hvp : Num.lt v p = true) :
    LB chk M1 full (prio.setIfInBounds r v) := by
  have hrn : r < prio.size := (Array.getElem?_eq_some_iff.mp hp).1
  apply LB.update_entry r c v hget hlt hlb
  · intro z hz
    exact Array.getElem?_setIfInBounds_ne (Ne.symm hz)
  · intro p' hp'
    rw [Array.getElem?_setIfInBounds_self_of_lt hrn] at hp'
    cases hp'
    refine ⟨L.irrefl _, ?_⟩
    intro y hy hry _ w hw
    exact L.le_of_lt_le hpn hvp (hlb r hr y hy hry p w hp hw)

/-- Invariant tying the priority queue and the candidate array to the live set `live`.
`B x c` is an allowed exception for `nearest[x] = c` (used while range 1 of the update is still
redirecting candidates away from the cluster just popped). -/
structure QInvB (G : α → Prop) (n : Nat) (live : List Nat) (B : Nat → Nat → Prop)
    (q : Heap α) (nr : Array Nat) : Prop where
  inv : Heap.Inv q
  psz : q.prio.size = n
  qlive : ∀ o, q.Live o ↔ o ∈ live
  nsz : nr.size = n
  /-- a live row with a larger live neighbour has a live, larger candidate -/
  near : ∀ x ∈ live, ∀ y ∈ live, x < y → ∃ c, nr[x]? = some c ∧ x < c ∧ (c ∈ live ∨ B x c)
  /-- a live row with a larger live neighbour has a good priority -/
  pgood : ∀ x ∈ live, ∀ y ∈ live, x < y → ∃ p, q.prio[x]? = some p ∧ G p
  /-- the largest live row keeps the sentinel priority -/
  plast : ∀ x ∈ live, (∀ y ∈ live, y ≤ x) → q.prio[x]? = some Num.maxValue

/-- The invariant between the phases: no exceptions. -/
abbrev QInv (G : α → Prop) (n : Nat) (live : List Nat) (q : Heap α) (nr : Array Nat) : Prop :=
  QInvB G n live (fun _ _ => False) q nr

namespace QInvB
variable {G : α → Prop} {n : Nat} {live : List Nat} {B : Nat → Nat → Prop} {q : Heap α}
  {nr : Array Nat}

theorem lt_n (h : QInvB G n live B q nr) {x : Nat} (hx : x ∈ live) : x < n := by
  rw [← h.psz]; exact h.inv.wf.live_lt ((h.qlive x).mpr hx)

theorem priority_ok (h : QInvB G n live B q nr) {x : Nat} (hx : x ∈ live) :
    ∃ p, q.prio[x]? = some p ∧ q.priority x = .ok p :=
  Heap.priority_ok h.inv.wf ((h.qlive x).mpr hx)

theorem peek_some (h : QInvB G n live B q nr) {x : Nat} (hx : x ∈ live) :
    ∃ a, q.peek = some a ∧ a ∈ live := by
  obtain ⟨a, hp⟩ := Heap.peek_of_live ((h.qlive x).mpr hx)
  exact ⟨a, hp, (h.qlive _).mp (Heap.peek_live hp)⟩

/-- While at least two rows are live, the top of the heap is never the largest live row. -/
theorem peek_has_larger (L : OrderLaws α) (gs : GoodSet G) (h : QInvB G n live B q nr)
    (h2 : 2 ≤ live.length) (hnd : live.Nodup) {a : Nat} (hp : q.peek = some a) :
    a ∈ live ∧ ∃ y ∈ live, a < y := by
  have ha : a ∈ live := (h.qlive a).mp (Heap.peek_live hp)
  refine ⟨ha, ?_⟩
  by_cases hex : ∃ y ∈ live, a < y
  · exact hex
  · exfalso
    have hall : ∀ y ∈ live, y ≤ a := by
      intro y hy
      by_cases hya : y ≤ a
      · exact hya
      · exact absurd ⟨y, hy, by omega⟩ hex
    have hpa := h.plast a ha hall
    obtain ⟨x, hx, hxa⟩ : ∃ x ∈ live, x ≠ a := by
      match live, h2, hnd with
      | u :: v :: rest, _, hnd =>
        have huv : u ≠ v := by
          intro e; subst e
          exact (List.nodup_cons.mp hnd).1 List.mem_cons_self
        by_cases hu : u = a
        · exact ⟨v, by simp, by intro e; exact huv (hu.trans e.symm)⟩
        · exact ⟨u, by simp, hu⟩
    have hxlt : x < a := by have := hall x hx; omega
    obtain ⟨p, hpx, gp⟩ := h.pgood x hx a ha hxlt
    have hmin := h.inv.peek_min L hp x Num.maxValue p ((h.qlive x).mpr hx) hpa hpx
    rw [gs.ltMax p gp] at hmin
    cases hmin

/-- Between the phases the candidate itself is live. -/
theorem near_live (h : QInv G n live q nr) {x y : Nat} (hx : x ∈ live) (hy : y ∈ live)
    (hxy : x < y) : ∃ c, nr[x]? = some c ∧ x < c ∧ c ∈ live := by
  obtain ⟨c, hc, hxc, hcl⟩ := h.near x hx y hy hxy
  exact ⟨c, hc, hxc, hcl.resolve_right id⟩

/-- While at least two rows are live, the heap has a top `a`, and `a` has a live candidate
`b > a`. -/
theorem pick (L : OrderLaws α) (gs : GoodSet G) (h : QInv G n live q nr) (h2 : 2 ≤ live.length)
    (hnd : live.Nodup) :
    ∃ a b, q.peek = some a ∧ nr[a]? = some b ∧ a < b ∧ a ∈ live ∧ b ∈ live := by
  obtain ⟨x0, hx0⟩ : ∃ x, x ∈ live := by
    match live, h2 with
    | u :: _, _ => exact ⟨u, List.mem_cons_self⟩
  obtain ⟨a, hpeek, _⟩ := h.peek_some hx0
  obtain ⟨ha, y, hy, hay⟩ := h.peek_has_larger L gs h2 hnd hpeek
  obtain ⟨b, hb, hab, hbl⟩ := h.near_live ha hy hay
  exact ⟨a, b, hpeek, hb, hab, ha, hbl⟩

/-- `nearest[x] = c` for a live, larger `c`. -/
theorem setNear (h : QInvB G n live B q nr) {x c : Nat} (hxn : x < nr.size) (hc : c ∈ live)
    (hxc : x < c) (B' : Nat → Nat → Prop)
    (hB : ∀ y c', y ≠ x → nr[y]? = some c' → B y c' → B' y c') :
    QInvB G n live B' q (nr.set x c hxn) := by
  refine ⟨h.inv, h.psz, h.qlive, by simp [h.nsz], ?_, h.pgood, h.plast⟩
  intro z hz y hy hzy
  by_cases e : z = x
  · subst e
    exact ⟨c, Array.getElem?_set_self hxn, hxc, Or.inl hc⟩
  · obtain ⟨c', h1, h2, h3⟩ := h.near z hz y hy hzy
    exact ⟨c', by rw [Array.getElem?_set_ne hxn (Ne.symm e)]; exact h1, h2,
      h3.imp id (hB z c' e h1)⟩

/-- Weakening / strengthening of the exception set (aware of the current candidates). -/
theorem weaken (h : QInvB G n live B q nr) (B' : Nat → Nat → Prop)
    (hB : ∀ y c', y ∈ live → nr[y]? = some c' → y < c' → B y c' → c' ∈ live ∨ B' y c') :
    QInvB G n live B' q nr := by
  refine ⟨h.inv, h.psz, h.qlive, h.nsz, ?_, h.pgood, h.plast⟩
  intro z hz y hy hzy
  obtain ⟨c', h1, h2, h3⟩ := h.near z hz y hy hzy
  refine ⟨c', h1, h2, ?_⟩
  rcases h3 with h3 | h3
  · exact Or.inl h3
  · exact hB z c' hz h1 h2 h3

/-- `set_priority(x, v)` with a good `v` on a live row that has a larger live neighbour. -/
theorem setPrio (L : OrderLaws α) (gs : GoodSet G) (chk : Bool) (h : QInvB G n live B q nr)
    {x y : Nat} (hx : x ∈ live) (hy : y ∈ live) (hxy : x < y) {v : α} (hv : G v) :
    ∃ q', q.setPriority chk x v = .ok q' ∧ QInvB G n live B q' nr ∧
      q'.prio = q.prio.setIfInBounds x v := by
  obtain ⟨q', e, inv', hprio, _, _, hlive⟩ :=
    Heap.setPriority_Inv L chk h.inv ((h.qlive x).mpr hx) (gs.notNaN v hv)
  have hxn : x < q.prio.size := by rw [h.psz]; exact h.lt_n hx
  refine ⟨q', e, ⟨inv', by rw [hprio]; simp [h.psz], fun o => (hlive o).trans (h.qlive o), h.nsz,
    h.near, ?_, ?_⟩, hprio⟩
  · intro z hz w hw hzw
    by_cases e' : z = x
    · subst e'
      exact ⟨v, by rw [hprio]; exact Array.getElem?_setIfInBounds_self_of_lt hxn, hv⟩
    · obtain ⟨p, h1, h2⟩ := h.pgood z hz w hw hzw
      exact ⟨p, by rw [hprio, Array.getElem?_setIfInBounds_ne (Ne.symm e')]; exact h1, h2⟩
  · intro z hz hall
    have hne : ¬ x = z := by
      intro e'; subst e'
      have := hall y hy; omega
    rw [hprio, Array.getElem?_setIfInBounds_ne hne]
    exact h.plast z hz hall

end QInvB
end Kodama
