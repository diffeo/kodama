/-
`Spec.WellFormed` against the replay of the specification, both ways: every greedy-valid step list
is well formed (`greedyValid_wellFormed`), and along the replay of a well-formed list, for any method
and matrix, the state is the one read off the list (`wf_stateAt`; that every step is then `Legal` is
`WellFormed.merges`, `Lemmas/MstGreedyReplay.lean`).  Both are the step lemma `WInv.merge` iterated.
No number law is used.
-/
import Kodama.Lemmas.SpecReplay
namespace Kodama.Spec
variable {α : Type} [Num α]

omit [Num α] in
theorem usedBefore_succ {os : List (Step α)} {i l : Nat} {st : Step α} (hst : os[i]? = some st) :
    UsedBefore os (i + 1) l ↔ UsedBefore os i l ∨ st.c1 = l ∨ st.c2 = l := by
  constructor
  · rintro ⟨j, s, hj, hs, hu⟩
    by_cases hji : j < i
    · exact Or.inl ⟨j, s, hji, hs, hu⟩
    · have : j = i := by omega
      subst this
      rw [hst] at hs
      cases hs
      exact Or.inr hu
  · rintro (⟨j, s, hj, hs, hu⟩ | hu)
    · exact ⟨j, s, by omega, hs, hu⟩
    · exact ⟨i, st, Nat.lt_succ_self i, hst, hu⟩

/-- The state before step `i` of a replay, read off the step list alone: the live labels are the
labels created so far that no earlier step has consumed, and the sizes are the recorded ones. -/
structure WInv (n : Nat) (os : List (Step α)) (i : Nat) (s : NState α) : Prop where
  st : StInv n i s
  live : ∀ l, l ∈ s.live ↔ l < n + i ∧ ¬ UsedBefore os i l
  used : ∀ l, UsedBefore os i l → l < n + i
  size : ∀ l, l < n + i → s.size l = sz n os l

theorem init_WInv (m : Method) (n : Nat) (data : Array α) (os : List (Step α)) :
    WInv n os 0 (init m n data) := by
  refine ⟨init_StInv m n data, fun l => ?_, ?_, fun l hl => ?_⟩
  · rw [mem_init_live, Nat.add_zero]
    exact ⟨fun hl => ⟨hl, by rintro ⟨j, s, hj, -⟩; omega⟩, fun h => h.1⟩
  · rintro l ⟨j, s, hj, -⟩; omega
  · rw [init_size, sz, if_pos (by omega)]

theorem WInv.merge (m : Method) {n i : Nat} {os : List (Step α)} {s : NState α} {st : Step α}
    (hw : WInv n os i s) (hst : os[i]? = some st) (hc1 : st.c1 ∈ s.live) (hc2 : st.c2 ∈ s.live)
    (hne : st.c1 ≠ st.c2) (hsize : st.size = s.size st.c1 + s.size st.c2) :
    WInv n os (i + 1) (merge m s st.c1 st.c2) := by
  have hnext : s.next = n + i := hw.st.next
  have h1 := ((hw.live _).1 hc1).1
  have h2 := ((hw.live _).1 hc2).1
  refine ⟨hw.st.merge hc1 hc2 hne, fun l => ?_, fun l => ?_, fun l hl => ?_⟩
  · rw [mem_merge_live, usedBefore_succ hst, hnext, hw.live]
    constructor
    · rintro (⟨⟨h1, h2⟩, h3, h4⟩ | rfl)
      · refine ⟨by omega, ?_⟩
        rintro (h | h | h)
        · exact h2 h
        · exact h3 h.symm
        · exact h4 h.symm
      · refine ⟨by omega, ?_⟩
        rintro (h | h | h)
        · have := hw.used _ h; omega
        · omega
        · omega
    · rintro ⟨h1, h2⟩
      by_cases hl : l = n + i
      · exact Or.inr hl
      · exact Or.inl ⟨⟨by omega, fun h => h2 (Or.inl h)⟩, fun h => h2 (Or.inr (Or.inl h.symm)),
          fun h => h2 (Or.inr (Or.inr h.symm))⟩
  · rw [usedBefore_succ hst]
    rintro (h | rfl | rfl)
    · have := hw.used _ h; omega
    · omega
    · omega
  · rw [merge_size, hnext]
    by_cases hl' : l = n + i
    · subst hl'
      have : ¬ n + i < n := by omega
      simp only [if_true, sz, this, if_false, Nat.add_sub_cancel_left, hst]
      exact hsize.symm
    · simp only [hl', if_false]
      exact hw.size l (by omega)

theorem greedy_wInv {m : Method} {n : Nat} {data : Array α} {steps : List (Step α)}
    (hg : GreedyFrom m (init m n data) steps) (i : Nat) (hi : i ≤ steps.length) :
    WInv n steps i (stateAt m (init m n data) steps i) :=
  (hg.merges.induct (init_WInv m n data steps) (fun i st hst _ hl ih =>
    ih.merge m hst hl.1 hl.2.1 (Nat.ne_of_lt hl.2.2) ((greedyFrom_iff _ _ _).1 hg i st hst).size)
    i hi).2

theorem greedyValid_wellFormed {m : Method} {n : Nat} {data : Array α} {steps : List (Step α)}
    (h : GreedyValid m n data steps) : WellFormed n steps := by
  obtain ⟨hlen, hg⟩ := h
  refine ⟨hlen, hg.merges.ordered, ?_, ?_⟩ <;> intro i s hs
  all_goals
    have hw := greedy_wInv hg i (Nat.le_of_lt (getElem?_lt hs))
    have ha := (greedyFrom_iff _ _ _).1 hg i s hs
    have h1 := (hw.live _).1 ha.mem1
    have h2 := (hw.live _).1 ha.mem2
  · exact ⟨h1.2, h2.2⟩
  · rw [ha.size, hw.size _ h1.1, hw.size _ h2.1]

theorem wf_stateAt (m : Method) {n : Nat} {data : Array α} {os : List (Step α)}
    (W : WellFormed n os) : ∀ i, i ≤ os.length →
      WInv n os i (stateAt m (init m n data) os i) := by
  intro i
  induction i with
  | zero => intro _; simpa using init_WInv m n data os
  | succ i ih =>
    intro hi
    have hst : os[i]? = some os[i] := List.getElem?_eq_getElem (by omega)
    have hw := ih (by omega)
    have hord := W.ordered i _ hst
    have hfresh := W.fresh i _ hst
    rw [stateAt_succ _ _ _ _ _ hst]
    have hc1 := (hw.live _).2 ⟨by omega, hfresh.1⟩
    have hc2 := (hw.live _).2 ⟨by omega, hfresh.2⟩
    refine hw.merge m hst hc1 hc2 (by omega) ?_
    rw [W.size i _ hst, hw.size _ (by omega), hw.size _ (by omega)]

end Kodama.Spec
