/-
`generic_with` (Müllner's generic algorithm, `src/generic.rs`) for an approximate dissimilarity relation
(`Lemmas/RoundCore.lean`): the loop is `roundLoop_of_step` with the totality invariant `GenInv`, the
lower-bound invariant `LB` and the iteration lemma `genIter_facts` (`Lemmas/GenericRun.lean`).

Unlike `primitive_with`, `generic_with` is NOT total for arbitrary number operations: its heap holds
lower bounds of the row minima that are only repaired lazily, it leaves its repair loop on `==`, and
every row scan starts from `T::max_value()`.  Hence the extra hypotheses, exactly those of the
generic theorems (`Lemmas/GenericRun.lean`, `GenericGreedySim.lean`):

* `GoodSet G`        a set `G` of "good" values: not NaN, strictly below `max_value`, `v == v`;
* `hRG`              every `R`-value of two DISJOINT trees is good (for the rounding relations: `G`
                     contains the finite values in the range of the run), so that every update writes a
                     good value (`TabCore.row`);
* `BeqLe α`          `a == b → ¬ (b < a)`;
* `LBClosed G m`     for the `L1Mode.fix` methods: the update of two values `≥ p` is `≥ p`
                     (clamped average: `lbClosed_average`; weighted: from `ChainGeOn`);
* `max_value` is not NaN.
-/
import Kodama.Lemmas.RoundGreedyChain
import Kodama.Lemmas.GenericRun
import Kodama.Lemmas.GenericGreedySpec
namespace Kodama
open Spec
variable {α : Type} [Num α]

/-- `ChainGeOn G .weighted` (reducibility of the midpoint on the good set) gives the lower-bound
closure `LBClosed G .weighted` of the generic algorithm (threshold `p`, merged distance `:= p`). -/
theorem lbClosed_weighted_of_chainGeOn (L : OrderLaws α) {G : α → Prop} (gs : GoodSet G)
    (hge : ChainGeOn G .weighted) : LBClosed G .weighted :=
  LwGeOn.lbClosed L gs.notNaN (m := .weighted) hge.lw

open Crit MTree Rnn in
/-- **`generic_with` for an approximate relation** (a method that does not square): on a valid matrix
with good entries the call returns a well-formed dendrogram that is greedy up to `R`. -/
theorem genericWith_greedy {G : α → Prop} (L : OrderLaws α) (hbeq : BeqLe α) (gs : GoodSet G)
    (chk : Bool) (m : Method) (hsq : m.onSquares = false) (hlbc : l1Mode m = .fix → LBClosed G m)
    (hmax : Num.isNaN (Num.maxValue : α) = false) {R : MTree Nat → MTree Nat → α → Prop}
    (hge : LwGeOn (fun v => ∃ s t, R s t v) m) (C : LWCompat m R)
    (hRnan : ∀ s t v, R s t v → Num.isNaN v = false)
    (hRG : ∀ s t v, Disjoint s.leaves t.leaves → R s t v → G v)
    (st : State α) (d : Dendrogram α) (data : Array α) (n : Nat) (h2 : 2 ≤ n)
    (hs : n < 2147483648) (hl : 2 * data.size = n * (n - 1))
    (hin : ∀ i (h : i < (squareData m data).size), G (squareData m data)[i])
    (hR : ∀ i j, i < n → j < n → i ≠ j → R (leaf i) (leaf j) ((init m n data).D i j)) :
    ∃ st' d' M', genericWith chk m st d data n = .ok (st', d', M') ∧
      WellFormed n d'.steps.toList ∧ GreedySw R n d'.steps.toList := by
  obtain ⟨q, nr, hstart0, ginv0, lb0⟩ := genericStart_ok L gs chk m hmax data n h2 hs hl hin
  obtain ⟨⟨st1, dend1, M1⟩, live, σ, hloop, ⟨hg, _⟩, hc⟩ :=
    roundLoop_of_step L m hge C hRnan n (genericIter chk m) (·.1.sizes) (·.2.1.steps.toList)
      (·.2.2) (fun k live s => GenInv G n k live s.1 s.2.1 s.2.2 ∧ LB chk s.2.2 live s.1.queue.prio)
      (fun _ _ _ h => h.1.prim.rep.mem_lt)
      (fun k live s σ hk hp hc => by
        obtain ⟨st, dend, M⟩ := s
        have hv := hp.1.prim.mvalid
        have hlt : ∀ x ∈ live, x < M.n := by rw [hp.1.prim.mn]; exact hp.1.prim.rep.mem_lt
        obtain ⟨st', dend', M', a, b, e, ginv', lb', F⟩ :=
          genIter_facts L hbeq gs chk m hlbc n k live st dend M hk hp.1 hp.2
            (by
              -- the values this update writes are `R`-values of disjoint trees, hence good
              intro a b hab ha hb _ x hx hxa hxb va vb d0 hva hvb hd0
              unfold mget at hva hvb
              rw [Mat.get_dval' chk M hv x a hxa (hlt x hx) (hlt a ha)] at hva
              rw [Mat.get_dval' chk M hv x b hxb (hlt x hx) (hlt b hb)] at hvb
              rw [Mat.get_dval chk M hv a b hab (hlt b hb)] at hd0
              cases hva; cases hvb; cases hd0
              obtain ⟨hdj, hR⟩ := hc.row C ha hb hx (Nat.ne_of_lt hab) hxa hxb
              exact hRG _ _ _ hdj hR)
        exact ⟨(st', dend', M'), a, b, e, ⟨ginv', lb'⟩, F.toRnn⟩)
      ({ (State.fresh n : State α) with queue := q, nearest := nr }, Dendrogram.new n,
        ({ data := squareData m data, n := n, acc := 0 } : Mat α))
      ⟨ginv0, lb0⟩ (roundCore_init m data n hs hl hR)
  obtain ⟨uf, d', hr, hres⟩ := greedySw_of_core L m hsq hge C hRnan st1.set h2
    (RoundPrimResult.of_inv hRnan hg.prim hc) hc.nn
  refine ⟨{ st1 with set := uf }, d', M1, ?_, hres⟩
  rw [genericWith_of_start (s1 := (st1, dend1, M1)) chk m st d data n h2 hs hl hstart0 hloop, hr]
  simp only [bind, Except.bind, pure, Except.pure, sqrtSteps, hsq, Bool.false_eq_true, if_false]

end Kodama
