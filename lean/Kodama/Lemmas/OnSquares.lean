/-
`Method::square` and `Method::sqrt` do nothing for the methods that do not work on squared
dissimilarities (single, complete, average, weighted: `onSquares = false`).
-/
import Kodama.Model.Relabel
namespace Kodama
variable {α : Type} [Num α]

theorem squareData_size (m : Method) (data : Array α) : (squareData m data).size = data.size := by
  unfold squareData; split <;> simp

theorem squareData_empty (m : Method) : squareData m (#[] : Array α) = #[] := by
  unfold squareData; split <;> simp

theorem squareData_of_not_onSquares {m : Method} (h : m.onSquares = false) (data : Array α) :
    squareData m data = data := by
  unfold squareData
  rw [h, if_neg Bool.false_ne_true]

theorem squareData_good {G : α → Prop} (m : Method) (data : Array α)
    (h : ∀ v ∈ data.toList, G (if m.onSquares then Num.mul v v else v)) :
    ∀ i (hi : i < (squareData m data).size), G (squareData m data)[i] := by
  intro i hi
  unfold squareData at hi ⊢
  split
  · next hsq =>
    have hi' : i < data.size := by simpa [hsq] using hi
    have := h data[i] (by simp)
    simp only [hsq, if_true] at this
    simpa using this
  · next hsq =>
    have hi' : i < data.size := by simpa [hsq] using hi
    have := h data[i] (by simp)
    simpa [hsq] using this

theorem sqrtSteps_of_not_onSquares {m : Method} (h : m.onSquares = false) (d : Dendrogram α) :
    sqrtSteps m d = d := by
  unfold sqrtSteps
  rw [h, if_neg Bool.false_ne_true]

@[simp] theorem MethodChain.intoMethod_average : MethodChain.intoMethod .average = .average := rfl

@[simp] theorem MethodChain.intoMethod_weighted : MethodChain.intoMethod .weighted = .weighted := rfl

end Kodama
