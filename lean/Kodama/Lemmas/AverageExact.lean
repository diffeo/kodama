/-
In EXACT arithmetic the clamp of `method::average` is a no-op.

For a linearly ordered field `K` whose `Num K` instance computes the field operations (`FieldLaws K`)
and sizes that are not both zero, the size-weighted mean of `a` and `b` is a convex combination, hence
`≥ min a b`, so `mean < least` is false and

    Gen.average a b sa sb = (sa·a + sb·b) / (sa + sb)          (`FieldLaws.average_eq_mean`).

This is the single place where the exact-arithmetic theorems (C02, C03, C06, C11 for average) meet the
clamp: proofs rewrite with this lemma instead of unfolding `Gen.average`.
With BOTH sizes `0` the statement is false (`0/0 = 0` in a field, and the clamp then returns
`max 0 (min a b)`), whence the hypothesis `0 < sa + sb`; `FieldLaws.average_eq_mean_pos` is the form
for `0 < sa`, `0 < sb`.

For IEEE floats the clamp is not a no-op — it is precisely what makes reducibility hold
(`Gen.average_not_lt`, `Kodama/Lemmas/AverageClamp.lean`).
-/
import Kodama.Lemmas.AverageClamp
import Kodama.Lemmas.FieldNum
namespace Kodama
variable {K : Type} [Field K] [LinearOrder K] [IsStrictOrderedRing K] [Num K]

omit [IsStrictOrderedRing K] in
theorem FieldLaws.averageMean_eq (F : FieldLaws K) (a b : K) (sa sb : Nat) :
    Gen.averageMean a b sa sb = ((sa : K) * a + (sb : K) * b) / ((sa : K) + (sb : K)) := by
  simp only [Gen.averageMean, F.add, F.mul, F.div, F.ofNat]

omit [IsStrictOrderedRing K] in
theorem FieldLaws.averageLeast_le (F : FieldLaws K) (a b : K) :
    Gen.averageLeast a b ≤ a ∧ Gen.averageLeast a b ≤ b := by
  unfold Gen.averageLeast
  rw [F.lt]
  by_cases h : a < b
  · simp only [h, decide_true, if_true]; exact ⟨le_rfl, h.le⟩
  · simp only [h, decide_false]; exact ⟨not_lt.1 h, le_rfl⟩

theorem FieldLaws.averageLeast_le_mean (F : FieldLaws K) (a b : K) (sa sb : Nat)
    (h : 0 < sa + sb) : Gen.averageLeast a b ≤ Gen.averageMean a b sa sb := by
  obtain ⟨h1, h2⟩ := F.averageLeast_le a b
  rw [F.averageMean_eq]
  have ha : (0 : K) ≤ (sa : K) := Nat.cast_nonneg sa
  have hb : (0 : K) ≤ (sb : K) := Nat.cast_nonneg sb
  have hs : (0 : K) < (sa : K) + (sb : K) := by
    have : (0 : K) < ((sa + sb : Nat) : K) := Nat.cast_pos.mpr h
    rwa [Nat.cast_add] at this
  rw [le_div_iff₀ hs]
  exact mean_ge ha hb h1 h2

theorem FieldLaws.average_eq_mean (F : FieldLaws K) (a b : K) (sa sb : Nat) (h : 0 < sa + sb) :
    Gen.average a b sa sb = ((sa : K) * a + (sb : K) * b) / ((sa : K) + (sb : K)) := by
  rw [Gen.average_of_not_lt, F.averageMean_eq]
  rw [F.lt, decide_eq_false_iff_not, not_lt]
  exact F.averageLeast_le_mean a b sa sb h

theorem FieldLaws.average_eq_mean_pos (F : FieldLaws K) (a b : K) (sa sb : Nat) (hsa : 0 < sa)
    (_hsb : 0 < sb) :
    Gen.average a b sa sb = ((sa : K) * a + (sb : K) * b) / ((sa : K) + (sb : K)) :=
  F.average_eq_mean a b sa sb (by omega)

/-- `FieldLaws.average_eq_mean` stated on the operations of the `Num` instance (for `rw` under
`Gen.average`). -/
theorem FieldLaws.average_eq_averageMean (F : FieldLaws K) (a b : K) (sa sb : Nat)
    (h : 0 < sa + sb) : Gen.average a b sa sb = Gen.averageMean a b sa sb := by
  rw [F.average_eq_mean a b sa sb h, F.averageMean_eq]

end Kodama
