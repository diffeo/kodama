/-
Naturality: the frame of the `_with` entry points (`withFrame_nat`), `mst_with` and
`primitive_with`; and `SqHom`, which ties the map on the inputs and returned heights to the map on
the values the main loop works with (their squares, for the methods that square).
-/
import Kodama.Lemmas.NaturalityRel
namespace Kodama
variable {α β : Type} [Num α] [Num β]

theorem mapHeap_fresh {hp : α → β} (hmax : hp Num.maxValue = Num.maxValue) (n : Nat) :
    mapHeap hp (Heap.fresh n) = Heap.fresh n := by
  simp only [mapHeap, Heap.fresh, Array.map_replicate, hmax]

theorem mapState_fresh {hd hp : α → β} (hinf : hd Num.infinity = Num.infinity)
    (hmax : hp Num.maxValue = Num.maxValue) (n : Nat) :
    mapState hd hp (State.fresh n) = State.fresh n := by
  simp only [mapState, State.fresh, mapHeap_fresh hmax, Array.map_replicate, hinf]

theorem mapState_reset {hd hp : α → β} (hinf : hd Num.infinity = Num.infinity)
    (hmax : hp Num.maxValue = Num.maxValue) (st : State α) (n : Nat) :
    (mapState hd hp st).reset n = mapState hd hp (st.reset n) := by
  rw [State.reset_eq_fresh, State.reset_eq_fresh, mapState_fresh hinf hmax]

def mapRes (hd hp h hM : α → β) (r : State α × Dendrogram α × Mat α) :
    State β × Dendrogram β × Mat β :=
  (mapState hd hp r.1, mapDend h r.2.1, mapMat hM r.2.2)

omit [Num α] [Num β] in
theorem mapDend_new (h : α → β) (n : Nat) : mapDend h (Dendrogram.new n) = Dendrogram.new n := by
  simp [mapDend, Dendrogram.new]

/-- The frame of the `_with` entry points commutes with the maps when the body does (`h₂` is
the map on the values the loop works with, `h` the one on the returned heights). -/
theorem withFrame_nat {hd hp h h₂ : α → β} (hinf : hd Num.infinity = Num.infinity)
    (hmax : hp Num.maxValue = Num.maxValue)
    {body : State α → Dendrogram α → Mat α → R (State α × Dendrogram α × Mat α)}
    {body' : State β → Dendrogram β → Mat β → R (State β × Dendrogram β × Mat β)}
    (hb : ∀ st d M, body' (mapState hd hp st) (mapDend h₂ d) (mapMat h₂ M)
      = mapRes hd hp h h₂ <$> body st d M)
    (chk : Bool) (st : State α) (d : Dendrogram α) (data : Array α) (n : Nat) :
    withFrame chk (mapState hd hp st) (mapDend h d) (data.map h₂) n body'
      = mapRes hd hp h h₂ <$> withFrame chk st d data n body :=
  (withFrame_rel h₂ chk st _ d _ data n (fun M => by simp only [mapRes, mapDend_new])
    (fun M => by
      rw [mapState_reset hinf hmax, ← mapDend_new h₂]
      exact RelR.of_eq _ (hb ..))).eq_map

def mapScan (h : α → β) (s : MstScan α) : MstScan β :=
  ⟨s.minDists.map h, s.minObs, h s.minDist, mapMat h s.M⟩

theorem mstScanStep_nat {h : α → β} (H : OrdHom h) (chk : Bool) (cluster : Nat) (lower : Bool)
    (s : MstScan α) (x : Nat) :
    mstScanStep chk cluster lower (mapScan h s) x
      = mapScan h <$> mstScanStep chk cluster lower s x := by
  unfold mstScanStep
  simp only [mapScan]
  refine bind_nat h _ (aget_nat ..) (fun slot => ?_)
  -- whichever cell is read, what follows is the same term: one goal, `?rest`
  refine ite_nat _ (bind_nat h _ (Mat.get_nat ..) ?rest) (bind_nat h _ (Mat.get_nat ..) ?rest)
  intro v
  rw [← H.single]
  refine bind_nat (Array.map h) _ (aset_nat ..) (fun md => ?_)
  simp only [H.lt]
  split <;> rfl

def mapMstSt (h hp : α → β) (s : State α × Dendrogram α × Mat α × Nat) :
    State β × Dendrogram β × Mat β × Nat :=
  (mapState h hp s.1, mapDend h s.2.1, mapMat h s.2.2.1, s.2.2.2)

theorem mstIter_nat {h : α → β} (H : OrdHom h) (hp : α → β) (chk : Bool)
    (s : State α × Dendrogram α × Mat α × Nat) :
    mstIter chk (mapMstSt h hp s) = mapMstSt h hp <$> mstIter chk s := by
  obtain ⟨st, dend, M, cluster⟩ := s
  unfold mstIter
  simp only [mapMstSt, mapState_active, mapState_minDists]
  refine bind_same _ (fun live => ?_)
  refine bind_same _ (fun minObs => ?_)
  refine bind_nat h _ (aget_nat ..) (fun minDist => ?_)
  refine bind_same _ (fun r1 => ?_)
  refine bind_nat (mapScan h) _
    (foldlM_nat (mapScan h) _ _ (mstScanStep_nat H chk cluster true) r1 ⟨_, _, _, _⟩) (fun sc => ?_)
  refine bind_same _ (fun r2 => ?_)
  refine bind_nat (mapScan h) _
    (foldlM_nat (mapScan h) _ _ (mstScanStep_nat H chk cluster false) r2 sc) (fun sc => ?_)
  refine bind_nat (fun r : State α × Dendrogram α => (mapState h hp r.1, mapDend h r.2)) _
    (State.merge_nat h hp h chk { st with minDists := sc.minDists } dend sc.minObs cluster sc.minDist) (fun r => rfl)

theorem mstWith_nat {h : α → β} (H : OrdHom h) (hinf : h Num.infinity = Num.infinity)
    {hp : α → β} (hmax : hp Num.maxValue = Num.maxValue) (chk : Bool)
    (st : State α) (d : Dendrogram α) (data : Array α) (n : Nat) :
    mstWith chk (mapState h hp st) (mapDend h d) (data.map h) n
      = mapRes h hp h h <$> mstWith chk st d data n := by
  rw [mstWith_frame, mstWith_frame]
  refine withFrame_nat hinf hmax (fun st d M => ?_) chk st d data n
  unfold mstBody
  simp only [mapState_active]
  refine bind_same _ (fun active => ?_)
  refine bind_nat (mapMstSt h hp) _
    (iterM_nat (mapMstSt h hp) _ _ (mstIter_nat H hp chk) _ ({ st with active := active }, d, M, 0))
    (fun s => ?_)
  exact bind_nat (fun r : UF × Dendrogram α => (r.1, mapDend h r.2)) _ (relabel_nat H _ _ _)
    (fun r => rfl)

def mapMin (h : α → β) (p : Nat × Nat × α) : Nat × Nat × β := (p.1, p.2.1, h p.2.2)

theorem argminRow_nat {h : α → β} (H : OrdHom h) (chk : Bool) (M : Mat α) (row : Nat)
    (cols : List Nat) (min : Nat × Nat × α) :
    argminRow chk (mapMat h M) row cols (mapMin h min) = mapMin h <$> argminRow chk M row cols min := by
  unfold argminRow
  refine foldlM_nat (mapMin h) _ _ (fun min col => ?_) cols min
  refine bind_nat h _ (Mat.get_nat ..) (fun v => ?_)
  simp only [mapMin, H.lt, map_pure]
  split <;> rfl

omit [Num α] [Num β] in
theorem unwrap_nat {A B : Type} (f : A → B) (o : Option A) :
    unwrap (o.map f) = f <$> unwrap o := by
  cases o <;> rfl

theorem argmin_nat {h : α → β} (H : OrdHom h) (chk : Bool) (M : Mat α) (act : Active) :
    argmin chk (mapMat h M) act = Option.map (mapMin h) <$> argmin chk M act := by
  unfold argmin
  refine bind_same _ (fun rows => ?_)
  cases rows with
  | nil => rfl
  | cons row rest =>
    simp only
    refine bind_same _ (fun cols => ?_)
    cases cols.drop 1 with
    | nil => rfl
    | cons col rest2 =>
      simp only
      refine bind_nat h _ (Mat.get_nat ..) (fun v => ?_)
      refine bind_nat (mapMin h) _ ?_ (fun v => rfl)
      refine foldlM_nat (mapMin h) _ _ (fun min r => ?_) _ (row, col, v)
      refine bind_same _ (fun cs => ?_)
      exact argminRow_nat H ..

theorem primitiveIter_nat {h : α → β} (H : OrdHom h) {m : Method} (U : UpdHom m h) (hd hp : α → β)
    (chk : Bool) (s : State α × Dendrogram α × Mat α) :
    primitiveIter chk m (mapRes hd hp h h s) = mapRes hd hp h h <$> primitiveIter chk m s := by
  obtain ⟨st, dend, M⟩ := s
  unfold primitiveIter
  simp only [mapRes, mapState_active, mapState_sizes]
  refine bind_nat (Option.map (mapMin h)) _ (argmin_nat H ..) (fun o => ?_)
  refine bind_nat (mapMin h) _ (unwrap_nat ..) (fun p => ?_)
  obtain ⟨a, b, dist⟩ := p
  simp only [mapMin]
  refine bind_same _ (fun sa => ?_)
  refine bind_same _ (fun sb => ?_)
  refine bind_nat (mapMat h) _ (updateRows_nat h chk _ _ _ (updFn_nat U st.sizes sa sb dist) ..) (fun M => ?_)
  refine bind_nat (fun r : State α × Dendrogram α => (mapState hd hp r.1, mapDend h r.2)) _
    (State.merge_nat hd hp h chk st dend a b dist) (fun r => rfl)


/-- How the input/output map `h` and the map `h₂` on the values the main loop works with are
related: equal for the methods that work on the distances themselves, `h₂ (x²) = (h x)²` and
`sqrt (h₂ y) = h (sqrt y)` for the methods that work on squares. -/
structure SqHom (m : Method) (h h₂ : α → β) : Prop where
  sq : m.onSquares = true → ∀ x, h₂ (Num.mul x x) = Num.mul (h x) (h x)
  sqrt : m.onSquares = true → ∀ x, Num.sqrt (h₂ x) = h (Num.sqrt x)
  same : m.onSquares = false → h₂ = h

theorem SqHom.refl (m : Method) (hm : m.onSquares = false) (h : α → β) : SqHom m h h :=
  ⟨fun e => (by rw [hm] at e; cases e), fun e => (by rw [hm] at e; cases e), fun _ => rfl⟩

theorem primitiveWith_nat {h h₂ : α → β} {m : Method} (H : OrdHom h₂) (U : UpdHom m h₂)
    (S : SqHom m h h₂) {hd hp : α → β} (hinf : hd Num.infinity = Num.infinity)
    (hmax : hp Num.maxValue = Num.maxValue) (chk : Bool)
    (st : State α) (d : Dendrogram α) (data : Array α) (n : Nat) :
    primitiveWith chk m (mapState hd hp st) (mapDend h d) (data.map h) n
      = mapRes hd hp h h₂ <$> primitiveWith chk m st d data n := by
  rw [primitiveWith_frame, primitiveWith_frame, squareData_nat m S.sq S.same]
  refine withFrame_nat hinf hmax (fun st d M => ?_) chk st d _ n
  unfold primitiveBody
  refine bind_nat (mapRes hd hp h₂ h₂) _
    (iterM_nat _ _ _ (primitiveIter_nat H U hd hp chk) _ (st, d, M)) (fun s => ?_)
  refine bind_nat (fun r : UF × Dendrogram α => (r.1, mapDend h₂ r.2)) _
    (relabel_nat H _ _ _) (fun r => ?_)
  simp only [map_pure, mapRes, sqrtSteps_nat m S.sqrt S.same]
  rfl

end Kodama
