/-
The loop invariant of `mstWith`: totality of every iteration, exact access count, and the raw
steps form a spanning tree (a Hamiltonian path in Prim order).  Uses NO property of `<` at all:
whatever the comparisons answer, the loop is total and its bookkeeping is right.  What the two scans
of an iteration do to the slots is stated once (`Scanned`, `mstScans`); the one part of it that needs
the order laws, that no visited slot is below `min_dist` (`ScanMin`), rides along as a conditional.
Also the two ends of the loop (`MstInv.init`, `MstInv.result`) and `mstWith` as loop-then-`relabel`
(`mstWith_of_loop`).
-/
import Kodama.Model.Mst
import Kodama.Lemmas.ActiveRefine
import Kodama.Lemmas.Layout
import Kodama.Lemmas.Loop
import Kodama.Lemmas.Comp
import Kodama.Lemmas.SpecReplay
import Kodama.Lemmas.Tail
namespace Kodama
open Spec
variable {α : Type} [Num α]

theorem mstScanStep_dval (chk : Bool) (cluster : Nat) (lower : Bool) (sc : MstScan α) (x : Nat)
    (hv : sc.M.Valid) (hxs : x < sc.minDists.size) (hx : x < sc.M.n) (hc : cluster < sc.M.n)
    (hord : if lower then x < cluster else cluster < x) :
    mstScanStep chk cluster lower sc x = .ok
      (if Num.lt (Gen.single (sc.M.dval x cluster) sc.minDists[x]) sc.minDist
       then ⟨sc.minDists.set x (Gen.single (sc.M.dval x cluster) sc.minDists[x]) hxs,
              x, Gen.single (sc.M.dval x cluster) sc.minDists[x], sc.M.tick 1⟩
       else ⟨sc.minDists.set x (Gen.single (sc.M.dval x cluster) sc.minDists[x]) hxs,
              sc.minObs, sc.minDist, sc.M.tick 1⟩) := by
  unfold mstScanStep
  cases lower
  · rw [aget_of_lt hxs, ok_bind, if_neg Bool.false_ne_true,
      Mat.get_dval chk sc.M hv cluster x hord hx, ok_bind, sc.M.dval_comm cluster x]
    dsimp only
    rw [aset_of_lt hxs, ok_bind]
    split <;> rfl
  · rw [aget_of_lt hxs, ok_bind, if_pos rfl, Mat.get_dval chk sc.M hv x cluster hord hc, ok_bind]
    dsimp only
    rw [aset_of_lt hxs, ok_bind]
    split <;> rfl

theorem single_notNaN (p q : α) (hp : Num.isNaN p = false) (hq : Num.isNaN q = false) :
    Num.isNaN (Gen.single p q) = false := by
  rcases Gen.single_cases p q with e | e <;> rw [e] <;> assumption

/-- What the scans of one iteration have done to the loop-carried values `sc` once the vertices `ds`
have been visited: one matrix read each, the slot of a visited vertex is `single` of its distance to
`cluster` and its old slot, the other slots are untouched, and `minDist` is the slot of `minObs`. -/
structure Scanned (cluster : Nat) (ds : List Nat) (sc sc' : MstScan α) : Prop where
  M : sc'.M = sc.M.tick ds.length
  sz : sc'.minDists.size = sc.minDists.size
  md : ∀ x, sc'.minDists[x]? = if x ∈ ds then
    sc.minDists[x]?.map (Gen.single (sc.M.dval x cluster)) else sc.minDists[x]?
  obs : sc'.minObs = sc.minObs ∨ sc'.minObs ∈ ds
  cur : sc'.minDists[sc'.minObs]? = some sc'.minDist

/-- The part of the scan that rests on the order laws: no slot is NaN, and no visited slot is below
`minDist`. -/
structure ScanMin (ds : List Nat) (sc' : MstScan α) : Prop where
  nn : ∀ (x : Nat) (w : α), sc'.minDists[x]? = some w → Num.isNaN w = false
  low : ∀ y ∈ ds, ∀ w : α, sc'.minDists[y]? = some w → Num.lt w sc'.minDist = false

theorem Scanned.step (chk : Bool) {cluster : Nat} {lower : Bool} {ds : List Nat}
    {sc s : MstScan α} {x : Nat} (h : Scanned cluster ds sc s) (hv : sc.M.Valid)
    (hxs : x < sc.minDists.size) (hx : x < sc.M.n) (hc : cluster < sc.M.n)
    (hord : if lower then x < cluster else cluster < x) :
    ∃ s', mstScanStep chk cluster lower s x = .ok s' ∧ Scanned cluster (ds ++ [x]) sc s' ∧
      (OrderLaws α → Num.isNaN (sc.M.dval x cluster) = false → ScanMin ds s →
        ScanMin (ds ++ [x]) s') := by
  have hxs' : x < s.minDists.size := h.sz ▸ hxs
  have hM := h.M
  refine ⟨_, mstScanStep_dval chk cluster lower s x (by rw [hM]; exact hv.of_eq rfl rfl) hxs'
    (by rw [hM]; exact hx) (by rw [hM]; exact hc) hord, ?_⟩
  have hd : s.M.dval x cluster = sc.M.dval x cluster := by rw [hM]; rfl
  rw [hd]
  -- the slot written is the one the closed form `md` names, visited before or not
  have hslot : some (Gen.single (sc.M.dval x cluster) s.minDists[x]) =
      sc.minDists[x]?.map (Gen.single (sc.M.dval x cluster)) := by
    have := h.md x
    rw [Array.getElem?_eq_getElem hxs', Array.getElem?_eq_getElem hxs] at this
    rw [Array.getElem?_eq_getElem hxs, Option.map_some]
    split at this
    · rw [Option.map_some] at this; rw [Option.some.inj this, Gen.single_idem]
    · rw [Option.some.inj this]
  have hsn : ScanMin ds s → Num.isNaN (sc.M.dval x cluster) = false →
      Num.isNaN (Gen.single (sc.M.dval x cluster) s.minDists[x]) = false := fun m hvn =>
    single_notNaN _ _ hvn (m.nn x _ (Array.getElem?_eq_getElem hxs'))
  generalize hsl : Gen.single (sc.M.dval x cluster) s.minDists[x] = slot at hslot hsn ⊢
  have hget : ∀ y, (s.minDists.set x slot hxs')[y]? = if x = y then some slot else s.minDists[y]? :=
    fun y => Array.getElem?_set ..
  have hmd : ∀ y, (s.minDists.set x slot hxs')[y]? = if y ∈ ds ++ [x] then
      sc.minDists[y]?.map (Gen.single (sc.M.dval y cluster)) else sc.minDists[y]? := by
    intro y
    rw [hget]
    by_cases hxy : x = y
    · subst hxy
      rw [if_pos rfl, if_pos (by simp), hslot]
    · have hyx : ¬ y = x := fun e => hxy e.symm
      simp only [if_neg hxy, h.md y, List.mem_append, List.mem_singleton, hyx, or_false]
  have hMM : s.M.tick 1 = sc.M.tick (ds ++ [x]).length := by rw [hM, List.length_append]; rfl
  have hsz : (s.minDists.set x slot hxs').size = sc.minDists.size := by rw [Array.size_set, h.sz]
  -- with the laws: the new `minDist` is `d'`, not above the old one nor above the new slot
  have hmin : OrderLaws α → Num.isNaN (sc.M.dval x cluster) = false → ScanMin ds s → ∀ o d',
      Num.lt s.minDist d' = false → Num.lt slot d' = false →
      ScanMin (ds ++ [x]) ⟨s.minDists.set x slot hxs', o, d', s.M.tick 1⟩ := by
    intro L hvn m o d' h1 h2
    refine ⟨fun y w hw => ?_, fun y hy w hw => ?_⟩ <;> rw [hget] at hw <;> split at hw
    · cases hw; exact hsn m hvn
    · exact m.nn y w hw
    · cases hw; exact h2
    · next hxy =>
      exact L.le_trans _ _ _ (m.nn _ _ h.cur) h1 (m.low y ((List.mem_append.mp hy).resolve_right
        fun e => hxy (List.mem_singleton.mp e).symm) w hw)
  by_cases hlt : Num.lt slot s.minDist = true
  · simp only [if_pos hlt]
    exact ⟨⟨hMM, hsz, hmd, .inr (by simp), by rw [hget, if_pos rfl]⟩,
      fun L hvn m => hmin L hvn m _ _ (L.asymm _ _ hlt) (L.irrefl _)⟩
  · simp only [if_neg hlt]
    have hlt' : Num.lt slot s.minDist = false := by simpa using hlt
    refine ⟨⟨hMM, hsz, hmd, h.obs.imp_right (List.mem_append_left _), ?_⟩,
      fun L hvn m => hmin L hvn m _ _ (L.irrefl _) hlt'⟩
    rw [hget]
    split
    · next hxy =>
      -- the slot of the current minimum is re-read: `single` leaves it as it is
      have hcur : s.minDists[x] = s.minDist := Option.some.inj
        ((Array.getElem?_eq_getElem hxs').symm.trans ((show x = s.minObs from hxy) ▸ h.cur))
      rw [hcur] at hsl
      rw [← hsl, Gen.single_of_not_lt _ _ (by rw [hsl]; exact hlt')]
    · exact h.cur

theorem Scanned.perm {cluster : Nat} {ds ds' : List Nat} {sc s : MstScan α} (p : ds.Perm ds')
    (h : Scanned cluster ds sc s) : Scanned cluster ds' sc s :=
  ⟨p.length_eq ▸ h.M, h.sz, fun x => by rw [h.md x]; simp only [p.mem_iff],
    h.obs.imp_right p.mem_iff.mp, h.cur⟩

theorem ScanMin.perm {ds ds' : List Nat} {s : MstScan α} (p : ds.Perm ds') (h : ScanMin ds s) :
    ScanMin ds' s :=
  ⟨h.nn, fun y hy => h.low y (p.mem_iff.mpr hy)⟩

theorem Scanned.fold (chk : Bool) {cluster : Nat} {lower : Bool} {ds : List Nat} {sc s : MstScan α}
    (l : List Nat) (h : Scanned cluster ds sc s) (hv : sc.M.Valid)
    (hsz : sc.minDists.size = sc.M.n) (hc : cluster < sc.M.n)
    (hl : ∀ x ∈ l, x < sc.M.n ∧ (if lower then x < cluster else cluster < x)) :
    ∃ s', l.foldlM (mstScanStep chk cluster lower) s = .ok s' ∧ Scanned cluster (ds ++ l) sc s' ∧
      (OrderLaws α → (∀ x ∈ l, Num.isNaN (sc.M.dval x cluster) = false) → ScanMin ds s →
        ScanMin (ds ++ l) s') := by
  refine foldlM_ok_pre (fun pre t => Scanned cluster (ds ++ pre) sc t ∧ (OrderLaws α →
    (∀ x ∈ l, Num.isNaN (sc.M.dval x cluster) = false) → ScanMin ds s → ScanMin (ds ++ pre) t))
    _ l ?_ s ⟨by rwa [List.append_nil], fun _ _ m => by rwa [List.append_nil]⟩
  rintro pre x rest t e ⟨ht, hm⟩
  have hxl : x ∈ l := e ▸ List.mem_append_cons_self
  obtain ⟨t', e', ht', hm'⟩ := ht.step chk hv (hsz ▸ (hl x hxl).1) (hl x hxl).1 hc (hl x hxl).2
  rw [← List.append_assoc]
  exact ⟨t', e', ht', fun L hn m => hm' L (hn x hxl) (hm L hn m)⟩

/-- The two scans of an iteration, `range(..cluster)` and `range(cluster..)`, visit the live list. -/
theorem mstScans (chk : Bool) {cluster : Nat} {live : List Nat} {sc : MstScan α} (hv : sc.M.Valid)
    (hsz : sc.minDists.size = sc.M.n) (hc : cluster < sc.M.n)
    (hcur : sc.minDists[sc.minObs]? = some sc.minDist)
    (hl : ∀ x ∈ live, x < sc.M.n ∧ x ≠ cluster) :
    ∃ sc1 sc2,
      (live.filter (fun x => decide (x < cluster))).foldlM (mstScanStep chk cluster true) sc
        = .ok sc1 ∧
      (live.filter (fun x => decide (cluster ≤ x))).foldlM (mstScanStep chk cluster false) sc1
        = .ok sc2 ∧
      Scanned cluster live sc sc2 ∧
      (OrderLaws α → (∀ x ∈ live, Num.isNaN (sc.M.dval x cluster) = false) →
        (∀ (x : Nat) (w : α), sc.minDists[x]? = some w → Num.isNaN w = false) →
        ScanMin live sc2) := by
  have hmem : ∀ {p : Nat → Bool} {x}, x ∈ live.filter p → x ∈ live :=
    fun h => (List.mem_filter.mp h).1
  obtain ⟨sc1, e1, h1, m1⟩ := Scanned.fold chk (lower := true) (ds := [])
    (live.filter fun x => decide (x < cluster))
    ⟨rfl, rfl, fun x => (if_neg List.not_mem_nil).symm, .inl rfl, hcur⟩ hv hsz hc fun x hx =>
      ⟨(hl x (hmem hx)).1, of_decide_eq_true (List.mem_filter.mp hx).2⟩
  obtain ⟨sc2, e2, h2, m2⟩ := h1.fold chk (lower := false)
    (live.filter fun x => decide (cluster ≤ x)) hv hsz hc fun x hx => ⟨(hl x (hmem hx)).1,
      Nat.lt_of_le_of_ne (of_decide_eq_true (List.mem_filter.mp hx).2) (hl x (hmem hx)).2.symm⟩
  have hp : ([] ++ live.filter (fun x => decide (x < cluster)) ++
      live.filter (fun x => decide (cluster ≤ x))).Perm live := by
    have := List.filter_append_perm (fun x => decide (x < cluster)) live
    rwa [show (fun x => !decide (x < cluster)) = fun x => decide (cluster ≤ x) from
      funext fun x => by simp [← Nat.not_lt]] at this
  exact ⟨sc1, sc2, e1, e2, h2.perm hp, fun L hn h0 => (m2 L (fun x hx => hn x (hmem hx))
    (m1 L (fun x hx => hn x (hmem hx)) ⟨h0, nofun⟩)).perm hp⟩

/-- After `k` merges: `live` lists the vertices not yet in the tree, `cluster` is the vertex added last.
`acc` counts one matrix read per scanned vertex (`acc_step`); `forest` keeps the members of
`cluster :: live` in pairwise different components of the raw steps, which is what makes the next
recorded edge effective. -/
structure MstInv (n k : Nat) (live : List Nat) (st : State α) (dend : Dendrogram α) (M : Mat α)
    (cluster : Nat) : Prop where
  rep : st.active.Rep live n
  llen : live.length + k + 1 = n
  cl_lt : cluster < n
  cl_not : cluster ∉ live
  sizes : ∀ x ∈ cluster :: live, st.sizes[x]? = some 1
  md_sz : st.minDists.size = n
  obs : dend.obs = n
  steps_sz : dend.steps.size = k
  mvalid : M.Valid
  mn : M.n = n
  acc : 2 * M.acc + live.length * (live.length + 1) = n * (n - 1)
  forest : RawForest n (· ∈ cluster :: live) (rawOf dend)

/-- The access count: scanning `L + 1` vertices takes the count from the triangle over `L + 1` to the
triangle over `L`. -/
theorem acc_step (A L N : Nat) (h : 2 * A + (L + 1) * (L + 1 + 1) = N) :
    2 * (A + (L + 1)) + L * (L + 1) = N := by
  have : (L + 1) * (L + 1 + 1) = L * (L + 1) + 2 * (L + 1) := by
    simp only [Nat.add_mul, Nat.mul_add]; omega
  omega

/-- One iteration, explicitly: the two scans, then the merge of the chosen vertex into the tree;
the invariant holds again, and the matrix is only read. -/
theorem mstIter_spec (chk : Bool) (n k : Nat) (live : List Nat) (st : State α) (dend : Dendrogram α)
    (M : Mat α) (cluster : Nat) (hk : k + 1 < n) (inv : MstInv n k live st dend M cluster) :
    ∃ m0 sc2 act' hm0,
      Scanned cluster live (⟨st.minDists, m0, st.minDists[m0]'hm0, M⟩ : MstScan α) sc2 ∧
      (OrderLaws α → (∀ x ∈ live, Num.isNaN (M.dval x cluster) = false) →
        (∀ (x : Nat) (w : α), st.minDists[x]? = some w → Num.isNaN w = false) →
        ScanMin live sc2) ∧
      sc2.minObs ∈ live ∧
      mstIter chk (st, dend, M, cluster) = .ok
        ({ st with minDists := sc2.minDists, sizes := st.sizes.setIfInBounds cluster 2,
                   active := act' },
         { dend with steps := dend.steps.push (Step.new sc2.minObs cluster sc2.minDist 2) },
         sc2.M, sc2.minObs) ∧
      MstInv n (k + 1) (live.filter (· ≠ sc2.minObs))
        { st with minDists := sc2.minDists, sizes := st.sizes.setIfInBounds cluster 2,
                  active := act' }
        { dend with steps := dend.steps.push (Step.new sc2.minObs cluster sc2.minDist 2) }
        sc2.M sc2.minObs := by
  have hsorted := inv.rep.sorted
  have hltn := inv.rep.mem_lt
  obtain ⟨m0, lrest, hlive⟩ : ∃ m0 lrest, live = m0 :: lrest := by
    cases hl : live with
    | nil => have := inv.llen; rw [hl] at this; simp at this; omega
    | cons a b => exact ⟨a, b, rfl⟩
  have hhead : live.head? = some m0 := by rw [hlive]; rfl
  have hm0 : m0 ∈ live := List.mem_of_head? hhead
  have hmd0 : m0 < st.minDists.size := by rw [inv.md_sz]; exact hltn m0 hm0
  obtain ⟨sc1, sc2, e1, e2, hS, hmin⟩ := mstScans chk (live := live)
    (sc := ⟨st.minDists, m0, st.minDists[m0], M⟩) inv.mvalid (inv.md_sz.trans inv.mn.symm)
    (inv.mn ▸ inv.cl_lt) (Array.getElem?_eq_getElem hmd0)
    fun x hx => ⟨inv.mn ▸ hltn x hx, fun h : x = cluster => inv.cl_not (h ▸ hx)⟩
  have hM : sc2.M = M.tick live.length := hS.M
  have hmin_live : sc2.minObs ∈ live := hS.obs.elim (fun h => h ▸ hm0) id
  have hmin_n : sc2.minObs < n := hltn _ hmin_live
  have hmin_ne : sc2.minObs ≠ cluster := fun h => inv.cl_not (h ▸ hmin_live)
  have hs1 : st.sizes[sc2.minObs]? = some 1 := inv.sizes _ (List.mem_cons_of_mem _ hmin_live)
  obtain ⟨hclsz, hs2'⟩ := Array.getElem?_eq_some_iff.mp (inv.sizes _ List.mem_cons_self)
  obtain ⟨act', hrem, hrep'⟩ := inv.rep.remove chk sc2.minObs hmin_n
  have hpush : dend.steps.size < dend.obs - 1 := by rw [inv.steps_sz, inv.obs]; omega
  have hsets : st.sizes.setIfInBounds cluster 2 = st.sizes.set cluster 2 hclsz := by
    simp [Array.setIfInBounds, hclsz]
  refine ⟨m0, sc2, act', hmd0, hS, hmin, hmin_live, ?_, ?_⟩
  · unfold mstIter
    simp only [bind, Except.bind, inv.rep.iter, hhead, unwrap, aget, hmd0,
      getElem?_pos, inv.rep.range_lt cluster (Nat.le_of_lt inv.cl_lt),
      inv.rep.range_ge cluster (Nat.le_of_lt inv.cl_lt), e1, e2, State.merge, hs1, uadd, aset, hclsz,
      dite_true, Dendrogram.push, guard', hpush, decide_true, if_true, pure, Except.pure]
    have h2 : (1 + 1 < usizeMod) := by unfold usizeMod; omega
    simp only [hs2', h2, if_true, hrem, hsets]
  · obtain ⟨live', hlive'⟩ : ∃ live', live' = live.filter (· ≠ sc2.minObs) := ⟨_, rfl⟩
    rw [← hlive'] at hrep' ⊢
    have hlen' : live'.length + 1 = live.length := by
      rw [hlive']
      exact filter_ne_length live sc2.minObs (hsorted.imp (fun h => Nat.ne_of_lt h)) hmin_live
    have hmem' : ∀ x, x ∈ live' ↔ x ∈ live ∧ x ≠ sc2.minObs := by
      intro x; simp [hlive', List.mem_filter]
    -- the tree vertex `cluster` leaves the set; the new edge joins it to `sc2.minObs`
    have hsub : ∀ x ∈ sc2.minObs :: live', x ∈ cluster :: live ∧ x ≠ cluster := by
      intro x hx
      have hx' : x ∈ live := (List.mem_cons.mp hx).elim (· ▸ hmin_live) fun h => ((hmem' x).mp h).1
      exact ⟨List.mem_cons_of_mem _ hx', fun e => inv.cl_not (e ▸ hx')⟩
    have F : RawForest n (· ∈ sc2.minObs :: live') (rawOf ({ dend with
        steps := dend.steps.push (Step.new sc2.minObs cluster sc2.minDist 2) } : Dendrogram α)) :=
      inv.forest.push (r := cluster)
        (List.mem_cons_of_mem _ hmin_live) List.mem_cons_self hmin_ne hmin_n inv.cl_lt (.inr rfl)
        hsub _ 2
    generalize Step.new sc2.minObs cluster sc2.minDist 2 = newStep at F ⊢
    refine
      { rep := hrep'
        llen := by have := inv.llen; omega
        cl_lt := hmin_n
        cl_not := by rw [hmem']; simp
        sizes := ?_
        md_sz := hS.sz.trans inv.md_sz
        obs := inv.obs
        steps_sz := by simp [inv.steps_sz]
        mvalid := hM ▸ inv.mvalid.of_eq rfl rfl
        mn := hM ▸ inv.mn
        acc := ?_
        forest := F }
    · intro x hx
      simp only [hsets, Array.getElem?_set, Ne.symm (hsub x hx).2, if_false]
      exact inv.sizes x (hsub x hx).1
    · rw [hM, ← hlen']
      exact acc_step M.acc live'.length _ (by rw [hlen']; exact inv.acc)

structure MstLoopResult (n : Nat) (data : Array α) (st : State α) (dend : Dendrogram α)
    (M : Mat α) : Prop where
  obs : dend.obs = n
  steps_sz : dend.steps.size = n - 1
  raw : RawTree n (rawOf dend)
  data_eq : M.data = data
  mn : M.n = n
  acc : 2 * M.acc = n * (n - 1)

theorem MstInv.init (chk : Bool) (data : Array α) (n : Nat) (h2 : 2 ≤ n) (hs : n < 2147483648)
    (hl : 2 * data.size = n * (n - 1)) :
    ∃ act0, (State.fresh n : State α).active.remove chk 0 = .ok act0 ∧
      MstInv n 0 ((List.range n).filter (· ≠ 0)) { (State.fresh n : State α) with active := act0 }
        (Dendrogram.new n) { data := data, n := n, acc := 0 } 0 := by
  have hrep0 : (State.fresh n : State α).active.Rep (List.range n) n := Active.rep_fresh n
  obtain ⟨act0, hrem, hrep1⟩ := hrep0.remove chk 0 (by omega)
  refine ⟨act0, hrem, ?_⟩
  have hlen0 : ((List.range n).filter (· ≠ 0)).length + 1 = n := by
    have := filter_ne_length (List.range n) 0 List.nodup_range (by simp; omega)
    simpa using this
  exact
    { rep := hrep1
      llen := by omega
      cl_lt := by omega
      cl_not := by simp
      sizes := by
        intro x hx
        have : x < n := (List.mem_cons.mp hx).elim (by omega) fun h =>
          List.mem_range.mp (List.mem_filter.mp h).1
        simp [State.fresh, this]
      md_sz := by simp [State.fresh]
      obs := rfl
      steps_sz := rfl
      mvalid := ⟨h2, hs, hl⟩
      mn := rfl
      acc := by
        have : ((List.range n).filter (· ≠ 0)).length = n - 1 := by omega
        rw [this]
        have : n - 1 + 1 = n := by omega
        rw [this]; simp only [Nat.mul_zero, Nat.zero_add]; exact Nat.mul_comm _ _
      forest := ⟨by simp [rawOf, Dendrogram.new, AllEff], by simp [rawOf, Dendrogram.new],
        by intro x _ y _ hxy; simpa [rawOf, Dendrogram.new] using hxy⟩ }

omit [Num α] in
theorem MstInv.result {n : Nat} {data : Array α} {live : List Nat} {st : State α}
    {dend : Dendrogram α} {M : Mat α} {c : Nat} (hinv : MstInv n (n - 1) live st dend M c)
    (hd : M.data = data) : MstLoopResult n data st dend M :=
  have hl0 : live.length = 0 := by have := hinv.llen; omega
  { obs := hinv.obs
    steps_sz := hinv.steps_sz
    raw := ⟨by simp [rawOf, hinv.steps_sz], hinv.forest.inRange, hinv.forest.eff⟩
    data_eq := hd
    mn := hinv.mn
    acc := by have := hinv.acc; rw [hl0] at this; simpa using this }

theorem mstWith_of_loop (chk : Bool) (st : State α) (d : Dendrogram α) (data : Array α) (n : Nat)
    (h2 : 2 ≤ n) (hs : n < 2147483648) (hl : 2 * data.size = n * (n - 1)) {act0 : Active}
    {st1 : State α} {dend1 : Dendrogram α} {M1 : Mat α} {c1 : Nat}
    (hrem : (State.fresh n : State α).active.remove chk 0 = .ok act0)
    (hloop : iterM (mstIter chk) (n - 1)
      ({ (State.fresh n : State α) with active := act0 }, Dendrogram.new n,
        { data := data, n := n, acc := 0 }, 0) = .ok (st1, dend1, M1, c1)) :
    mstWith chk st d data n =
      (relabel .single st1.set dend1 >>= fun r => pure ({ st1 with set := r.1 }, r.2, M1)) := by
  rw [mstWith_frame, withFrame_of_valid _ _ _ _ _ _ h2 hs hl]
  unfold mstBody
  rw [hrem, ok_bind, hloop]
  rfl

end Kodama
