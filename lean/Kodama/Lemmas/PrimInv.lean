/-
The loop invariant `PrimInv` of `primitiveWith`: every iteration is total on a valid matrix, for ANY
behaviour of the comparisons (no law of `Num` is used) and for every method, and the raw steps
form a spanning tree (`PrimLoopResult.raw`).  `PrimInv.merge_step`, about the model's `State.merge`
(not `Spec.merge`), is used by the nnchain and generic loops as well.
-/
import Kodama.Model.Primitive
import Kodama.Lemmas.Comp
import Kodama.Lemmas.ChainMat
import Kodama.Lemmas.Tail
namespace Kodama
open Spec
variable {α : Type} [Num α]

theorem updFn_eq (m : Method) (sizes : Array Nat) (sa sb : Nat) (dist : α) (x : Nat) (va vb : α)
    (hx : x < sizes.size) :
    updFn m sizes sa sb dist x va vb = .ok (lw m va vb dist sa sb (sizes.getD x 0)) := by
  cases m <;> simp [updFn, lw, pure, Except.pure, bind, Except.bind, aget, hx, Array.getD]

theorem argminRow_ok (chk : Bool) (M : Mat α) (hv : M.Valid) (row : Nat) (cols : List Nat)
    (P : Nat × Nat × α → Prop) (hP : ∀ c ∈ cols, ∀ v, P (row, c, v))
    (hc : ∀ c ∈ cols, row < c ∧ c < M.n) (min : Nat × Nat × α) (hmin : P min) :
    ∃ r, argminRow chk M row cols min = .ok r ∧ P r := by
  unfold argminRow
  have := foldlM_ok P (fun min col => do
      let v ← M.get chk row col
      pure (if Num.lt v min.2.2 then (row, col, v) else min)) cols
    (by
      intro s x hx hs
      obtain ⟨v, hv'⟩ : ∃ v, M.get chk row x = .ok v := ⟨_, Mat.get_dval chk M hv row x (hc x hx).1 (hc x hx).2⟩
      refine ⟨if Num.lt v s.2.2 then (row, x, v) else s,
        by simp only [bind, Except.bind, hv', pure, Except.pure], ?_⟩
      split
      · exact hP x hx v
      · exact hs)
    min hmin
  exact this

/-- `argmin` on at least two live clusters: the first pair of the list is read, and the result is
that of the scan over all rows starting from it. -/
theorem argmin_eq (chk : Bool) (n : Nat) (act : Active) (live : List Nat) (hrep : act.Rep live n)
    (hlen : 2 ≤ live.length) (M : Mat α) (hv : M.Valid) (hn : M.n = n) :
    ∃ row col v0, row < col ∧ row ∈ live ∧ col ∈ live ∧ M.get chk row col = .ok v0 ∧
      ∀ r, live.foldlM (fun min r => do
            let cs ← act.range (some r) none
            argminRow chk M r (cs.drop 1) min) (row, col, v0) = .ok r →
        argmin chk M act = .ok (some r) := by
  obtain ⟨row, col, rest, hlive⟩ : ∃ row col rest, live = row :: col :: rest := by
    match live, hlen with
    | row :: col :: rest, _ => exact ⟨row, col, rest, rfl⟩
  have hs := hrep.sorted
  rw [hlive, List.pairwise_cons] at hs
  have hrow : row ∈ live := by rw [hlive]; exact List.mem_cons_self
  have hcol : col ∈ live := by rw [hlive]; exact List.mem_cons_of_mem _ List.mem_cons_self
  have hrc : row < col := hs.1 col List.mem_cons_self
  have hv0 := Mat.get_dval chk M hv row col hrc (by rw [hn]; exact hrep.mem_lt col hcol)
  refine ⟨row, col, _, hrc, hrow, hcol, hv0, ?_⟩
  -- the first row's candidates: everything after `row`
  have hfirst : live.filter (fun x => decide (row ≤ x)) = live := by
    apply List.filter_eq_self.mpr
    intro x hx
    rw [hlive] at hx
    rcases List.mem_cons.mp hx with h | h
    · simp [h]
    · simp [Nat.le_of_lt (hs.1 x h)]
  have hr0 := hrep.range_ge row (Nat.le_of_lt (hrep.mem_lt row hrow))
  rw [hfirst] at hr0
  intro r e
  unfold argmin
  rw [hrep.iter]
  simp only [bind, Except.bind, List.drop_one] at e ⊢
  rw [hlive] at hr0 ⊢
  simp only [hr0, List.tail_cons, hv0]
  rw [← hlive, e]
  rfl

theorem argmin_ok (chk : Bool) (n : Nat) (act : Active) (live : List Nat) (hrep : act.Rep live n)
    (hlen : 2 ≤ live.length) (M : Mat α) (hv : M.Valid) (hn : M.n = n) :
    ∃ a b v, argmin chk M act = .ok (some (a, b, v)) ∧ a < b ∧ a ∈ live ∧ b ∈ live := by
  obtain ⟨row, col, v0, hrc, hrow, hcol, -, harg⟩ := argmin_eq chk n act live hrep hlen M hv hn
  let P : Nat × Nat × α → Prop := fun r => r.1 < r.2.1 ∧ r.1 ∈ live ∧ r.2.1 ∈ live
  obtain ⟨⟨a, b, v⟩, e, hp⟩ := foldlM_ok P (fun min r => do
      let cs ← act.range (some r) none
      argminRow chk M r (cs.drop 1) min) live
    (by
      intro s r hr hs'
      have hd := sorted_filter_ge_drop live hrep.sorted r hr
      obtain ⟨res, e, hp⟩ := argminRow_ok chk M hv r ((live.filter (fun x => decide (r ≤ x))).drop 1) P
        (by intro c hc v; exact ⟨(hd.2 c hc).1, hr, (hd.2 c hc).2⟩)
        (by intro c hc; exact ⟨(hd.2 c hc).1, by rw [hn]; exact hrep.mem_lt c (hd.2 c hc).2⟩)
        s hs'
      exact ⟨res, by
        simp only [bind, Except.bind, hrep.range_ge r (Nat.le_of_lt (hrep.mem_lt r hr)), e], hp⟩)
    (row, col, v0) ⟨hrc, hrow, hcol⟩
  exact ⟨a, b, v, harg _ e, hp⟩

def sumOver (sizes : Array Nat) (l : List Nat) : Nat := (l.map (fun x => sizes.getD x 0)).sum

/-- Invariant of the main loop after `k` merges.  `eff`, `inRange` and `comp` are the three fields of
`Spec.RawForest n (· ∈ live) (rawOf dend)`: every recorded raw step joined two different components of
the steps before it, and distinct live indices lie in different components of the recorded steps
(which makes the next step effective).  `sizes_sum` is there only to bound
`sizes[a] + sizes[b]` by `n < 2^64`, so that the `usize` addition in `State.merge` neither panics
nor wraps (`merge_ok`). -/
structure PrimInv (n k : Nat) (live : List Nat) (st : State α) (dend : Dendrogram α) (M : Mat α) :
    Prop where
  rep : st.active.Rep live n
  llen : live.length + k = n
  sizes_sz : st.sizes.size = n
  sizes_sum : sumOver st.sizes live = n
  obs : dend.obs = n
  steps_sz : dend.steps.size = k
  mvalid : M.Valid
  mn : M.n = n
  eff : AllEff id (rawOf dend)
  inRange : ∀ e ∈ rawOf dend, e.1 < n ∧ e.2 < n
  comp : ∀ x ∈ live, ∀ y ∈ live, x ≠ y →
    compAfter id (rawOf dend) x ≠ compAfter id (rawOf dend) y

theorem getD_set (a : Array Nat) (i v : Nat) (h : i < a.size) (x : Nat) :
    (a.set i v h).getD x 0 = if x = i then v else a.getD x 0 := by
  by_cases hx : x = i
  · subst hx; simp [Array.getD, h]
  · simp [Array.getD, Array.getElem_set, hx, Ne.symm hx]

theorem sumOver_ge (sizes : Array Nat) (l : List Nat) (hnd : l.Nodup) (a b : Nat) (ha : a ∈ l)
    (hb : b ∈ l) (hab : a ≠ b) : sizes.getD a 0 + sizes.getD b 0 ≤ sumOver sizes l := by
  have h1 := sum_map_filter_ne (fun x => sizes.getD x 0) l hnd a ha
  have h2 := sum_map_filter_ne (fun x => sizes.getD x 0) (l.filter fun x => decide (x ≠ a))
    (hnd.filter _) b (by simp [List.mem_filter, hb, Ne.symm hab])
  unfold sumOver
  omega

omit [Num α] in
/-- `State.merge` on two distinct live indices succeeds: `b` gets the summed size, `a` leaves the
active list, the step is pushed.  `hsum` and `hn` keep the size sum below `usizeMod`. -/
theorem merge_ok (chk : Bool) (n k : Nat) (live : List Nat) (st : State α) (dend : Dendrogram α)
    (hrep : st.active.Rep live n) (hsz : st.sizes.size = n) (hsum : sumOver st.sizes live = n)
    (hn : n < 2147483648) (hobs : dend.obs = n) (hk : dend.steps.size = k) (hkn : k + 1 < n)
    (a b : Nat) (ha : a ∈ live) (hb : b ∈ live) (hab : a ≠ b) (d : α) :
    ∃ st' s act',
      st.merge chk dend a b d = .ok (st', { dend with steps := dend.steps.push (Step.new a b d s) }) ∧
      st' = { st with sizes := st.sizes.set b s (by rw [hsz]; exact hrep.mem_lt b hb), active := act' } ∧
      s = st.sizes.getD a 0 + st.sizes.getD b 0 ∧
      act'.Rep (live.filter (· ≠ a)) n := by
  have han : a < st.sizes.size := by rw [hsz]; exact hrep.mem_lt a ha
  have hbn : b < st.sizes.size := by rw [hsz]; exact hrep.mem_lt b hb
  have hnd := hrep.nodup
  have hle := sumOver_ge st.sizes live hnd a b ha hb hab
  have hga : st.sizes.getD a 0 = st.sizes[a] := (Array.getElem_eq_getD 0).symm
  have hgb : st.sizes.getD b 0 = st.sizes[b] := (Array.getElem_eq_getD 0).symm
  have hsmall : st.sizes[a] + st.sizes[b] < usizeMod := by unfold usizeMod; omega
  obtain ⟨act', hrem, hrep'⟩ := hrep.remove chk a (hrep.mem_lt a ha)
  have hpush : dend.steps.size < dend.obs - 1 := by rw [hk, hobs]; omega
  refine ⟨_, st.sizes[a] + st.sizes[b], act', ?_, rfl, by rw [hga, hgb], hrep'⟩
  unfold State.merge
  simp only [bind, Except.bind, aget, han, hbn, getElem?_pos, uadd, hsmall, if_true, aset, dite_true,
    hrem, Dendrogram.push, guard', hpush, decide_true, pure, Except.pure]

theorem sumOver_merge (sizes : Array Nat) (live : List Nat) (hnd : live.Nodup) (a b : Nat)
    (ha : a ∈ live) (hb : b ∈ live) (hab : a ≠ b) (hbn : b < sizes.size) :
    sumOver (sizes.set b (sizes.getD a 0 + sizes.getD b 0) hbn) (live.filter (· ≠ a))
      = sumOver sizes live := by
  have h1 := sum_map_filter_ne (fun x => sizes.getD x 0) live hnd a ha
  have hb' : b ∈ live.filter (fun x => decide (x ≠ a)) := by
    simp [List.mem_filter, hb, Ne.symm hab]
  have hnd' : (live.filter (fun x => decide (x ≠ a))).Nodup := hnd.filter _
  have h2 := sum_map_filter_ne (fun x => sizes.getD x 0) _ hnd' b hb'
  have h3 := sum_map_filter_ne
    (fun x => (sizes.set b (sizes.getD a 0 + sizes.getD b 0) hbn).getD x 0) _ hnd' b hb'
  have hagree : ((live.filter (fun x => decide (x ≠ a))).filter (fun x => decide (x ≠ b))).map
        (fun x => (sizes.set b (sizes.getD a 0 + sizes.getD b 0) hbn).getD x 0)
      = ((live.filter (fun x => decide (x ≠ a))).filter (fun x => decide (x ≠ b))).map
        (fun x => sizes.getD x 0) := by
    apply List.map_congr_left
    intro x hx
    have hxb : x ≠ b := by
      have := (List.mem_filter.mp hx).2; simpa using this
    rw [getD_set, if_neg hxb]
  have hnew : (sizes.set b (sizes.getD a 0 + sizes.getD b 0) hbn).getD b 0
      = sizes.getD a 0 + sizes.getD b 0 := by
    rw [getD_set, if_pos rfl]
  unfold sumOver at *
  rw [hagree, hnew] at h3
  omega

omit [Num α] in
/-- The bookkeeping part of the invariant after merging two distinct live clusters `a < b`, for any
successor state with the right `sizes`/`active`. -/
theorem PrimInv.step {n k : Nat} {live : List Nat} {st : State α} {dend : Dendrogram α}
    {M : Mat α} (inv : PrimInv n k live st dend M) (a b : Nat) (hab : a < b) (ha : a ∈ live)
    (hb : b ∈ live) (st' : State α) (dist : α) (s : Nat) (M1 : Mat α)
    (hbn : b < st.sizes.size)
    (hact : st'.active.Rep (live.filter (· ≠ a)) n)
    (hsizes : st'.sizes = st.sizes.set b (st.sizes.getD a 0 + st.sizes.getD b 0) hbn)
    (hv1 : M1.Valid) (hn1 : M1.n = n) :
    PrimInv n (k + 1) (live.filter (· ≠ a)) st'
      { dend with steps := dend.steps.push (Step.new a b dist s) } M1 := by
  have hlt := inv.rep.mem_lt
  have hnd := inv.rep.nodup
  have F : RawForest n (· ∈ live.filter (· ≠ a))
      (rawOf ({ dend with steps := dend.steps.push (Step.new a b dist s) } : Dendrogram α)) :=
    RawForest.push ⟨inv.eff, inv.inRange, inv.comp⟩ ha hb (Nat.ne_of_lt hab) (hlt a ha) (hlt b hb)
      (.inl rfl) (fun _ hx => mem_filter_ne.mp hx) dist s
  exact
    { rep := hact
      llen := by
        have := filter_ne_length live a hnd ha
        have := inv.llen
        omega
      sizes_sz := by rw [hsizes]; simp [inv.sizes_sz]
      sizes_sum := by
        rw [hsizes, sumOver_merge st.sizes live hnd a b ha hb (Nat.ne_of_lt hab) hbn]
        exact inv.sizes_sum
      obs := inv.obs
      steps_sz := by simp [inv.steps_sz]
      mvalid := hv1
      mn := hn1
      eff := F.eff
      inRange := F.inRange
      comp := F.comp }

omit [Num α] in
/-- `merge(a, b)` advances `PrimInv` (the bookkeeping part shared with `primitive`), from any state
that agrees with the invariant's state on `sizes` and `active`, and any valid matrix. -/
theorem PrimInv.merge_step (chk : Bool) (n k : Nat) (live : List Nat) (st st1 : State α)
    (dend : Dendrogram α) (M M1 : Mat α) (hk : k + 1 < n) (inv : PrimInv n k live st dend M)
    (hsz : st1.sizes = st.sizes) (hact : st1.active = st.active) (hv1 : M1.Valid) (hn1 : M1.n = n)
    (a b : Nat) (hab : a < b) (ha : a ∈ live) (hb : b ∈ live) (dist : α) :
    ∃ st' dend' s act', st1.merge chk dend a b dist = .ok (st', dend') ∧
      PrimInv n (k + 1) (live.filter (· ≠ a)) st' dend' M1 ∧
      (∃ hbn : b < st1.sizes.size,
        st' = { st1 with sizes := st1.sizes.set b s hbn, active := act' }) ∧
      s = st1.sizes.getD a 0 + st1.sizes.getD b 0 ∧
      dend' = { dend with steps := dend.steps.push (Step.new a b dist s) } := by
  have hn := inv.mvalid.small
  rw [inv.mn] at hn
  have hrep1 : st1.active.Rep live n := by rw [hact]; exact inv.rep
  have hsz1 : st1.sizes.size = n := by rw [hsz]; exact inv.sizes_sz
  have hbn : b < st1.sizes.size := by rw [hsz1]; exact hrep1.mem_lt b hb
  obtain ⟨st', s, act', hmerge, hst', hs, hrep'⟩ := merge_ok chk n k live st1 dend hrep1
    hsz1 (by rw [hsz]; exact inv.sizes_sum) hn inv.obs inv.steps_sz hk a b ha hb (Nat.ne_of_lt hab)
    dist
  refine ⟨st', { dend with steps := dend.steps.push (Step.new a b dist s) }, s, act', hmerge, ?_,
    ⟨hbn, hst'⟩, hs, rfl⟩
  exact inv.step a b hab ha hb st' dist s M1 (hsz ▸ hbn) (by rw [hst']; exact hrep')
    (by subst hst' hs; simp only [hsz]) hv1 hn1

/-- One iteration of the main loop, given the live pair `a < b` that `argmin` returned: the matrix is
updated by `updateRows`, `b` takes over the summed size, the step `(a, b, dist)` is recorded and `a`
leaves the live list. -/
theorem primitiveIter_spec (chk : Bool) (m : Method) (n k : Nat) (live : List Nat) (st : State α)
    (dend : Dendrogram α) (M : Mat α) (hk : k + 1 < n) (inv : PrimInv n k live st dend M)
    (a b : Nat) (dist : α) (harg : argmin chk M st.active = .ok (some (a, b, dist)))
    (hab : a < b) (ha : a ∈ live) (hb : b ∈ live) :
    ∃ M1 st',
      updateRows chk st.active
        (updFn m st.sizes (st.sizes.getD a 0) (st.sizes.getD b 0) dist) a b M = .ok M1 ∧
      (∀ x, st'.sizes.getD x 0 =
        if x = b then st.sizes.getD a 0 + st.sizes.getD b 0 else st.sizes.getD x 0) ∧
      primitiveIter chk m (st, dend, M) = .ok (st',
        { dend with
          steps := dend.steps.push (Step.new a b dist (st.sizes.getD a 0 + st.sizes.getD b 0)) },
        M1) ∧
      PrimInv n (k + 1) (live.filter (· ≠ a)) st'
        { dend with
          steps := dend.steps.push (Step.new a b dist (st.sizes.getD a 0 + st.sizes.getD b 0)) }
        M1 := by
  have hlt := inv.rep.mem_lt
  have han : a < st.sizes.size := by rw [inv.sizes_sz]; exact hlt a ha
  have hbn : b < st.sizes.size := by rw [inv.sizes_sz]; exact hlt b hb
  have hga : st.sizes[a] = st.sizes.getD a 0 := Array.getElem_eq_getD 0
  have hgb : st.sizes[b] = st.sizes.getD b 0 := Array.getElem_eq_getD 0
  obtain ⟨M1, hupd, hn1, -⟩ := updateRows_dval chk n st.active live inv.rep
    (updFn m st.sizes (st.sizes.getD a 0) (st.sizes.getD b 0) dist)
    (fun x hx va vb => ⟨_, updFn_eq m st.sizes _ _ dist x va vb (by rw [inv.sizes_sz]; exact hlt x hx)⟩)
    a b hab ha hb M inv.mvalid inv.mn
  obtain ⟨st', dend', s, act', hmerge, hprim, ⟨_, hst'⟩, hs, hdend'⟩ :=
    inv.merge_step chk n k live st st dend M M1 hk rfl rfl
      (inv.mvalid.of_eq (by rw [hn1, inv.mn]) (C20.updateRows_size hupd)) hn1 a b hab ha hb dist
  subst hs hdend'
  refine ⟨M1, st', hupd, ?_, ?_, hprim⟩
  · intro x
    rw [hst', getD_set]
  · unfold primitiveIter
    simp only [bind, Except.bind, harg, unwrap, aget, han, hbn, getElem?_pos, hga, hgb, hupd, hmerge,
      pure, Except.pure]

theorem primitiveIter_ok (chk : Bool) (m : Method) (n k : Nat) (live : List Nat) (st : State α)
    (dend : Dendrogram α) (M : Mat α) (hk : k + 1 < n) (inv : PrimInv n k live st dend M) :
    ∃ st' dend' M' live',
      primitiveIter chk m (st, dend, M) = .ok (st', dend', M') ∧
      PrimInv n (k + 1) live' st' dend' M' := by
  obtain ⟨a, b, dist, harg, hab, ha, hb⟩ := argmin_ok chk n st.active live inv.rep
    (by have := inv.llen; omega) M inv.mvalid inv.mn
  obtain ⟨M1, st', -, -, e, inv'⟩ :=
    primitiveIter_spec chk m n k live st dend M hk inv a b dist harg hab ha hb
  exact ⟨st', _, M1, _, e, inv'⟩

structure PrimLoopResult (n : Nat) (dend : Dendrogram α) (M : Mat α) : Prop where
  obs : dend.obs = n
  steps_sz : dend.steps.size = n - 1
  raw : RawTree n (rawOf dend)
  mn : M.n = n

omit [Num α] in
theorem PrimInv.result {n : Nat} {live : List Nat} {st : State α} {dend : Dendrogram α} {M : Mat α}
    (hinv : PrimInv n (n - 1) live st dend M) : PrimLoopResult n dend M :=
  { obs := hinv.obs
    steps_sz := hinv.steps_sz
    raw := ⟨by simp [rawOf, hinv.steps_sz], hinv.inRange, hinv.eff⟩
    mn := hinv.mn }

/-- The invariant holds initially for any state with fresh `sizes` and `active`: it does not look at
the other fields. -/
theorem PrimInv.init (st : State α) (data : Array α) (n : Nat) (h2 : 2 ≤ n) (hs : n < 2147483648)
    (hl : 2 * data.size = n * (n - 1)) (hsz : st.sizes = Array.replicate n 1)
    (hact : st.active = Active.fresh n) :
    PrimInv n 0 (List.range n) st (Dendrogram.new n)
      ({ data := data, n := n, acc := 0 } : Mat α) :=
  { rep := hact ▸ Active.rep_fresh n
    llen := by simp
    sizes_sz := by simp [hsz]
    sizes_sum := by
      unfold sumOver
      rw [hsz]
      have : ∀ k, k ≤ n →
          ((List.range k).map (fun x => (Array.replicate n 1).getD x 0)).sum = k := by
        intro k
        induction k with
        | zero => intro _; rfl
        | succ k ih =>
          intro hk
          have hk' : k < n := by omega
          rw [List.range_succ, List.map_append, List.sum_append, ih (by omega)]
          simp [Array.getD, hk']
      exact this n (Nat.le_refl n)
    obs := rfl
    steps_sz := rfl
    mvalid := ⟨h2, hs, hl⟩
    mn := rfl
    eff := by simp [rawOf, Dendrogram.new, AllEff]
    inRange := by simp [rawOf, Dendrogram.new]
    comp := by intro x _ y _ hxy; simpa [rawOf, Dendrogram.new] using hxy }

theorem primLoop_ok (chk : Bool) (m : Method) (data : Array α) (n : Nat) (h2 : 2 ≤ n)
    (hs : n < 2147483648) (hl : 2 * data.size = n * (n - 1)) :
    ∃ st1 dend1 M1,
      iterM (primitiveIter chk m) (n - 1)
        ((State.fresh n : State α), Dendrogram.new n, { data := data, n := n, acc := 0 })
        = .ok (st1, dend1, M1) ∧ PrimLoopResult n dend1 M1 := by
  have key := iterM_ok
    (fun j (s : State α × Dendrogram α × Mat α) => ∃ live, PrimInv n j live s.1 s.2.1 s.2.2)
    (primitiveIter chk m) (n - 1) ((State.fresh n : State α), Dendrogram.new n, _)
    (by
      intro j s hj ⟨live, hinv⟩
      obtain ⟨st, dend, M⟩ := s
      obtain ⟨st', dend', M', live', e, hinv'⟩ := primitiveIter_ok chk m n j live st dend M (by omega) hinv
      exact ⟨(st', dend', M'), e, live', hinv'⟩)
    ⟨List.range n, PrimInv.init _ data n h2 hs hl rfl rfl⟩
  obtain ⟨⟨st1, dend1, M1⟩, e, live, hinv⟩ := key
  exact ⟨st1, dend1, M1, e, hinv.result⟩

end Kodama
