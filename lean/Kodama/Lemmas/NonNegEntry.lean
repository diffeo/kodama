/-
Single and complete linkage perform NO arithmetic: `Gen.single a b`, `Gen.complete a b` return one of
their two arguments.  Hence, over ANY number type (`[Num α]`, no law at all), every table value of
every run of the label-based specification is one of the input entries, and so is every height
(`greedyValid_heights_mem`); for runs that record their heights only up to order-equivalence
(`GreedyFromUpTo`, `Lemmas/SpecUpTo.lean` — what is proved of `mst_with` for IEEE floats, where
`-0.0`/`+0.0` differ) every height is order-equivalent to an input entry
(`greedyValidUpTo_heights_equiv`).

The same at the model level, without the specification: `generic_with` and `nnchain_with` (and
`primitive_with`, `Props/C12NonNeg.lean`) with `Single | Complete` return, and every returned height is
an element of `data`, under `OrderLaws` and NaN-free input (for `generic_with`: input in a `GoodSet`) — no `LtTrichotomy`, so
this applies to IEEE floats with both zeros.  `generic_with` goes through `relabel` permuting the
heights; the other two through the relation-tracking theorems `nnchainWith_greedy`,
`primitiveWith_greedy` with the relation "is an element of `data`" (`MemRel`).
-/
import Kodama.Lemmas.GenericGreedySpec
import Kodama.Lemmas.OnSquares
import Kodama.Lemmas.SpecUpTo
import Kodama.Lemmas.GenericRun
import Kodama.Lemmas.RelabelWF
import Kodama.Lemmas.RoundGreedyChain
import Kodama.Lemmas.GenericGreedySim
import Kodama.Lemmas.SpecSingle
import Kodama.Lemmas.MstPrimInv
import Kodama.Lemmas.Entry
namespace Kodama
open Spec
variable {α : Type} [Num α]

/-- Every height of a run that is greedy up to order-equivalence is order-equivalent to `post m v` of a
table value `v` of a greedy run. -/
theorem Spec.RunGood.heights_upTo {G : α → Prop} {m : Method} {n : Nat} {data : Array α}
    (h : RunGood G m n data) {steps : List (Step α)}
    (hg : GreedyFromUpTo m (init m n data) steps) :
    ∀ st ∈ steps, ∃ v, G v ∧ Num.lt st.d (post m v) = false ∧ Num.lt (post m v) st.d = false := by
  intro st hst
  obtain ⟨i, hi⟩ := List.getElem?_of_mem hst
  obtain ⟨hr, ha⟩ := reach_step_upTo hg hi
  exact ⟨_, runGood_iff.1 h _ _ hr _ ha.1 _ ha.2.1 (Nat.ne_of_lt ha.2.2.1), ha.2.2.2.2.1⟩

theorem init_TableGood_mem (m : Method) (hm : m.onSquares = false) (data : Array α) (n : Nat)
    (h2 : 2 ≤ n) (hs : n < 2147483648) (hl : 2 * data.size = n * (n - 1)) :
    TableGood (fun v : α => v ∈ data.toList) (init m n data) :=
  init_TableGood_entries m data n h2 hs hl fun v hv => by simpa [hm] using hv

theorem updClosed_single_complete (G : α → Prop) (m : Method) (hm : m = .single ∨ m = .complete) :
    UpdClosed G m := by
  rcases hm with rfl | rfl
  · exact updClosed_single G
  · exact updClosed_complete G

theorem post_single_complete (m : Method) (hm : m = .single ∨ m = .complete) (v : α) :
    post m v = v := by
  rcases hm with rfl | rfl <;> rfl

theorem onSquares_single_complete {m : Method} (hm : m = .single ∨ m = .complete) :
    m.onSquares = false := by
  rcases hm with rfl | rfl <;> rfl

/-- For single and complete linkage every table value of every greedy run is an input entry. -/
theorem runGood_mem (m : Method) (hm : m = .single ∨ m = .complete) (data : Array α) (n : Nat)
    (h2 : 2 ≤ n) (hs : n < 2147483648) (hl : 2 * data.size = n * (n - 1)) :
    RunGood (fun v : α => v ∈ data.toList) m n data :=
  runGood_of_updClosed (updClosed_single_complete _ m hm)
    (init_TableGood_mem m (onSquares_single_complete hm) data n h2 hs hl)

theorem greedyValid_heights_mem (m : Method) (hm : m = .single ∨ m = .complete) (data : Array α)
    (n : Nat) (hs : n < 2147483648) (hl : 2 * data.size = n * (n - 1)) (steps : List (Step α))
    (hg : GreedyValid m n data steps) : ∀ st ∈ steps, st.d ∈ data.toList := by
  intro st hst
  have h2 : 2 ≤ n := by have := hg.1; have := List.length_pos_of_mem hst; omega
  obtain ⟨v, hv, e⟩ := (runGood_mem m hm data n h2 hs hl).heights hg.2 st hst
  rw [e, post_single_complete m hm]; exact hv

theorem greedyValidUpTo_heights_equiv (m : Method) (hm : m = .single ∨ m = .complete)
    (data : Array α) (n : Nat) (hs : n < 2147483648) (hl : 2 * data.size = n * (n - 1))
    (steps : List (Step α)) (hg : GreedyValidUpTo m n data steps) :
    ∀ st ∈ steps, ∃ e ∈ data.toList, Num.lt st.d e = false ∧ Num.lt e st.d = false := by
  intro st hst
  have h2 : 2 ≤ n := by have := hg.1; have := List.length_pos_of_mem hst; omega
  obtain ⟨v, hv, e⟩ := (runGood_mem m hm data n h2 hs hl).heights_upTo hg.2 st hst
  rw [post_single_complete m hm] at e
  exact ⟨v, hv, e⟩

/-- Every off-diagonal entry of the matrix is an element of the condensed array. -/
theorem entry_mem_data (data : Array α) (n : Nat)
    (hl : 2 * data.size = n * (n - 1)) (u v : Nat) (hu : u < n) (hv : v < n) (huv : u ≠ v) :
    entry n data Num.infinity u v ∈ data.toList :=
  let ⟨_, hk, _, e⟩ := entry_is_slot n data Num.infinity hl u v hu hv huv
  e ▸ Array.getElem_mem_toList hk

theorem noNaN_of_data (data : Array α) (n : Nat)
    (hl : 2 * data.size = n * (n - 1)) (hnan : ∀ v ∈ data.toList, Num.isNaN v = false) :
    NoNaN n data :=
  fun u v hu hv huv => hnan _ (entry_mem_data data n hl u v hu hv huv)

theorem infTop_of_data (data : Array α) (n : Nat)
    (hl : 2 * data.size = n * (n - 1)) (hinfn : Num.isNaN (Num.infinity : α) = false)
    (hinf : ∀ v ∈ data.toList, Num.lt (Num.infinity : α) v = false) : InfTop n data :=
  ⟨hinfn, fun u v hu hv huv => hinf _ (entry_mem_data data n hl u v hu hv huv)⟩

theorem relabel_heights_perm (m : Method) (uf0 uf : UF) (d d' : Dendrogram α)
    (h : relabel m uf0 d = .ok (uf, d')) : (heights d'.steps).Perm (heights d.steps) := by
  obtain ⟨steps0, st', h0, hfold, heq⟩ := (relabel_ok_iff m uf0 d _).mp h
  have e0 := presort_ok h0
  subst e0
  have hd : d'.steps = st'.2 := by
    have := congrArg (fun r : UF × Dendrogram α => r.2.steps) heq
    simpa using this
  obtain ⟨u1, s1⟩ := st'
  rw [hd, relabelFold_heights d.obs _ _ _ _ _ hfold]
  exact (processed_perm m d.steps).map _

theorem relabel_heights_mem (m : Method) (uf0 uf : UF) (d d' : Dendrogram α)
    (h : relabel m uf0 d = .ok (uf, d')) :
    ∀ s' ∈ d'.steps.toList, ∃ s ∈ d.steps.toList, s'.d = s.d := by
  intro s' hs'
  have h1 : s'.d ∈ heights d'.steps := List.mem_map.mpr ⟨s', hs', rfl⟩
  have h2 := (relabel_heights_perm m uf0 uf d d' h).mem_iff.mp h1
  obtain ⟨s, hs, e⟩ := List.mem_map.mp h2
  exact ⟨s, hs, e.symm⟩

/-- Of a loop followed by `relabelTail` (`LoopTail`, `Lemmas/Tail.lean`): when the raw heights lie in a set
without NaN, the sort of `relabel` cannot panic, the call returns, and every returned height is `post m`
(the square root, for the methods on squares) of one of them. -/
theorem LoopTail.heights {G : α → Prop} {m : Method} {n : Nat}
    {P : State α → Dendrogram α → Mat α → Prop} {call : R (State α × Dendrogram α × Mat α)}
    (h : LoopTail m P call) (hnan : ∀ v, G v → Num.isNaN v = false)
    (hP : ∀ st d M, P st d M → d.obs = n ∧ RawTree n (rawOf d) ∧ ∀ s ∈ d.steps.toList, G s.d)
    (h2 : 2 ≤ n) :
    ∃ st' d' M', call = .ok (st', d', M') ∧ ∀ s ∈ d'.steps.toList, ∃ v, G v ∧ s.d = post m v := by
  obtain ⟨st1, dend1, M1, hp, rfl⟩ := h
  obtain ⟨hobs, hraw, hdg⟩ := hP _ _ _ hp
  obtain ⟨⟨uf, d'⟩, hr⟩ := relabel_total m st1.set dend1 n h2 hobs hraw
    (Or.inr (Or.inr (fun s hs' => hnan _ (hdg s hs'))))
  refine ⟨{ st1 with set := uf }, sqrtSteps m d', M1, by rw [relabelTail, hr]; rfl, fun s hs' => ?_⟩
  rw [sqrtSteps_toList] at hs'
  obtain ⟨s0, hs0, e⟩ := List.mem_map.mp hs'
  obtain ⟨s1, hs1, e1⟩ := relabel_heights_mem m st1.set uf dend1 d' hr s0 hs0
  exact ⟨s1.d, hdg s1 hs1, by rw [← e, e1]⟩

theorem genericWith_single_complete_heights_mem {G : α → Prop} (L : OrderLaws α) (gs : GoodSet G)
    (chk : Bool) (m : Method) (hm : m = .single ∨ m = .complete)
    (hmax : Num.isNaN (Num.maxValue : α) = false)
    (st : State α) (d : Dendrogram α) (data : Array α) (n : Nat) (h2 : 2 ≤ n)
    (hs : n < 2147483648) (hl : 2 * data.size = n * (n - 1))
    (hin : ∀ v ∈ data.toList, G v) :
    ∃ st' d' M', genericWith chk m st d data n = .ok (st', d', M') ∧
      ∀ s ∈ d'.steps.toList, s.d ∈ data.toList ∧ G s.d := by
  let G' : α → Prop := fun v => G v ∧ v ∈ data.toList
  have gs' : GoodSet G' :=
    ⟨fun v h => gs.notNaN v h.1, fun v h => gs.ltMax v h.1, fun v h => gs.beqRefl v h.1⟩
  refine exists_ok_imp
    ((genericWith_eq L gs' chk m (updClosed_single_complete G' m hm) hmax st d data n h2 hs hl
      (squareData_good m data fun v hv => by
        rw [onSquares_single_complete hm]; exact ⟨hin v hv, hv⟩)).heights gs'.notNaN
      (fun _ _ _ h => ⟨h.1.obs, h.1.raw, h.2⟩) h2) fun _ h s hs' => ?_
  obtain ⟨v, hv, e⟩ := h s hs'
  rw [e, post_single_complete m hm]
  exact ⟨hv.2, hv.1⟩

/-- `generic_with` under a run-dependent value hypothesis: the call returns and every returned height
is `post m v` (`sqrt v` for the methods on squares) of a raw height `v ∈ G`. -/
theorem genericWith_run_heights {G : α → Prop} (L : OrderLaws α) (hbeq : BeqLe α) (gs : GoodSet G)
    (chk : Bool) (m : Method) (hlbc : l1Mode m = .fix → LBClosed G m) (hsym : LwSymm α m)
    (hmax : Num.isNaN (Num.maxValue : α) = false)
    (st : State α) (d : Dendrogram α) (data : Array α) (n : Nat) (h2 : 2 ≤ n)
    (hs : n < 2147483648) (hl : 2 * data.size = n * (n - 1)) (hrun : RunGood G m n data) :
    ∃ st' d' M', genericWith chk m st d data n = .ok (st', d', M') ∧
      ∀ s ∈ d'.steps.toList, ∃ v, G v ∧ s.d = post m v :=
  (genericWith_sim_run L hbeq gs chk m hlbc hsym hmax st d data n h2 hs hl hrun).heights gs.notNaN
    (fun _ _ _ h => ⟨h.1.res.obs, h.1.res.raw, h.2⟩) h2

section Rel
open Crit MTree Rnn

/-- The relation tracked through the loops: the value is an element of `data` (the trees are
ignored). -/
def MemRel (data : Array α) : MTree Nat → MTree Nat → α → Prop := fun _ _ v => v ∈ data.toList

theorem lwCompat_memRel (data : Array α) (m : Method) (hm : m = .single ∨ m = .complete) :
    LWCompat m (MemRel data) where
  symm := fun _ _ _ h => h
  step := by
    intro ta tb tx va vb vab _ _ _ ha hb _
    unfold MemRel at *
    rcases hm with rfl | rfl
    · show Gen.single va vb ∈ data.toList
      unfold Gen.single; split <;> assumption
    · show Gen.complete va vb ∈ data.toList
      unfold Gen.complete; split <;> assumption

theorem memRel_init (m : Method) (hm : m = .single ∨ m = .complete) (data : Array α) (n : Nat)
    (hs : n < 2147483648) (hl : 2 * data.size = n * (n - 1)) :
    ∀ i j, i < n → j < n → i ≠ j → MemRel data (leaf i) (leaf j) ((init m n data).D i j) := by
  intro i j hi hj hij
  exact init_TableGood_mem m (onSquares_single_complete hm) data n (by omega) hs hl i
    (by simpa [init] using hi) j
    (by simpa [init] using hj) hij

theorem greedySw_memRel_mem {data : Array α} {n : Nat} {l : List (Step α)}
    (h : GreedySw (MemRel data) n l) : ∀ s ∈ l, s.d ∈ data.toList := by
  intro s hs
  obtain ⟨i, hi⟩ := List.mem_iff_getElem?.mp hs
  obtain ⟨⟨_, _, hmem, _⟩, _⟩ := h i s hi
  exact hmem

theorem nnchainWith_single_complete_heights_mem (L : OrderLaws α) (chk : Bool) (mc : MethodChain)
    (hmc : mc = .single ∨ mc = .complete) (st : State α) (d : Dendrogram α) (data : Array α)
    (n : Nat) (h2 : 2 ≤ n) (hs : n < 2147483648) (hl : 2 * data.size = n * (n - 1))
    (hnan : ∀ v ∈ data.toList, Num.isNaN v = false) :
    ∃ st' d' M', nnchainWith chk mc st d data n = .ok (st', d', M') ∧
      ∀ s ∈ d'.steps.toList, s.d ∈ data.toList := by
  have hm : mc.intoMethod = .single ∨ mc.intoMethod = .complete := by
    rcases hmc with rfl | rfl
    · exact Or.inl rfl
    · exact Or.inr rfl
  obtain ⟨st', d', M', hrun, _, hall⟩ := nnchainWith_greedy L chk mc
    (onSquares_single_complete hm) (ChainGe.on (chainReducible_single_complete mc hmc).ge _).lw
    (lwCompat_memRel data mc.intoMethod hm) (fun _ _ v h => hnan v h)
    st d data n h2 hs hl (fun i hi => hnan _ (by simp)) (memRel_init mc.intoMethod hm data n hs hl)
  exact ⟨st', d', M', hrun, greedySw_memRel_mem hall⟩

end Rel

end Kodama
