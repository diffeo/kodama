/-
A specification state seen through a labelling of matrix indices.

The algorithms keep clusters at matrix INDICES (a merge of `a`, `b` keeps index `b`, index `a`
dies); `Spec/Naive.lean` keeps them at LABELS (a merge creates the fresh label `s.next`).
`View live lab st` says that `lab` is a bijection from the live indices onto the live labels of `st`.
`View.merge_at`: it stays one after a merge, whichever index takes the fresh label; `View.merge`: index `b`
does (`Rel` of `SpecPerm.lean`: a new index does).  `View.merge_D`, `View.merge_size`:
the merged table and sizes, read through the new labelling, are the index-level Lance–Williams update
of the old ones read through the old labelling (`LwSymm` is needed because the spec orders the two
LABELS, not the two indices: `merge_comm`, `merge_minmax`).  `View.admissible`: a pair of live indices that is minimal in the table read
through `lab` is an admissible greedy step.
-/
import Kodama.Lemmas.SpecReplay
import Kodama.Lemmas.SpecLaws
import Kodama.Lemmas.PrimGreedyLabels
namespace Kodama.Spec
variable {α : Type} [Num α]

theorem minmax_cases (la lb : Nat) :
    (min la lb = la ∧ max la lb = lb) ∨ (min la lb = lb ∧ max la lb = la) :=
  (Nat.le_total la lb).imp (fun c => ⟨Nat.min_eq_left c, Nat.max_eq_right c⟩)
    (fun c => ⟨Nat.min_eq_right c, Nat.max_eq_left c⟩)

theorem merge_comm {m : Method} (hS : LwSymm α m) {t : NState α} (ht : DSymm t) (a b : Nat) :
    merge m t b a = merge m t a b := by
  have hl : t.live.filter (fun x => decide (x ≠ b ∧ x ≠ a))
      = t.live.filter (fun x => decide (x ≠ a ∧ x ≠ b)) := by
    congr 1; funext x; simp only [and_comm]
  have hd : ∀ x, lw m (t.D b x) (t.D a x) (t.D b a) (t.size b) (t.size a) (t.size x)
      = lw m (t.D a x) (t.D b x) (t.D a b) (t.size a) (t.size b) (t.size x) := by
    intro x; rw [hS, ht b a]
  simp only [merge, hl, hd, Nat.add_comm (t.size b) (t.size a)]

/-- The spec merges `(min la lb, max la lb)`; the merged state does not depend on that order. -/
theorem merge_minmax {m : Method} (hsym : LwSymm α m) {s : NState α} (hd : DSymm s) (la lb : Nat) :
    merge m s (min la lb) (max la lb) = merge m s la lb := by
  rcases minmax_cases la lb with ⟨e1, e2⟩ | ⟨e1, e2⟩ <;> rw [e1, e2]
  exact merge_comm hsym hd la lb

structure View (ix : List Nat) (lab : Nat → Nat) (st : NState α) : Prop where
  inj : ∀ x ∈ ix, ∀ y ∈ ix, lab x = lab y → x = y
  live : ∀ l, l ∈ st.live ↔ ∃ x ∈ ix, lab x = l
  lt : ∀ x ∈ ix, lab x < st.next
  dsymm : DSymm st

section
variable {m : Method} {live ix' : List Nat} {lab lab' : Nat → Nat} {st : NState α} {a b c : Nat}

omit [Num α] in
theorem View.mem (h : View live lab st) {x : Nat} (hx : x ∈ live) : lab x ∈ st.live := (h.live _).mpr ⟨x, hx, rfl⟩

omit [Num α] in
theorem View.ne (h : View live lab st) {x y : Nat} (hx : x ∈ live) (hy : y ∈ live) (hxy : x ≠ y) : lab x ≠ lab y :=
  fun e => hxy (h.inj x hx y hy e)

/-- One merge seen through a labelling, whichever index takes the fresh label.  `ix'` and `lab'` are the
indices and the labelling after the merge of `a`, `b`; `c` is the index that holds `st.next` (`b` itself in
the matrix algorithms, a new index for a renumbered specification state): it is `a`, `b` or not an old index;
every other old index keeps its label. -/
theorem View.merge_at (h : View live lab st) (ha : a ∈ live) (hb : b ∈ live) (hab : a ≠ b)
    (hix : ∀ x, x ∈ ix' ↔ (x ∈ live ∧ x ≠ a ∧ x ≠ b) ∨ x = c)
    (hfresh : c ∈ live → c = a ∨ c = b) (hc : lab' c = st.next)
    (hlab : ∀ x ∈ live, x ≠ a → x ≠ b → x ≠ c → lab' x = lab x) :
    View ix' lab' (Spec.merge m st (lab a) (lab b)) := by
  -- a survivor is not `c`, keeps its label, and that label is old
  have hs : ∀ x, x ∈ live ∧ x ≠ a ∧ x ≠ b → lab' x = lab x ∧ lab x < st.next := fun x hx =>
    ⟨hlab x hx.1 hx.2.1 hx.2.2 fun e => (hfresh (e ▸ hx.1)).elim (fun e' => hx.2.1 (e.trans e'))
      (fun e' => hx.2.2 (e.trans e')), h.lt x hx.1⟩
  refine ⟨?_, ?_, ?_, merge_DSymm m st _ _ h.dsymm⟩
  · intro x hx y hy e
    rcases (hix x).mp hx with hx1 | rfl <;> rcases (hix y).mp hy with hy1 | rfl
    · rw [(hs x hx1).1, (hs y hy1).1] at e; exact h.inj x hx1.1 y hy1.1 e
    · have := (hs x hx1).2; rw [(hs x hx1).1, hc] at e; omega
    · have := (hs y hy1).2; rw [(hs y hy1).1, hc] at e; omega
    · rfl
  · intro l
    rw [mem_merge_live]
    constructor
    · rintro (⟨h1, h2, h3⟩ | h1)
      · obtain ⟨x, hx, rfl⟩ := (h.live l).mp h1
        have hx1 : x ∈ live ∧ x ≠ a ∧ x ≠ b :=
          ⟨hx, by rintro rfl; exact h2 rfl, by rintro rfl; exact h3 rfl⟩
        exact ⟨x, (hix x).mpr (Or.inl hx1), (hs x hx1).1⟩
      · exact ⟨c, (hix c).mpr (Or.inr rfl), hc.trans h1.symm⟩
    · rintro ⟨x, hx, rfl⟩
      rcases (hix x).mp hx with hx1 | rfl
      · rw [(hs x hx1).1]
        exact Or.inl ⟨h.mem hx1.1, h.ne hx1.1 ha hx1.2.1, h.ne hx1.1 hb hx1.2.2⟩
      · exact Or.inr hc
  · intro x hx
    show lab' x < st.next + 1
    rcases (hix x).mp hx with hx1 | rfl
    · have := (hs x hx1).2; rw [(hs x hx1).1]; omega
    · rw [hc]; omega

/-- The matrix algorithms: index `b` takes the fresh label, index `a` dies.  The specification merges the
smaller label first; which of `a`, `b` holds it does not matter to the labelling. -/
theorem View.merge (h : View live lab st) (ha : a ∈ live) (hb : b ∈ live) (hab : a ≠ b) :
    View (live.filter (· ≠ a)) (fun x => if x = b then st.next else lab x)
      (Spec.merge m st (min (lab a) (lab b)) (max (lab a) (lab b))) := by
  have hix : ∀ x, x ∈ live.filter (· ≠ a) ↔ (x ∈ live ∧ x ≠ a ∧ x ≠ b) ∨ x = b := fun x => by
    rw [mem_filter_ne]
    constructor
    · intro ⟨h1, h2⟩
      by_cases h3 : x = b
      · exact Or.inr h3
      · exact Or.inl ⟨h1, h2, h3⟩
    · rintro (⟨h1, h2, -⟩ | rfl)
      · exact ⟨h1, h2⟩
      · exact ⟨hb, hab.symm⟩
  rcases minmax_cases (lab a) (lab b) with ⟨e1, e2⟩ | ⟨e1, e2⟩ <;> rw [e1, e2]
  · exact h.merge_at ha hb hab hix (fun _ => Or.inr rfl) (if_pos rfl) fun _ _ _ _ hc => if_neg hc
  · exact h.merge_at hb ha hab.symm (fun x => (hix x).trans (by rw [and_comm (a := x ≠ a)]))
      (fun _ => Or.inl rfl) (if_pos rfl) fun _ _ _ _ hc => if_neg hc

/-- The merged table read through the new labelling is the index-level update of the old table read
through the old labelling: the row of `b` becomes the Lance–Williams value, the rest stays. -/
theorem View.merge_D (h : View live lab st) (hsym : LwSymm α m) {x y : Nat} (hx : x ∈ live) (hy : y ∈ live) (hxy : x ≠ y) :
    (Spec.merge m st (min (lab a) (lab b)) (max (lab a) (lab b))).D
        (if x = b then st.next else lab x) (if y = b then st.next else lab y) =
      if x = b then lw m (st.D (lab a) (lab y)) (st.D (lab b) (lab y)) (st.D (lab a) (lab b))
        (st.size (lab a)) (st.size (lab b)) (st.size (lab y))
      else if y = b then lw m (st.D (lab a) (lab x)) (st.D (lab b) (lab x)) (st.D (lab a) (lab b))
        (st.size (lab a)) (st.size (lab b)) (st.size (lab x))
      else st.D (lab x) (lab y) := by
  have lx : lab x ≠ st.next := Nat.ne_of_lt (h.lt x hx)
  have ly : lab y ≠ st.next := Nat.ne_of_lt (h.lt y hy)
  rw [merge_minmax hsym h.dsymm, Spec.merge_D]
  by_cases hxb : x = b
  · rw [if_pos hxb, if_pos rfl, if_pos hxb, if_neg (fun e => hxy (hxb.trans e.symm))]
  · rw [if_neg hxb, if_neg lx, if_neg hxb]
    by_cases hyb : y = b
    · rw [if_pos hyb, if_pos rfl, if_pos hyb]
    · rw [if_neg hyb, if_neg ly, if_neg hyb]

theorem View.merge_size (h : View live lab st) (hsym : LwSymm α m) {x : Nat} (hx : x ∈ live) :
    (Spec.merge m st (min (lab a) (lab b)) (max (lab a) (lab b))).size
        (if x = b then st.next else lab x) =
      if x = b then st.size (lab a) + st.size (lab b) else st.size (lab x) := by
  have lx : lab x ≠ st.next := Nat.ne_of_lt (h.lt x hx)
  rw [merge_minmax hsym h.dsymm, Spec.merge_size]
  by_cases hxb : x = b
  · rw [if_pos hxb, if_pos rfl, if_pos hxb]
  · rw [if_neg hxb, if_neg lx, if_neg hxb]

theorem View.admissible (h : View live lab st) (ha : a ∈ live) (hb : b ∈ live) (hab : a ≠ b)
    (hmin : ∀ x ∈ live, ∀ y ∈ live, x ≠ y →
      Num.lt (st.D (lab x) (lab y)) (st.D (lab a) (lab b)) = false) :
    st.D (min (lab a) (lab b)) (max (lab a) (lab b)) = st.D (lab a) (lab b) ∧
    st.size (min (lab a) (lab b)) + st.size (max (lab a) (lab b))
      = st.size (lab a) + st.size (lab b) ∧
    Admissible m st (Step.new (lab a) (lab b) (post m (st.D (lab a) (lab b)))
      (st.size (lab a) + st.size (lab b))) := by
  have hne := h.ne ha hb hab
  have hma := h.mem ha
  have hmb := h.mem hb
  have hmm := minmax_cases (lab a) (lab b)
  have hdc : st.D (min (lab a) (lab b)) (max (lab a) (lab b)) = st.D (lab a) (lab b) := by
    rcases hmm with ⟨e1, e2⟩ | ⟨e1, e2⟩ <;> rw [e1, e2]; exact h.dsymm _ _
  have hszc : st.size (min (lab a) (lab b)) + st.size (max (lab a) (lab b))
      = st.size (lab a) + st.size (lab b) := by
    rcases hmm with ⟨e1, e2⟩ | ⟨e1, e2⟩ <;> rw [e1, e2]; exact Nat.add_comm _ _
  refine ⟨hdc, hszc, ?_⟩
  unfold Admissible
  rw [Step.new_c1, Step.new_c2, Step.new_d, Step.new_size, hdc, hszc]
  refine ⟨?_, ?_, by omega, ?_, rfl, rfl⟩
  · rcases hmm with ⟨e, _⟩ | ⟨e, _⟩ <;> rw [e] <;> assumption
  · rcases hmm with ⟨_, e⟩ | ⟨_, e⟩ <;> rw [e] <;> assumption
  · intro x hx y hy hxy
    obtain ⟨x', hx', rfl⟩ := (h.live x).mp hx
    obtain ⟨y', hy', rfl⟩ := (h.live y).mp hy
    exact hmin x' hx' y' hy' (fun e => hxy (by rw [e]))

end
end Kodama.Spec
