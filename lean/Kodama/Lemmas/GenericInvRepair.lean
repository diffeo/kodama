/-
The lazy repair loop at the top of each iteration of `genericWith`
(`loop { let a = peek(); if dis[[a, nearest[a]]] == priority(a) { break } … rescan row a … }`)
never panics, keeps `QInv` and `LB` (`Lemmas/GenericInv.lean`), and terminates within the model's
fuel `n + 2` (`genericRepair_spec`).  When it exits, the top row and its candidate are a minimum over
all live pairs (`generic_pop_min`, which needs `BeqLe`: `==` implies not `<`).

Termination argument: a row is *exact* when `dis[[x, nearest[x]]] == priority(x)`.  A rescan makes
the rescanned row exact (the running minimum starts at `max_value`, every entry is strictly below
it, so the first candidate is always taken; at the end `priority = dis[[a, nearest[a]]]` and
`v == v`), and does not touch any other row.  Hence every non-breaking iteration removes one row
from the list of possibly inexact rows.
-/
import Kodama.Lemmas.GenericInv
import Kodama.Lemmas.Loop
import Kodama.Lemmas.SortedList
namespace Kodama
open Spec
variable {α : Type} [Num α]

/-- Body of the rescan `for x in active.range(a..).skip(1)`. -/
def rescanStep (chk : Bool) (M : Mat α) (a : Nat) (acc : α × Array Nat) (x : Nat) :
    R (α × Array Nat) := do
  let v ← M.get chk a x
  if Num.lt v acc.1 then do
    let nearest ← aset acc.2 a x
    pure (v, nearest)
  else pure acc

theorem genericRepair_succ (chk : Bool) (M : Mat α) (fuel : Nat) (st : State α) :
    genericRepair chk M (fuel + 1) st = (do
      let a ← unwrap st.queue.peek
      let na ← aget st.nearest a
      let v ← M.get chk a na
      let p ← st.queue.priority a
      if Num.beq v p then pure st
      else do
        let r ← st.active.range (some a) none
        let (min, nearest) ← (r.drop 1).foldlM (rescanStep chk M a) (Num.maxValue, st.nearest)
        let queue ← st.queue.setPriority chk a min
        genericRepair chk M fuel { st with nearest := nearest, queue := queue }) := rfl

/-- The rescan of row `a` (which has a larger live neighbour `y`): the first column is always taken
(every good entry is below `max_value`), the rest is `MGood.scanRow` from there. -/
theorem rescan_ok {G : α → Prop} {n : Nat} {M : Mat α} (L : OrderLaws α) (gs : GoodSet G)
    (chk : Bool) (hM : MGood G n M) (live : List Nat) (hs : live.Pairwise (· < ·))
    (hlt : ∀ x ∈ live, x < n) (nr : Array Nat) (a y : Nat) (han : a < nr.size) (ha : a ∈ live)
    (hy : y ∈ live) (hay : a < y) :
    ∃ mn c, ((live.filter (fun x => decide (a ≤ x))).drop 1).foldlM (rescanStep chk M a)
        (Num.maxValue, nr) = .ok (mn, nr.set a c han) ∧ c ∈ live ∧ a < c ∧ G mn ∧
      M.get chk a c = .ok mn ∧
      ∀ z ∈ live, a < z → ∀ w, M.get chk a z = .ok w → Num.lt w mn = false := by
  have hmem : ∀ x, x ∈ live.filter (fun x => decide (a < x)) ↔ x ∈ live ∧ a < x := fun x => by
    rw [List.mem_filter, decide_eq_true_eq]
  rw [filter_ge_eq_cons live hs a ha, List.drop_one, List.tail_cons]
  obtain ⟨x0, rest, hl⟩ := List.exists_cons_of_ne_nil (List.ne_nil_of_mem ((hmem y).mpr ⟨hy, hay⟩))
  have hx0 := (hmem x0).mp (hl ▸ List.mem_cons_self)
  obtain ⟨v0, hv0, g0⟩ := hM.get chk a x0 hx0.2 (hlt x0 hx0.1)
  obtain ⟨⟨mn, nr'⟩, e, ⟨c, rfl⟩, hc, hget, gmn, hmin⟩ := hM.scanRow L gs chk
    (fun acc : α × Array Nat => ∃ c, acc.2 = nr.set a c han) (·.1) (·.2[a]?.getD 0) a rest
    (fun x hx => let h := (hmem x).mp (hl ▸ List.mem_cons_of_mem _ hx); ⟨h.2, hlt x h.1⟩)
    (rescanStep chk M a)
    (fun acc x v ⟨c, hc⟩ _ hv => by
      have han' : a < acc.2.size := by simp [hc, han]
      unfold rescanStep
      simp only [bind, Except.bind, hv, aset, han', dite_true, pure, Except.pure]
      split
      · exact ⟨_, rfl, ⟨x, by simp [hc]⟩, by simp⟩
      · exact ⟨_, rfl, ⟨c, hc⟩, rfl⟩)
    (v0, nr.set a x0 han) ⟨x0, rfl⟩ (by simpa using hx0.2) (by simpa using hlt x0 hx0.1)
    (by simpa using hv0)
  simp only [Array.getElem?_set_self, Option.getD_some] at hc hget hmin
  have hc' : c ∈ live ∧ a < c := hc.elim (fun h => h ▸ hx0) fun h =>
    (hmem c).mp (hl ▸ List.mem_cons_of_mem _ h)
  refine ⟨mn, c, ?_, hc'.1, hc'.2, gmn, hget, fun z hz haz w hw => hmin z ?_ w hw⟩
  · rw [hl, List.foldlM_cons]
    simp only [rescanStep, bind, Except.bind, hv0, gs.ltMax v0 g0, if_true, aset, han, dite_true,
      pure, Except.pure]
    exact e
  · exact (List.mem_cons.mp (hl ▸ (hmem z).mpr ⟨hz, haz⟩)).imp_right id

/-- Row `x` is exact: the loop breaks when it is at the top. -/
def Exact (chk : Bool) (M : Mat α) (q : Heap α) (nr : Array Nat) (x : Nat) : Prop :=
  ∃ c v p, nr[x]? = some c ∧ M.get chk x c = .ok v ∧ q.prio[x]? = some p ∧ Num.beq v p = true

/-- The repair loop: total within fuel `|todo| + 1`, where `todo` lists the rows not known to be
exact; keeps `QInv`, touches only `queue` and `nearest`, ends with an exact top row, and keeps the
lower-bound invariant `LB` (the rescan of a row computes a lower bound of the row: `rescan_ok`). -/
theorem genericRepair_spec {G : α → Prop} {n : Nat} {M : Mat α} (L : OrderLaws α) (gs : GoodSet G)
    (chk : Bool) (hM : MGood G n M) (act : Active) (live : List Nat) (hrep : act.Rep live n)
    (h2 : 2 ≤ live.length) :
    ∀ (fuel : Nat) (st : State α) (todo : List Nat), st.active = act →
      QInv G n live st.queue st.nearest →
      (∀ x ∈ live, Exact chk M st.queue st.nearest x ∨ x ∈ todo) →
      todo.length + 1 ≤ fuel →
      ∃ st', genericRepair chk M fuel st = .ok st' ∧ QInv G n live st'.queue st'.nearest ∧
        st'.active = st.active ∧ st'.sizes = st.sizes ∧
        (∃ a, st'.queue.peek = some a ∧ Exact chk M st'.queue st'.nearest a) ∧
        (LB chk M live st.queue.prio → LB chk M live st'.queue.prio) := by
  intro fuel
  induction fuel with
  | zero => intro st todo _ _ _ hf; omega
  | succ fuel ih =>
    intro st todo hact hq hex hf
    subst hact
    obtain ⟨a, c, hpeek, hc, hac, ha, hcl⟩ := hq.pick L gs h2 hrep.nodup
    obtain ⟨v, hv, gv⟩ := hM.get chk a c hac (hrep.mem_lt c hcl)
    obtain ⟨p, hp, hprio⟩ := hq.priority_ok ha
    rw [genericRepair_succ]
    simp only [bind, Except.bind, hpeek, unwrap, aget, hc, hv, hprio]
    by_cases hbeq : Num.beq v p = true
    · rw [if_pos hbeq]
      exact ⟨st, rfl, hq, rfl, rfl, ⟨a, hpeek, c, v, p, hc, hv, hp, hbeq⟩, id⟩
    · rw [if_neg hbeq]
      -- `a` is not exact, hence still to do
      have hatodo : a ∈ todo := by
        rcases hex a ha with ⟨c', v', p', e1, e2, e3, e4⟩ | h
        · rw [hc] at e1; cases e1
          rw [hv] at e2; cases e2
          rw [hp] at e3; cases e3
          exact absurd e4 hbeq
        · exact h
      rw [hrep.range_ge a (Nat.le_of_lt (hrep.mem_lt a ha))]
      have han' : a < st.nearest.size := hq.nsz ▸ hrep.mem_lt a ha
      obtain ⟨mn, c', hfold, hc'l, hac', gmn, hget', hmin⟩ :=
        rescan_ok L gs chk hM live hrep.sorted hrep.mem_lt st.nearest a c han' ha hcl hac
      simp only [hfold]
      obtain ⟨q', hset, hq', hprio'⟩ := hq.setPrio L gs chk ha hcl hac gmn
      simp only [hset]
      have han : a < st.queue.prio.size := by rw [hq.psz]; exact hrep.mem_lt a ha
      have hpa : q'.prio[a]? = some mn := by
        rw [hprio']; exact Array.getElem?_setIfInBounds_self_of_lt han
      have hpo : ∀ x, x ≠ a → q'.prio[x]? = st.queue.prio[x]? := fun x hxa => by
        rw [hprio']; exact Array.getElem?_setIfInBounds_ne (Ne.symm hxa)
      obtain ⟨st', e, r1, r2, r3, r4, r5⟩ := ih
        { st with nearest := st.nearest.set a c' han', queue := q' } (todo.erase a) rfl
        (hq'.setNear han' hc'l hac' _ (fun _ _ _ _ hB => hB))
        (by
          intro x hx
          by_cases hxa : x = a
          · subst hxa
            exact Or.inl ⟨c', mn, mn, Array.getElem?_set_self han', hget', hpa, gs.beqRefl mn gmn⟩
          · rcases hex x hx with ⟨c2, v2, p2, e1, e2, e3, e4⟩ | h
            · exact Or.inl ⟨c2, v2, p2, (Array.getElem?_set_ne han' (Ne.symm hxa)).trans e1, e2,
                (hpo x hxa).trans e3, e4⟩
            · exact Or.inr ((List.mem_erase_of_ne hxa).mpr h))
        (by
          have := List.length_erase_of_mem hatodo
          have := List.length_pos_of_mem hatodo
          omega)
      -- `LB` after the rescan: the new priority of row `a` is the minimum of the row
      refine ⟨st', e, r1, r2, r3, r4, fun hlb => r5 fun x hx z hz hxz p1 w hp1 hw => ?_⟩
      by_cases hxa : x = a
      · subst hxa
        rw [hpa] at hp1; cases hp1
        exact hmin z hz hxz w hw
      · rw [hpo x hxa] at hp1
        exact hlb x hx z hz hxz p1 w hp1 hw

/-- `==` is compatible with `<`: equal values are not strictly ordered (true of IEEE floats:
`a == b` excludes NaN and means numerically equal). -/
def BeqLe (α : Type) [Num α] : Prop := ∀ a b : α, Num.beq a b = true → Num.lt b a = false

/-- If the top row `a` of the heap is exact (`dis[[a, nearest[a]]] == priority(a)`, the exit
condition of the repair loop) and `LB` holds, then `b = nearest[a]` is a live column `> a` and
`dis[[a, b]]` is a minimum over ALL live pairs; moreover every live priority is `≥ dis[[a, b]]`. -/
theorem generic_pop_min {G : α → Prop} {n : Nat} {M : Mat α} (L : OrderLaws α) (hbeq : BeqLe α)
    (gs : GoodSet G) (chk : Bool) (hM : MGood G n M) (live : List Nat) (q : Heap α)
    (nr : Array Nat) (hq : QInv G n live q nr) (hlb : LB chk M live q.prio)
    (h2 : 2 ≤ live.length) (hnd : live.Nodup) {a : Nat} (hpeek : q.peek = some a)
    (hex : Exact chk M q nr a) :
    ∃ b dist, nr[a]? = some b ∧ a < b ∧ a ∈ live ∧ b ∈ live ∧ M.get chk a b = .ok dist ∧ G dist ∧
      (∀ x ∈ live, ∀ y ∈ live, x < y → ∀ w, M.get chk x y = .ok w → Num.lt w dist = false) ∧
      (∀ x ∈ live, ∀ px, q.prio[x]? = some px → Num.lt px dist = false) := by
  obtain ⟨ha, y, hy, hay⟩ := hq.peek_has_larger L gs h2 hnd hpeek
  obtain ⟨b, hnb, hab, hb⟩ := hq.near_live ha hy hay
  obtain ⟨c, v, p, e1, e2, e3, e4⟩ := hex
  rw [hnb] at e1; cases e1
  obtain ⟨p', hp', gp⟩ := hq.pgood a ha y hy hay
  rw [e3] at hp'; cases hp'
  have hpn := gs.notNaN p gp
  have hvp : Num.lt p v = false := hbeq v p e4
  obtain ⟨v', hv', gv⟩ := hM.get chk a b hab (hq.lt_n hb)
  rw [e2] at hv'; cases hv'
  have hprio : ∀ x ∈ live, ∀ px, q.prio[x]? = some px → Num.lt px v = false := by
    intro x hx px hpx
    have h1 := hq.inv.peek_min L hpeek x p px ((hq.qlive x).mpr hx) e3 hpx
    exact L.le_trans v p px hpn hvp h1
  refine ⟨b, v, hnb, hab, ha, hb, e2, gv, ?_, hprio⟩
  intro x hx z hz hxz w hw
  obtain ⟨px, hpx, gpx⟩ := hq.pgood x hx z hz hxz
  have h1 := hprio x hx px hpx
  have h2' := hlb x hx z hz hxz px w hpx hw
  exact L.le_trans v px w (gs.notNaN px gpx) h1 h2'

end Kodama
