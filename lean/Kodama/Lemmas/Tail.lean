/- What the four `_with` entry points share.  The frame around their loops: `withFrame` wraps the
caller's array, resets the dendrogram, returns at once on an empty matrix and otherwise runs a body on
the reset state; the four bodies (`primitiveWith_frame` and its siblings, by `rfl`); what the frame
does once the shape guard has answered (`withFrame_of_shape`, `withFrame_of_valid`, `withFrame_empty`,
`withFrame_indep`).  The raw edges of a dendrogram (`rawOf`) and `RawForest.push`, the forest step for
a pushed `Step.new`.  Dispatch: `Entry α`, the type of an entry point; `linkageWith_cases₂` and
`runWith_cases₂` for a relation between two calls on the same route, the generic and mst cases guarded
by `usesMax` / `usesInf`, with the diagonals `linkageWith_cases`, `runWith_cases`; `runWith_frame`.
The tail in two forms: on the call side `LoopTail m P call` (a loop ending in a state with `P`, then
`relabelTail`), on the result side `TailShape m d'` (the returned dendrogram is `sqrtSteps m` of a
relabelling, or has no steps; `runWith_tail`). -/
import Kodama.Model.Linkage
import Kodama.Lemmas.Layout
import Kodama.Lemmas.Reset
import Kodama.Lemmas.Comp
namespace Kodama
variable {α : Type}

/-- What a caller can observe of a call: the dendrogram and the (in-place updated) matrix. -/
def out (r : State α × Dendrogram α × Mat α) : Dendrogram α × Mat α := (r.2.1, r.2.2)

def rawOf (dend : Dendrogram α) : List (Nat × Nat) :=
  dend.steps.toList.map (fun s => (s.c1, s.c2))

theorem rawOf_push (dend : Dendrogram α) (s : Step α) :
    rawOf { dend with steps := dend.steps.push s } = rawOf dend ++ [(s.c1, s.c2)] := by
  simp [rawOf]

/-- `RawForest.snoc` for the step as `Step.new` records it (smaller index first), pushed on `dend`. -/
theorem Spec.RawForest.push {n : Nat} {S S' : Nat → Prop} {dend : Dendrogram α}
    (h : Spec.RawForest n S (rawOf dend)) {u v r : Nat} (hu : S u) (hv : S v) (huv : u ≠ v)
    (hun : u < n) (hvn : v < n) (hr : r = u ∨ r = v) (hS : ∀ x, S' x → S x ∧ x ≠ r) (d : α)
    (s : Nat) :
    Spec.RawForest n S' (rawOf { dend with steps := dend.steps.push (Step.new u v d s) }) := by
  rw [rawOf_push]
  unfold Step.new
  split
  · exact h.snoc hv hu huv.symm hvn hun hr.symm hS
  · exact h.snoc hu hv huv hun hvn hr hS

variable [Num α]

def withFrame (chk : Bool) (st : State α) (dend : Dendrogram α) (data : Array α) (n : Nat)
    (body : State α → Dendrogram α → Mat α → R (State α × Dendrogram α × Mat α)) :
    R (State α × Dendrogram α × Mat α) := do
  let M ← Mat.new chk data n
  if M.n = 0 then pure (st, dend.reset M.n, M) else body (st.reset M.n) (dend.reset M.n) M

def primitiveBody (chk : Bool) (m : Method) (st : State α) (dend : Dendrogram α) (M : Mat α) :
    R (State α × Dendrogram α × Mat α) := do
  let (st, dend, M) ← iterM (primitiveIter chk m) (M.n - 1) (st, dend, M)
  let (uf, dend) ← relabel m st.set dend
  pure ({ st with set := uf }, sqrtSteps m dend, M)

/-- The initial scan starts from `(Gen.heapReset …).prio`, not from `st.queue.prio`: `heapify` in
`queue.rs` resets the heap before its closure fills the priorities.  On the fresh state this is
`replicate n maxValue` (`heapReset_eq_fresh`, used in `genericWith_of_start`). -/
def genericBody (chk : Bool) (m : Method) (st : State α) (dend : Dendrogram α) (M : Mat α) :
    R (State α × Dendrogram α × Mat α) := do
  let init ← (List.range (M.n - 1)).foldlM (genericInitRow chk M M.n)
      ((Gen.heapReset st.queue st.queue.prio.size).prio, st.nearest)
  let queue ← st.queue.heapifyWith chk (fun _ => pure init.1)
  let (st, dend, M) ← iterM (genericIter chk m) (M.n - 1)
    ({ st with queue := queue, nearest := init.2 }, dend, M)
  let (uf, dend) ← relabel m st.set dend
  pure ({ st with set := uf }, sqrtSteps m dend, M)

def mstBody (chk : Bool) (st : State α) (dend : Dendrogram α) (M : Mat α) :
    R (State α × Dendrogram α × Mat α) := do
  let active ← st.active.remove chk 0
  let (st, dend, M, _) ← iterM (mstIter chk) (M.n - 1) ({ st with active := active }, dend, M, 0)
  let (uf, dend) ← relabel .single st.set dend
  pure ({ st with set := uf }, dend, M)

def nnchainBody (chk : Bool) (mc : MethodChain) (st : State α) (dend : Dendrogram α) (M : Mat α) :
    R (State α × Dendrogram α × Mat α) := do
  let s ← iterM (chainIter chk mc) (M.n - 1) ⟨{ st with chain := #[] }, dend, M⟩
  let (uf, dend) ← relabel mc.intoMethod s.st.set s.dend
  pure ({ s.st with set := uf }, sqrtSteps mc.intoMethod dend, s.M)

theorem primitiveWith_frame (chk : Bool) (m : Method) (st : State α) (d : Dendrogram α)
    (data : Array α) (n : Nat) :
    primitiveWith chk m st d data n = withFrame chk st d (squareData m data) n (primitiveBody chk m) :=
  rfl

theorem genericWith_frame (chk : Bool) (m : Method) (st : State α) (d : Dendrogram α)
    (data : Array α) (n : Nat) :
    genericWith chk m st d data n = withFrame chk st d (squareData m data) n (genericBody chk m) :=
  rfl

theorem mstWith_frame (chk : Bool) (st : State α) (d : Dendrogram α) (data : Array α) (n : Nat) :
    mstWith chk st d data n = withFrame chk st d data n (mstBody chk) :=
  rfl

theorem nnchainWith_frame (chk : Bool) (mc : MethodChain) (st : State α) (d : Dendrogram α)
    (data : Array α) (n : Nat) :
    nnchainWith chk mc st d data n
      = withFrame chk st d (squareData mc.intoMethod data) n (nnchainBody chk mc) :=
  rfl

theorem withFrame_ok {chk : Bool} {st : State α} {d : Dendrogram α} {data : Array α} {n : Nat}
    {body : State α → Dendrogram α → Mat α → R (State α × Dendrogram α × Mat α)}
    {r : State α × Dendrogram α × Mat α} (h : withFrame chk st d data n body = .ok r) :
    ∃ M, Mat.new chk data n = .ok M ∧
      (r = (st, d.reset M.n, M) ∨ body (st.reset M.n) (d.reset M.n) M = .ok r) := by
  obtain ⟨M, hM, h⟩ := bind_ok.mp h
  refine ⟨M, hM, ?_⟩
  split at h
  · exact .inl (pure_ok.mp h).symm
  · exact .inr h

/-- The frame once the shape guard has answered: an error is passed on, `0` observations return the
prior state with an empty dendrogram, and otherwise `body` runs on the FRESH state, whatever the
prior objects were. -/
theorem withFrame_of_shape (chk : Bool) (st : State α) (d : Dendrogram α) (data : Array α) (n : Nat)
    (body : State α → Dendrogram α → Mat α → R (State α × Dendrogram α × Mat α)) :
    withFrame chk st d data n body =
      match Gen.shapeM chk data.size n with
      | .error p => .error p
      | .ok 0 => .ok (st, Dendrogram.new 0, { data := data, n := 0, acc := 0 })
      | .ok (k + 1) =>
        body (State.fresh (k + 1)) (Dendrogram.new (k + 1)) { data := data, n := k + 1, acc := 0 } := by
  unfold withFrame Mat.new
  cases Gen.shapeM chk data.size n with
  | error p => rfl
  | ok k =>
    cases k with
    | zero => exact congrArg (fun d' => Except.ok (st, d', _)) (dendrogramReset_eq d 0)
    | succ k =>
      show body (st.reset (k + 1)) (d.reset (k + 1)) _ = _
      rw [State.reset_eq_fresh, dendrogramReset_eq]

theorem withFrame_of_valid (chk : Bool) (st : State α) (d : Dendrogram α) (data : Array α) (n : Nat)
    (body : State α → Dendrogram α → Mat α → R (State α × Dendrogram α × Mat α))
    (h2 : 2 ≤ n) (hs : n < 2147483648) (hl : 2 * data.size = n * (n - 1)) :
    withFrame chk st d data n body
      = body (State.fresh n) (Dendrogram.new n) { data := data, n := n, acc := 0 } := by
  have hshape : Gen.shapeM chk data.size n = .ok n := by
    have := two_le_mul_pred h2
    rw [shapeM_eq chk _ n (mul_pred_lt (by omega)), if_neg (by omega), if_pos ⟨h2, by omega⟩]
  obtain ⟨k, rfl⟩ : ∃ k, n = k + 1 := ⟨n - 1, by omega⟩
  rw [withFrame_of_shape, hshape]

theorem withFrame_empty (chk : Bool) (st : State α) (d : Dendrogram α) (n : Nat)
    (body : State α → Dendrogram α → Mat α → R (State α × Dendrogram α × Mat α)) (hn : n ≤ 1) :
    withFrame chk st d (#[] : Array α) n body
      = .ok (st, Dendrogram.new 0, { data := #[], n := 0, acc := 0 }) := by
  have hshape : Gen.shapeM chk (#[] : Array α).size n = .ok 0 := by
    rw [shapeM_eq_umul, if_pos (show (#[] : Array α).size = 0 from rfl), if_pos hn]
  rw [withFrame_of_shape, hshape]

theorem intoMethodChain_roundtrip (m : Method) (mc : MethodChain) (h : m.intoMethodChain = some mc) :
    mc.intoMethod = m := by
  cases m <;> cases mc <;> simp [Method.intoMethodChain, MethodChain.intoMethod] at h ⊢

abbrev Entry (α : Type) :=
  State α → Dendrogram α → Array α → Nat → R (State α × Dendrogram α × Mat α)

/-- The call compares data with `T::max_value()` (only `generic` does). -/
def usesMax (alg : Alg) (m : Method) : Bool :=
  match alg with
  | .generic => true
  | .linkage => dispatch m == .generic
  | _ => false

/-- The call compares data with `T::infinity()` (only `mst` does). -/
def usesInf (alg : Alg) (m : Method) : Bool :=
  match alg with
  | .mst => true
  | .linkage => dispatch m == .mst
  | _ => false

section dispatch
variable {β : Type} [Num β]

/-- The generated `dispatch` table: `linkage_with` is `mst_with` for single, `nnchain_with` for
complete / average / weighted / Ward and `generic_with` for centroid / median.  Stated for a
relation between two calls with the same method (possibly over two number types), which take the
same route. -/
theorem linkageWith_cases₂ {P : Entry α → Entry β → Prop} (chk : Bool) (m : Method)
    (hM : m = .single → P (mstWith chk) (mstWith chk))
    (hC : ∀ mc, m ≠ .single → m.intoMethodChain = some mc → mc.intoMethod = m →
      P (nnchainWith chk mc) (nnchainWith chk mc))
    (hG : m = .centroid ∨ m = .median → P (genericWith chk m) (genericWith chk m)) :
    P (linkageWith chk m) (linkageWith chk m) := by
  cases m with
  | single => exact hM rfl
  | complete => exact hC .complete (by decide) rfl rfl
  | average => exact hC .average (by decide) rfl rfl
  | weighted => exact hC .weighted (by decide) rfl rfl
  | ward => exact hC .ward (by decide) rfl rfl
  | centroid => exact hG (.inl rfl)
  | median => exact hG (.inr rfl)

/-- Whatever relates each of the four `_with` entry points to itself (as functions of the prior
objects and the input), and the `unwrapNone` panic for a pair the API does not offer, relates
`runWith` to itself.  The `generic` and `mst` cases may assume that the call goes there. -/
theorem runWith_cases₂ {P : Entry α → Entry β → Prop} (chk : Bool) (alg : Alg) (m : Method)
    (hP : P (primitiveWith chk m) (primitiveWith chk m))
    (hG : usesMax alg m = true → P (genericWith chk m) (genericWith chk m))
    (hM : usesInf alg m = true → m = .single → P (mstWith chk) (mstWith chk))
    (hC : ∀ mc, m.intoMethodChain = some mc → P (nnchainWith chk mc) (nnchainWith chk mc))
    (hE : alg.accepts m = false →
      P (fun _ _ _ _ => .error .unwrapNone) (fun _ _ _ _ => .error .unwrapNone)) :
    P (runWith chk alg m) (runWith chk alg m) := by
  have key : ∀ (f : Entry α) (f' : Entry β), runWith chk alg m = f → runWith chk alg m = f' →
      P f f' → P (runWith chk alg m) (runWith chk alg m) := fun f f' h h' hp => by
    rw [h, h']; exact hp
  cases alg
  · exact hP
  · cases hm : m.intoMethodChain with
    | some mc =>
      exact key _ _ (by funext _ _ _ _; simp only [runWith, hm])
        (by funext _ _ _ _; simp only [runWith, hm]) (hC mc hm)
    | none =>
      exact key _ _ (by funext _ _ _ _; simp only [runWith, hm])
        (by funext _ _ _ _; simp only [runWith, hm]) (hE (by simp only [Alg.accepts, hm]; rfl))
  · exact hG rfl
  · by_cases hs : m = .single
    · exact key _ _ (by funext _ _ _ _; simp only [runWith, hs, if_true])
        (by funext _ _ _ _; simp only [runWith, hs, if_true]) (hM rfl hs)
    · exact key _ _ (by funext _ _ _ _; simp only [runWith, hs, if_false])
        (by funext _ _ _ _; simp only [runWith, hs, if_false]) (hE (by simp [Alg.accepts, hs]))
  · refine linkageWith_cases₂ chk m (fun hs => hM (by rw [hs]; rfl) hs) (fun mc _ hmc _ => hC mc hmc)
      fun hm => hG ?_
    rcases hm with rfl | rfl <;> rfl

end dispatch

theorem linkageWith_cases {P : Entry α → Prop} (chk : Bool) (m : Method)
    (hM : m = .single → P (mstWith chk))
    (hC : ∀ mc, m ≠ .single → m.intoMethodChain = some mc → mc.intoMethod = m →
      P (nnchainWith chk mc))
    (hG : m = .centroid ∨ m = .median → P (genericWith chk m)) : P (linkageWith chk m) :=
  linkageWith_cases₂ (β := α) (P := fun f _ => P f) chk m hM hC hG

theorem runWith_cases {P : Entry α → Prop} (chk : Bool) (alg : Alg) (m : Method)
    (hP : P (primitiveWith chk m)) (hG : P (genericWith chk m))
    (hM : m = .single → P (mstWith chk))
    (hC : ∀ mc, m.intoMethodChain = some mc → P (nnchainWith chk mc))
    (hE : alg.accepts m = false → P (fun _ _ _ _ => .error .unwrapNone)) :
    P (runWith chk alg m) :=
  runWith_cases₂ (β := α) (P := fun f _ => P f) chk alg m hP (fun _ => hG) (fun _ => hM) hC hE

/-- The frame overwrites both prior objects before anything reads them. -/
theorem withFrame_indep (chk : Bool) (st st' : State α) (d d' : Dendrogram α) (data : Array α)
    (n : Nat) (body : State α → Dendrogram α → Mat α → R (State α × Dendrogram α × Mat α)) :
    out <$> withFrame chk st d data n body = out <$> withFrame chk st' d' data n body := by
  unfold withFrame
  cases Mat.new chk data n with
  | error p => rfl
  | ok M =>
    simp only [ok_bind, State.reset_eq_fresh, dendrogramReset_eq]
    split <;> rfl

/-- What every `_with` entry point does after its loop. -/
def relabelTail (m : Method) (st1 : State α) (dend1 : Dendrogram α) (M1 : Mat α) :
    R (State α × Dendrogram α × Mat α) :=
  relabel m st1.set dend1 >>= fun r => pure ({ st1 with set := r.1 }, sqrtSteps m r.2, M1)

/-- `call` is a loop that ended in `(st1, dend1, M1)` with `P st1 dend1 M1` (what the algorithm
knows of its raw result), followed by `relabelTail m`: the form of the run theorem of every entry
point on a valid matrix.  What the structural properties read off it: `LoopTail.wf`, `.total`, `.ok`,
`.mat` (`Lemmas/Entry.lean`), `.heights` (`Lemmas/NonNegEntry.lean`). -/
def LoopTail (m : Method) (P : State α → Dendrogram α → Mat α → Prop)
    (call : R (State α × Dendrogram α × Mat α)) : Prop :=
  ∃ st1 dend1 M1, P st1 dend1 M1 ∧ call = relabelTail m st1 dend1 M1

/-- The common tail of the entry points: the returned dendrogram has no steps (empty input), or is
`sqrtSteps m` of the relabelling of some raw dendrogram. -/
def TailShape (m : Method) (d' : Dendrogram α) : Prop :=
  d'.steps = #[] ∨ ∃ raw uf0 uf rel, relabel m uf0 raw = .ok (uf, rel) ∧ d' = sqrtSteps m rel

theorem primitiveBody_tail {chk : Bool} {m : Method} {st : State α} {d : Dendrogram α} {M : Mat α}
    {r : State α × Dendrogram α × Mat α} (h : primitiveBody chk m st d M = .ok r) :
    TailShape m r.2.1 := by
  simp only [primitiveBody, bind_ok, pure_ok] at h
  obtain ⟨⟨st1, d1, M1⟩, _, ⟨uf, rel⟩, hrel, rfl⟩ := h
  exact .inr ⟨d1, _, uf, rel, hrel, rfl⟩

theorem genericBody_tail {chk : Bool} {m : Method} {st : State α} {d : Dendrogram α} {M : Mat α}
    {r : State α × Dendrogram α × Mat α} (h : genericBody chk m st d M = .ok r) :
    TailShape m r.2.1 := by
  simp only [genericBody, bind_ok, pure_ok] at h
  obtain ⟨_, _, _, _, ⟨st1, d1, M1⟩, _, ⟨uf, rel⟩, hrel, rfl⟩ := h
  exact .inr ⟨d1, _, uf, rel, hrel, rfl⟩

theorem mstBody_tail {chk : Bool} {st : State α} {d : Dendrogram α} {M : Mat α}
    {r : State α × Dendrogram α × Mat α} (h : mstBody chk st d M = .ok r) :
    TailShape .single r.2.1 := by
  simp only [mstBody, bind_ok, pure_ok] at h
  obtain ⟨_, _, ⟨st1, d1, M1, c1⟩, _, ⟨uf, rel⟩, hrel, rfl⟩ := h
  exact .inr ⟨d1, _, uf, rel, hrel, rfl⟩

theorem nnchainBody_tail {chk : Bool} {mc : MethodChain} {st : State α} {d : Dendrogram α}
    {M : Mat α} {r : State α × Dendrogram α × Mat α} (h : nnchainBody chk mc st d M = .ok r) :
    TailShape mc.intoMethod r.2.1 := by
  simp only [nnchainBody, bind_ok, pure_ok] at h
  obtain ⟨s, _, ⟨uf, rel⟩, hrel, rfl⟩ := h
  exact .inr ⟨s.dend, _, uf, rel, hrel, rfl⟩

/-- `runWith` is the frame around a body on the (squared) input, or the `unwrapNone` panic for a
pair the API does not offer; every body ends in `TailShape m` for the method `m` of the call
(`mstBody` relabels as `single` and `nnchainBody` as `mc.intoMethod`; both are `m`, because `mst` is
offered only for `single` and by `intoMethodChain_roundtrip`). -/
theorem runWith_frame (chk : Bool) (alg : Alg) (m : Method) :
    (∃ body, (∀ (st : State α) d M r, body st d M = .ok r → TailShape m r.2.1) ∧
      ∀ st d data n,
        runWith chk alg m st d data n = withFrame chk st d (squareData m data) n body) ∨
    (alg.accepts m = false ∧ ∀ (st : State α) d data n,
      runWith chk alg m st d data n = .error .unwrapNone) := by
  refine runWith_cases (P := fun f => (∃ body,
      (∀ (st : State α) d M r, body st d M = .ok r → TailShape m r.2.1) ∧ ∀ st d data n,
        f st d data n = withFrame chk st d (squareData m data) n body) ∨
      (alg.accepts m = false ∧ ∀ st d data n, f st d data n = .error .unwrapNone)) chk alg m
    (.inl ⟨primitiveBody chk m, fun _ _ _ _ => primitiveBody_tail, fun _ _ _ _ => rfl⟩)
    (.inl ⟨genericBody chk m, fun _ _ _ _ => genericBody_tail, fun _ _ _ _ => rfl⟩) ?_ ?_
    (fun hf => .inr ⟨hf, fun _ _ _ _ => rfl⟩)
  · rintro rfl
    exact .inl ⟨mstBody chk, fun _ _ _ _ => mstBody_tail, fun _ _ _ _ => rfl⟩
  · intro mc hmc
    obtain rfl := intoMethodChain_roundtrip m mc hmc
    exact .inl ⟨nnchainBody chk mc, fun _ _ _ _ => nnchainBody_tail, fun _ _ _ _ => rfl⟩

theorem runWith_state_irrelevant (chk : Bool) (alg : Alg) (m : Method) (st st' : State α)
    (d d' : Dendrogram α) (data : Array α) (n : Nat) :
    out <$> runWith chk alg m st d data n = out <$> runWith chk alg m st' d' data n := by
  obtain ⟨body, -, e⟩ | ⟨-, e⟩ := runWith_frame (α := α) chk alg m <;> rw [e, e]
  exact withFrame_indep ..

theorem runWith_tail (chk : Bool) (alg : Alg) (m : Method) (st : State α) (d : Dendrogram α)
    (data : Array α) (n : Nat) (st' : State α) (d' : Dendrogram α) (M' : Mat α)
    (h : runWith chk alg m st d data n = .ok (st', d', M')) : TailShape m d' := by
  obtain ⟨body, hb, e⟩ | ⟨-, e⟩ := runWith_frame (α := α) chk alg m <;> rw [e] at h
  · obtain ⟨M, _, h | h⟩ := withFrame_ok h
    · cases h; exact .inl rfl
    · exact hb _ _ _ _ h
  · cases h

end Kodama
