/-
Equivariance of the label-based greedy specification (`Kodama/Spec/Naive.lean`) under a
renumbering of the observations.

`π` (with inverse `ρ`, `IsPerm n π ρ`) renumbers the observations `0 … n-1`; `σ π n` extends it to
all labels by fixing the internal labels `≥ n`.  If the matrix `data'` is the matrix `data` with
rows and columns renumbered (`entry data' i j = entry data (π i) (π j)`), then every greedy run on
`data'` is mapped, step by step (`mapStep (σ π n)`: relabel the two children, smaller label
first), to a greedy run on `data` with the same heights and sizes, and the leaf set of every label
is mapped by `σ π n` (as a list: up to `List.Perm`, because the two children may swap).

The only number fact used is `LwSymm α m` (the update formula is symmetric in the two merged
clusters; `Kodama/Lemmas/SpecLaws.lean`), needed because relabelling may swap which child is
"`a`" and which is "`b`".
-/
import Kodama.Lemmas.SpecReplay
import Kodama.Lemmas.SpecLaws
import Kodama.Lemmas.SpecView
namespace Kodama.Spec

section Labels
variable {α : Type}

/-- `π` is a permutation of `{0, …, n-1}` with inverse `ρ` (nothing is said outside the range). -/
structure IsPerm (n : Nat) (π ρ : Nat → Nat) : Prop where
  lt : ∀ i, i < n → π i < n
  lt' : ∀ i, i < n → ρ i < n
  left : ∀ i, i < n → ρ (π i) = i
  right : ∀ i, i < n → π (ρ i) = i

theorem IsPerm.inj {n : Nat} {π ρ : Nat → Nat} (h : IsPerm n π ρ) {i j : Nat} (hi : i < n)
    (hj : j < n) (e : π i = π j) : i = j := by
  have := congrArg ρ e
  rwa [h.left i hi, h.left j hj] at this

def σ (π : Nat → Nat) (n l : Nat) : Nat := if l < n then π l else l

structure LabelMap (n : Nat) (f : Nat → Nat) : Prop where
  fix : ∀ l, n ≤ l → f l = l
  lt : ∀ l, l < n → f l < n
  inj : ∀ a b, f a = f b → a = b
  surj : ∀ l, l < n → ∃ l', l' < n ∧ f l' = l

theorem σ_labelMap {n : Nat} {π ρ : Nat → Nat} (h : IsPerm n π ρ) : LabelMap n (σ π n) where
  fix l hl := by unfold σ; rw [if_neg (by omega)]
  lt l hl := by unfold σ; rw [if_pos hl]; exact h.lt l hl
  inj a b hab := by
    unfold σ at hab
    by_cases ha : a < n <;> by_cases hb : b < n
    · rw [if_pos ha, if_pos hb] at hab
      exact h.inj ha hb hab
    · rw [if_pos ha, if_neg hb] at hab
      have := h.lt a ha; omega
    · rw [if_neg ha, if_pos hb] at hab
      have := h.lt b hb; omega
    · rw [if_neg ha, if_neg hb] at hab; exact hab
  surj l hl := ⟨ρ l, h.lt' l hl, by unfold σ; rw [if_pos (h.lt' l hl)]; exact h.right l hl⟩

theorem σ_of_lt (π : Nat → Nat) {n l : Nat} (h : l < n) : σ π n l = π l := by
  unfold σ; rw [if_pos h]

theorem σ_of_ge (π : Nat → Nat) {n l : Nat} (h : n ≤ l) : σ π n l = l := by
  unfold σ; rw [if_neg (by omega)]

theorem LabelMap.lt_iff {n : Nat} {f : Nat → Nat} (hf : LabelMap n f) (l : Nat) :
    f l < n ↔ l < n := by
  constructor
  · intro h
    by_cases hl : l < n
    · exact hl
    · rw [hf.fix l (by omega)] at h; exact h
  · exact hf.lt l

def mapStep (f : Nat → Nat) (st : Step α) : Step α :=
  if f st.c2 < f st.c1 then ⟨f st.c2, f st.c1, st.d, st.size⟩
  else ⟨f st.c1, f st.c2, st.d, st.size⟩

@[simp] theorem mapStep_d (f : Nat → Nat) (st : Step α) : (mapStep f st).d = st.d := by
  unfold mapStep; split <;> rfl

@[simp] theorem mapStep_size (f : Nat → Nat) (st : Step α) : (mapStep f st).size = st.size := by
  unfold mapStep; split <;> rfl

theorem mapStep_of_le (f : Nat → Nat) (st : Step α) (h : f st.c1 ≤ f st.c2) :
    (mapStep f st).c1 = f st.c1 ∧ (mapStep f st).c2 = f st.c2 := by
  unfold mapStep; rw [if_neg (by omega)]; exact ⟨rfl, rfl⟩

theorem mapStep_of_lt (f : Nat → Nat) (st : Step α) (h : f st.c2 < f st.c1) :
    (mapStep f st).c1 = f st.c2 ∧ (mapStep f st).c2 = f st.c1 := by
  unfold mapStep; rw [if_pos h]; exact ⟨rfl, rfl⟩

theorem mapStep_cases (f : Nat → Nat) (st : Step α) :
    ((mapStep f st).c1 = f st.c1 ∧ (mapStep f st).c2 = f st.c2 ∧ f st.c1 ≤ f st.c2) ∨
    ((mapStep f st).c1 = f st.c2 ∧ (mapStep f st).c2 = f st.c1 ∧ f st.c2 < f st.c1) := by
  by_cases h : f st.c2 < f st.c1
  · right; exact ⟨(mapStep_of_lt f st h).1, (mapStep_of_lt f st h).2, h⟩
  · left
    have h' : f st.c1 ≤ f st.c2 := by omega
    exact ⟨(mapStep_of_le f st h').1, (mapStep_of_le f st h').2, h'⟩

theorem heights_sizes_mapStep (f : Nat → Nat) (steps : List (Step α)) :
    (steps.map (mapStep f)).map (·.d) = steps.map (·.d) ∧
    (steps.map (mapStep f)).map (·.size) = steps.map (·.size) := by
  constructor
  · rw [List.map_map]; apply List.map_congr_left; intro st _; exact mapStep_d f st
  · rw [List.map_map]; apply List.map_congr_left; intro st _; exact mapStep_size f st

/-- The leaves beneath the image of a label are the images of the leaves beneath the label, up to
order (the two children of a step may be swapped by `mapStep`).  No well-formedness needed. -/
theorem leaves_mapStep_gen {n : Nat} {f : Nat → Nat} (hf : LabelMap n f) (steps : List (Step α))
    (fuel l : Nat) :
    (leaves n (steps.map (mapStep f)) fuel (f l)).Perm ((leaves n steps fuel l).map f) := by
  have hget : ∀ l, ¬ l < n →
      (steps.map (mapStep f))[f l - n]? = (steps[l - n]?).map (mapStep f) := fun l hl => by
    rw [hf.fix l (by omega), List.getElem?_map]
  fun_induction leaves n steps fuel l with
  | case1 l hl => rw [leaves_of_lt (hf.lt l hl)]; exact List.Perm.refl _
  | case2 l hl => rw [leaves_zero (fun h => hl ((hf.lt_iff l).1 h))]; exact List.Perm.refl _
  | case3 fuel l hl => rw [leaves_of_lt (hf.lt l hl)]; exact List.Perm.refl _
  | case4 fuel l hl st hst ih1 ih2 =>
    rw [leaves_succ (fun h => hl ((hf.lt_iff l).1 h)) ((hget l hl).trans (congrArg _ hst)),
      List.map_append]
    rcases mapStep_cases f st with ⟨e1, e2, _⟩ | ⟨e1, e2, _⟩ <;> rw [e1, e2]
    · exact ih1.append ih2
    · exact (ih2.append ih1).trans List.perm_append_comm
  | case5 fuel l hl hst =>
    rw [leaves_of_get_none (fun h => hl ((hf.lt_iff l).1 h)) ((hget l hl).trans (congrArg _ hst))]
    exact List.Perm.refl _

end Labels

variable {α : Type} [Num α]

theorem merge_mapStep {m : Method} (hS : LwSymm α m) {t : NState α} (ht : DSymm t)
    (f : Nat → Nat) (st : Step α) :
    merge m t (mapStep f st).c1 (mapStep f st).c2 = merge m t (f st.c1) (f st.c2) := by
  rcases mapStep_cases f st with ⟨e1, e2, _⟩ | ⟨e1, e2, _⟩
  · rw [e1, e2]
  · rw [e1, e2]; exact merge_comm hS ht _ _

/-- State `s` (of the run on the renumbered matrix) and state `t` (of the run on the original
matrix) correspond through the label map `f`: `t` is `s` seen through `f`, a `View` with the labels of
`s` as indices (only membership in `live` is related, the orders of the lists differ), with the same
off-diagonal table entries (`D c c` after a merge is junk) and sizes. -/
structure Rel (n : Nat) (f : Nat → Nat) (s t : NState α) : Prop where
  view : View s.live f t
  next : t.next = s.next
  le : n ≤ s.next
  D : ∀ x ∈ s.live, ∀ y ∈ s.live, x ≠ y → t.D (f x) (f y) = s.D x y
  size : ∀ x ∈ s.live, t.size (f x) = s.size x
  symS : DSymm s
  lt : ∀ l ∈ s.live, l < s.next

theorem rel_init {n : Nat} {π ρ : Nat → Nat} (hπ : IsPerm n π ρ) (m : Method)
    (data data' : Array α)
    (hperm : ∀ i j, i < n → j < n →
      entry n data' Num.infinity i j = entry n data Num.infinity (π i) (π j)) :
    Rel n (σ π n) (init m n data') (init m n data) where
  view := by
    refine ⟨fun x _ y _ e => (σ_labelMap hπ).inj x y e, fun l => ?_,
      fun x hx => (σ_labelMap hπ).lt x ((mem_init_live _ _ _ _).1 hx), init_DSymm m n data⟩
    simp only [mem_init_live]
    constructor
    · exact (σ_labelMap hπ).surj l
    · rintro ⟨l', h1, rfl⟩
      exact (σ_labelMap hπ).lt l' h1
  next := rfl
  le := Nat.le_refl n
  D x hx y hy _ := by
    rw [mem_init_live] at hx hy
    rw [init_D, init_D, σ_of_lt π hx, σ_of_lt π hy, hperm x y hx hy]
  size _ _ := rfl
  symS := init_DSymm m n data'
  lt _ hl := (mem_init_live _ _ _ _).1 hl

omit [Num α] in
theorem rel_D_mapStep {n : Nat} {f : Nat → Nat} {s t : NState α} (hr : Rel n f s t)
    {st : Step α} (ha : st.c1 ∈ s.live) (hb : st.c2 ∈ s.live) (hne : st.c1 ≠ st.c2) :
    t.D (mapStep f st).c1 (mapStep f st).c2 = s.D st.c1 st.c2 := by
  rcases mapStep_cases f st with ⟨e1, e2, _⟩ | ⟨e1, e2, _⟩
  · rw [e1, e2]; exact hr.D _ ha _ hb hne
  · rw [e1, e2, hr.view.dsymm]; exact hr.D _ ha _ hb hne

theorem rel_merge {n : Nat} {f : Nat → Nat} {m : Method} (hf : LabelMap n f) {s t : NState α}
    (hr : Rel n f s t) {a b : Nat} (ha : a ∈ s.live) (hb : b ∈ s.live) (hab : a ≠ b) :
    Rel n f (merge m s a b) (merge m t (f a) (f b)) := by
  have hc : f s.next = t.next := (hf.fix _ hr.le).trans hr.next.symm
  have hne : ∀ x ∈ s.live, x ≠ s.next := fun x hx => Nat.ne_of_lt (hr.lt x hx)
  have hfn : ∀ x ∈ s.live, f x ≠ t.next := fun x hx => Nat.ne_of_lt (hr.view.lt x hx)
  refine ⟨hr.view.merge_at ha hb hab (mem_merge_live m s a b) (fun h => absurd rfl (hne _ h)) hc
      (fun _ _ _ _ _ => rfl), ?_, ?_, ?_, ?_, merge_DSymm _ _ _ _ hr.symS, merge_live_lt m a b hr.lt⟩
  · simp [hr.next]
  · have := hr.le; simp; omega
  · refine merge_pairwise (P := fun x y v => (merge m t (f a) (f b)).D (f x) (f y) = v)
      (fun _ _ _ h => (merge_DSymm m t _ _ hr.view.dsymm _ _).trans h) hr.lt
      (fun x hx y hy hxy => ?_) (fun y hy hya hyb => ?_)
    · rw [merge_D_old _ _ _ _ _ _ (hfn x hx) (hfn y hy)]; exact hr.D x hx y hy hxy
    · rw [hc, merge_D_new, hr.D a ha y hy (Ne.symm hya), hr.D b hb y hy (Ne.symm hyb),
        hr.D a ha b hb hab, hr.size a ha, hr.size b hb, hr.size y hy]
  · intro x hx
    rw [merge_size, merge_size]
    rcases (mem_merge_live _ _ _ _ _).1 hx with ⟨hx1, -, -⟩ | rfl
    · rw [if_neg (hfn x hx1), if_neg (hne x hx1)]; exact hr.size x hx1
    · rw [if_pos hc, if_pos rfl, hr.size a ha, hr.size b hb]

theorem admissible_rel {n : Nat} {f : Nat → Nat} {m : Method} {s t : NState α} (hr : Rel n f s t)
    {st : Step α} (h : Admissible m s st) :
    Admissible m t (mapStep f st) := by
  have hne := Nat.ne_of_lt h.lt
  have hD := hr.D _ h.mem1 _ h.mem2 hne
  have := (hr.view.admissible (m := m) h.mem1 h.mem2 hne fun x hx y hy hxy => by
    rw [hD, hr.D x hx y hy hxy]; exact h.min x hx y hy hxy).2.2
  rwa [hD, ← h.height, hr.size _ h.mem1, hr.size _ h.mem2, ← h.size] at this

/-- A strict minimum among the ordered pairs is one among all pairs of distinct live labels. -/
theorem StrictMin.unordered {s : NState α} {st : Step α} (h : StrictMin s st) (hs : DSymm s)
    {x y : Nat} (hx : x ∈ s.live) (hy : y ∈ s.live) (hxy : x ≠ y)
    (n1 : ¬ (x = st.c1 ∧ y = st.c2)) (n2 : ¬ (x = st.c2 ∧ y = st.c1)) :
    Num.lt (s.D st.c1 st.c2) (s.D x y) = true := by
  rcases Nat.lt_or_gt_of_ne hxy with hlt | hlt
  · exact h x hx y hy hlt fun e => n1 ⟨(Prod.mk.inj e).1, (Prod.mk.inj e).2⟩
  · rw [hs x y]
    exact h y hy x hx hlt fun e => n2 ⟨(Prod.mk.inj e).2, (Prod.mk.inj e).1⟩

theorem strictMin_rel {n : Nat} {f : Nat → Nat} (hf : LabelMap n f) {s t : NState α}
    (hr : Rel n f s t) {st : Step α} (ha : st.c1 ∈ s.live) (hb : st.c2 ∈ s.live)
    (hab : st.c1 < st.c2) : StrictMin s st ↔ StrictMin t (mapStep f st) := by
  have hne : st.c1 ≠ st.c2 := by omega
  have hD := rel_D_mapStep (f := f) hr ha hb hne
  constructor
  · intro hs x' hx' y' hy' hlt' hne'
    obtain ⟨x, hx, rfl⟩ := (hr.view.live _).1 hx'
    obtain ⟨y, hy, rfl⟩ := (hr.view.live _).1 hy'
    rw [hD, hr.D x hx y hy (by rintro rfl; omega)]
    refine hs.unordered hr.symS hx hy (by rintro rfl; omega) ?_ ?_ <;> rintro ⟨rfl, rfl⟩
    · obtain ⟨e1, e2⟩ := mapStep_of_le f st (Nat.le_of_lt hlt')
      exact hne' (by rw [e1, e2])
    · obtain ⟨e1, e2⟩ := mapStep_of_lt f st hlt'
      exact hne' (by rw [e1, e2])
  · intro ht x hx y hy hlt hne'
    have hxy : x ≠ y := by omega
    rw [← hD, ← hr.D x hx y hy hxy]
    refine ht.unordered hr.view.dsymm ((hr.view.live _).2 ⟨x, hx, rfl⟩) ((hr.view.live _).2 ⟨y, hy, rfl⟩)
      (fun e => hxy (hf.inj _ _ e)) ?_ ?_
    · rintro ⟨e1, e2⟩
      rcases mapStep_cases f st with ⟨c1, c2, _⟩ | ⟨c1, c2, _⟩ <;> rw [c1] at e1 <;> rw [c2] at e2
      · exact hne' (by rw [hf.inj _ _ e1, hf.inj _ _ e2])
      · have := hf.inj _ _ e1; have := hf.inj _ _ e2; omega
    · rintro ⟨e1, e2⟩
      rcases mapStep_cases f st with ⟨c1, c2, _⟩ | ⟨c1, c2, _⟩ <;> rw [c2] at e1 <;> rw [c1] at e2
      · have := hf.inj _ _ e1; have := hf.inj _ _ e2; omega
      · exact hne' (by rw [hf.inj _ _ e1, hf.inj _ _ e2])

theorem greedyFrom_rel {n : Nat} {f : Nat → Nat} {m : Method} (hf : LabelMap n f)
    (hS : LwSymm α m) (steps : List (Step α)) {s t : NState α} (hr : Rel n f s t)
    (hg : GreedyFrom m s steps) :
    GreedyFrom m t (steps.map (mapStep f)) ∧
      (TieFreeFrom m s steps ↔ TieFreeFrom m t (steps.map (mapStep f))) := by
  induction steps generalizing s t with
  | nil => simp [GreedyFrom, TieFreeFrom]
  | cons st r ih =>
    obtain ⟨ha, hg'⟩ := hg
    have hr' := rel_merge (m := m) hf hr ha.mem1 ha.mem2 (Nat.ne_of_lt ha.lt)
    rw [← merge_mapStep hS hr.view.dsymm f st] at hr'
    obtain ⟨ih1, ih2⟩ := ih hr' hg'
    have hsm := strictMin_rel hf hr ha.mem1 ha.mem2 ha.lt
    simp only [List.map_cons, GreedyFrom, TieFreeFrom]
    refine ⟨⟨admissible_rel hr ha, ih1⟩, ?_, ?_⟩
    · rintro ⟨h1, h2⟩; exact ⟨hsm.1 h1, ih2.1 h2⟩
    · rintro ⟨h1, h2⟩; exact ⟨hsm.2 h1, ih2.2 h2⟩

theorem greedyValid_perm {n : Nat} {π ρ : Nat → Nat} {m : Method} {data data' : Array α}
    {steps : List (Step α)} (hπ : IsPerm n π ρ) (hS : LwSymm α m)
    (hperm : ∀ i j, i < n → j < n →
      entry n data' Num.infinity i j = entry n data Num.infinity (π i) (π j))
    (h : GreedyValid m n data' steps) :
    GreedyValid m n data (steps.map (mapStep (σ π n))) := by
  refine ⟨by rw [List.length_map]; exact h.1, ?_⟩
  exact (greedyFrom_rel (σ_labelMap hπ) hS steps (rel_init hπ m data data' hperm) h.2).1

theorem tieFreeFrom_perm {n : Nat} {π ρ : Nat → Nat} {m : Method} {data data' : Array α}
    {steps : List (Step α)} (hπ : IsPerm n π ρ) (hS : LwSymm α m)
    (hperm : ∀ i j, i < n → j < n →
      entry n data' Num.infinity i j = entry n data Num.infinity (π i) (π j))
    (h : GreedyValid m n data' steps) :
    TieFreeFrom m (init m n data') steps ↔
      TieFreeFrom m (init m n data) (steps.map (mapStep (σ π n))) :=
  (greedyFrom_rel (σ_labelMap hπ) hS steps (rel_init hπ m data data' hperm) h.2).2

end Kodama.Spec
