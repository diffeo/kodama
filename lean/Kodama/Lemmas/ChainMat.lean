/-
Value-level facts about the condensed matrix: which entries the Lance–Williams row update `updateRows`
changes, to what, and EXACTLY how many index computations it counts (`2 * (live.length - 2)`), from the
mere fact that it succeeded (`updateRows_dval_of_ok`; `updateRows_dval` adds that it succeeds when the
per-pair update does).  To that end `updateRows` is rewritten as one fold over the other live clusters
(`thirdClusters`) with a uniform `min/max` index shape (`updateRows_eq_fold`), the three `Active.range`
shapes of chain.rs being filters of the live list (`Rep.range_lt/_ge/_win`, `Lemmas/ActiveRefine.lean`).
-/
import Kodama.Lemmas.ActiveRefine
import Kodama.Lemmas.Layout
import Kodama.Lemmas.Loop
import Kodama.Lemmas.SortedList
import Kodama.Lemmas.SpecReplay
namespace Kodama
open Spec
variable {α : Type} [Num α]

def NoNaNLive (M : Mat α) (live : List Nat) : Prop :=
  ∀ x ∈ live, ∀ y ∈ live, x ≠ y → Num.isNaN (M.dval x y) = false

omit [Num α] in
theorem C20.Mat.set_size {chk : Bool} {M M' : Mat α} {r c : Nat} {v : α}
    (h : M.set chk r c v = .ok M') : M'.data.size = M.data.size := by
  simp only [Mat.set, bind_ok, pure_ok] at h
  obtain ⟨i, _, d, hd, h⟩ := h
  obtain ⟨_, rfl⟩ := aset_ok.mp hd
  rw [← h]; simp

omit [Num α] in
theorem C20.Mat.update_size {chk : Bool} {M M' : Mat α} {upd : Nat → α → α → R α} {x ra ca rb cb : Nat}
    (h : M.update chk upd x ra ca rb cb = .ok M') : M'.data.size = M.data.size := by
  simp only [Mat.update, bind_ok, pure_ok] at h
  obtain ⟨_, _, _, _, _, _, M1, h1, h⟩ := h
  rw [← h]; exact (Mat.set_size h1 : M1.data.size = M.data.size)

omit [Num α] in
theorem C20.updateRows_size {chk : Bool} {act : Active} {upd : Nat → α → α → R α} {a b : Nat}
    {M M' : Mat α} (h : updateRows chk act upd a b M = .ok M') : M'.data.size = M.data.size := by
  simp only [updateRows, bind_ok] at h
  obtain ⟨r1, _, M1, h1, r2, _, M2, h2, r3, _, h3⟩ := h
  exact ((foldlM_const (·.data.size) (fun _ _ _ => Mat.update_size) h3).trans
    (foldlM_const (·.data.size) (fun _ _ _ => Mat.update_size) h2)).trans
    (foldlM_const (·.data.size) (fun _ _ _ => Mat.update_size) h1)

theorem Mat.update_dval (chk : Bool) (M : Mat α) (hv : M.Valid) (upd : Nat → α → α → R α)
    (x ra ca rb cb : Nat) (h1 : ra < ca) (h2 : ca < M.n) (h3 : rb < cb) (h4 : cb < M.n) (v : α)
    (hupd : upd x (M.dval ra ca) (M.dval rb cb) = .ok v) :
    ∃ M', M.update chk upd x ra ca rb cb = .ok M' ∧ M'.n = M.n ∧ M'.acc = M.acc + 2 ∧
      M'.dval rb cb = v ∧
      ∀ p q, p < q → q < M.n → ¬ (p = rb ∧ q = cb) → M'.dval p q = M.dval p q := by
  have hb1 := idxN_lt M.n rb cb h3 h4
  have hsz := hv.size
  have hlt : Gen.idxN M.n rb cb < M.data.size := by omega
  refine ⟨({ M with data := M.data.set (Gen.idxN M.n rb cb) v hlt } : Mat α).tick 2, ?_, rfl, rfl,
    ?_, ?_⟩
  · unfold Mat.update
    rw [Mat.get_dval chk M hv ra ca h1 h2, Mat.get_dval chk M hv rb cb h3 h4]
    simp only [bind, Except.bind, hupd]
    unfold Mat.set
    rw [Mat.idx_ok chk M rb cb h3 h4 hv.small]
    simp [bind, Except.bind, aset, hlt, pure, Except.pure]
  · have e1 : min rb cb = rb := by omega
    have e2 : max rb cb = cb := by omega
    simp [Mat.dval, Mat.tick, e1, e2, hlt]
  · intro p q hpq hq hne
    have e1 : min p q = p := by omega
    have e2 : max p q = q := by omega
    have hidx : Gen.idxN M.n rb cb ≠ Gen.idxN M.n p q := by
      intro h
      have := idxN_injective M.n rb cb p q h3 h4 hpq hq h
      exact hne ⟨this.1.symm, this.2.symm⟩
    simp [Mat.dval, Mat.tick, e1, e2, hidx]

theorem pair_lt {x y n : Nat} (hxy : x ≠ y) (hx : x < n) (hy : y < n) :
    min x y < max x y ∧ max x y < n := by omega

theorem pair_eq {p q x y : Nat} (h1 : min p q = min x y) (h2 : max p q = max x y) :
    (p = x ∧ q = y) ∨ (p = y ∧ q = x) := by
  rcases Nat.le_total p q with c | c <;> rcases Nat.le_total x y with d | d
  · rw [Nat.min_eq_left c, Nat.min_eq_left d] at h1
    rw [Nat.max_eq_right c, Nat.max_eq_right d] at h2
    exact Or.inl ⟨h1, h2⟩
  · rw [Nat.min_eq_left c, Nat.min_eq_right d] at h1
    rw [Nat.max_eq_right c, Nat.max_eq_left d] at h2
    exact Or.inr ⟨h1, h2⟩
  · rw [Nat.min_eq_right c, Nat.min_eq_left d] at h1
    rw [Nat.max_eq_left c, Nat.max_eq_right d] at h2
    exact Or.inr ⟨h2, h1⟩
  · rw [Nat.min_eq_right c, Nat.min_eq_right d] at h1
    rw [Nat.max_eq_left c, Nat.max_eq_left d] at h2
    exact Or.inl ⟨h2, h1⟩

/-- One `Mat.update` on the unordered pairs `{x, lo}` (read) and `{x, hi}` (read, then written), from
the fact that it succeeded. -/
theorem Mat.update_pair (chk : Bool) (M M' : Mat α) (hv : M.Valid) (upd : Nat → α → α → R α)
    (x lo hi : Nat) (hxlo : x ≠ lo) (hxhi : x ≠ hi) (hx : x < M.n) (hlo : lo < M.n) (hhi : hi < M.n)
    (h : M.update chk upd x (min x lo) (max x lo) (min x hi) (max x hi) = .ok M') :
    M'.n = M.n ∧ M'.acc = M.acc + 2 ∧
      upd x (M.dval x lo) (M.dval x hi) = .ok (M'.dval x hi) ∧
      ∀ p q, p < M.n → q < M.n → p ≠ q → ¬ (p = x ∧ q = hi) → ¬ (p = hi ∧ q = x) →
        M'.dval p q = M.dval p q := by
  obtain ⟨a1, a2⟩ := pair_lt hxlo hx hlo
  obtain ⟨b1, b2⟩ := pair_lt hxhi hx hhi
  have h0 := h
  unfold Mat.update at h0
  rw [Mat.get_dval chk M hv _ _ a1 a2, Mat.get_dval chk M hv _ _ b1 b2, Mat.dval_minmax,
    Mat.dval_minmax] at h0
  cases hu : upd x (M.dval x lo) (M.dval x hi) with
  | error e => simp only [bind, Except.bind, hu] at h0; cases h0
  | ok v =>
    obtain ⟨M'', e, n1, c1, d1, f1⟩ := Mat.update_dval chk M hv upd x _ _ _ _ a1 a2 b1 b2 v
      (by rw [Mat.dval_minmax, Mat.dval_minmax]; exact hu)
    rw [h] at e
    cases e
    rw [Mat.dval_minmax] at d1
    refine ⟨n1, c1, by rw [d1], ?_⟩
    intro p q hp hq hpq h1 h2
    obtain ⟨c1, c2⟩ := pair_lt hpq hp hq
    rw [← Mat.dval_minmax M', ← Mat.dval_minmax M]
    refine f1 _ _ c1 c2 (fun hh => ?_)
    rcases pair_eq hh.1 hh.2 with e | e
    · exact h1 e
    · exact h2 e

theorem foldlM_congr_list {σ β : Type} (f g : σ → β → R σ) (l : List β)
    (h : ∀ s, ∀ x ∈ l, f s x = g s x) : ∀ s, l.foldlM f s = l.foldlM g s := by
  induction l with
  | nil => intro s; rfl
  | cons x xs ih =>
    intro s
    simp only [List.foldlM_cons]
    rw [h s x List.mem_cons_self]
    have ih' := ih (fun s y hy => h s y (List.mem_cons_of_mem _ hy))
    cases g s x with
    | error e => rfl
    | ok s1 => exact ih' s1

/-- The update of `hi`'s row/column from `lo`'s, over a duplicate-free list of third clusters: every
`x` of the list sees the ORIGINAL entries, `{x, hi}` ends up holding `upd x d(x,lo) d(x,hi)`, and all
other entries are unchanged. -/
theorem updFold_dval_of_ok (chk : Bool) (n : Nat) (upd : Nat → α → α → R α) (lo hi : Nat)
    (hlo : lo < n) (hhi : hi < n) (l : List Nat) :
    l.Nodup → (∀ x ∈ l, x ≠ lo ∧ x ≠ hi ∧ x < n) →
    ∀ (M M' : Mat α), M.Valid → M.n = n →
    l.foldlM (fun M x => M.update chk upd x (min x lo) (max x lo) (min x hi) (max x hi)) M = .ok M' →
      M'.n = n ∧ M'.acc = M.acc + 2 * l.length ∧
      (∀ x ∈ l, upd x (M.dval x lo) (M.dval x hi) = .ok (M'.dval x hi)) ∧
      (∀ p q, p < n → q < n → p ≠ q → ¬ (q = hi ∧ p ∈ l) → ¬ (p = hi ∧ q ∈ l) →
        M'.dval p q = M.dval p q) := by
  induction l with
  | nil =>
    intro _ _ M M' _ hn h
    cases h
    exact ⟨hn, rfl, fun _ hx => absurd hx List.not_mem_nil, fun _ _ _ _ _ _ _ => rfl⟩
  | cons x xs ih =>
    intro hnd hl M M' hv hn h
    rw [List.nodup_cons] at hnd
    obtain ⟨hxlo, hxhi, hxn⟩ := hl x List.mem_cons_self
    rw [List.foldlM_cons] at h
    obtain ⟨M1, e1, e2⟩ := bind_ok.mp h
    subst hn
    obtain ⟨n1, a1, d1, f1⟩ := Mat.update_pair chk M M1 hv upd x lo hi hxlo hxhi hxn hlo hhi e1
    obtain ⟨n2, a2, d2, f2⟩ := ih hnd.2 (fun y hy => hl y (List.mem_cons_of_mem _ hy)) M1 M'
      (hv.of_eq n1 (C20.Mat.update_size e1)) n1 e2
    refine ⟨n2, by rw [a2, a1, List.length_cons]; omega, ?_, ?_⟩
    · intro y hy
      rcases List.mem_cons.mp hy with rfl | hy
      · rw [f2 y hi hxn hhi hxhi (fun h => hnd.1 h.2) (fun h => hxhi h.1)]; exact d1
      · obtain ⟨hylo, hyhi, hyn⟩ := hl y (List.mem_cons_of_mem _ hy)
        have hyx : y ≠ x := fun h => hnd.1 (h ▸ hy)
        rw [← f1 y lo hyn hlo hylo (fun h => hyx h.1) (fun h => hyhi h.1),
          ← f1 y hi hyn hhi hyhi (fun h => hyx h.1) (fun h => hyhi h.1)]
        exact d2 y hy
    · intro p q hp hq hpq h1 h2
      rw [f2 p q hp hq hpq (fun h => h1 ⟨h.1, List.mem_cons_of_mem _ h.2⟩)
        (fun h => h2 ⟨h.1, List.mem_cons_of_mem _ h.2⟩)]
      exact f1 p q hp hq hpq (fun h => h1 ⟨h.2, h.1 ▸ List.mem_cons_self⟩)
        (fun h => h2 ⟨h.1, h.2 ▸ List.mem_cons_self⟩)

theorem updFold_ok (chk : Bool) (n : Nat) (upd : Nat → α → α → R α) (lo hi : Nat)
    (hlo : lo < n) (hhi : hi < n) (l : List Nat)
    (hl : ∀ x ∈ l, x ≠ lo ∧ x ≠ hi ∧ x < n)
    (hupd : ∀ x ∈ l, ∀ va vb, ∃ v, upd x va vb = .ok v)
    (M : Mat α) (hv : M.Valid) (hn : M.n = n) :
    ∃ M', l.foldlM (fun M x => M.update chk upd x (min x lo) (max x lo) (min x hi) (max x hi)) M
        = .ok M' := by
  obtain ⟨M', e, -⟩ := foldlM_ok (fun (M' : Mat α) => M'.n = n ∧ M'.data.size = M.data.size)
    (fun M x => M.update chk upd x (min x lo) (max x lo) (min x hi) (max x hi)) l
    (fun M1 x hx ⟨h1, h2⟩ => by
      obtain ⟨x1, x2, x3⟩ := hl x hx
      subst h1
      obtain ⟨v, hv0⟩ := hupd x hx (M1.dval x lo) (M1.dval x hi)
      obtain ⟨M2, e, n2, -⟩ := Mat.update_dval chk M1 (hv.of_eq hn.symm h2) upd x _ _ _ _
        (pair_lt x1 x3 hlo).1 (pair_lt x1 x3 hlo).2 (pair_lt x2 x3 hhi).1 (pair_lt x2 x3 hhi).2 v
        (by rw [Mat.dval_minmax, Mat.dval_minmax]; exact hv0)
      exact ⟨M2, e, n2, (C20.Mat.update_size e).trans h2⟩)
    M ⟨hn, rfl⟩
  exact ⟨M', e⟩

theorem mem_filter_ge_drop (l : List Nat) (hs : l.Pairwise (· < ·)) (r : Nat) (hr : r ∈ l) (x : Nat) :
    x ∈ (l.filter (fun x => decide (r ≤ x))).drop 1 ↔ x ∈ l ∧ r < x := by
  rw [filter_ge_eq_cons l hs r hr, List.drop_one, List.tail_cons, List.mem_filter, decide_eq_true_eq]

theorem mem_window_drop (l : List Nat) (hs : l.Pairwise (· < ·)) (a b : Nat) (hab : a < b)
    (ha : a ∈ l) (x : Nat) :
    x ∈ (l.filter (fun x => decide (a ≤ x) && decide (x < b))).drop 1 ↔ x ∈ l ∧ a < x ∧ x < b := by
  rw [filter_ge_and_eq_cons l hs a ha _ (decide_eq_true hab), List.drop_one, List.tail_cons,
    List.mem_filter, Bool.and_eq_true, decide_eq_true_eq, decide_eq_true_eq]

/-- The clusters visited by the three ranges of `updateRows`. -/
def thirdClusters (live : List Nat) (a b : Nat) : List Nat :=
  live.filter (fun x => decide (x < a)) ++
    ((live.filter (fun x => decide (a ≤ x) && decide (x < b))).drop 1 ++
      (live.filter (fun x => decide (b ≤ x))).drop 1)

theorem mem_thirdClusters (live : List Nat) (hs : live.Pairwise (· < ·)) (a b : Nat) (hab : a < b)
    (ha : a ∈ live) (hb : b ∈ live) (x : Nat) :
    x ∈ thirdClusters live a b ↔ x ∈ live ∧ x ≠ a ∧ x ≠ b := by
  unfold thirdClusters
  rw [List.mem_append, List.mem_append, mem_window_drop live hs a b hab ha, mem_filter_ge_drop live hs b hb]
  simp only [List.mem_filter, decide_eq_true_eq]
  constructor
  · rintro (h | h | h)
    · exact ⟨h.1, by omega, by omega⟩
    · exact ⟨h.1, by omega, by omega⟩
    · exact ⟨h.1, by omega, by omega⟩
  · intro ⟨hx, hxa, hxb⟩
    by_cases h1 : x < a
    · exact Or.inl ⟨hx, h1⟩
    · by_cases h2 : x < b
      · exact Or.inr (Or.inl ⟨hx, by omega, h2⟩)
      · exact Or.inr (Or.inr ⟨hx, by omega⟩)

theorem sorted_thirdClusters (live : List Nat) (hs : live.Pairwise (· < ·)) (a b : Nat) (hab : a < b)
    (ha : a ∈ live) (hb : b ∈ live) : (thirdClusters live a b).Pairwise (· < ·) := by
  unfold thirdClusters
  rw [List.pairwise_append, List.pairwise_append]
  refine ⟨hs.filter _, ⟨(hs.filter _).drop, (hs.filter _).drop, ?_⟩, ?_⟩
  · intro x hx y hy
    have := (mem_window_drop live hs a b hab ha x).mp hx
    have := (mem_filter_ge_drop live hs b hb y).mp hy
    omega
  · intro x hx y hy
    have hx' : x < a := by simpa using (List.mem_filter.mp hx).2
    rcases List.mem_append.mp hy with hy | hy
    · have := (mem_window_drop live hs a b hab ha y).mp hy; omega
    · have := (mem_filter_ge_drop live hs b hb y).mp hy; omega

theorem length_thirdClusters (live : List Nat) (hs : live.Pairwise (· < ·)) (a b : Nat) (hab : a < b)
    (ha : a ∈ live) (hb : b ∈ live) : (thirdClusters live a b).length + 2 = live.length := by
  have hnd : live.Nodup := hs.imp Nat.ne_of_lt
  have hp : (thirdClusters live a b).Perm (live.filter (fun x => decide (x ≠ a ∧ x ≠ b))) := by
    rw [List.perm_ext_iff_of_nodup ((sorted_thirdClusters live hs a b hab ha hb).imp Nat.ne_of_lt)
      (hnd.filter _)]
    intro x
    rw [mem_thirdClusters live hs a b hab ha hb, List.mem_filter, decide_eq_true_eq]
  rw [hp.length_eq]
  exact filter_two_length live a b hnd ha hb (Nat.ne_of_lt hab)

omit [Num α] in
theorem updateRows_eq_fold (chk : Bool) (n : Nat) (act : Active) (live : List Nat)
    (hrep : act.Rep live n) (upd : Nat → α → α → R α) (a b : Nat) (hab : a < b) (ha : a ∈ live)
    (hb : b ∈ live) (M : Mat α) :
    updateRows chk act upd a b M = (thirdClusters live a b).foldlM
      (fun M x => M.update chk upd x (min x a) (max x a) (min x b) (max x b)) M := by
  have hs := hrep.sorted
  have han := hrep.mem_lt a ha
  have hbn := hrep.mem_lt b hb
  unfold updateRows thirdClusters
  rw [hrep.range_lt a (Nat.le_of_lt han), hrep.range_win a b (Nat.le_of_lt han) (Nat.le_of_lt hbn),
    hrep.range_ge b (Nat.le_of_lt hbn)]
  have hc1 := foldlM_congr_list (fun (M : Mat α) x => M.update chk upd x x a x b)
      (fun M x => M.update chk upd x (min x a) (max x a) (min x b) (max x b))
      (live.filter (fun x => decide (x < a)))
      (fun s x hx => by
        have hx' : x < a := by simpa using (List.mem_filter.mp hx).2
        rw [Nat.min_eq_left (by omega), Nat.max_eq_right (by omega), Nat.min_eq_left (by omega),
          Nat.max_eq_right (by omega)])
  have hc2 := foldlM_congr_list (fun (M : Mat α) x => M.update chk upd x a x x b)
      (fun M x => M.update chk upd x (min x a) (max x a) (min x b) (max x b))
      ((live.filter (fun x => decide (a ≤ x) && decide (x < b))).drop 1)
      (fun s x hx => by
        have := (mem_window_drop live hs a b hab ha x).mp hx
        rw [Nat.min_eq_right (by omega), Nat.max_eq_left (by omega), Nat.min_eq_left (by omega),
          Nat.max_eq_right (by omega)])
  have hc3 := foldlM_congr_list (fun (M : Mat α) x => M.update chk upd x a x b x)
      (fun M x => M.update chk upd x (min x a) (max x a) (min x b) (max x b))
      ((live.filter (fun x => decide (b ≤ x))).drop 1)
      (fun s x hx => by
        have := (mem_filter_ge_drop live hs b hb x).mp hx
        rw [Nat.min_eq_right (by omega), Nat.max_eq_left (by omega), Nat.min_eq_right (by omega),
          Nat.max_eq_left (by omega)])
  simp only [List.foldlM_append, bind, Except.bind, hc1, hc2, hc3]

/-- `updateRows` on two live clusters `a < b`, if it succeeds: it counts exactly `2 * (#live - 2)`
index computations, writes `upd x d(x,a) d(x,b)` into `d(x,b)` for every other live `x` and nothing
else. -/
theorem updateRows_dval_of_ok (chk : Bool) (n : Nat) (act : Active) (live : List Nat)
    (hrep : act.Rep live n) (upd : Nat → α → α → R α)
    (a b : Nat) (hab : a < b) (ha : a ∈ live) (hb : b ∈ live) (M M' : Mat α) (hv : M.Valid)
    (hn : M.n = n) (h : updateRows chk act upd a b M = .ok M') :
    M'.n = n ∧ M'.acc + 4 = M.acc + 2 * live.length ∧
      (∀ x ∈ live, x ≠ a → x ≠ b → upd x (M.dval x a) (M.dval x b) = .ok (M'.dval x b)) ∧
      (∀ p q, p < n → q < n → p ≠ q → ¬ (q = b ∧ p ∈ live ∧ p ≠ a) → ¬ (p = b ∧ q ∈ live ∧ q ≠ a) →
        M'.dval p q = M.dval p q) := by
  have hs := hrep.sorted
  have hlt := hrep.mem_lt
  have hmem := mem_thirdClusters live hs a b hab ha hb
  rw [updateRows_eq_fold chk n act live hrep upd a b hab ha hb] at h
  obtain ⟨n', a', d', f'⟩ := updFold_dval_of_ok chk n upd a b (hlt a ha) (hlt b hb) _
    ((sorted_thirdClusters live hs a b hab ha hb).imp (fun h => Nat.ne_of_lt h))
    (fun x hx => by have := (hmem x).mp hx; exact ⟨this.2.1, this.2.2, hlt x this.1⟩) M M' hv hn h
  have hlen := length_thirdClusters live hs a b hab ha hb
  refine ⟨n', by rw [a']; omega, fun x hx hxa hxb => d' x ((hmem x).mpr ⟨hx, hxa, hxb⟩), ?_⟩
  intro p q hp hq hpq h1 h2
  refine f' p q hp hq hpq (fun h => ?_) (fun h => ?_)
  · have := (hmem p).mp h.2; exact h1 ⟨h.1, this.1, this.2.1⟩
  · have := (hmem q).mp h.2; exact h2 ⟨h.1, this.1, this.2.1⟩

theorem updateRows_dval (chk : Bool) (n : Nat) (act : Active) (live : List Nat)
    (hrep : act.Rep live n) (upd : Nat → α → α → R α)
    (hupd : ∀ x ∈ live, ∀ va vb, ∃ v, upd x va vb = .ok v)
    (a b : Nat) (hab : a < b) (ha : a ∈ live) (hb : b ∈ live) (M : Mat α) (hv : M.Valid)
    (hn : M.n = n) :
    ∃ M', updateRows chk act upd a b M = .ok M' ∧ M'.n = n ∧ M'.acc + 4 = M.acc + 2 * live.length ∧
      (∀ x ∈ live, x ≠ a → x ≠ b → upd x (M.dval x a) (M.dval x b) = .ok (M'.dval x b)) ∧
      (∀ p q, p < n → q < n → p ≠ q → ¬ (q = b ∧ p ∈ live ∧ p ≠ a) → ¬ (p = b ∧ q ∈ live ∧ q ≠ a) →
        M'.dval p q = M.dval p q) := by
  have hmem := mem_thirdClusters live hrep.sorted a b hab ha hb
  obtain ⟨M', e⟩ := updFold_ok chk n upd a b (hrep.mem_lt a ha) (hrep.mem_lt b hb)
    (thirdClusters live a b)
    (fun x hx => by have := (hmem x).mp hx; exact ⟨this.2.1, this.2.2, hrep.mem_lt x this.1⟩)
    (fun x hx => hupd x ((hmem x).mp hx).1) M hv hn
  rw [← updateRows_eq_fold chk n act live hrep upd a b hab ha hb] at e
  exact ⟨M', e, updateRows_dval_of_ok chk n act live hrep upd a b hab ha hb M M' hv hn e⟩

end Kodama
