/-
Decidability of the specification predicates and of `WellFormed` on concrete inputs, and a toy
exact number type (`Nat` with its usual order and arithmetic) — used only for non-vacuity examples
(the property files, `Lemmas/GenericExample.lean`, `Lemmas/ExampleRuns.lean`).  `Toy.natNum` is a `def`, not an
instance: it must be activated with `attribute [local instance]`.
-/
import Kodama.Spec.Naive
import Kodama.Spec.WellFormed
import Kodama.Laws
namespace Kodama.Spec
variable {α : Type} [Num α]

instance decAdmissible [DecidableEq α] (m : Method) (s : NState α) (st : Step α) :
    Decidable (Admissible m s st) := by
  unfold Admissible; infer_instance

instance decGreedyFrom [DecidableEq α] (m : Method) :
    (s : NState α) → (l : List (Step α)) → Decidable (GreedyFrom m s l)
  | _, [] => isTrue trivial
  | s, st :: r => by
    unfold GreedyFrom
    have := decGreedyFrom m (merge m s st.c1 st.c2) r
    infer_instance

instance decGreedyValid [DecidableEq α] (m : Method) (n : Nat) (data : Array α)
    (l : List (Step α)) : Decidable (GreedyValid m n data l) := by
  unfold GreedyValid; infer_instance

instance decTieFreeFrom (m : Method) :
    (s : NState α) → (l : List (Step α)) → Decidable (TieFreeFrom m s l)
  | _, [] => isTrue trivial
  | s, st :: r => by
    unfold TieFreeFrom
    have := decTieFreeFrom m (merge m s st.c1 st.c2) r
    infer_instance

/-- `Nat` as an exact toy number type (no NaN; `sqrt` is the identity, so use it only with
methods that do not work on squares, or read "heights" as squared heights). -/
@[reducible] def Toy.natNum : Num Nat where
  lt a b := decide (a < b)
  beq a b := decide (a = b)
  add a b := a + b
  sub a b := a - b
  mul a b := a * b
  div a b := a / b
  ofNat n := n
  half := 0
  quarter := 0
  sqrt a := a
  abs a := a
  maxValue := 1000000
  infinity := 1000000
  isNaN _ := false

theorem Toy.natOrderLaws : @OrderLaws Nat Toy.natNum := by
  refine @OrderLaws.mk Nat Toy.natNum ?_ ?_
  · intro a b h
    change decide (a < b) = true at h
    change decide (b < a) = false
    simp only [decide_eq_true_eq, decide_eq_false_iff_not] at h ⊢
    omega
  · intro a b c _ h
    change decide (a < c) = true at h
    change decide (a < b) = true ∨ decide (b < c) = true
    simp only [decide_eq_true_eq] at h ⊢
    omega

/-! `WellFormed` through its bounded form (`∀ i < length` in place of
`∀ i s, steps[i]? = some s →`). -/

omit [Num α] in
theorem forall_getElem?_iff {β : Type} (l : List β) (P : Nat → β → Prop) :
    (∀ i s, l[i]? = some s → P i s) ↔ ∀ i (h : i < l.length), P i l[i] :=
  ⟨fun H i h => H i _ (List.getElem?_eq_getElem h), fun H i s hs => by
    obtain ⟨h, rfl⟩ := List.getElem?_eq_some_iff.mp hs; exact H i h⟩

omit [Num α] in
instance decUsedBefore (steps : List (Step α)) (i l : Nat) : Decidable (UsedBefore steps i l) :=
  decidable_of_iff (∃ j, j < i ∧ ∃ h : j < steps.length, steps[j].c1 = l ∨ steps[j].c2 = l)
    ⟨fun ⟨j, hj, h, hc⟩ => ⟨j, _, hj, List.getElem?_eq_getElem h, hc⟩, fun ⟨j, s, hj, hs, hc⟩ => by
      obtain ⟨h, rfl⟩ := List.getElem?_eq_some_iff.mp hs; exact ⟨j, hj, h, hc⟩⟩

omit [Num α] in
instance decWellFormed (n : Nat) (steps : List (Step α)) : Decidable (WellFormed n steps) :=
  decidable_of_iff (steps.length = n - 1 ∧
      (∀ i (h : i < steps.length), steps[i].c1 < steps[i].c2 ∧ steps[i].c2 < n + i) ∧
      (∀ i (h : i < steps.length),
        ¬ UsedBefore steps i steps[i].c1 ∧ ¬ UsedBefore steps i steps[i].c2) ∧
      ∀ i (h : i < steps.length), steps[i].size = sz n steps steps[i].c1 + sz n steps steps[i].c2)
    ⟨fun ⟨a, b, c, d⟩ => ⟨a, (forall_getElem?_iff ..).2 b, (forall_getElem?_iff ..).2 c,
      (forall_getElem?_iff ..).2 d⟩,
     fun W => ⟨W.len, (forall_getElem?_iff ..).1 W.ordered, (forall_getElem?_iff ..).1 W.fresh,
      (forall_getElem?_iff ..).1 W.size⟩⟩

/-- A fact about all pairs below a literal `n`, with each bound next to its variable: the form `decide`
evaluates. -/
theorem forall_lt_pairs {n : Nat} {P : Nat → Nat → Prop} (h : ∀ i, i < n → ∀ j, j < n → P i j) :
    ∀ i j, i < n → j < n → P i j := fun i j hi hj => h i hi j hj

end Kodama.Spec
