/-
The sentinel hypothesis `GenericSafe m data` (`Lemmas/ComposeExact.lean`) is inherited by a
renumbered matrix: if `data'` is `data` with rows and columns renumbered by a permutation `π`
(characterised entrywise, as in `Props/C11.lean`) and both have a valid shape, then every slot of
`data'` is a slot of `data`, so the same good set works.  Used by `Props/C11Generic.lean`.
(`InfSafe`, `NoNaN` and `InfTop` are entrywise statements and are inherited directly: `entries_perm`.)
-/
import Kodama.Lemmas.ComposeExact
import Kodama.Lemmas.SpecPerm
import Kodama.Lemmas.OnSquares
namespace Kodama
open Spec
variable {K : Type} [Field K] [LinearOrder K] [Num K]

omit [Field K] in
theorem genericSafe_perm {n : Nat} {π ρ : Nat → Nat} {m : Method} {data data' : Array K}
    (hπ : IsPerm n π ρ) (hl : 2 * data.size = n * (n - 1)) (hl' : 2 * data'.size = n * (n - 1))
    (hperm : ∀ i j, i < n → j < n →
      entry n data' Num.infinity i j = entry n data Num.infinity (π i) (π j))
    (S : GenericSafe m data) : GenericSafe m data' := by
  obtain ⟨G, hG, hcl, hin⟩ := S
  refine ⟨G, hG, hcl, ?_⟩
  have hslot : ∀ k (h : k < data.size), G (if m.onSquares then Num.mul data[k] data[k] else data[k]) := by
    intro k hk
    have hk' : k < (squareData m data).size := by rw [squareData_size]; exact hk
    have := hin k hk'
    unfold squareData at this
    cases hsq : m.onSquares
    · simpa [hsq] using this
    · simpa [hsq] using this
  refine squareData_good m data' ?_
  intro v hv
  obtain ⟨k, hk, rfl⟩ := List.getElem_of_mem hv
  have hk' : k < data'.size := by simpa using hk
  obtain ⟨⟨i, j⟩, hp⟩ : ∃ p, (pairs n)[k]? = some p :=
    ⟨_, List.getElem?_eq_getElem (by have := pairs_length n; omega)⟩
  obtain ⟨hij, hjn, e⟩ := slot_is_entry n data' Num.infinity k hk' i j hp
  have hin' : i < n := by omega
  have hne : π i ≠ π j := fun e' => Nat.ne_of_lt hij (hπ.inj hin' hjn e')
  obtain ⟨k₂, hk₂, -, e₂⟩ := entry_is_slot n data Num.infinity hl (π i) (π j) (hπ.lt i hin')
    (hπ.lt j hjn) hne
  have : data'.toList[k] = data[k₂] := by
    rw [Array.getElem_toList, ← e, hperm i j hin' hjn, e₂]
  rw [this]
  exact hslot k₂ hk₂

end Kodama

namespace Kodama
open Spec
variable {α : Type} [Num α]

section
variable {n : Nat} {π ρ : Nat → Nat} {data data' : Array α} (hπ : IsPerm n π ρ)
  (hperm : ∀ i j, i < n → j < n →
    entry n data' Num.infinity i j = entry n data Num.infinity (π i) (π j))
include hπ hperm

/-- What holds of every off-diagonal entry is inherited by the renumbered matrix. -/
theorem entries_perm {P : α → Prop}
    (h : ∀ u v, u < n → v < n → u ≠ v → P (entry n data Num.infinity u v)) :
    ∀ u v, u < n → v < n → u ≠ v → P (entry n data' Num.infinity u v) := by
  intro u v hu hv huv
  rw [hperm u v hu hv]
  exact h _ _ (hπ.lt u hu) (hπ.lt v hv) fun e => huv (hπ.inj hu hv e)

theorem noNaN_perm (hnan : NoNaN n data) : NoNaN n data' :=
  entries_perm (P := fun x => Num.isNaN x = false) hπ hperm hnan

theorem infTop_perm (hinf : InfTop n data) : InfTop n data' :=
  ⟨hinf.1, entries_perm (P := fun x => Num.lt Num.infinity x = false) hπ hperm hinf.2⟩

theorem infSafe_perm [LinearOrder α] (h : InfSafe n data) : InfSafe n data' :=
  entries_perm (P := (· ≤ Num.infinity)) hπ hperm h

end

/-- Inputs in a good set (for a method that does not work on squares) have no NaN entry. -/
theorem noNaN_of_good {G : α → Prop} (gs : GoodSet G) (m : Method)
    (hm : m.onSquares = false) (n : Nat) (data : Array α) (hl : 2 * data.size = n * (n - 1))
    (hin : ∀ i (h : i < (squareData m data).size), G (squareData m data)[i]) : NoNaN n data := by
  intro u v hu hv huv
  obtain ⟨k, hk, -, e⟩ := entry_is_slot n data Num.infinity hl u v hu hv huv
  rw [e]
  have hk' : k < (squareData m data).size := by rw [squareData_size]; exact hk
  have := hin k hk'
  unfold squareData at this
  simp only [hm] at this
  exact gs.notNaN _ (by simpa using this)

end Kodama
