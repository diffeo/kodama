/-
A concrete exact-arithmetic run instance for the non-vacuity examples of the composition files
(`Props/C03Generic.lean`, `C06All.lean`, `C11Generic.lean`, `C02Generic.lean`, `C04Single.lean`):
`ratNumMax M` is `fieldNum ℚ` with both sentinels (`T::max_value()`, `T::infinity()`) set to `M`.
It satisfies `ExactLaws ℚ` and `BeqExact ℚ`.  (`fieldNum ℚ` itself has sentinels `0`, so the sentinel
hypotheses of `generic_with` / `mst_with` would restrict it to negative / non-positive entries.)
-/
import Kodama.Lemmas.ComposeExact
import Mathlib.Algebra.Order.Field.Rat
namespace Kodama

@[reducible] def ratNumMax (M : ℚ) : Num ℚ := { fieldNum ℚ with maxValue := M, infinity := M }

theorem ratNumMax_exact (M : ℚ) : @ExactLaws ℚ _ _ (ratNumMax M) :=
  @ExactLaws.mk ℚ _ _ (ratNumMax M)
    (@FieldLaws.mk ℚ _ _ (ratNumMax M) (fun _ _ => rfl) (fun _ _ => rfl) (fun _ _ => rfl)
      (fun _ _ => rfl) (fun _ _ => rfl) (fun _ => rfl) rfl rfl)
    (fun _ => rfl)

theorem ratNumMax_beq (M : ℚ) : @BeqExact ℚ _ _ (ratNumMax M) := fun _ _ => rfl

end Kodama
