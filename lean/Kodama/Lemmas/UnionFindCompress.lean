/-
Path compression is invisible to `relabel`.

`UF.findC` (Model/UnionFindC.lean) is the faithful `find` of src/union.rs with both `while let`
loops; `UF.find` (Model/UnionFind.lean) omits the second (compressing) loop.  Redirecting a non-root
to its own root changes the root of no label (`rootOf_compress_iff`) and keeps the shape `UFW`, so the
two models run in simulation (`RelR`) on union–finds related by `UFEq` (same `next`, same root for
every label), and `relabelC_rel` concludes: `relabel` and `relabelC` panic alike or return the same
dendrogram.
-/
import Kodama.Model.UnionFindC
import Kodama.Lemmas.UnionFindRefine
import Kodama.Lemmas.Reset
import Kodama.Lemmas.Simulation
namespace Kodama

def SameRoots (p q : Array Nat) : Prop :=
  p.size = q.size ∧ ∀ x r, RootOf p x r ↔ RootOf q x r

theorem SameRoots.refl (p : Array Nat) : SameRoots p p := ⟨rfl, fun _ _ => Iff.rfl⟩
theorem SameRoots.symm {p q : Array Nat} (h : SameRoots p q) : SameRoots q p :=
  ⟨h.1.symm, fun x r => (h.2 x r).symm⟩
theorem SameRoots.trans {p q s : Array Nat} (h : SameRoots p q) (h' : SameRoots q s) :
    SameRoots p s := ⟨h.1.trans h'.1, fun x r => (h.2 x r).trans (h'.2 x r)⟩

structure UFEq (u v : UF) : Prop where
  next : u.next = v.next
  wu : UFW u
  wv : UFW v
  same : SameRoots u.parents v.parents

theorem UFEq.refl {u : UF} (w : UFW u) : UFEq u u := ⟨rfl, w, w, SameRoots.refl _⟩
theorem UFEq.symm {u v : UF} (h : UFEq u v) : UFEq v u := ⟨h.next.symm, h.wv, h.wu, h.same.symm⟩
theorem UFEq.trans {u v w : UF} (h : UFEq u v) (h' : UFEq v w) : UFEq u w :=
  ⟨h.next.trans h'.next, h.wu, h'.wv, h.same.trans h'.same⟩

theorem getElem?_setIfInBounds_eq {p : Array Nat} {c v : Nat} (hc : c < p.size) (x : Nat) :
    (p.setIfInBounds c v)[x]? = if x = c then some v else p[x]? := by
  rw [Array.getElem?_setIfInBounds]
  by_cases h : c = x
  · subst h; simp [hc]
  · have : ¬ x = c := fun e => h e.symm
    simp [h, this]

theorem rootOf_compress_iff {p : Array Nat} {b c q root : Nat} (hinc : Incr p b) (hb : b ≤ p.size)
    (hq : p[c]? = some q) (hne : q ≠ c) (hroot : RootOf p c root) (x r : Nat) :
    RootOf p x r ↔ RootOf (p.setIfInBounds c root) x r := by
  have hc : c < p.size := (Array.getElem?_eq_some_iff.mp hq).1
  have hrr : p[root]? = some root := hroot.isRoot
  have hrc : root ≠ c := by
    intro e; rw [e, hq] at hrr; exact hne (Option.some.inj hrr)
  have hrr' : (p.setIfInBounds c root)[root]? = some root := by
    rw [getElem?_setIfInBounds_eq hc, if_neg hrc]; exact hrr
  have fwd : ∀ {x r}, RootOf p x r → RootOf (p.setIfInBounds c root) x r := by
    intro x r h
    induction h with
    | @root x hx =>
      have hxc : x ≠ c := by
        intro e; rw [e, hq] at hx; exact hne (Option.some.inj hx)
      exact .root (by rw [getElem?_setIfInBounds_eq hc, if_neg hxc]; exact hx)
    | @step x y r hy hyx hr ih =>
      by_cases hxc : x = c
      · subst hxc
        have : r = root := (RootOf.step hy hyx hr).unique hroot
        subst this
        exact .step (y := r) (by rw [getElem?_setIfInBounds_eq hc, if_pos rfl]) hrc (.root hrr')
      · exact .step (y := y) (by rw [getElem?_setIfInBounds_eq hc, if_neg hxc]; exact hy) hyx ih
  refine ⟨fwd, fun h => ?_⟩
  obtain ⟨r0, h0, rfl⟩ := (rootOf_iff_of_forward hinc hb (Array.size_setIfInBounds ..) (φ := id) fwd).1 h
  exact h0

/-- Redirecting a non-root `c` to the root of its parent keeps the union–find equivalent. -/
theorem UFEq.compress {u : UF} (w : UFW u) {c q root : Nat} (hq : u.parents[c]? = some q)
    (hne : q ≠ c) (hroot : RootOf u.parents q root) :
    UFEq u { u with parents := u.parents.setIfInBounds c root } := by
  have hc : c < u.parents.size := (Array.getElem?_eq_some_iff.mp hq).1
  have hcq : c < q ∧ q < u.next := (w.incr c q hq).resolve_left hne
  refine ⟨rfl, w, ⟨by simpa using w.le, fun x y hxy => ?_, fun x hx hxs => ?_⟩,
    Array.size_setIfInBounds.symm, rootOf_compress_iff w.incr w.le hq hne (.step hq hne hroot)⟩
  · simp only [getElem?_setIfInBounds_eq hc] at hxy
    by_cases hxc : x = c
    · rw [if_pos hxc] at hxy
      cases Option.some.inj hxy
      exact Or.inr ⟨hxc ▸ Nat.lt_of_lt_of_le hcq.1 (hroot.le w.incr), hroot.lt_bound w.incr hcq.2⟩
    · rw [if_neg hxc] at hxy; exact w.incr x y hxy
  · have hxs' : x < u.parents.size := by simpa using hxs
    have hxc : x ≠ c := fun e => hne (Option.some.inj (hq.symm.trans (e ▸ w.untouched x hx hxs')))
    exact (getElem?_setIfInBounds_eq hc x).trans ((if_neg hxc).trans (w.untouched x hx hxs'))

theorem compressAux_spec {root : Nat} :
    ∀ (f : Nat) (u : UF) (c : Nat), UFW u → RootOf u.parents c root → u.parents.size - c ≤ f →
      ∃ p', UF.compressAux root f u.parents c = .ok p' ∧ UFEq u { u with parents := p' } := by
  intro f
  induction f with
  | zero =>
    intro u c _ hroot hf
    have := hroot.inBounds
    omega
  | succ f ih =>
    intro u c w hroot hf
    have hc : c < u.parents.size := hroot.inBounds
    have hq : u.parents[c]? = some u.parents[c] := by simp [hc]
    simp only [UF.compressAux, aget_of_lt hc, bind, Except.bind]
    by_cases hqc : u.parents[c] = c
    · exact ⟨u.parents, by simp [hqc, pure, Except.pure], UFEq.refl w⟩
    · have hroot_q : RootOf u.parents u.parents[c] root := by
        cases hroot with
        | root h => rw [hq] at h; exact absurd (Option.some.inj h) hqc
        | step h _ hr => rw [hq] at h; cases Option.some.inj h; exact hr
      have hcq : c < u.parents[c] := ((w.incr c _ hq).resolve_left hqc).1
      have e := UFEq.compress w hq hqc hroot_q
      obtain ⟨p', h1, e'⟩ := ih _ u.parents[c] e.wv ((e.same.2 _ _).mp hroot_q)
        (by simp only [Array.size_setIfInBounds]; omega)
      exact ⟨p', by simp [hqc, aset_eq hc, h1], e.trans e'⟩

theorem find_oob {u : UF} {x : Nat} (hx : ¬ x < u.parents.size) : u.find x = .error .indexOOB := by
  have : u.parents[x]? = none := by simp; omega
  simp [UF.find, UF.findAux, aget, this, bind, Except.bind]

theorem UFEq.find_eq {u v : UF} (e : UFEq u v) (x : Nat) : u.find x = v.find x := by
  by_cases hx : x < u.parents.size
  · obtain ⟨r, hr⟩ := RootOf.exists e.wu.incr e.wu.le hx
    rw [find_eq_of_rootOf e.wu.incr e.wu.le hr,
      find_eq_of_rootOf e.wv.incr e.wv.le ((e.same.2 x r).mp hr)]
  · rw [find_oob hx, find_oob (by rw [← e.same.1]; exact hx)]

theorem findC_rel {u : UF} (w : UFW u) (x : Nat) :
    RelR (fun r (rv : Nat × UF) => rv.1 = r ∧ UFEq u rv.2) (u.find x) (u.findC x) := by
  cases hf : u.find x with
  | error p => simp only [UF.findC, hf, bind, Except.bind]; exact rfl
  | ok r =>
    have hroot : RootOf u.parents x r := findAux_sound _ _ _ hf
    obtain ⟨p', h1, e⟩ := compressAux_spec (root := r) (u.parents.size + 1) u x w hroot (by omega)
    have hc : u.findC x = .ok (r, { u with parents := p' }) := by
      simp [UF.findC, hf, h1, bind, Except.bind, pure, Except.pure]
    rw [hc]
    exact ⟨rfl, e⟩

theorem SameRoots.link {p q : Array Nat} {b r1 r2 nx : Nat} (h : SameRoots p q) (hinc : Incr p b)
    (hb : b ≤ p.size) (hincq : Incr q b) (h1 : p[r1]? = some r1) (h2 : p[r2]? = some r2)
    (hnx : p[nx]? = some nx) (hn1 : nx ≠ r1) (hn2 : nx ≠ r2) :
    SameRoots (linkP p r1 r2 nx) (linkP q r1 r2 nx) := by
  have q1 : q[r1]? = some r1 := ((h.2 _ _).mp (.root h1)).isRoot
  have q2 : q[r2]? = some r2 := ((h.2 _ _).mp (.root h2)).isRoot
  have qnx : q[nx]? = some nx := ((h.2 _ _).mp (.root hnx)).isRoot
  refine ⟨by rw [size_linkP, size_linkP, h.1], fun x r => ?_⟩
  rw [rootOf_linkP_iff hinc hb h1 h2 hnx hn1 hn2,
    rootOf_linkP_iff hincq (h.1 ▸ hb) q1 q2 qnx hn1 hn2]
  exact exists_congr fun r0 => and_congr_left fun _ => h.2 x r0

/-- `find` on `u` and the compressing `find` on an equivalent `v` panic alike or return the same root,
`v` staying equivalent to `u`. -/
theorem UFEq.findC_rel {u v : UF} (e : UFEq u v) (x : Nat) :
    RelR (fun r rv => ∃ v', rv = (r, v') ∧ UFEq u v') (u.find x) (v.findC x) :=
  e.find_eq x ▸ (Kodama.findC_rel e.wv x).mono fun _ rv h => ⟨rv.2, by rw [← h.1], e.trans h.2⟩

theorem unionC_rel {u v : UF} (e : UFEq u v) {r1 r2 : Nat} (h1 : u.parents[r1]? = some r1)
    (h2 : u.parents[r2]? = some r2) (l1 : r1 < u.next) (l2 : r2 < u.next) :
    RelR (fun u' v' => UFEq u' v' ∧ u.next ≤ u'.next) (u.union r1 r2) (v.unionC r1 r2) := by
  have f1 : u.find r1 = .ok r1 := find_eq_of_rootOf e.wu.incr e.wu.le (.root h1)
  have f2 : u.find r2 = .ok r2 := find_eq_of_rootOf e.wu.incr e.wu.le (.root h2)
  have s1 := (Array.getElem?_eq_some_iff.mp h1).1
  have s2 := (Array.getElem?_eq_some_iff.mp h2).1
  refine (e.findC_rel r1).bind' ?_
  rintro _ _ ⟨v1, rfl, e1⟩ hf1 -
  refine (e1.findC_rel r2).bind' ?_
  rintro _ _ ⟨v2, rfl, e2⟩ hf2 -
  cases f1.symm.trans hf1
  cases f2.symm.trans hf2
  have hsz : u.parents.size = v2.parents.size := e2.same.1
  have hnx : u.next = v2.next := e2.next
  refine RelR.ite ⟨e2, Nat.le_refl _⟩ ?_
  rw [u.linkTail_eq s1 s2, v2.linkTail_eq (hsz ▸ s1) (hsz ▸ s2), ← hnx, ← hsz]
  split
  · next hk =>
    refine ⟨⟨rfl, e.wu.link hk l1 l2,
      hnx ▸ e2.wv.link (hnx ▸ hsz ▸ hk) (hnx ▸ l1) (hnx ▸ l2), ?_⟩, Nat.le_succ _⟩
    exact e2.same.link e.wu.incr e.wu.le (hnx ▸ e2.wv.incr) h1 h2
      (e.wu.untouched _ (Nat.le_refl _) hk) (Nat.ne_of_gt l1) (Nat.ne_of_gt l2)
  · exact rfl

variable {α : Type}

theorem setClusters_lt (s : Step α) {r1 r2 b : Nat} (h1 : r1 < b) (h2 : r2 < b) :
    (s.setClusters r1 r2).c1 < b ∧ (s.setClusters r1 r2).c2 < b := by
  unfold Step.setClusters; split <;> exact ⟨‹_›, ‹_›⟩

/-- The loop states of `relabel` and `relabelC`: root-equivalent union–finds, the same steps, and
every label in them already known to the union–find (so each `find` starts below `next`; a rewritten
step holds two roots, which are below `next` as well). -/
def RelabelRel (a b : UF × Array (Step α)) : Prop :=
  UFEq a.1 b.1 ∧ a.2 = b.2 ∧
    ∀ (j : Nat) (s : Step α), a.2[j]? = some s → s.c1 < a.1.next ∧ s.c2 < a.1.next

theorem relabelStepC_rel {obs i : Nat} {a b : UF × Array (Step α)} (h : RelabelRel a b) :
    RelR RelabelRel (relabelStep obs a i) (relabelStepC obs b i) := by
  obtain ⟨uf, steps⟩ := a
  obtain ⟨ufC, stepsC⟩ := b
  obtain ⟨e, hs, hlab⟩ := h
  simp only at e hs hlab
  subst hs
  refine RelR.bind_same' fun s hs => ?_
  obtain ⟨hc1, hc2⟩ := hlab i s (aget_ok.mp hs |> fun ⟨hi, hsi⟩ => by simp [hi, hsi])
  refine (e.findC_rel s.c1).bind' ?_
  rintro r1 _ ⟨v1, rfl, e1⟩ hf1 -
  refine (e1.findC_rel s.c2).bind' ?_
  rintro r2 _ ⟨v2, rfl, e2⟩ hf2 -
  have hr1 : RootOf uf.parents s.c1 r1 := findAux_sound _ _ _ hf1
  have hr2 : RootOf uf.parents s.c2 r2 := findAux_sound _ _ _ hf2
  have l1 : r1 < uf.next := hr1.lt_bound e.wu.incr hc1
  have l2 : r2 < uf.next := hr2.lt_bound e.wu.incr hc2
  refine (unionC_rel e2 hr1.isRoot hr2.isRoot l1 l2).bind' fun u' v' ⟨e', hnext⟩ _ _ => ?_
  refine RelR.bind_same fun z1 => RelR.bind_same fun z2 => RelR.bind_same' fun st hst => ?_
  refine ⟨e', rfl, fun j t ht => ?_⟩
  obtain ⟨_, rfl⟩ := aset_ok.mp hst
  simp only [Array.getElem?_set] at ht
  split at ht
  · cases ht
    obtain ⟨k1, k2⟩ := setClusters_lt s l1 l2
    exact ⟨Nat.lt_of_lt_of_le k1 hnext, Nat.lt_of_lt_of_le k2 hnext⟩
  · obtain ⟨k1, k2⟩ := hlab j t ht
    exact ⟨Nat.lt_of_lt_of_le k1 hnext, Nat.lt_of_lt_of_le k2 hnext⟩

theorem relabelLoopC_rel (obs : Nat) (steps : Array (Step α))
    (horig : ∀ (j : Nat) (s : Step α), steps[j]? = some s → s.c1 < obs ∧ s.c2 < obs) :
    RelR RelabelRel
      ((List.range steps.size).foldlM (relabelStep obs) (UF.fresh obs, steps))
      ((List.range steps.size).foldlM (relabelStepC obs) (UF.fresh obs, steps)) :=
  foldlM_rel RelabelRel (relabelStep obs) (relabelStepC obs) (fun _ _ _ h => relabelStepC_rel h)
    _ _ _ ⟨UFEq.refl (UFW.fresh obs), rfl, horig⟩

variable [Num α]

theorem sortSteps_mem {steps steps0 : Array (Step α)} (h : sortSteps steps = .ok steps0) :
    ∀ s ∈ steps0.toList, s ∈ steps.toList := by
  unfold sortSteps at h
  split at h
  · cases h
  · cases pure_ok.mp h
    intro s hs
    exact (List.mergeSort_perm steps.toList stepLe).mem_iff.mp (by simpa using hs)

/-- For every method, every prior content of the union–find and every raw dendrogram whose step
labels are observation indices (true of a raw spanning tree: `labels_of_rawTree`,
Props/C01Compress.lean), `relabel` (no compression) and `relabelC` (compressing `find`, as in
src/union.rs) panic alike or return the same dendrogram; the returned union–finds are not compared. -/
theorem relabelC_rel (m : Method) (uf0 : UF) (d : Dendrogram α)
    (hlab : ∀ s ∈ d.steps.toList, s.c1 < d.obs ∧ s.c2 < d.obs) :
    RelR (fun a b => a.2 = b.2) (relabel m uf0 d) (relabelC m uf0 d) := by
  have loop : ∀ steps : Array (Step α), (∀ s ∈ steps.toList, s ∈ d.steps.toList) →
      RelR (fun (a b : UF × Dendrogram α) => a.2 = b.2)
        ((List.range steps.size).foldlM (relabelStep d.obs) (UF.fresh d.obs, steps) >>= fun x =>
          pure (x.1, { d with steps := x.2 }))
        ((List.range steps.size).foldlM (relabelStepC d.obs) (UF.fresh d.obs, steps) >>= fun x =>
          pure (x.1, { d with steps := x.2 })) := fun steps hmem =>
    RelR.bind' (relabelLoopC_rel d.obs steps fun j s hj => hlab s (hmem s
      (Array.mem_toList_iff.mpr (Array.mem_of_getElem? hj)))) (fun a b h _ _ =>
      congrArg (fun st => ({ d with steps := st } : Dendrogram α)) h.2.1)
  unfold relabelC relabel
  simp only [ufReset_eq_fresh]
  split
  · exact RelR.bind_same' (fun steps hsteps => loop steps (sortSteps_mem hsteps))
  · exact loop d.steps (fun _ h => h)

end Kodama
