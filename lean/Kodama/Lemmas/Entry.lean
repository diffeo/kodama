/- What the property theorems share: the routes of `linkage_with` as equations, `runWith` at a fixed
algorithm, that single and complete linkage are `ChainReducible` outright, and the structural tails
of the entry points — `relabel` on a raw spanning tree followed by `sqrt` on the heights is well
formed and returns normally or stops in the NaN panic of the sort.  No law about the number
operations is used. -/
import Kodama.Lemmas.Tail
import Kodama.Lemmas.RelabelWF
import Kodama.Lemmas.OnSquares
import Kodama.Lemmas.ChainIter
namespace Kodama
open Spec
variable {α : Type} [Num α]

theorem linkage_single_eq (chk : Bool) (st : State α) (d : Dendrogram α) (data : Array α)
    (n : Nat) : linkageWith chk .single st d data n = mstWith chk st d data n := rfl

theorem linkageWith_nnchain (chk : Bool) (m : Method) (mc : MethodChain) (hm : m ≠ .single)
    (hmc : m.intoMethodChain = some mc) (st : State α) (d : Dendrogram α) (data : Array α)
    (n : Nat) : linkageWith chk m st d data n = nnchainWith chk mc st d data n := by
  refine linkageWith_cases (P := fun f => f st d data n = _) chk m (fun h => absurd h hm) ?_ ?_
  · intro mc' _ hmc' _
    cases hmc.symm.trans hmc'
    rfl
  · rintro (rfl | rfl) <;> cases hmc

theorem linkageWith_generic (chk : Bool) (m : Method) (hm : m = .centroid ∨ m = .median)
    (st : State α) (d : Dendrogram α) (data : Array α) (n : Nat) :
    linkageWith chk m st d data n = genericWith chk m st d data n := by
  rcases hm with rfl | rfl <;> rfl

theorem runWith_primitive (chk : Bool) (m : Method) (st : State α) (d : Dendrogram α)
    (data : Array α) (n : Nat) :
    runWith chk .primitive m st d data n = primitiveWith chk m st d data n := rfl

theorem runWith_nnchain {m : Method} {mc : MethodChain} (h : m.intoMethodChain = some mc)
    (chk : Bool) (st : State α) (d : Dendrogram α) (data : Array α) (n : Nat) :
    runWith chk .nnchain m st d data n = nnchainWith chk mc st d data n := by
  simp only [runWith, h]

theorem MethodChain.intoMethodChain_intoMethod (mc : MethodChain) :
    mc.intoMethod.intoMethodChain = some mc := by
  cases mc <;> rfl

theorem chainReducible_single_complete (mc : MethodChain) (hmc : mc = .single ∨ mc = .complete) :
    ChainReducible α mc := by
  rcases hmc with rfl | rfl
  · exact chainReducible_single
  · exact chainReducible_complete

theorem squareData_single_complete (mc : MethodChain) (hmc : mc = .single ∨ mc = .complete)
    (data : Array α) : squareData mc.intoMethod data = data :=
  squareData_of_not_onSquares (by rcases hmc with rfl | rfl <;> rfl) data

/-- Well-formedness does not look at the heights. -/
theorem wellFormed_sqrtSteps (m : Method) (n : Nat) (d : Dendrogram α)
    (h : WellFormed n d.steps.toList) : WellFormed n (sqrtSteps m d).steps.toList := by
  unfold sqrtSteps
  split
  · rw [Array.toList_map]
    exact h.map _ fun _ => ⟨rfl, rfl, rfl⟩
  · exact h

theorem sqrtSteps_obs (m : Method) (d : Dendrogram α) : (sqrtSteps m d).obs = d.obs := by
  unfold sqrtSteps; split <;> rfl

/-- On a spanning tree `relabel` either succeeds or stops in the sort's NaN panic. -/
theorem relabel_ok_or_nan (m : Method) (uf0 : UF) (d : Dendrogram α) (n : Nat) (hn : 2 ≤ n)
    (hobs : d.obs = n) (hraw : Spec.RawTree n (rawOf d)) :
    (∃ r, relabel m uf0 d = .ok r) ∨ relabel m uf0 d = .error .nanInSort := by
  by_cases hm : m.requiresSorting = true
  · by_cases hnan : d.steps.size ≥ 2 ∧ d.steps.any (fun s => Num.isNaN s.d) = true
    · right
      unfold relabel
      simp only [hm, if_true, sortSteps, hnan, and_self, bind, Except.bind]
    · left
      apply relabel_total m uf0 d n hn hobs hraw
      by_cases hsz : d.steps.size < 2
      · exact Or.inr (Or.inl hsz)
      · right; right
        intro s hs
        have hany : ¬ d.steps.any (fun s => Num.isNaN s.d) = true := fun h => hnan ⟨by omega, h⟩
        simp only [Array.any_eq_true, not_exists, Bool.not_eq_true] at hany
        obtain ⟨i, hi, rfl⟩ := List.getElem_of_mem hs
        simpa using hany i (by simpa using hi)
  · left
    exact relabel_total m uf0 d n hn hobs hraw (Or.inl (by simpa using hm))

/-! What the structural properties read off a call that is a loop leaving a spanning tree, then
`relabelTail`. -/
namespace LoopTail
variable {m : Method} {n : Nat} {P : State α → Dendrogram α → Mat α → Prop}
  {call : R (State α × Dendrogram α × Mat α)}

/-- C01 of a call in this form: `relabel` on a raw spanning tree, then `sqrt` on the heights, is well
formed. -/
theorem wf (h : LoopTail m P call) (hP : ∀ st d M, P st d M → d.obs = n ∧ RawTree n (rawOf d))
    (h2 : 2 ≤ n) {st' : State α} {d' : Dendrogram α} {M' : Mat α}
    (e : call = .ok (st', d', M')) : d'.obs = n ∧ WellFormed n d'.steps.toList := by
  obtain ⟨st1, dend1, M1, hp, rfl⟩ := h
  obtain ⟨⟨uf, rel⟩, hrel, hr⟩ := bind_ok.mp e
  cases pure_ok.mp hr
  rw [sqrtSteps_obs]
  have := relabel_wellFormed m st1.set uf dend1 rel n h2 (hP _ _ _ hp).1 (hP _ _ _ hp).2 hrel
  exact ⟨this.1, wellFormed_sqrtSteps m n rel this.2⟩

/-- C12 of a call in this form: it returns normally or stops in the sort's NaN panic. -/
theorem total (h : LoopTail m P call) (hP : ∀ st d M, P st d M → d.obs = n ∧ RawTree n (rawOf d))
    (h2 : 2 ≤ n) : (∃ r, call = .ok r) ∨ call = .error .nanInSort := by
  obtain ⟨st1, dend1, M1, hp, rfl⟩ := h
  rcases relabel_ok_or_nan m st1.set dend1 n h2 (hP _ _ _ hp).1 (hP _ _ _ hp).2 with ⟨r, hr⟩ | hr
  · left; exact ⟨_, by rw [relabelTail, hr]; rfl⟩
  · right; rw [relabelTail, hr]; rfl

/-- … and returns normally when the raw heights are not NaN. -/
theorem ok (h : LoopTail m P call) (hP : ∀ st d M, P st d M → d.obs = n ∧ RawTree n (rawOf d) ∧
    ∀ s ∈ d.steps.toList, Num.isNaN s.d = false) (h2 : 2 ≤ n) : ∃ r, call = .ok r := by
  obtain ⟨st1, dend1, M1, hp, rfl⟩ := h
  obtain ⟨hobs, hraw, hnan⟩ := hP _ _ _ hp
  obtain ⟨r, hr⟩ := relabel_total m st1.set dend1 n h2 hobs hraw (Or.inr (Or.inr hnan))
  exact ⟨_, by rw [relabelTail, hr]; rfl⟩

/-- The matrix handed back is the loop's: what `P` says of it (the access count, for C14) holds of the
result. -/
theorem mat (h : LoopTail m P call) {st' : State α} {d' : Dendrogram α} {M' : Mat α}
    (e : call = .ok (st', d', M')) : ∃ st1 d1, P st1 d1 M' := by
  obtain ⟨st1, dend1, M1, hp, rfl⟩ := h
  obtain ⟨r, -, hr⟩ := bind_ok.mp e
  cases pure_ok.mp hr
  exact ⟨_, _, hp⟩

end LoopTail

end Kodama
