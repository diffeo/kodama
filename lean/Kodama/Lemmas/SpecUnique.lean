/-
Uniqueness of the greedy run from a common state when one of the two runs never meets a tie.
No number law is used: the strict minimum of run 1 (`TieFreeFrom`) and the "nothing strictly
closer" clause of run 2 (`Admissible`) contradict each other directly unless the pairs coincide.
-/
import Kodama.Lemmas.SpecReplay
namespace Kodama.Spec
variable {α : Type} [Num α]

/-- Two admissible steps in the same state, the first being the strict minimum, are equal.  Of the
first only the clauses that the strict minimum does not already imply are asked for. -/
theorem admissible_unique {m : Method} {s : NState α} {st1 st2 : Step α}
    (h1 : st1.c1 ∈ s.live ∧ st1.c2 ∈ s.live ∧ st1.c1 < st1.c2 ∧
      st1.d = post m (s.D st1.c1 st1.c2) ∧ st1.size = s.size st1.c1 + s.size st1.c2)
    (h2 : Admissible m s st2)
    (ht : ∀ x ∈ s.live, ∀ y ∈ s.live, x < y → (x, y) ≠ (st1.c1, st1.c2) →
        Num.lt (s.D st1.c1 st1.c2) (s.D x y) = true) :
    st1 = st2 := by
  obtain ⟨a1, b1, o1, d1, z1⟩ := h1
  obtain ⟨a2, b2, o2, min2, d2, z2⟩ := h2
  have hp : (st2.c1, st2.c2) = (st1.c1, st1.c2) := by
    by_cases hp : (st2.c1, st2.c2) = (st1.c1, st1.c2)
    · exact hp
    · have ht' := ht st2.c1 a2 st2.c2 b2 o2 hp
      have hm := min2 st1.c1 a1 st1.c2 b1 (by omega)
      rw [hm] at ht'; cases ht'
  have e1 : st2.c1 = st1.c1 := congrArg Prod.fst hp
  have e2 : st2.c2 = st1.c2 := congrArg Prod.snd hp
  cases st1; cases st2
  simp only at e1 e2 d1 d2 z1 z2
  subst e1 e2
  simp [d1, d2, z1, z2]

theorem greedyFrom_unique {m : Method} (s : NState α) (l1 l2 : List (Step α))
    (hlen : l1.length = l2.length)
    (h1 : GreedyFrom m s l1) (h2 : GreedyFrom m s l2) (ht : TieFreeFrom m s l1) : l1 = l2 := by
  induction l1 generalizing s l2 with
  | nil =>
    cases l2 with
    | nil => rfl
    | cons _ _ => simp at hlen
  | cons st1 r1 ih =>
    cases l2 with
    | nil => simp at hlen
    | cons st2 r2 =>
      obtain ⟨a1, g1⟩ := h1
      obtain ⟨a2, g2⟩ := h2
      obtain ⟨t1, tr⟩ := ht
      have e := admissible_unique ⟨a1.mem1, a1.mem2, a1.lt, a1.height, a1.size⟩ a2 t1
      subst e
      rw [ih _ r2 (by simpa using hlen) g1 g2 tr]

end Kodama.Spec
