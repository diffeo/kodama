/-
The condensed layout: the generated index expression against `Spec.pairs` (the lemmas behind C07),
the shape guard, and what a read of a valid matrix returns (`Mat.dval M x y`, the entry of the
unordered pair `{x, y}`; `Mat.get_dval`).
-/
import Kodama.Spec.Pairs
import Kodama.Generated.Condensed
import Kodama.Model.Mat
import Kodama.Num
import Kodama.Lemmas.Except
namespace Kodama
open Spec

theorem off_succ (n r : Nat) : off n (r+1) = off n r + (n - (r+1)) := by
  simp [off, pairsUpTo, rowPairs]

/-- `off n r = n·r - r(r+1)/2`, without subtraction or division. -/
theorem two_off_add (n r : Nat) (h : r ≤ n) : 2 * off n r + r * (r + 1) = 2 * n * r := by
  induction r with
  | zero => simp [off, pairsUpTo]
  | succ r ih =>
    have ih := ih (by omega)
    rw [off_succ, Nat.mul_add_one (r + 1), Nat.add_one_mul r, Nat.mul_add_one (2 * n)]
    omega

theorem two_off (n r : Nat) (h : r + 1 ≤ n) : 2 * off n r = (2 * n - r - 1) * r := by
  have h1 := two_off_add n r (by omega)
  have h2 : (2 * n - r - 1) * r + r * (r + 1) = 2 * n * r := by
    rw [Nat.mul_comm r (r + 1), ← Nat.add_mul]
    congr 1
    omega
  omega

/-- The hand-normalised form of the index: offset of the row plus position in the row. -/
theorem idxN_eq (n r c : Nat) (hrc : r < c) (hcn : c < n) :
    Gen.idxN n r c = off n r + (c - (r + 1)) := by
  unfold Gen.idxN
  have h2 := two_off_add n r (by omega)
  have h3 : (2 * n - r - 3) * r + r * (r + 1) + 2 * r = 2 * n * r := by
    rw [Nat.mul_comm r (r + 1), ← Nat.add_mul, ← Nat.add_mul]
    congr 1
    omega
  omega

theorem pairs_get (n r c : Nat) (hrc : r < c) (hcn : c < n) :
    (pairs n)[off n r + (c - (r + 1))]? = some (r, c) := by
  have key : ∀ m, r < m → m ≤ n - 1 → (pairsUpTo n m)[off n r + (c - (r+1))]? = some (r, c) := by
    intro m hm hmn
    induction m with
    | zero => omega
    | succ m ih =>
      simp only [pairsUpTo]
      by_cases hrm : r = m
      · subst hrm
        rw [List.getElem?_append_right (by simp [off])]
        simp [off, rowPairs]
        refine ⟨c - (r+1), ?_, by omega⟩
        rw [List.getElem?_range (by omega)]
      · have := ih (by omega) (by omega)
        rw [List.getElem?_append_left]; exact this
        have := List.getElem?_eq_some_iff.mp this
        exact this.1
  exact key (n-1) (by omega) (Nat.le_refl _)

theorem pairs_length (n : Nat) : 2 * (pairs n).length = n * (n - 1) := by
  have h := two_off_add n (n - 1) (by omega)
  rw [Nat.mul_assoc, Nat.mul_comm (n - 1)] at h
  rcases Nat.eq_zero_or_pos n with h0 | h0
  · subst h0; rfl
  · rw [Nat.sub_add_cancel h0] at h
    unfold pairs
    unfold off at h
    omega

theorem mem_pairsUpTo (n m : Nat) (p : Nat × Nat) (h : p ∈ pairsUpTo n m) (hm : m ≤ n) :
    p.1 < p.2 ∧ p.2 < n ∧ p.1 < m := by
  induction m with
  | zero => simp [pairsUpTo] at h
  | succ m ih =>
    simp only [pairsUpTo, List.mem_append] at h
    rcases h with h | h
    · have := ih h (by omega); omega
    · simp only [rowPairs, List.mem_map, List.mem_range] at h
      obtain ⟨k, hk, rfl⟩ := h
      simp; omega

theorem idxM_eq_idxN (chk : Bool) (n r c : Nat) (hrc : r < c) (hcn : c < n)
    (hn : n < 2147483648) : Gen.idxM chk n r c = .ok (Gen.idxN n r c) := by
  have h1 : 2 * n < usizeMod := by unfold usizeMod; omega
  have h4 : (2 * n - r - 3) * r ≤ 4294967296 * 2147483648 :=
    Nat.mul_le_mul (by omega) (by omega)
  have h5 : (2 * n - r - 3) * r / 2 + c < usizeMod := by unfold usizeMod; omega
  unfold Gen.idxM Gen.idxN
  rw [umul_ok chk h1, ok_bind, usub_of_le chk (by omega), ok_bind, usub_of_le chk (by omega),
    ok_bind, umul_ok chk (by unfold usizeMod; omega), ok_bind,
    show udiv chk ((2 * n - r - 3) * r) 2 = .ok ((2 * n - r - 3) * r / 2) from rfl, ok_bind,
    uadd_ok chk h5, ok_bind, usub_of_le chk (by omega)]

theorem idxN_lt (n r c : Nat) (hrc : r < c) (hcn : c < n) : 2 * Gen.idxN n r c + 2 ≤ n * (n - 1) := by
  rw [idxN_eq n r c hrc hcn]
  have h := pairs_get n r c hrc hcn
  have hlt := (List.getElem?_eq_some_iff.mp h).1
  have hl := pairs_length n
  omega

theorem idxN_injective (n r c r' c' : Nat) (h1 : r < c) (h2 : c < n) (h3 : r' < c') (h4 : c' < n)
    (h : Gen.idxN n r c = Gen.idxN n r' c') : r = r' ∧ c = c' := by
  have e1 := pairs_get n r c h1 h2
  have e2 := pairs_get n r' c' h3 h4
  rw [← idxN_eq n r c h1 h2] at e1
  rw [← idxN_eq n r' c' h3 h4, ← h, e1] at e2
  simpa using e2

theorem pairs_idxN (n r c : Nat) (hrc : r < c) (hcn : c < n) :
    (pairs n)[Gen.idxN n r c]? = some (r, c) := by
  rw [idxN_eq n r c hrc hcn]
  exact pairs_get n r c hrc hcn

theorem pairs_getElem_idxN (n k : Nat) (hk : k < (pairs n).length) :
    (pairs n)[k].1 < (pairs n)[k].2 ∧ (pairs n)[k].2 < n ∧
    Gen.idxN n (pairs n)[k].1 (pairs n)[k].2 = k := by
  have hmem : (pairs n)[k] ∈ pairsUpTo n (n - 1) := List.getElem_mem hk
  have hv := mem_pairsUpTo n (n - 1) _ hmem (by omega)
  refine ⟨hv.1, hv.2.1, ?_⟩
  -- induction on the number `m` of rows of `pairsUpTo n m`
  have key : ∀ m, m ≤ n - 1 → ∀ k (hk : k < (pairsUpTo n m).length),
      (pairsUpTo n m)[k].1 < (pairsUpTo n m)[k].2 ∧ (pairsUpTo n m)[k].2 < n →
      off n (pairsUpTo n m)[k].1 + ((pairsUpTo n m)[k].2 - ((pairsUpTo n m)[k].1 + 1)) = k := by
    intro m
    induction m with
    | zero => intro _ k hk; simp [pairsUpTo] at hk
    | succ m ih =>
      intro hm k hk hv
      simp only [pairsUpTo] at hk hv ⊢
      by_cases hlt : k < (pairsUpTo n m).length
      · rw [List.getElem_append_left hlt] at hv ⊢
        exact ih (by omega) k hlt hv
      · have hge : (pairsUpTo n m).length ≤ k := by omega
        rw [List.getElem_append_right hge] at hv ⊢
        simp only [rowPairs, List.getElem_map, List.getElem_range] at hv ⊢
        simp only [off]
        omega
  rw [idxN_eq n _ _ hv.1 hv.2.1]
  exact key (n - 1) (Nat.le_refl _) k hk ⟨hv.1, hv.2.1⟩

theorem two_le_mul_pred {n : Nat} (h : 2 ≤ n) : 2 ≤ n * (n - 1) :=
  Nat.mul_le_mul h (show 1 ≤ n - 1 by omega)

/-- The product in the guard does not overflow for `n < 2^32`. -/
theorem mul_pred_lt {n : Nat} (hn : n < 4294967296) : n * (n - 1) < usizeMod :=
  calc n * (n - 1) ≤ 4294967296 * 4294967295 := Nat.mul_le_mul (by omega) (by omega)
    _ < usizeMod := by decide

/-- The guard with everything evaluated except the one product that can overflow. -/
theorem shapeM_eq_umul (chk : Bool) (len n : Nat) :
    Gen.shapeM chk len n =
      if len = 0 then (if n ≤ 1 then .ok 0 else .error .shape)
      else if 2 ≤ n then
        umul chk n (n - 1) >>= fun t => if t / 2 = len then .ok n else .error .shape
      else .error .shape := by
  unfold Gen.shapeM
  by_cases hl : len = 0
  · rw [if_pos (decide_eq_true hl), if_pos hl]
    by_cases h1 : n ≤ 1
    · rw [if_pos h1, decide_eq_true h1]; rfl
    · rw [if_neg h1, decide_eq_false h1]; rfl
  · rw [if_neg (by simpa using hl), if_neg hl]
    by_cases h2 : 2 ≤ n
    · rw [if_pos h2, decide_eq_true (show n ≥ 2 from h2), usub_of_le chk (show 1 ≤ n by omega)]
      have hdiv : ∀ t, udiv chk t 2 = .ok (t / 2) := fun _ => rfl
      simp only [bind, Except.bind, guard', if_true, hdiv]
      cases umul chk n (n - 1) with
      | error p => rfl
      | ok t =>
        by_cases he : t / 2 = len
        · simp only [he, decide_true, if_true]; rfl
        · simp only [he, decide_false, if_false]; rfl
    · rw [if_neg h2, decide_eq_false (show ¬ n ≥ 2 from h2)]; rfl

/-- The guard when the product does not overflow, in either build mode. -/
theorem shapeM_eq (chk : Bool) (len n : Nat) (h : n * (n - 1) < usizeMod) :
    Gen.shapeM chk len n =
      if len = 0 then (if n ≤ 1 then .ok 0 else .error .shape)
      else if 2 ≤ n ∧ n * (n - 1) / 2 = len then .ok n else .error .shape := by
  rw [shapeM_eq_umul, umul_ok chk h]
  by_cases h2 : 2 ≤ n
  · simp only [h2, true_and, if_true]; rfl
  · simp only [h2, false_and, if_false]

/-- The guard of the unchecked build on a non-empty matrix: the product wraps. -/
theorem shapeM_wrap (len n : Nat) (hl : len ≠ 0) :
    Gen.shapeM false len n =
      if 2 ≤ n ∧ n * (n - 1) % usizeMod / 2 = len then .ok n else .error .shape := by
  rw [shapeM_eq_umul, if_neg hl, umul_false]
  by_cases h2 : 2 ≤ n
  · simp only [h2, true_and, if_true]; rfl
  · simp only [h2, false_and, if_false]

/-- The guard of the checked build on a non-empty matrix: an overflowing product panics. -/
theorem shapeM_overflow (len n : Nat) (hl : len ≠ 0) (h2 : 2 ≤ n) (h : ¬ n * (n - 1) < usizeMod) :
    Gen.shapeM true len n = .error .arith := by
  rw [shapeM_eq_umul, if_neg hl, if_pos h2, umul_overflow h]
  rfl

/-- A matrix of valid shape for `2 ≤ n < 2^31` observations.  The bound `2^31` is there so that the
product `(2n−r−3)·r` in the index expression stays below `2^64` (`idxM_eq_idxN`): no arithmetic panic
in the checked build, no wrap in the unchecked one. -/
structure Mat.Valid {α : Type} (M : Mat α) : Prop where
  two_le : 2 ≤ M.n
  small : M.n < 2147483648
  size : 2 * M.data.size = M.n * (M.n - 1)

theorem Mat.idx_ok {α : Type} (chk : Bool) (M : Mat α) (r c : Nat) (hrc : r < c) (hcn : c < M.n)
    (hn : M.n < 2147483648) : M.idx chk r c = .ok (Gen.idxN M.n r c) := by
  have hd : Gen.idxDebugOk M.n r c = true := by simp [Gen.idxDebugOk, hrc, hcn]
  unfold Mat.idx
  rw [idxM_eq_idxN chk M.n r c hrc hcn hn]
  cases chk <;> simp [guard', hd, bind, Except.bind]

theorem Mat.get_eq_aget {α : Type} (chk : Bool) (M : Mat α) (r c : Nat) (hrc : r < c)
    (hcn : c < M.n) (hn : M.n < 2147483648) : M.get chk r c = aget M.data (Gen.idxN M.n r c) := by
  unfold Mat.get
  rw [Mat.idx_ok chk M r c hrc hcn hn]
  rfl

theorem Mat.set_eq_aset {α : Type} (chk : Bool) (M : Mat α) (r c : Nat) (v : α) (hrc : r < c)
    (hcn : c < M.n) (hn : M.n < 2147483648) :
    M.set chk r c v = (aset M.data (Gen.idxN M.n r c) v).map (fun d => { M with data := d }) := by
  unfold Mat.set
  rw [Mat.idx_ok chk M r c hrc hcn hn]
  change (aset M.data (Gen.idxN M.n r c) v >>= _) = _
  cases aset M.data (Gen.idxN M.n r c) v <;> rfl

theorem Mat.Valid.of_eq {α : Type} {M M' : Mat α} (hv : M.Valid) (hn : M'.n = M.n)
    (hs : M'.data.size = M.data.size) : M'.Valid :=
  ⟨by rw [hn]; exact hv.two_le, by rw [hn]; exact hv.small, by rw [hs, hn]; exact hv.size⟩

variable {α : Type} [Num α]

/-- The entry of the condensed matrix for the unordered pair `{x, y}`. -/
def Mat.dval (M : Mat α) (x y : Nat) : α :=
  M.data.getD (Gen.idxN M.n (min x y) (max x y)) Num.infinity

theorem Mat.dval_comm (M : Mat α) (x y : Nat) : M.dval x y = M.dval y x := by
  unfold Mat.dval; rw [Nat.min_comm, Nat.max_comm]

theorem Mat.dval_minmax (M : Mat α) (x y : Nat) : M.dval (min x y) (max x y) = M.dval x y := by
  have hle : min x y ≤ max x y := Nat.le_trans (Nat.min_le_left x y) (Nat.le_max_left x y)
  unfold Mat.dval
  rw [Nat.min_eq_left hle, Nat.max_eq_right hle]

theorem Mat.get_dval (chk : Bool) (M : Mat α) (hv : M.Valid) (r c : Nat) (hrc : r < c)
    (hcn : c < M.n) : M.get chk r c = .ok (M.dval r c) := by
  have h1 := idxN_lt M.n r c hrc hcn
  have h2 := hv.size
  unfold Mat.get Mat.dval
  rw [Mat.idx_ok chk M r c hrc hcn hv.small, ok_bind, Nat.min_eq_left (Nat.le_of_lt hrc),
    Nat.max_eq_right (Nat.le_of_lt hrc), aget_of_lt (by omega), Array.getD_eq_getD_getElem?,
    Array.getElem?_eq_getElem (by omega), Option.getD_some]

/-- Reading the pair `{x, y}` in the order the Rust code uses (`min` first). -/
theorem Mat.get_dval' (chk : Bool) (M : Mat α) (hv : M.Valid) (x y : Nat) (hxy : x ≠ y)
    (hx : x < M.n) (hy : y < M.n) : M.get chk (min x y) (max x y) = .ok (M.dval x y) := by
  rw [Mat.get_dval chk M hv (min x y) (max x y) (by omega) (by omega), Mat.dval_minmax]

end Kodama
