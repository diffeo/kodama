/- `ReturnsGreedy r m n data`: the call `r` returns, and what it returns is a greedy run of the
label-based specification.  It is the conclusion of the C03 theorem of every entry point; here it is
reached from a simulated loop (the value-level tail of `primitive_with` and `generic_with`), and C06
(agreement on tie-free input) is proved once, of anything that returns a greedy run. -/
import Kodama.Lemmas.SpecUnique
import Kodama.Lemmas.GenericGreedySim
import Kodama.Lemmas.SpecSingle
import Kodama.Lemmas.FieldInstances
namespace Kodama
open Spec
variable {α : Type} [Num α] {m : Method} {n : Nat} {data : Array α}

def ReturnsGreedy (r : R (State α × Dendrogram α × Mat α)) (m : Method) (n : Nat)
    (data : Array α) : Prop :=
  ∃ st' d' M', r = .ok (st', d', M') ∧ GreedyValid m n data d'.steps.toList

/-- When the sort of `relabel` leaves the raw steps of the loop as they are, the call returns their
merge-order relabelling, which is greedy-valid. -/
theorem greedyValid_of_processed {st1 : State α}
    {dend1 : Dendrogram α} {M1 : Mat α} {run : R (State α × Dendrogram α × Mat α)}
    (hres : PrimGreedyResult m n data dend1 M1)
    (hnan : ∀ s ∈ dend1.steps.toList, Num.isNaN s.d = false) (h2 : 2 ≤ n)
    (heq : run = (relabel m st1.set dend1 >>= fun r =>
      pure ({ st1 with set := r.1 }, sqrtSteps m r.2, M1)))
    (hproc : processed m dend1.steps = dend1.steps) : ReturnsGreedy run m n data := by
  obtain ⟨uf, d', hr, _, hg⟩ := relabel_greedyValid (m := m) (data := data) dend1 h2 hres.res.obs
    hres.res.raw hnan (by rw [hproc]; exact hres.trace) (by rw [hproc]; exact hres.valid) st1.set
  exact ⟨{ st1 with set := uf }, sqrtSteps m d', M1, by rw [heq, hr]; rfl, hg⟩

/-- The sort is inert in two cases: the method does not sort (centroid, median), or the raw heights
of the simulated run do not decrease, so that the stable sort finds them in order. -/
theorem greedyValid_of_sim {st1 : State α}
    {dend1 : Dendrogram α} {M1 : Mat α} {run : R (State α × Dendrogram α × Mat α)}
    (hres : PrimGreedyResult m n data dend1 M1)
    (hnan : ∀ s ∈ dend1.steps.toList, Num.isNaN s.d = false) (h2 : 2 ≤ n)
    (heq : run = (relabel m st1.set dend1 >>= fun r =>
      pure ({ st1 with set := r.1 }, sqrtSteps m r.2, M1)))
    (hsort : m.requiresSorting = false ∨
      (rawHeights m (init m n data) (mergeOrder m n dend1.steps.toList)).Pairwise
        (fun a b => Num.lt b a = false)) : ReturnsGreedy run m n data := by
  refine greedyValid_of_processed hres hnan h2 heq ?_
  rcases hsort with hm | hp
  · exact processed_of_unsorted m _ hm
  · rw [← hres.hts, List.pairwise_map] at hp
    exact processed_of_pairwise m _ hp

theorem Spec.GreedyValid.eq_of_tieFree {steps₁ steps₂ : List (Step α)}
    (h₁ : GreedyValid m n data steps₁) (h₂ : GreedyValid m n data steps₂)
    (htf : TieFreeFrom m (init m n data) steps₁) : steps₁ = steps₂ :=
  greedyFrom_unique _ steps₁ steps₂ (h₁.1.trans h₂.1.symm) h₁.2 h₂.2 htf

namespace ReturnsGreedy
variable {r r₁ r₂ : R (State α × Dendrogram α × Mat α)}

/-- A tie-free greedy-valid reference run is what the call returns. -/
theorem steps_eq (h : ReturnsGreedy r m n data) {steps₀ : List (Step α)}
    (h₀ : GreedyValid m n data steps₀) (htf : TieFreeFrom m (init m n data) steps₀) :
    ∃ st' d' M', r = .ok (st', d', M') ∧ d'.steps.toList = steps₀ := by
  obtain ⟨st', d', M', hr, hg⟩ := h
  exact ⟨st', d', M', hr, (h₀.eq_of_tieFree hg htf).symm⟩

/-- The same with the tie-freeness hypothesis on the run of the returned steps. -/
theorem unique (h : ReturnsGreedy r m n data) :
    ∃ st' d' M', r = .ok (st', d', M') ∧ GreedyValid m n data d'.steps.toList ∧
      (TieFreeFrom m (init m n data) d'.steps.toList →
        ∀ steps₂ : List (Step α), GreedyValid m n data steps₂ → steps₂ = d'.steps.toList) := by
  obtain ⟨st', d', M', hr, hg⟩ := h
  exact ⟨st', d', M', hr, hg, fun htf _ h₂ => (hg.eq_of_tieFree h₂ htf).symm⟩

/-- Two calls that return greedy runs of a matrix with a tie-free reference run return the same
steps. -/
theorem modes (h₁ : ReturnsGreedy r₁ m n data) (h₂ : ReturnsGreedy r₂ m n data)
    {steps₀ : List (Step α)} (h₀ : GreedyValid m n data steps₀)
    (htf : TieFreeFrom m (init m n data) steps₀) :
    ∃ x₁ x₂, r₁ = .ok x₁ ∧ r₂ = .ok x₂ ∧ x₁.2.1.steps.toList = x₂.2.1.steps.toList := by
  obtain ⟨_, _, _, hr₁, he₁⟩ := h₁.steps_eq h₀ htf
  obtain ⟨_, _, _, hr₂, he₂⟩ := h₂.steps_eq h₀ htf
  exact ⟨_, _, hr₁, hr₂, he₁.trans he₂.symm⟩

/-- Two calls that return greedy runs agree as soon as either run is tie-free. -/
theorem agree (h₁ : ReturnsGreedy r₁ m n data) (h₂ : ReturnsGreedy r₂ m n data) :
    ∃ s₁ e₁ M₁ s₂ e₂ M₂, r₁ = .ok (s₁, e₁, M₁) ∧ r₂ = .ok (s₂, e₂, M₂) ∧
      GreedyValid m n data e₁.steps.toList ∧ GreedyValid m n data e₂.steps.toList ∧
      (TieFreeFrom m (init m n data) e₁.steps.toList ∨
        TieFreeFrom m (init m n data) e₂.steps.toList → e₁.steps.toList = e₂.steps.toList) := by
  obtain ⟨s₁, e₁, M₁, hr₁, hg₁⟩ := h₁
  obtain ⟨s₂, e₂, M₂, hr₂, hg₂⟩ := h₂
  refine ⟨s₁, e₁, M₁, s₂, e₂, M₂, hr₁, hr₂, hg₁, hg₂, ?_⟩
  rintro (ht | ht)
  · exact hg₁.eq_of_tieFree hg₂ ht
  · exact (hg₂.eq_of_tieFree hg₁ ht).symm

end ReturnsGreedy

theorem initNoNaN_single_of_noNaN (h : NoNaN n data) : InitNoNaN .single n data :=
  fun x y hx hy hxy => h x y hx hy hxy

theorem ExactLaws.noNaN_data {K : Type} [Field K] [LinearOrder K] [Num K] (E : ExactLaws K)
    (n : Nat) (data : Array K) : NoNaN n data :=
  fun _ _ _ _ _ => E.noNaN _

end Kodama
