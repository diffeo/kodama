/-
Greedy up to `R`: what is proved of the dendrogram RETURNED by `primitive_with`, `generic_with` and
`nnchain_with` for an approximate dissimilarity relation `R` (`Lemmas/RoundCore.lean`), and how it is read
off the sorted raw steps.

At run level (`greedyCore_isort`): the raw steps of the three loops merge RECIPROCAL NEAREST NEIGHBOURS up to
`R` (`Rnn.NnRun`), each at least as high as every earlier step inside the two clusters it merges (`Rnn.RunH`).
Both survive the stable sort by height, and a SORTED run with `NnFrom` that merges everything is a global
minimum at every step (`Rnn.sorted_run`, `Lemmas/RnnSort.lean`): `GreedyCore`.  The `R`-values are
EXISTENTIAL: a pair of clusters that is live in the sorted replay need never have been a matrix entry of the
actual (raw) run; the witness is then the value the Lance–Williams formula WOULD compute (`Rnn.RedE`).

What is proved of the RETURNED list speaks of labels only (`Rnn.StepSw`, `Rnn.GreedySw`).  The transport
(`greedy_sw_core`) is one induction along the sorted run (`Rnn.replay_labels`): the replay of the returned list
seen through the merge-order labelling is the index state of the sorted run — a `Spec.View`, so that a label
`< n + i` that no returned step before `i` consumes is the label of an index live before step `i`, and the
cluster tree of such a label is, up to the order of children, that index's merge tree.
-/
import Kodama.Lemmas.RoundSort
namespace Kodama
open Spec
variable {α : Type} [Num α]

/-- When a step is made, every pair then live has an `R`-value that is not below the step's height
(`Rnn.GMinRun`; that the height is an `R`-value of the merged pair is `Rnn.StepH.height`), and the heights are
non-decreasing. -/
structure GreedyCore (R : Crit.MTree Nat → Crit.MTree Nat → α → Prop) (n : Nat)
    (steps : List (Step α)) : Prop where
  gmin : Rnn.GMinRun R n steps
  sorted : steps.Pairwise (fun s t => Num.lt t.d s.d = false)

open Crit MTree Rnn in
/-- **The insertion sort by height (the stable sort: `Rnn.sorted_run`) of a complete run of
reciprocal-nearest-neighbour merges is a run, and greedy.** -/
theorem greedyCore_isort (L : OrderLaws α) {R : MTree Nat → MTree Nat → α → Prop}
    (hsym : ∀ s t v, R s t v → R t s v) (hred : RedE R)
    (hRnan : ∀ s t v, R s t v → Num.isNaN v = false) {n : Nat} {raw : List (Step α)}
    (h1 : 1 ≤ n) (hlen : raw.length = n - 1) (hrun : RunH R n raw) (hnn : NnRun R n raw) :
    RunFrom R (IState.init n) [] (isortG stepLe raw) ∧ GreedyCore R n (isortG stepLe raw) := by
  obtain ⟨-, hsorted, hSrun, -, hfrom⟩ := sorted_run L hsym hred hRnan (Clu.init n)
    (by rw [hlen, IState.init, List.length_range]; omega) (runFrom_of_runH hrun)
    ((nnFrom_iff _ _).mpr hnn)
  exact ⟨hSrun, (gminFrom_iff _ _).mp hfrom, hsorted⟩

namespace Rnn

open Crit MTree in
/-- Along a merge trace `S` whose relabelled form `D` carries the merge-order labels, the replay of `D`
(for any method and any matrix) seen through the merge-order labelling is the index state of `S`: the labels
present are the labels of the live indices (`Spec.View`), and the cluster tree of the label of a live index
is — up to the order of children — that index's merge tree. -/
theorem replay_labels (m : Method) (data : Array α) (n : Nat) (S D : List (Step α))
    (htr : MergeTrace n (edgesOf S)) (hwf : WellFormed n D)
    (hlab : ∀ (i : Nat) (s0 : Step α), S[i]? = some s0 → ∃ s', D[i]? = some s' ∧
      s'.c1 = min (labAt n (edgesOf S) i s0.c1) (labAt n (edgesOf S) i s0.c2) ∧
      s'.c2 = max (labAt n (edgesOf S) i s0.c1) (labAt n (edgesOf S) i s0.c2)) :
    ∀ i, i ≤ S.length → i ≤ D.length →
      View (liveAt n (edgesOf S) i) (labAt n (edgesOf S) i) (stateAt m (init m n data) D i) ∧
      ∀ x ∈ liveAt n (edgesOf S) i, Sw (clusterTree n D (labAt n (edgesOf S) i x))
        ((IState.replay (IState.init n) (S.take i)).tree x) := by
  intro i
  induction i with
  | zero =>
    intro _ _
    rw [stateAt_zero]
    refine ⟨⟨fun _ _ _ _ e => e, fun l => ⟨fun h => ⟨l, h, rfl⟩, fun ⟨_, hx, e⟩ => e ▸ hx⟩,
      fun x hx => List.mem_range.mp hx, init_DSymm m n data⟩, fun x hx => ?_⟩
    show Sw (clusterTree n D x) _
    rw [clusterTree_obs D (List.mem_range.mp hx)]
    exact Sw.leaf x
  | succ i ih =>
    intro hi hi'
    obtain ⟨s0, hs0, he, m1, m2, mne⟩ := htr.step (Nat.lt_of_succ_le hi)
    obtain ⟨s', hs', c1, c2⟩ := hlab i s0 hs0
    obtain ⟨V, T⟩ := ih (by omega) (by omega)
    have V' := V.merge (m := m) m1 m2 mne
    rw [(wf_stateAt m hwf i (by omega)).st.next] at V'
    rw [liveAt_succ he, stateAt_succ _ _ _ _ _ hs', c1, c2, funext (labAt_succ he), List.take_add_one, hs0,
      IState.replay_append]
    refine ⟨V', fun x hx => ?_⟩
    obtain ⟨hx1, -⟩ := List.mem_filter.mp hx
    simp only [Option.toList, IState.replay]
    by_cases hxb : x = s0.c2
    · rw [if_pos hxb, hxb, clusterTree_node (labelsOrdered_of_wf hwf) hs', IState.merge_tree_self, c1, c2]
      rcases minmax_cases (labAt n (edgesOf S) i s0.c1) (labAt n (edgesOf S) i s0.c2) with
        ⟨e1, e2⟩ | ⟨e1, e2⟩ <;> rw [e1, e2]
      · exact Sw.node (T _ m1) (T _ m2)
      · exact Sw.swap (T _ m2) (T _ m1)
    · rw [if_neg hxb, IState.merge_tree_of_ne _ _ _ _ hxb]
      exact T x hx1

open Crit MTree in
/-- What is known of a step `s'` of the returned list `D`: there are two disjoint merge trees `T₁`,
`T₂` with `R T₁ T₂ s'.d` that are — up to the order of children, and in one of the two orders — the
cluster trees of the two labels of `s'`, and `s'.size = |T₁| + |T₂|`. -/
def StepSw (R : MTree Nat → MTree Nat → α → Prop) (n : Nat) (D : List (Step α)) (s' : Step α) : Prop :=
  ∃ T₁ T₂ : MTree Nat, R T₁ T₂ s'.d ∧ Disjoint T₁.leaves T₂.leaves ∧
    ((Sw (clusterTree n D s'.c1) T₁ ∧ Sw (clusterTree n D s'.c2) T₂) ∨
     (Sw (clusterTree n D s'.c1) T₂ ∧ Sw (clusterTree n D s'.c2) T₁)) ∧
    s'.size = T₁.leaves.card + T₂.leaves.card

open Crit MTree in
/-- **The returned list `D` is greedy up to `R`**: every step `s'` at position `i` satisfies `StepSw`,
and every two distinct labels `p`, `q < n + i` not consumed by the steps before `i` (the clusters present
after steps `0..i−1`) have — up to the order of children — disjoint cluster trees `U`, `V` with an
`R`-value `v` that is not below `s'.d`. -/
def GreedySw (R : MTree Nat → MTree Nat → α → Prop) (n : Nat) (D : List (Step α)) : Prop :=
  ∀ (i : Nat) (s' : Step α), D[i]? = some s' →
    StepSw R n D s' ∧
    ∀ p q : Nat, p < n + i → q < n + i → p ≠ q → ¬ UsedBefore D i p → ¬ UsedBefore D i q →
      ∃ (U V : MTree Nat) (v : α), R U V v ∧ Disjoint U.leaves V.leaves ∧
        Sw (clusterTree n D p) U ∧ Sw (clusterTree n D q) V ∧ Num.lt v s'.d = false

end Rnn

open Crit MTree Rnn Finset in
/-- **Core of the assembly.**  `S` is a run from `n` singletons (`RunFrom`) of length `n − 1` in which
every step is a global minimum of the `R`-values of the pairs live when it is made (`GMinRun`), and `D`
is a well-formed dendrogram whose step `i` carries the merge-order labels and the height of `S[i]`.  Then
`D` is greedy up to `R`. -/
theorem greedy_sw_core {R : MTree Nat → MTree Nat → α → Prop} (n : Nat)
    (S D : List (Step α)) (hwf : WellFormed n D)
    (hSrun : RunFrom R (IState.init n) [] S) (hg : GMinRun R n S) (hlen : S.length = n - 1)
    (hlab : ∀ (i : Nat) (s0 : Step α), S[i]? = some s0 → ∃ s', D[i]? = some s' ∧
      s'.c1 = min (labAt n (edgesOf S) i s0.c1) (labAt n (edgesOf S) i s0.c2) ∧
      s'.c2 = max (labAt n (edgesOf S) i s0.c1) (labAt n (edgesOf S) i s0.c2) ∧ s'.d = s0.d) :
    GreedySw R n D := by
  have htr : MergeTrace n (edgesOf S) := mergeTrace_of_runFrom n S hSrun
  have hDlen : D.length = n - 1 := hwf.len
  have hrep := replay_labels .single #[] n S D htr hwf fun i s0 hi => by
    obtain ⟨s', a, b, c, _⟩ := hlab i s0 hi
    exact ⟨s', a, b, c⟩
  intro i s' hi
  have hiD : i < D.length := (List.getElem?_eq_some_iff.mp hi).1
  obtain ⟨s0, hs0, -⟩ := htr.step (by omega : i < S.length)
  obtain ⟨s'', e'', c1, c2, hd⟩ := hlab i s0 hs0
  rw [hi] at e''
  have es : s' = s'' := Option.some.inj e''
  subst es
  have hst := runFrom_get S _ [] i s0 hSrun hs0
  have hclu := clu_replay S _ [] (Clu.init n) hSrun i
  have hgm := hg i s0 hs0
  have hτlive := replay_live n S i (by omega)
  obtain ⟨V, hcti⟩ := hrep i (by omega) (by omega)
  -- the labels present before step `i` are the live labels of the replay of `D`
  have hW := wf_stateAt .single (data := (#[] : Array α)) hwf i (by omega)
  rw [← hτlive] at V hcti
  generalize IState.replay (IState.init n) (S.take i) = τ at hst hclu hgm V hcti
  have hA := hcti s0.c1 hst.m1
  have hB := hcti s0.c2 hst.m2
  have hdisj := hclu.disj _ hst.m1 _ hst.m2 hst.ne
  refine ⟨⟨τ.tree s0.c1, τ.tree s0.c2, by rw [hd]; exact hst.height, hdisj, ?_⟩, ?_⟩
  · have ho := hwf.ordered i s' hi
    rw [hwf.size i s' hi, sz_eq_card_clusterTree hwf (by omega), sz_eq_card_clusterTree hwf (by omega),
      c1, c2]
    rcases minmax_cases (labAt n (edgesOf S) i s0.c1) (labAt n (edgesOf S) i s0.c2) with
      ⟨e1, e2⟩ | ⟨e1, e2⟩
    · rw [e1, e2]
      exact ⟨Or.inl ⟨hA, hB⟩, by rw [hA.leaves_eq, hB.leaves_eq]⟩
    · rw [e1, e2]
      exact ⟨Or.inr ⟨hB, hA⟩, by rw [hA.leaves_eq, hB.leaves_eq, Nat.add_comm]⟩
  · intro p q hp hq hpq hup huq
    obtain ⟨x, hx, hxp⟩ := (V.live p).mp ((hW.live p).mpr ⟨hp, hup⟩)
    obtain ⟨y, hy, hyq⟩ := (V.live q).mp ((hW.live q).mpr ⟨hq, huq⟩)
    have hxy : x ≠ y := by
      intro e; rw [e, hyq] at hxp; exact hpq hxp.symm
    obtain ⟨v, hv, hlt⟩ := hgm x hx y hy hxy
    refine ⟨τ.tree x, τ.tree y, v, hv, hclu.disj x hx y hy hxy, ?_, ?_, by rw [hd]; exact hlt⟩
    · rw [← hxp]; exact hcti x hx
    · rw [← hyq]; exact hcti y hy

end Kodama
