/-
Rounding-error analysis of AVERAGE linkage along merge trees (tree level; no algorithm yet).

Setting: a number type `α` satisfying the standard model `Round.Model val fin u lo hi N`
(`Lemmas/RoundModel.lean`), `n` observations, exact base dissimilarities `d : ℕ → ℕ → K`
(in the applications `d i j = val (input entry (i,j))`), symmetric, each `0` or in `[dlo, dhi]`
(`BaseOk`), and the range conditions `RangeOk` that keep every intermediate result of every update
normal (no underflow, no overflow):

    lo · n³ ≤ dlo · (1−u)^(4n+3)          n · dhi ≤ hi · (1−u)^(4n+3)          n ≤ N.

The approximate relation `RAvg … s t v` says that `v` is finite and `val v` is within
`4·(|s| + |t| − 2)` rounding factors (`Round.Near`) of the exact mean `Crit.avg d s.leaves t.leaves` over
the cross pairs of the ORIGINAL dissimilarities.  It is propagated by the clamped average update
(`lwCompat_RAvg`: `Crit.LWCompat .average`, `Lemmas/CriteriaSpec.lean`).  `RAvg` is NOT functional — many
values are near the same mean — so `Rnn.RLaws` (`Lemmas/RnnState.lean`) is not available.  The tree-level theorem
`avgComputed_near`: any value obtained from the input entries by iterating `Gen.average` along two
disjoint merge trees, in any order, is `RAvg`-related to them.

Why `4·(|s|+|t|−2)`: leaves cost nothing; the update of `(a ∪ b, x)` reads values with
`4(|a|+|x|−2)` and `4(|b|+|x|−2)` factors and adds four (`×`, `+`, the rounded denominator, `/`), and
`max(|a|,|b|) + 1 ≤ |a| + |b|`.
-/
import Kodama.Lemmas.RoundModel
import Kodama.Lemmas.CriteriaSpec
namespace Kodama.Round
open Finset Crit MTree

variable {K : Type} [Field K] [LinearOrder K] [IsStrictOrderedRing K]

theorem sum_in0 {ι : Type} [DecidableEq ι] {l h : K} (hl : 0 ≤ l) (hh : 0 ≤ h) (f : ι → K)
    (s : Finset ι) (hf : ∀ i ∈ s, In0 l h (f i)) : In0 l ((s.card : K) * h) (∑ i ∈ s, f i) := by
  induction s using Finset.induction_on with
  | empty => exact Or.inl (by simp)
  | insert a s ha ih =>
    rw [sum_insert ha, card_insert_of_notMem ha]
    have h1 := hf a (mem_insert_self a s)
    have h2 := ih (fun i hi => hf i (mem_insert_of_mem hi))
    have := h1.add hl hh (mul_nonneg (Nat.cast_nonneg _) hh) h2
    have e : h + (s.card : K) * h = ((s.card + 1 : Nat) : K) * h := by push_cast; ring
    rw [e] at this
    exact this

structure BaseOk (n : Nat) (d : Nat → Nat → K) (dlo dhi : K) : Prop where
  symm : ∀ i j, d i j = d j i
  dlo_pos : 0 < dlo
  dlo_le : dlo ≤ dhi
  entry : ∀ i j, i < n → j < n → i ≠ j → In0 dlo dhi (d i j)

section base
variable {n : Nat} {d : Nat → Nat → K} {dlo dhi : K}

theorem BaseOk.S_in0 (B : BaseOk n d dlo dhi) {X Y : Finset Nat} (hX : ∀ i ∈ X, i < n)
    (hY : ∀ i ∈ Y, i < n) (hXY : Disjoint X Y) :
    In0 dlo (((X.card : K) * (Y.card : K)) * dhi) (S d X Y) := by
  rw [S_eq_sum_product]
  have := sum_in0 B.dlo_pos.le (le_trans B.dlo_pos.le B.dlo_le) (fun p : Nat × Nat => d p.1 p.2)
    (X ×ˢ Y) (by
      intro p hp
      obtain ⟨h1, h2⟩ := mem_product.mp hp
      exact B.entry p.1 p.2 (hX _ h1) (hY _ h2)
        (fun e => (Finset.disjoint_left.mp hXY) h1 (e ▸ h2)))
  rw [card_product, Nat.cast_mul] at this
  exact this

theorem BaseOk.avg_in0 (B : BaseOk n d dlo dhi) {X Y : Finset Nat} (hX : ∀ i ∈ X, i < n)
    (hY : ∀ i ∈ Y, i < n) (hXY : Disjoint X Y) (neX : X.Nonempty) (neY : Y.Nonempty) :
    In0 (dlo / ((X.card : K) * (Y.card : K))) dhi (avg d X Y) := by
  have hx : (0 : K) < (X.card : K) := Nat.cast_pos.2 neX.card_pos
  have hy : (0 : K) < (Y.card : K) := Nat.cast_pos.2 neY.card_pos
  have hxy : (0 : K) < (X.card : K) * (Y.card : K) := mul_pos hx hy
  unfold avg
  rcases B.S_in0 hX hY hXY with h0 | ⟨h1, h2⟩
  · exact Or.inl (by rw [h0, zero_div])
  · refine Or.inr ⟨div_le_div_of_nonneg_right h1 hxy.le, ?_⟩
    rw [div_le_iff₀ hxy]
    exact le_of_le_of_eq h2 (mul_comm _ _)

theorem BaseOk.avg_nonneg (B : BaseOk n d dlo dhi) {X Y : Finset Nat} (hX : ∀ i ∈ X, i < n)
    (hY : ∀ i ∈ Y, i < n) (hXY : Disjoint X Y) (neX : X.Nonempty) (neY : Y.Nonempty) :
    0 ≤ avg d X Y :=
  (B.avg_in0 hX hY hXY neX neY).nonneg
    (div_nonneg B.dlo_pos.le (mul_nonneg (Nat.cast_nonneg _) (Nat.cast_nonneg _)))

end base

/-- No intermediate result of any update underflows or overflows. -/
structure RangeOk (u lo hi : K) (N n : Nat) (dlo dhi : K) : Prop where
  n_le : n ≤ N
  lo : lo * (n : K) ^ 3 ≤ dlo * (1 - u) ^ (4 * n + 3)
  hi : (n : K) * dhi ≤ hi * (1 - u) ^ (4 * n + 3)

/-- Lower end of the range of all values of a run. -/
def vlo (u : K) (n : Nat) (dlo : K) : K := dlo / ((n : K) * (n : K)) * (1 - u) ^ (4 * n)
/-- Upper end of the range of all values of a run. -/
def vhi (u : K) (n : Nat) (dhi : K) : K := dhi / (1 - u) ^ (4 * n)

section range
variable {u lo hi dlo dhi : K} {N n : Nat}

theorem vlo_pos (hu : u < 1) (hn : 0 < n) (hd : 0 < dlo) : 0 < vlo u n dlo :=
  mul_pos (div_pos hd (mul_pos (Nat.cast_pos.2 hn) (Nat.cast_pos.2 hn))) (pow_w_pos hu _)

theorem vlo_le (h0 : 0 ≤ u) (hu : u < 1) (hn : 0 < n) (hd : 0 ≤ dlo) : vlo u n dlo ≤ dlo :=
  have h1 : (1 : K) ≤ (n : K) := Nat.one_le_cast.2 hn
  le_trans
    (mul_le_of_le_one_right (div_nonneg hd (mul_nonneg (Nat.cast_nonneg n) (Nat.cast_nonneg n)))
      (pow_w_le_one h0 hu _))
    (div_le_self hd (one_le_mul_of_one_le_of_one_le h1 h1))

theorem le_vhi (h0 : 0 ≤ u) (hu : u < 1) (hd : 0 ≤ dhi) : dhi ≤ vhi u n dhi :=
  (le_div_iff₀ (pow_w_pos hu _)).2 (mul_le_of_le_one_right hd (pow_w_le_one h0 hu _))

theorem RangeOk.step_lo (Rg : RangeOk u lo hi N n dlo dhi) (hn : 0 < n)
    (hlo : 0 < lo) {s : K} (hs : s ≤ (n : K)) :
    lo * s ≤ vlo u n dlo * (1 - u) ^ 3 := by
  have hnK : (0 : K) < (n : K) := Nat.cast_pos.2 hn
  have hnn : (0 : K) < (n : K) * (n : K) := mul_pos hnK hnK
  unfold vlo
  have e : dlo / ((n : K) * (n : K)) * (1 - u) ^ (4 * n) * (1 - u) ^ 3
      = dlo * (1 - u) ^ (4 * n + 3) / ((n : K) * (n : K)) := by
    rw [pow_add]; ring
  rw [e, le_div_iff₀ hnn]
  calc lo * s * ((n : K) * (n : K)) ≤ lo * (n : K) * ((n : K) * (n : K)) :=
        mul_le_mul_of_nonneg_right (mul_le_mul_of_nonneg_left hs hlo.le) hnn.le
    _ = lo * (n : K) ^ 3 := by ring
    _ ≤ _ := Rg.lo

theorem RangeOk.step_hi (Rg : RangeOk u lo hi N n dlo dhi) (hu : u < 1) (hdhi : 0 ≤ dhi)
    {s : K} (hs : s ≤ (n : K)) :
    s * vhi u n dhi ≤ hi * (1 - u) ^ 3 := by
  have hp := pow_w_pos hu (4 * n)
  unfold vhi
  have e : s * (dhi / (1 - u) ^ (4 * n)) = s * dhi / (1 - u) ^ (4 * n) := by ring
  rw [e, div_le_iff₀ hp]
  calc s * dhi ≤ (n : K) * dhi := mul_le_mul_of_nonneg_right hs hdhi
    _ ≤ hi * (1 - u) ^ (4 * n + 3) := Rg.hi
    _ = hi * (1 - u) ^ 3 * (1 - u) ^ (4 * n) := by rw [pow_add]; ring

end range

variable {α : Type} [Num α]

/-- **The approximate criterion relation for average linkage**: `v` is finite and `val v` is within
`4·(|s| + |t| − 2)` rounding factors of the exact mean of `d` over the cross pairs of the leaf sets
of the merge trees `s`, `t` (whose leaves are observations `< n`). -/
structure RAvg (val : α → K) (fin : α → Prop) (u : K) (n : Nat) (d : Nat → Nat → K)
    (s t : MTree Nat) (v : α) : Prop where
  ls : ∀ i ∈ s.leaves, i < n
  lt : ∀ i ∈ t.leaves, i < n
  fin : fin v
  near : Near u (4 * (s.leaves.card + t.leaves.card - 2)) (avg d s.leaves t.leaves) (val v)

section ravg
variable {val : α → K} {fin : α → Prop} {u lo hi dlo dhi : K} {N n : Nat} {d : Nat → Nat → K}

theorem card_le_of_lt {X : Finset Nat} (hX : ∀ i ∈ X, i < n) : X.card ≤ n := by
  have : X ⊆ Finset.range n := fun i hi => Finset.mem_range.mpr (hX i hi)
  simpa using Finset.card_le_card this

theorem card_add_le_of_lt {X Y : Finset Nat} (hX : ∀ i ∈ X, i < n) (hY : ∀ i ∈ Y, i < n)
    (hXY : Disjoint X Y) : X.card + Y.card ≤ n := by
  rw [← card_union_of_disjoint hXY]
  exact card_le_of_lt fun i hi => (mem_union.mp hi).elim (hX i) (hY i)

theorem leaves_node_lt {ta tb : MTree Nat} (ha : ∀ i ∈ ta.leaves, i < n)
    (hb : ∀ i ∈ tb.leaves, i < n) : ∀ i ∈ (node ta tb).leaves, i < n := by
  intro i hi
  rw [leaves_node] at hi
  exact (mem_union.mp hi).elim (ha i) (hb i)

omit [Num α] in
theorem RAvg.range (h0 : 0 ≤ u) (hu : u < 1) (B : BaseOk n d dlo dhi) {s t : MTree Nat} {v : α}
    (h : RAvg val fin u n d s t v) (hst : Disjoint s.leaves t.leaves) :
    In0 (vlo u n dlo) (vhi u n dhi) (val v) := by
  have ns := s.leaves_nonempty
  have nt := t.leaves_nonempty
  have cst := card_add_le_of_lt h.ls h.lt hst
  have hk : 4 * (s.leaves.card + t.leaves.card - 2) ≤ 4 * n := by omega
  have hnear := h.near.mono h0 hu (B.avg_nonneg h.ls h.lt hst ns nt) hk
  -- `|s|·|t| ≤ n²`
  refine (near_in0 hu hnear (B.avg_in0 h.ls h.lt hst ns nt)).weaken
    (mul_le_mul_of_nonneg_right ?_ (pow_w_pos hu (4 * n)).le) le_rfl
  exact div_le_div_of_nonneg_left B.dlo_pos.le
    (mul_pos (Nat.cast_pos.2 ns.card_pos) (Nat.cast_pos.2 nt.card_pos))
    (mul_le_mul (Nat.cast_le.2 (card_le_of_lt h.ls)) (Nat.cast_le.2 (card_le_of_lt h.lt))
      (Nat.cast_nonneg _) (Nat.cast_nonneg _))

omit [IsStrictOrderedRing K] [Num α] in
theorem RAvg.symm (B : BaseOk n d dlo dhi) {s t : MTree Nat} {v : α}
    (h : RAvg val fin u n d s t v) : RAvg val fin u n d t s v where
  ls := h.lt
  lt := h.ls
  fin := h.fin
  near := by
    rw [avg_symm B.symm, Nat.add_comm]
    exact h.near

omit [IsStrictOrderedRing K] [Num α] in
theorem RAvg.leaf {i j : Nat} (hi : i < n) (hj : j < n) {v : α} (fv : fin v)
    (hv : val v = d i j) : RAvg val fin u n d (leaf i) (leaf j) v where
  ls := by intro x hx; rw [leaves_leaf, mem_singleton] at hx; omega
  lt := by intro x hx; rw [leaves_leaf, mem_singleton] at hx; omega
  fin := fv
  near := by
    simp only [leaves_leaf, card_singleton, avg_singleton]
    rw [hv]
    exact Near.refl u _

theorem RAvg.step (RM : Model val fin u lo hi N) (B : BaseOk n d dlo dhi)
    (Rg : RangeOk u lo hi N n dlo dhi) {ta tb tx : MTree Nat} {va vb : α}
    (hab : Disjoint ta.leaves tb.leaves) (hax : Disjoint ta.leaves tx.leaves)
    (hbx : Disjoint tb.leaves tx.leaves)
    (ha : RAvg val fin u n d ta tx va) (hb : RAvg val fin u n d tb tx vb) :
    RAvg val fin u n d (node ta tb) tx (Gen.average va vb ta.leaves.card tb.leaves.card) := by
  have h0 := RM.u_nonneg
  have hu := RM.u_lt_one
  have na := ta.leaves_nonempty
  have nb := tb.leaves_nonempty
  have nx := tx.leaves_nonempty
  have hls := leaves_node_lt ha.ls hb.ls
  have hcard : ta.leaves.card + tb.leaves.card + tx.leaves.card ≤ n := by
    have := card_add_le_of_lt hls ha.lt
      (by rw [leaves_node]; exact disjoint_union_left.mpr ⟨hax, hbx⟩)
    rwa [leaves_node, card_union_of_disjoint hab] at this
  have pa := na.card_pos
  have pb := nb.card_pos
  have px := nx.card_pos
  have hn : 0 < n := by omega
  have hA := B.avg_nonneg ha.ls ha.lt hax na nx
  have hB := B.avg_nonneg hb.ls hb.lt hbx nb nx
  have ra := ha.range h0 hu B hax
  have rb := hb.range h0 hu B hbx
  have hsum0 : (0 : K) ≤ (ta.leaves.card : K) + (tb.leaves.card : K) :=
    add_nonneg (Nat.cast_nonneg _) (Nat.cast_nonneg _)
  have hsumn : (ta.leaves.card : K) + (tb.leaves.card : K) ≤ (n : K) := by
    have : ta.leaves.card + tb.leaves.card ≤ n := by omega
    exact_mod_cast this
  have hdhi : 0 ≤ dhi := le_trans B.dlo_pos.le B.dlo_le
  have hvlo : 0 < vlo u n dlo := vlo_pos hu hn B.dlo_pos
  have hvlh : vlo u n dlo ≤ vhi u n dhi :=
    le_trans (vlo_le h0 hu hn B.dlo_pos.le) (le_trans B.dlo_le (le_vhi h0 hu hdhi))
  obtain ⟨fr, nr⟩ := RM.average_near ha.fin hb.fin hA hB ha.near hb.near pa pb
    (by have := Rg.n_le; omega) hvlo hvlh ra rb
    (Rg.step_lo hn RM.lo_pos hsumn) (Rg.step_hi hu hdhi hsumn)
  refine ⟨hls, ha.lt, fr, ?_⟩
  rw [leaves_node, avg_union_left hab na nb nx, card_union_of_disjoint hab]
  have hmean : 0 ≤ ((ta.leaves.card : K) * avg d ta.leaves tx.leaves
      + (tb.leaves.card : K) * avg d tb.leaves tx.leaves)
        / ((ta.leaves.card : K) + (tb.leaves.card : K)) :=
    div_nonneg (add_nonneg (mul_nonneg (Nat.cast_nonneg _) hA) (mul_nonneg (Nat.cast_nonneg _) hB))
      hsum0
  refine nr.mono h0 hu hmean ?_
  omega

theorem lwCompat_RAvg (RM : Model val fin u lo hi N) (B : BaseOk n d dlo dhi)
    (Rg : RangeOk u lo hi N n dlo dhi) : LWCompat .average (RAvg val fin u n d) where
  symm := fun _ _ _ h => h.symm B
  step := fun _ _ _ _ _ _ hab hax hbx ha hb _ => RAvg.step RM B Rg hab hax hbx ha hb

end ravg

/-- `v` is obtained from the entries `D i j` by iterating the clamped average update along the merge
trees `s` and `t` (either side may be split first, in any order). -/
inductive AvgComputed (n : Nat) (D : Nat → Nat → α) : MTree Nat → MTree Nat → α → Prop
  | leaf (i j : Nat) : i < n → j < n → i ≠ j → AvgComputed n D (leaf i) (leaf j) (D i j)
  | symm {s t : MTree Nat} {v : α} : AvgComputed n D s t v → AvgComputed n D t s v
  | step {ta tb tx : MTree Nat} {va vb : α} :
      Disjoint ta.leaves tb.leaves → Disjoint ta.leaves tx.leaves → Disjoint tb.leaves tx.leaves →
      AvgComputed n D ta tx va → AvgComputed n D tb tx vb →
      AvgComputed n D (node ta tb) tx (Gen.average va vb ta.leaves.card tb.leaves.card)

/-- **Tree-level rounding-error theorem for average linkage.**  Any value computed by iterating the
clamped update `Gen.average` along two merge trees is finite and within `4·(|s|+|t|−2)` rounding
factors of the exact arithmetic mean of the original dissimilarities over the cross pairs. -/
theorem avgComputed_near {val : α → K} {fin : α → Prop} {u lo hi dlo dhi : K} {N n : Nat}
    (RM : Model val fin u lo hi N) (D : Nat → Nat → α)
    (B : BaseOk n (fun i j => val (D i j)) dlo dhi) (Rg : RangeOk u lo hi N n dlo dhi)
    (hfin : ∀ i j, i < n → j < n → i ≠ j → fin (D i j))
    {s t : MTree Nat} {v : α} (h : AvgComputed n D s t v) :
    RAvg val fin u n (fun i j => val (D i j)) s t v := by
  induction h with
  | leaf i j hi hj hij => exact RAvg.leaf hi hj (hfin i j hi hj hij) rfl
  | symm _ ih => exact ih.symm B
  | step hab hax hbx _ _ iha ihb => exact RAvg.step RM B Rg hab hax hbx iha ihb

end Kodama.Round
