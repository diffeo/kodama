/-
What one iteration of a matrix-updating main loop does, in `Mat.dval` form: the interface between the
algorithms' iteration lemmas and the invariants that ride on them.  `MergeEffect` is what the merge of a
live pair does to steps, sizes and matrix; `MergeFacts` adds that the pair is a global minimum
(`primitiveWith`, `genericWith`), `RnnFacts` that it is a pair of reciprocal nearest neighbours.  `primIter_facts` is the
instance for `primitiveIter` (`argmin_min`, `primitiveIter_spec`, `updateRows_dval_of_ok`).
-/
import Kodama.Lemmas.PrimGreedyArgmin
import Kodama.Lemmas.ChainMat
namespace Kodama
open Spec
variable {α : Type} [Num α]

/-- `Step::new` of an ordered pair does not swap. -/
theorem Step.new_of_lt {α : Type} {c1 c2 : Nat} (h : c1 < c2) (d : α) (sz : Nat) :
    Step.new c1 c2 d sz = ⟨c1, c2, d, sz⟩ := if_neg (Nat.lt_asymm h)

/-- The effect of merging the live pair `a < b` in one iteration of a matrix-updating main loop, in
`Mat.dval` form: the raw step is recorded, the sizes are added, and the row of `b` is replaced by the
Lance–Williams formula. -/
structure MergeEffect (m : Method) (n : Nat) (live : List Nat) (sizes sizes' : Array Nat)
    (steps steps' : List (Step α)) (M M' : Mat α) (a b : Nat) : Prop where
  lt : a < b
  ma : a ∈ live
  mb : b ∈ live
  /-- the recorded raw step (`Step.new` does not swap, `Step.new_of_lt`): indices, height = current entry,
  size = sum of the two sizes -/
  hsteps : steps' = steps ++ [⟨a, b, M.dval a b, sizes.getD a 0 + sizes.getD b 0⟩]
  hsizes : ∀ x, sizes'.getD x 0 =
    if x = b then sizes.getD a 0 + sizes.getD b 0 else sizes.getD x 0
  upd : ∀ x ∈ live, x ≠ a → x ≠ b →
    M'.dval x b = lw m (M.dval x a) (M.dval x b) (M.dval a b)
      (sizes.getD a 0) (sizes.getD b 0) (sizes.getD x 0)
  frame : ∀ p q, p < n → q < n → p ≠ q → ¬ (q = b ∧ p ∈ live ∧ p ≠ a) →
    ¬ (p = b ∧ q ∈ live ∧ q ≠ a) → M'.dval p q = M.dval p q

/-- What one iteration of the main loop of `primitiveWith` / `genericWith` does: it merges a live pair
whose entry is a GLOBAL MINIMUM of the live entries. -/
structure MergeFacts (m : Method) (n : Nat) (live : List Nat) (sizes sizes' : Array Nat)
    (steps steps' : List (Step α)) (M M' : Mat α) (a b : Nat) : Prop
    extends MergeEffect m n live sizes sizes' steps steps' M M' a b where
  min : ∀ x ∈ live, ∀ y ∈ live, x ≠ y → Num.lt (M.dval x y) (M.dval a b) = false

/-- `MergeFacts` with "reciprocal nearest neighbours" (`nn`) in place of "global minimum": what one outer
iteration of `nnchainWith` does as well (`ChainStepFacts.toRnn`, `Lemmas/RnnChain.lean`), and all that the
invariants for a relation between merge trees and values need (`TabCore`, `RoundCore`). -/
structure RnnFacts (m : Method) (n : Nat) (live : List Nat) (sizes sizes' : Array Nat)
    (steps steps' : List (Step α)) (M M' : Mat α) (a b : Nat) : Prop
    extends MergeEffect m n live sizes sizes' steps steps' M M' a b where
  /-- nothing is strictly closer to `a` or to `b` than they are to each other -/
  nn : ∀ c, (c = a ∨ c = b) → ∀ x ∈ live, x ≠ c → Num.lt (M.dval c x) (M.dval a b) = false

/-- A global minimum is a pair of reciprocal nearest neighbours. -/
theorem MergeFacts.toRnn {m : Method} {n : Nat} {live : List Nat} {sizes sizes' : Array Nat}
    {steps steps' : List (Step α)} {M M' : Mat α} {a b : Nat}
    (F : MergeFacts m n live sizes sizes' steps steps' M M' a b) :
    RnnFacts m n live sizes sizes' steps steps' M M' a b where
  toMergeEffect := F.toMergeEffect
  nn := by
    rintro c (rfl | rfl) x hx hxc
    · exact F.min c F.ma x hx (Ne.symm hxc)
    · exact F.min c F.mb x hx (Ne.symm hxc)

/-- A lower bound of the live entries as read by `Mat.get` (row `<` column) is a lower bound of the live
entries `Mat.dval`, in both orders. -/
theorem dval_min_of_get (chk : Bool) {M : Mat α} (hv : M.Valid) {live : List Nat}
    (hlt : ∀ x ∈ live, x < M.n) {v : α}
    (hmin : ∀ x ∈ live, ∀ y ∈ live, x < y → ∀ w, M.get chk x y = .ok w → Num.lt w v = false) :
    ∀ x ∈ live, ∀ y ∈ live, x ≠ y → Num.lt (M.dval x y) v = false := by
  intro x hx y hy hxy
  by_cases c : x < y
  · exact hmin x hx y hy c _ (Mat.get_dval chk M hv x y c (hlt y hy))
  · rw [Mat.dval_comm]
    exact hmin y hy x hx (by omega) _ (Mat.get_dval chk M hv y x (by omega) (hlt x hx))

theorem primIter_facts (L : OrderLaws α) (chk : Bool) (m : Method) (n k : Nat) (live : List Nat)
    (st : State α) (dend : Dendrogram α) (M : Mat α) (hk : k + 1 < n)
    (inv : PrimInv n k live st dend M) (hnan : NoNaNLive M live) :
    ∃ st' dend' M' a b, primitiveIter chk m (st, dend, M) = .ok (st', dend', M') ∧
      PrimInv n (k + 1) (live.filter (· ≠ a)) st' dend' M' ∧
      MergeFacts m n live st.sizes st'.sizes dend.steps.toList dend'.steps.toList M M' a b := by
  have hv := inv.mvalid
  have hlt := inv.rep.mem_lt
  have hltM : ∀ x ∈ live, x < M.n := fun x hx => by rw [inv.mn]; exact hlt x hx
  obtain ⟨a, b, dist, harg, hab, ha, hb, hget, hmin⟩ := argmin_min L chk n st.active live inv.rep
    (by have := inv.llen; omega) M hv inv.mn
    (by
      intro x hx y hy hxy w hw
      rw [Mat.get_dval chk M hv x y hxy (hltM y hy)] at hw
      injection hw with hw
      rw [← hw]; exact hnan x hx y hy (by omega))
  have hdist : M.dval a b = dist := by
    rw [Mat.get_dval chk M hv a b hab (hltM b hb)] at hget
    exact Except.ok.inj hget
  subst hdist
  obtain ⟨M1, st', hupd, hsizes, hiter, inv2⟩ :=
    primitiveIter_spec chk m n k live st dend M hk inv a b _ harg hab ha hb
  obtain ⟨-, -, hwr, hfr⟩ := updateRows_dval_of_ok chk n st.active live inv.rep _ a b hab ha hb
    M M1 hv inv.mn hupd
  exact ⟨st', _, M1, a, b, hiter, inv2,
    { lt := hab
      ma := ha
      mb := hb
      hsteps := by rw [Array.toList_push, Step.new_of_lt hab]
      hsizes := hsizes
      min := dval_min_of_get chk hv hltM hmin
      upd := by
        intro x hx hxa hxb
        have h := hwr x hx hxa hxb
        rw [updFn_eq m _ _ _ _ x _ _ (by rw [inv.sizes_sz]; exact hlt x hx)] at h
        exact (Except.ok.inj h).symm
      frame := hfr }⟩

end Kodama
