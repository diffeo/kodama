/-
In EXACT arithmetic the guarded clamp of `method::ward` is a no-op.

For a linearly ordered field `K` whose `Num K` instance computes the field operations (`FieldLaws K`)
and sizes that are not all zero, for ALL `a b c`:

* guard false (`least < c`): the code returns the quotient;
* guard true (`c ≤ least = min a b`): with `D = sa + sb + sx > 0`

      (sx+sa)·a + (sx+sb)·b − sx·c  ≥  (sx+sa)·least + (sx+sb)·least − sx·least  =  D·least,

  so `value < least` is false and the code again returns the quotient.  Hence

    Gen.ward a b c sa sb sx = ((sx+sa)·a + (sx+sb)·b − sx·c) / (sa + sb + sx)   (`FieldLaws.ward_eq_formula`).

This is the single place where the exact-arithmetic theorems (C02, C03, C06, C11 for ward) meet the
clamp: proofs rewrite with this lemma instead of unfolding `Gen.ward`.
With ALL THREE sizes `0` the statement is false (`0/0 = 0` in a field, and under the guard the clamp
then returns `max 0 (min a b)`), whence the hypothesis `0 < sa + sb + sx`.

For IEEE floats the clamp is not a no-op — it is precisely what makes reducibility hold
(`Gen.ward_not_lt`, `Kodama/Lemmas/WardClamp.lean`).
-/
import Kodama.Lemmas.WardClamp
import Kodama.Lemmas.AverageExact
import Kodama.Lemmas.FieldNum
import Mathlib.Tactic.Ring
namespace Kodama
variable {K : Type} [Field K] [LinearOrder K] [IsStrictOrderedRing K] [Num K]

omit [IsStrictOrderedRing K] in
theorem FieldLaws.wardValue_eq (F : FieldLaws K) (a b c : K) (sa sb sx : Nat) :
    Gen.wardValue a b c sa sb sx =
      (((sx : K) + (sa : K)) * a + ((sx : K) + (sb : K)) * b - (sx : K) * c) /
        ((sa : K) + (sb : K) + (sx : K)) := by
  simp only [Gen.wardValue, F.add, F.sub, F.mul, F.div, F.ofNat]

omit [IsStrictOrderedRing K] in
theorem FieldLaws.wardLeast_le (F : FieldLaws K) (a b : K) :
    Gen.wardLeast a b ≤ a ∧ Gen.wardLeast a b ≤ b :=
  F.averageLeast_le a b

theorem FieldLaws.wardLeast_le_value (F : FieldLaws K) (a b c : K) (sa sb sx : Nat)
    (h : 0 < sa + sb + sx) (hc : c ≤ Gen.wardLeast a b) :
    Gen.wardLeast a b ≤ Gen.wardValue a b c sa sb sx := by
  obtain ⟨h1, h2⟩ := F.wardLeast_le a b
  rw [F.wardValue_eq]
  have ha : (0 : K) ≤ (sa : K) := Nat.cast_nonneg sa
  have hb : (0 : K) ≤ (sb : K) := Nat.cast_nonneg sb
  have hx : (0 : K) ≤ (sx : K) := Nat.cast_nonneg sx
  have hs : (0 : K) < (sa : K) + (sb : K) + (sx : K) := by
    have : (0 : K) < ((sa + sb + sx : Nat) : K) := Nat.cast_pos.mpr h
    rwa [Nat.cast_add, Nat.cast_add] at this
  rw [le_div_iff₀ hs]
  have e1 := mul_le_mul_of_nonneg_left h1 (add_nonneg hx ha)
  have e2 := mul_le_mul_of_nonneg_left h2 (add_nonneg hx hb)
  have e3 := mul_le_mul_of_nonneg_left hc hx
  have : Gen.wardLeast a b * ((sa : K) + (sb : K) + (sx : K))
      = ((sx : K) + (sa : K)) * Gen.wardLeast a b + ((sx : K) + (sb : K)) * Gen.wardLeast a b
        - (sx : K) * Gen.wardLeast a b := by ring
  rw [this]
  exact sub_le_sub (add_le_add e1 e2) e3

/-- `FieldLaws.ward_eq_formula` stated on the operations of the `Num` instance (for `rw` under
`Gen.ward`). -/
theorem FieldLaws.ward_eq_wardValue (F : FieldLaws K) (a b c : K) (sa sb sx : Nat)
    (h : 0 < sa + sb + sx) : Gen.ward a b c sa sb sx = Gen.wardValue a b c sa sb sx := by
  cases hg : Num.lt (Gen.wardLeast a b) c
  · apply Gen.ward_of_not_lt
    rw [F.lt, decide_eq_false_iff_not, not_lt]
    rw [F.lt, decide_eq_false_iff_not, not_lt] at hg
    exact F.wardLeast_le_value a b c sa sb sx h hg
  · exact Gen.ward_of_lt_merged hg

theorem FieldLaws.ward_eq_formula (F : FieldLaws K) (a b c : K) (sa sb sx : Nat)
    (h : 0 < sa + sb + sx) :
    Gen.ward a b c sa sb sx =
      (((sx : K) + (sa : K)) * a + ((sx : K) + (sb : K)) * b - (sx : K) * c) /
        ((sa : K) + (sb : K) + (sx : K)) := by
  rw [F.ward_eq_wardValue a b c sa sb sx h, F.wardValue_eq]

end Kodama
