/-
Two step lists that agree on the LABELS of their first `i` steps (heights and sizes may differ) have
the same consumed labels, the same present labels and the same observation sets beneath every label
below `n + i`, and, under the size recurrence of `WellFormed`, the same sizes (`sz_lab`); two well-formed
lists agree on all labels as soon as agreement before a step forces the same pair at that step
(`labAgree_of_step`).  Used to compare the outputs of two different entry points under rounding, where the
heights are only equal up to rounding (`Props/C06Rounding.lean`), and to compare a list with itself
after a write at index `i` or at another fuel (`Lemmas/RelabelWF.lean`, `Lemmas/Container.lean`).
-/
import Kodama.Lemmas.SpecReplay
namespace Kodama.Spec
variable {α β : Type}

def LabAgree (i : Nat) (L : List (Step α)) (L' : List (Step β)) : Prop :=
  ∀ j, j < i → (L[j]?).map (fun s => (s.c1, s.c2)) = (L'[j]?).map (fun s => (s.c1, s.c2))

theorem LabAgree.mono {i k : Nat} {L : List (Step α)} {L' : List (Step β)} (h : LabAgree i L L')
    (hk : k ≤ i) : LabAgree k L L' := fun j hj => h j (by omega)

theorem LabAgree.symm {i : Nat} {L : List (Step α)} {L' : List (Step β)} (h : LabAgree i L L') :
    LabAgree i L' L := fun j hj => (h j hj).symm

theorem LabAgree.get {i j : Nat} {L : List (Step α)} {L' : List (Step β)} (h : LabAgree i L L')
    (hj : j < i) {s : Step α} (hs : L[j]? = some s) :
    ∃ s' : Step β, L'[j]? = some s' ∧ s'.c1 = s.c1 ∧ s'.c2 = s.c2 := by
  have := h j hj
  rw [hs] at this
  cases hs' : L'[j]? with
  | none => rw [hs'] at this; cases this
  | some s' =>
    rw [hs'] at this
    simp only [Option.map_some, Option.some.injEq, Prod.mk.injEq] at this
    exact ⟨s', rfl, this.1.symm, this.2.symm⟩

theorem LabAgree.get_none {i j : Nat} {L : List (Step α)} {L' : List (Step β)} (h : LabAgree i L L')
    (hj : j < i) (hs : L[j]? = none) : L'[j]? = none := by
  have := h j hj
  rw [hs] at this
  cases hs' : L'[j]? with
  | none => rfl
  | some s' => rw [hs'] at this; cases this

theorem usedBefore_lab {i : Nat} {L : List (Step α)} {L' : List (Step β)} (h : LabAgree i L L')
    {k : Nat} (hk : k ≤ i) (l : Nat) : UsedBefore L k l ↔ UsedBefore L' k l := by
  unfold UsedBefore
  constructor
  · rintro ⟨j, s, hj, hs, hl⟩
    obtain ⟨s', hs', e1, e2⟩ := h.get (by omega) hs
    exact ⟨j, s', hj, hs', by rw [e1, e2]; exact hl⟩
  · rintro ⟨j, s, hj, hs, hl⟩
    obtain ⟨s', hs', e1, e2⟩ := h.symm.get (by omega) hs
    exact ⟨j, s', hj, hs', by rw [e1, e2]; exact hl⟩

/-- `leaves` of a label below `n + i` only looks at the LABELS of the steps before `i`, and any
sufficient fuel gives the same list. -/
theorem leaves_lab {n i : Nat} {L : List (Step α)} {L' : List (Step β)} (h : LabAgree i L L')
    (hord : ∀ (j : Nat) (s : Step α), j < i → L[j]? = some s → s.c1 < s.c2 ∧ s.c2 < n + j)
    (f f' l : Nat) : l < n + i → l < n + f → l < n + f' →
      leaves n L f l = leaves n L' f' l := by
  fun_induction leaves n L f l generalizing f' with
  | case1 l hl => exact fun _ _ _ => (leaves_of_lt hl _ _).symm
  | case2 l hl => exact fun _ hf _ => absurd hf hl
  | case3 f l hl => exact fun _ _ _ => (leaves_of_lt hl _ _).symm
  | case4 f l hln s hs ih1 ih2 =>
    intro hl hf hf'
    obtain ⟨f'', rfl⟩ : ∃ f'', f' = f'' + 1 := ⟨f' - 1, by omega⟩
    have hj : l - n < i := by omega
    obtain ⟨s', hs', e1, e2⟩ := h.get hj hs
    obtain ⟨o1, o2⟩ := hord (l - n) s hj hs
    have b2 : s.c2 < l := by omega
    have b1 : s.c1 < l := Nat.lt_trans o1 b2
    rw [leaves_succ hln hs', e1, e2, ih1 f'' (Nat.lt_trans b1 hl) (by omega) (by omega),
      ih2 f'' (Nat.lt_trans b2 hl) (by omega) (by omega)]
  | case5 f l hln hs =>
    exact fun hl _ _ => (leaves_of_get_none hln (h.get_none (by omega) hs) _).symm

/-- `leaves_lab` for two well-formed lists, at the fuel used everywhere (`length`). -/
theorem leaves_lab_wf {n i : Nat} {L : List (Step α)} {L' : List (Step β)} (wf : WellFormed n L)
    (wf' : WellFormed n L') (h : LabAgree i L L') (hi : i ≤ L.length) (l : Nat) (hl : l < n + i) :
    leaves n L L.length l = leaves n L' L'.length l :=
  leaves_lab h (fun j s _ hs => wf.ordered j s hs) _ _ l hl (by omega)
    (by rw [wf'.len, ← wf.len]; omega)

theorem sz_lab {n i : Nat} {L : List (Step α)} {L' : List (Step β)} (h : LabAgree i L L')
    (hord : ∀ (j : Nat) (s : Step α), L[j]? = some s → s.c1 < n + j ∧ s.c2 < n + j)
    (hi : i ≤ L.length)
    (hsz : ∀ (j : Nat) (s : Step α), L[j]? = some s → s.size = sz n L s.c1 + sz n L s.c2)
    (hsz' : ∀ (j : Nat) (s : Step β), L'[j]? = some s → s.size = sz n L' s.c1 + sz n L' s.c2) :
    ∀ l, l < n + i → sz n L l = sz n L' l :=
  label_induct hord hi (fun l c => by rw [sz_obs c, sz_obs c]) fun j s hj hs h1 h2 => by
    obtain ⟨s', hs', e1, e2⟩ := h.get hj hs
    rw [sz_node hs, sz_node hs', hsz j s hs, hsz' j s' hs', e1, e2, h1, h2]

end Kodama.Spec

namespace Kodama
open Spec
variable {α : Type}

theorem labAgree_of_step {n : Nat} {s₁ s₂ : List (Step α)} (wf₁ : WellFormed n s₁)
    (wf₂ : WellFormed n s₂)
    (hstep : ∀ (j : Nat) (a b : Step α), LabAgree j s₁ s₂ → s₁[j]? = some a → s₂[j]? = some b →
      a.c1 = b.c1 ∧ a.c2 = b.c2) : ∀ i, LabAgree i s₁ s₂ := by
  rintro - j -
  induction j using Nat.strongRecOn with
  | _ j ih =>
    cases ha : s₁[j]? with
    | none =>
      have h1 : s₁.length ≤ j := List.getElem?_eq_none_iff.mp ha
      rw [List.getElem?_eq_none_iff.mpr (by rw [wf₂.len, ← wf₁.len]; exact h1)]
    | some a =>
      have hjl : j < s₂.length := by
        rw [wf₂.len, ← wf₁.len]; exact (List.getElem?_eq_some_iff.mp ha).1
      have hb := List.getElem?_eq_getElem hjl
      obtain ⟨e1, e2⟩ := hstep j a _ ih ha hb
      rw [hb, Option.map_some, Option.map_some, e1, e2]

end Kodama
