/-
Value invariant of the main loop of `mst_with` (on top of the bookkeeping invariant `MstInv`):
the vertices are added in an order `ord` (Prim order), the raw step recorded when `ord[t+1]` is
added joins `ord[t]` and `ord[t+1]` (a Hamiltonian PATH, not the tree edge), and its weight is — up
to order-equivalence — the minimum weight crossing the cut `(ord[0..t], rest)`, attained at the new
vertex.

Number laws: `OrderLaws`; input hypotheses `NoNaN` and `InfTop` (the sentinel `infinity` the slots
are initialised with is not NaN and not below any entry).
-/
import Kodama.Lemmas.MstInv
import Kodama.Lemmas.MstPrimEntry
import Kodama.Laws
import Kodama.Lemmas.SpecSingle
namespace Kodama
open Spec
variable {α : Type} [Num α]

def InfTop (n : Nat) (data : Array α) : Prop :=
  Num.isNaN (Num.infinity : α) = false ∧
  ∀ u v, u < n → v < n → u ≠ v →
    Num.lt (Num.infinity : α) (entry n data Num.infinity u v) = false

/-- `w` is a minimum (in the sense of `OrderLaws`: a lower bound that is reached up to
order-equivalence) of the entries crossing the cut `(T, complement)`, reached at vertex `b`. -/
structure IsMinCross (n : Nat) (data : Array α) (T : List Nat) (b : Nat) (w : α) : Prop where
  nn : Num.isNaN w = false
  lb : ∀ u ∈ T, ∀ x, x < n → x ∉ T → Num.lt (entry n data Num.infinity u x) w = false
  att : ∃ u ∈ T, Num.lt w (entry n data Num.infinity u b) = false

def PathSteps (n : Nat) (data : Array α) (ord : List Nat) (rs : List (Step α)) : Prop :=
  ∀ (t : Nat) (s : Step α), rs[t]? = some s → ∃ a b, ord[t]? = some a ∧ ord[t + 1]? = some b ∧
    ((s.c1 = a ∧ s.c2 = b) ∨ (s.c1 = b ∧ s.c2 = a)) ∧
    IsMinCross n data (ord.take (t + 1)) b s.d

/-- The path grows by the vertex `b`: the new step joins it to the last vertex `a`, with a minimum
weight crossing the cut after `ord`. -/
theorem PathSteps.snoc {n : Nat} {data : Array α} {ord : List Nat} {rs : List (Step α)}
    {a b : Nat} {s : Step α} (h : PathSteps n data ord rs) (hlen : ord.length = rs.length + 1)
    (ha : ord[rs.length]? = some a) (hc : (s.c1 = a ∧ s.c2 = b) ∨ (s.c1 = b ∧ s.c2 = a))
    (mc : IsMinCross n data ord b s.d) : PathSteps n data (ord ++ [b]) (rs ++ [s]) := by
  intro t s' hts
  rcases getElem?_snoc_cases hts with ⟨htk, hts⟩ | ⟨rfl, rfl⟩
  · obtain ⟨a', b', ha', hb', hor, hmc⟩ := h t s' hts
    refine ⟨a', b', ?_, ?_, hor, ?_⟩
    · rw [List.getElem?_append_left (by omega)]; exact ha'
    · rw [List.getElem?_append_left (by omega)]; exact hb'
    · rw [List.take_append_of_le_length (by omega)]; exact hmc
  · refine ⟨a, b, ?_, ?_, hc, ?_⟩
    · rw [List.getElem?_append_left (by omega)]; exact ha
    · rw [List.getElem?_append_right (by omega), hlen]; simp
    · rw [List.take_append_of_le_length (by omega), List.take_of_length_le (by omega)]; exact mc

/-- `ord` is the order in which the tree vertices were added.  `md_lb` leaves out `cluster`: the slots
have not yet seen the distances to the vertex added last; the next scan brings them in. -/
structure ValInv (n : Nat) (data : Array α) (k : Nat) (live : List Nat) (st : State α)
    (dend : Dendrogram α) (cluster : Nat) (ord : List Nat) : Prop where
  len : ord.length = k + 1
  perm : (ord ++ live).Perm (List.range n)
  last : ord[k]? = some cluster
  steps : PathSteps n data ord dend.steps.toList
  md_nn : ∀ (x : Nat) (w : α), st.minDists[x]? = some w → Num.isNaN w = false
  md_lb : ∀ x ∈ live, ∀ w : α, st.minDists[x]? = some w → ∀ u ∈ ord, u ≠ cluster →
    Num.lt (entry n data Num.infinity u x) w = false
  md_ub : ∀ x ∈ live, ∀ w : α, st.minDists[x]? = some w →
    ∃ u ∈ ord, Num.lt w (entry n data Num.infinity u x) = false

/-- One iteration keeps `MstInv` whatever the comparisons answer, and `ValInv` when they obey the
laws. -/
theorem mstIter_val (chk : Bool) (n k : Nat) (data : Array α) (live : List Nat)
    (st : State α) (dend : Dendrogram α) (M : Mat α) (cluster : Nat) (hk : k + 1 < n)
    (inv : MstInv n k live st dend M cluster) (hdata : M.data = data) :
    ∃ st' dend' M' cluster' live',
      mstIter chk (st, dend, M, cluster) = .ok (st', dend', M', cluster') ∧
      MstInv n (k + 1) live' st' dend' M' cluster' ∧ M'.data = data ∧
      (OrderLaws α → NoNaN n data → ∀ ord, ValInv n data k live st dend cluster ord →
        ∃ ord', ValInv n data (k + 1) live' st' dend' cluster' ord') := by
  obtain ⟨m0, sc2, act', hm0, hS, hmin, hmin_live, e, inv'⟩ :=
    mstIter_spec chk n k live st dend M cluster hk inv
  refine ⟨_, _, _, _, _, e, inv', by rw [hS.M]; exact hdata, fun L hnan ord val =>
    ⟨ord ++ [sc2.minObs], ?_⟩⟩
  have hltn := inv.rep.mem_lt
  have hmem' : ∀ x, x ∈ live.filter (· ≠ sc2.minObs) ↔ x ∈ live ∧ x ≠ sc2.minObs :=
    fun _ => mem_filter_ne
  have hne_cl : ∀ x ∈ live, x ≠ cluster := fun x hx h => inv.cl_not (h ▸ hx)
  have hd : ∀ x ∈ live, M.dval x cluster = entry n data Num.infinity x cluster := fun x hx => by
    rw [Mat.dval_eq_entry M x cluster (hne_cl x hx) (inv.mn ▸ hltn x hx) (inv.mn ▸ inv.cl_lt),
      inv.mn, hdata]
  have fin : ScanMin live sc2 := hmin L (fun x hx => by
    rw [hd x hx]; exact hnan x cluster (hltn x hx) inv.cl_lt (hne_cl x hx)) val.md_nn
  have hslot : ∀ x ∈ live, ∃ hx : x < st.minDists.size, sc2.minDists[x]? =
      some (Gen.single (entry n data Num.infinity x cluster) st.minDists[x]) := by
    intro x hx
    have hxs : x < st.minDists.size := by rw [inv.md_sz]; exact hltn x hx
    refine ⟨hxs, ?_⟩
    rw [hS.md x, if_pos hx, ← hd x hx]
    simp only [Array.getElem?_eq_getElem hxs, Option.map_some]
  have hmlb : ∀ x ∈ live, ∀ w : α, sc2.minDists[x]? = some w → ∀ u ∈ ord,
      Num.lt (entry n data Num.infinity u x) w = false := by
    intro x hx w hw u hu
    obtain ⟨hxs, hsl⟩ := hslot x hx
    rw [hsl] at hw
    cases hw
    have hxn := hltn x hx
    by_cases huc : u = cluster
    · subst huc
      apply single_le_of_le_left L _ _ _ (hnan x u hxn inv.cl_lt (hne_cl x hx))
      rw [entry_symm]; exact L.irrefl _
    · exact single_le_of_le_right L _ _ _ (val.md_nn x _ (by simp [hxs]))
        (val.md_lb x hx _ (by simp [hxs]) u hu huc)
  have hmub : ∀ x ∈ live, ∀ w : α, sc2.minDists[x]? = some w → ∃ u ∈ ord,
      Num.lt w (entry n data Num.infinity u x) = false := by
    intro x hx w hw
    obtain ⟨hxs, hsl⟩ := hslot x hx
    rw [hsl] at hw
    cases hw
    rcases Gen.single_cases (entry n data Num.infinity x cluster) st.minDists[x] with e0 | e0
    · refine ⟨cluster, List.mem_of_getElem? val.last, ?_⟩
      rw [e0, entry_symm]; exact L.irrefl _
    · rw [e0]
      exact val.md_ub x hx _ (by simp [hxs])
  refine
    { len := by simp [val.len]
      perm := by
        rw [List.append_assoc, List.singleton_append, filter_ne_eq_erase inv.rep.nodup]
        exact ((List.perm_cons_erase hmin_live).symm.append_left ord).trans val.perm
      last := by
        rw [List.getElem?_append_right (by rw [val.len]; omega)]
        simp [val.len]
      steps := ?_
      md_nn := fin.nn
      md_lb := by
        intro x hx w hw u hu hne
        have hx' := (hmem' x).1 hx
        rcases List.mem_append.mp hu with h | h
        · exact hmlb x hx'.1 w hw u h
        · simp only [List.mem_singleton] at h; exact absurd h hne
      md_ub := by
        intro x hx w hw
        have hx' := (hmem' x).1 hx
        obtain ⟨u, hu, h⟩ := hmub x hx'.1 w hw
        exact ⟨u, List.mem_append_left _ hu, h⟩ }
  rw [Array.toList_push]
  have hk : dend.steps.toList.length = k := by rw [Array.length_toList, inv.steps_sz]
  have hd : (Step.new sc2.minObs cluster sc2.minDist 2).d = sc2.minDist := by
    simp only [Step.new]; split <;> rfl
  refine val.steps.snoc (by rw [val.len, hk]) (by rw [hk]; exact val.last)
    (by simp only [Step.new]; split <;> simp) ?_
  rw [hd]
  refine ⟨fin.nn _ _ hS.cur, fun u hu x hx hxn => ?_, hmub _ hmin_live _ hS.cur⟩
  have hxl : x ∈ live :=
    (List.mem_append.mp (val.perm.mem_iff.mpr (List.mem_range.mpr hx))).resolve_left hxn
  obtain ⟨hxs, hsl⟩ := hslot x hxl
  exact L.le_trans _ _ _ (fin.nn _ _ hsl) (fin.low x hxl _ hsl) (hmlb x hxl _ hsl u hu)

/-- What the value invariant says at the end of the loop: the raw steps are a Hamiltonian path in
Prim order with minimum-crossing weights. -/
structure PrimRun (n : Nat) (data : Array α) (ord : List Nat) (rs : List (Step α)) : Prop where
  len : ord.length = n
  nodup : ord.Nodup
  lt_n : ∀ x ∈ ord, x < n
  all : ∀ x, x < n → x ∈ ord
  rlen : rs.length = n - 1
  steps : PathSteps n data ord rs

/-- The only place where `InfTop` is used: every slot starts as the sentinel, so `md_nn` needs it
non-NaN and `md_ub` needs an entry from vertex `0` that is not below it. -/
theorem ValInv.init {n : Nat} {data : Array α} (hinf : InfTop n data) (hn : 0 < n) (act0 : Active) :
    ValInv n data 0 ((List.range n).filter (· ≠ 0))
      { (State.fresh n : State α) with active := act0 } (Dendrogram.new n) 0 [0] := by
  have hmd0 : ∀ (x : Nat) (w : α), (State.fresh n : State α).minDists[x]? = some w →
      w = Num.infinity := by
    intro x w hw
    simp only [State.fresh] at hw
    obtain ⟨_, h⟩ := Array.getElem?_eq_some_iff.mp hw
    simpa using h.symm
  exact
    { len := rfl
      perm := by
        rw [List.singleton_append, filter_ne_eq_erase List.nodup_range]
        exact (List.perm_cons_erase (List.mem_range.mpr hn)).symm
      last := rfl
      steps := by intro t s hts; simp [Dendrogram.new] at hts
      md_nn := by intro x w hw; rw [hmd0 x w hw]; exact hinf.1
      md_lb := by
        intro x _ w _ u hu hne
        simp only [List.mem_singleton] at hu
        exact absurd hu hne
      md_ub := by
        intro x hx w hw
        rw [hmd0 x w hw]
        have hx' := mem_filter_ne.1 hx
        exact ⟨0, by simp, hinf.2 0 x hn (List.mem_range.mp hx'.1) (Ne.symm hx'.2)⟩ }

theorem ValInv.result {n : Nat} {data : Array α} {live : List Nat} {st : State α}
    {dend : Dendrogram α} {M : Mat α} {c : Nat} {ord : List Nat}
    (hinv : MstInv n (n - 1) live st dend M c) (hval : ValInv n data (n - 1) live st dend c ord) :
    PrimRun n data ord dend.steps.toList :=
  have hl0 : live = [] := List.eq_nil_of_length_eq_zero (by have := hinv.llen; omega)
  have hp : ord.Perm (List.range n) := by simpa [hl0] using hval.perm
  { len := by have := hinv.llen; rw [hval.len]; omega
    nodup := hp.nodup_iff.mpr List.nodup_range
    lt_n := fun x hx => List.mem_range.mp (hp.mem_iff.mp hx)
    all := fun x hx => hp.mem_iff.mpr (List.mem_range.mpr hx)
    rlen := by simp [hinv.steps_sz]
    steps := hval.steps }

end Kodama
