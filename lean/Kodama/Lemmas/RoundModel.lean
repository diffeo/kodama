/-
The standard model of floating-point arithmetic as a law bundle `Round.Model val fin u lo hi N` over an
abstract `Num α`, and the one-step rounding-error lemmas for the clamped average-linkage update
`Gen.average` and for `Gen.weighted` (`Kodama/Generated/Method.lean`).

`val : α → K` interprets the FINITE numbers (`fin a`) in a linearly ordered field `K` (ℚ, ℝ, …),
`u` is the unit roundoff, `[lo, hi]` the range of magnitudes in which results are NORMAL (neither
underflow nor overflow), `N` the largest size converted exactly by `T::from_usize`.  The laws
`add / mul / div` are Higham's (2.4): for finite arguments whose EXACT result `x` is `0` or satisfies
`lo ≤ |x| ≤ hi` (`InRange`), the computed result is finite and equals `x · (1 + δ)` for some `|δ| ≤ u`.
Being conditional on `InRange` of the exact result, they are not falsified by overflow or underflow of
the number type, as an unconditional `ok`-closure hypothesis would be.

TRUSTED, NOT PROVED HERE (textbook fact: N. J. Higham, *Accuracy and Stability of Numerical
Algorithms*, 2nd ed., §2.2, Thm 2.2 and (2.4)): IEEE-754 binary64 / binary32 arithmetic with
round-to-nearest satisfies this bundle with
  `fin` = "finite (not NaN, not ±∞)", `val` = the real value (`val (−0) = 0`),
  `u = 2⁻⁵³` / `2⁻²⁴`, `lo` = the smallest positive normal number (`2⁻¹⁰²²` / `2⁻¹²⁶`),
  `hi` = the largest finite number, `N = 2⁵³` / `2²⁴`.
No theorem depends on that fact: each takes the bundle as a HYPOTHESIS.

Error bookkeeping.  `Near u k A x  :=  A·(1−u)^k ≤ x  ∧  x·(1−u)^k ≤ A`  says that `x` is `A` up to `k`
rounding factors: `x = A·∏(1+δᵢ)^{±1}`, `|δᵢ| ≤ u`, `k` factors (the classical `θ_k`,
`|θ_k| ≤ γ_k = ku/(1−ku)`, `near_abs_sub_le`).  It is closed under sums, non-negative scalings, products,
one more rounding, division by a quantity that is itself `Near`, and composition (`Near.add`, `.smul`,
`.mul'`, `.round`, `.div`, `.trans`).  `Ap val fin u k X x` packs "`x` is finite,
`X ≥ 0`, `Near u k X (val x)`"; one rounded operation is one lemma (`Model.ap_mul`, `ap_add`, `ap_div`):
the factors of the arguments add up, plus one, provided every value within those factors of the exact
result is `InRange` (`near_inRange`).  The two computed expressions that several updates share are walked
once: `ap_wsum` (`wa·a + wb·b`: average, centroid, Ward) and `weighted_val` (`half·(a+b)`: weighted,
median).

Range side conditions of the one-step lemmas: the arguments are `0` or in `[l, h]` (`In0`), and
`lo·(sa+sb) ≤ l·(1−u)³`, `(sa+sb)·h ≤ hi·(1−u)³`; every exact intermediate result is then `InRange`.
-/
import Kodama.Lemmas.AverageClamp
import Kodama.Lemmas.FieldNum
import Mathlib.Tactic.Ring
import Mathlib.Tactic.Linarith
import Mathlib.Algebra.Order.Field.Basic
namespace Kodama.Round

variable {K : Type} [Field K] [LinearOrder K] [IsStrictOrderedRing K]

/-- The exact result `x` is zero or a normal magnitude: no underflow, no overflow. -/
def InRange (lo hi x : K) : Prop := x = 0 ∨ (lo ≤ |x| ∧ |x| ≤ hi)

/-- **The standard model of floating-point arithmetic** (law bundle; see the file header). -/
structure Model {α : Type} [Num α] (val : α → K) (fin : α → Prop) (u lo hi : K) (N : Nat) :
    Prop where
  u_nonneg : 0 ≤ u
  u_lt_one : u < 1
  lo_pos : 0 < lo
  lo_le_one : lo ≤ 1
  nat_le_hi : (N : K) ≤ hi
  add : ∀ a b, fin a → fin b → InRange lo hi (val a + val b) →
    fin (Num.add a b) ∧ ∃ δ : K, |δ| ≤ u ∧ val (Num.add a b) = (val a + val b) * (1 + δ)
  mul : ∀ a b, fin a → fin b → InRange lo hi (val a * val b) →
    fin (Num.mul a b) ∧ ∃ δ : K, |δ| ≤ u ∧ val (Num.mul a b) = (val a * val b) * (1 + δ)
  div : ∀ a b, fin a → fin b → val b ≠ 0 → InRange lo hi (val a / val b) →
    fin (Num.div a b) ∧ ∃ δ : K, |δ| ≤ u ∧ val (Num.div a b) = (val a / val b) * (1 + δ)
  ofNat : ∀ k : Nat, k ≤ N → fin (Num.ofNat k : α) ∧ val (Num.ofNat k : α) = (k : K)
  half : fin (Num.half : α) ∧ val (Num.half : α) = 1 / 2
  lt : ∀ a b, fin a → fin b → (Num.lt a b = true ↔ val a < val b)
  notNaN : ∀ a, fin a → Num.isNaN a = false

/-- `x` equals `A` up to `k` factors `(1+δ)^{±1}`, `|δ| ≤ u`. -/
def Near (u : K) (k : Nat) (A x : K) : Prop := A * (1 - u) ^ k ≤ x ∧ x * (1 - u) ^ k ≤ A

section near
variable {u : K} {k j : Nat} {A B x y : K}

theorem pow_w_pos (hu : u < 1) (k : Nat) : 0 < (1 - u) ^ k := pow_pos (sub_pos.2 hu) k

theorem pow_w_le_one (h0 : 0 ≤ u) (hu : u < 1) (k : Nat) : (1 - u) ^ k ≤ 1 :=
  pow_le_one₀ (sub_nonneg.2 hu.le) (sub_le_self 1 h0)

theorem pow_w_anti (h0 : 0 ≤ u) (hu : u < 1) (h : k ≤ j) : (1 - u) ^ j ≤ (1 - u) ^ k :=
  pow_le_pow_of_le_one (sub_nonneg.2 hu.le) (sub_le_self 1 h0) h

omit [IsStrictOrderedRing K] in
theorem near_zero_iff : Near u 0 A x ↔ x = A := by
  unfold Near
  simp only [pow_zero, mul_one]
  exact ⟨fun h => le_antisymm h.2 h.1, fun h => by rw [h]; exact ⟨le_rfl, le_rfl⟩⟩

omit [IsStrictOrderedRing K] in
theorem Near.refl (u : K) (A : K) : Near u 0 A A := near_zero_iff.mpr rfl

theorem Near.nonneg (hu : u < 1) (hA : 0 ≤ A) (h : Near u k A x) : 0 ≤ x :=
  le_trans (mul_nonneg hA (pow_w_pos hu k).le) h.1

theorem Near.pos (hu : u < 1) (hA : 0 < A) (h : Near u k A x) : 0 < x :=
  lt_of_lt_of_le (mul_pos hA (pow_w_pos hu k)) h.1

theorem Near.eq_zero (hu : u < 1) (h : Near u k 0 x) : x = 0 :=
  le_antisymm (le_of_mul_le_mul_right (by rw [zero_mul]; exact h.2) (pow_w_pos hu k))
    (by have := h.1; rwa [zero_mul] at this)

theorem Near.mono (h0 : 0 ≤ u) (hu : u < 1) (hA : 0 ≤ A) (hkj : k ≤ j) (h : Near u k A x) :
    Near u j A x := by
  have hx := h.nonneg hu hA
  have hw := pow_w_anti h0 hu hkj
  exact ⟨le_trans (mul_le_mul_of_nonneg_left hw hA) h.1,
    le_trans (mul_le_mul_of_nonneg_left hw hx) h.2⟩

theorem Near.add (h1 : Near u k A x) (h2 : Near u k B y) : Near u k (A + B) (x + y) := by
  constructor
  · rw [add_mul]; exact add_le_add h1.1 h2.1
  · rw [add_mul]; exact add_le_add h1.2 h2.2

theorem Near.smul {c : K} (hc : 0 ≤ c) (h : Near u k A x) : Near u k (c * A) (c * x) := by
  constructor
  · rw [mul_assoc]; exact mul_le_mul_of_nonneg_left h.1 hc
  · rw [mul_assoc]; exact mul_le_mul_of_nonneg_left h.2 hc

theorem Near.trans (hu : u < 1) (h1 : Near u k A x) (h2 : Near u j x y) : Near u (k + j) A y := by
  constructor
  · rw [pow_add, ← mul_assoc]
    exact le_trans (mul_le_mul_of_nonneg_right h1.1 (pow_w_pos hu j).le) h2.1
  · rw [pow_add, mul_comm ((1 - u) ^ k), ← mul_assoc]
    exact le_trans (mul_le_mul_of_nonneg_right h2.2 (pow_w_pos hu k).le) h1.2

/-- `A ≈ x ≤ y ≈ B` gives `A·(1−u)^(k+j) ≤ B`. -/
theorem Near.chain_le (hu : u < 1) (h1 : Near u k A x) (h2 : Near u j B y) (hle : x ≤ y) :
    A * (1 - u) ^ (k + j) ≤ B := by
  have hp := (pow_w_pos hu j).le
  calc A * (1 - u) ^ (k + j) = A * (1 - u) ^ k * (1 - u) ^ j := by rw [pow_add]; ring
    _ ≤ x * (1 - u) ^ j := mul_le_mul_of_nonneg_right h1.1 hp
    _ ≤ y * (1 - u) ^ j := mul_le_mul_of_nonneg_right hle hp
    _ ≤ B := h2.2

theorem Near.mul' (hu : u < 1) (hA : 0 ≤ A) (hB : 0 ≤ B)
    (h1 : Near u k A x) (h2 : Near u j B y) : Near u (k + j) (A * B) (x * y) := by
  have hx := h1.nonneg hu hA
  have hy := h2.nonneg hu hB
  have hpk := pow_w_pos hu k
  have hpj := pow_w_pos hu j
  constructor
  · rw [pow_add]
    calc A * B * ((1 - u) ^ k * (1 - u) ^ j) = (A * (1 - u) ^ k) * (B * (1 - u) ^ j) := by ring
      _ ≤ x * y := mul_le_mul h1.1 h2.1 (mul_nonneg hB hpj.le) hx
  · rw [pow_add]
    calc x * y * ((1 - u) ^ k * (1 - u) ^ j) = (x * (1 - u) ^ k) * (y * (1 - u) ^ j) := by ring
      _ ≤ A * B := mul_le_mul h1.2 h2.2 (mul_nonneg hy hpj.le) hA

theorem one_sub_le_round {δ : K} (hδ : |δ| ≤ u) : 1 - u ≤ 1 + δ := by
  rw [sub_eq_add_neg]; exact add_le_add_right (abs_le.mp hδ).1 1

/-- A rounding factor `1 + δ` is at most `1/(1 − u)`, because `(1 + u)·(1 − u) = 1 − u² ≤ 1`. -/
theorem round_factor_le {δ : K} (hu : u ≤ 1) (hδ : |δ| ≤ u) : (1 + δ) * (1 - u) ≤ 1 :=
  calc (1 + δ) * (1 - u) ≤ (1 + u) * (1 - u) :=
        mul_le_mul_of_nonneg_right (add_le_add_right (abs_le.mp hδ).2 1) (sub_nonneg.2 hu)
    _ = 1 - u * u := by ring
    _ ≤ 1 := sub_le_self 1 (mul_self_nonneg u)

theorem Near.round {δ : K} (hu : u < 1) (hA : 0 ≤ A) (h : Near u k A x) (hδ : |δ| ≤ u) :
    Near u (k + 1) A (x * (1 + δ)) := by
  have hx := h.nonneg hu hA
  have hw : 0 ≤ 1 - u := (sub_pos.2 hu).le
  have hδ1 := one_sub_le_round hδ
  constructor
  · rw [pow_succ, ← mul_assoc]
    exact mul_le_mul h.1 hδ1 hw hx
  · calc x * (1 + δ) * (1 - u) ^ (k + 1) = (x * (1 - u) ^ k) * ((1 + δ) * (1 - u)) := by
          rw [pow_succ]; ring
      _ ≤ A * 1 := mul_le_mul h.2 (round_factor_le hu.le hδ) (mul_nonneg (le_trans hw hδ1) hw) hA
      _ = A := mul_one A

theorem Near.div {T t : K} (hu : u < 1) (hA : 0 ≤ A) (hT : 0 < T) (h : Near u k A x)
    (ht : Near u j T t) : Near u (k + j) (A / T) (x / t) := by
  have hx := h.nonneg hu hA
  have htp : 0 < t := ht.pos hu hT
  have hpk := pow_w_pos hu k
  have hpj := pow_w_pos hu j
  constructor
  · rw [pow_add, div_mul_eq_mul_div, div_le_div_iff₀ hT htp]
    calc A * ((1 - u) ^ k * (1 - u) ^ j) * t = (A * (1 - u) ^ k) * (t * (1 - u) ^ j) := by ring
      _ ≤ x * T := mul_le_mul h.1 ht.2 (mul_nonneg htp.le hpj.le) hx
  · rw [pow_add, div_mul_eq_mul_div, div_le_div_iff₀ htp hT]
    calc x * ((1 - u) ^ k * (1 - u) ^ j) * T = (x * (1 - u) ^ k) * (T * (1 - u) ^ j) := by ring
      _ ≤ A * t := mul_le_mul h.2 ht.1 (mul_nonneg hT.le hpj.le) hA

/-- The classical form: `|x − A| ≤ γ·A` whenever `1 ≤ (1+γ)·(1−u)^k`
(e.g. `γ = ku/(1−ku)`, or `γ = 2ku` for `ku ≤ 1/2`). -/
theorem near_abs_sub_le {γ : K} (h0 : 0 ≤ u) (hu : u < 1) (hA : 0 ≤ A) (h : Near u k A x)
    (hγ : 1 ≤ (1 + γ) * (1 - u) ^ k) : |x - A| ≤ γ * A := by
  have hp := pow_w_pos hu k
  have hp1 := pow_w_le_one h0 hu k
  have hx := h.nonneg hu hA
  have hγ1 : 1 ≤ 1 + γ :=
    le_trans hγ (mul_le_of_le_one_right
      ((mul_pos_iff_of_pos_right hp).1 (lt_of_lt_of_le one_pos hγ)).le hp1)
  have hγ0 : 0 ≤ γ := le_of_add_le_add_left (a := 1) (by rw [add_zero]; exact hγ1)
  rw [abs_le]
  constructor
  · -- with `w = 1 − u`: A − x ≤ A(1 − w^k) ≤ γ A  since (1+γ) w^k ≥ 1 ⇒ 1 − w^k ≤ γ w^k ≤ γ
    have h2 : A * 1 ≤ A * ((1 + γ) * (1 - u) ^ k) := mul_le_mul_of_nonneg_left hγ hA
    have h3 : A * (γ * (1 - u) ^ k) ≤ A * (γ * 1) :=
      mul_le_mul_of_nonneg_left (mul_le_mul_of_nonneg_left hp1 hγ0) hA
    linarith only [h.1, h2, h3]
  · -- x ≤ A / w^k ≤ (1+γ) A
    have h2 : x * 1 ≤ x * ((1 + γ) * (1 - u) ^ k) := mul_le_mul_of_nonneg_left hγ hx
    have h3 : (1 + γ) * (x * (1 - u) ^ k) ≤ (1 + γ) * A :=
      mul_le_mul_of_nonneg_left h.2 (le_trans zero_le_one hγ1)
    linarith only [h2, h3]

/-- The upper bound in `(1+u)` form: `x ≤ A·(1+u)^(2k)` for `u ≤ 1/2`
(`1/(1−u) ≤ (1+u)²` there). -/
theorem Near.le_mul_one_add_pow (h0 : 0 ≤ u) (hu : u ≤ 1 / 2) (hA : 0 ≤ A) (h : Near u k A x) :
    x ≤ A * (1 + u) ^ (2 * k) := by
  have hx := h.nonneg (lt_of_le_of_lt hu one_half_lt_one) hA
  -- `(1−u)(1+u)² = 1 + u·(1 − u − u²)` and `u + u² ≤ 1/2 + 1/4`
  have hw : 1 ≤ (1 - u) * (1 + u) ^ 2 := by
    have huu : u * u ≤ 1 / 2 * (1 / 2) := mul_le_mul hu hu h0 one_half_pos.le
    have e : (1 - u) * (1 + u) ^ 2 = 1 + u * (1 - u - u * u) := by ring
    rw [e]
    exact le_add_of_nonneg_right (mul_nonneg h0 (by linarith only [hu, huu]))
  have hk : 1 ≤ (1 - u) ^ k * (1 + u) ^ (2 * k) := by
    rw [pow_mul, ← mul_pow]; exact one_le_pow₀ hw
  calc x = x * 1 := (mul_one x).symm
    _ ≤ x * ((1 - u) ^ k * (1 + u) ^ (2 * k)) := mul_le_mul_of_nonneg_left hk hx
    _ = (x * (1 - u) ^ k) * (1 + u) ^ (2 * k) := (mul_assoc _ _ _).symm
    _ ≤ A * (1 + u) ^ (2 * k) :=
      mul_le_mul_of_nonneg_right h.2 (pow_nonneg (add_nonneg zero_le_one h0) _)

end near

/-- `x = 0` or `l ≤ x ≤ h` (used with `0 < l`). -/
def In0 (l h x : K) : Prop := x = 0 ∨ (l ≤ x ∧ x ≤ h)

section in0
variable {u l h l' h' x y : K}

omit [IsStrictOrderedRing K] in
theorem In0.nonneg (hl : 0 ≤ l) (hx : In0 l h x) : 0 ≤ x := by
  rcases hx with rfl | ⟨h1, _⟩
  · exact le_rfl
  · exact le_trans hl h1

omit [IsStrictOrderedRing K] in
theorem In0.weaken (hl : l' ≤ l) (hh : h ≤ h') (hx : In0 l h x) : In0 l' h' x := by
  rcases hx with h0 | ⟨h1, h2⟩
  · exact Or.inl h0
  · exact Or.inr ⟨le_trans hl h1, le_trans h2 hh⟩

theorem In0.inRange {lo hi : K} (hl : 0 ≤ l) (h1 : lo ≤ l) (h2 : h ≤ hi) (hx : In0 l h x) :
    InRange lo hi x := by
  rcases hx with h0 | ⟨a, b⟩
  · exact Or.inl h0
  · have : 0 ≤ x := le_trans hl a
    rw [InRange, abs_of_nonneg this]
    exact Or.inr ⟨le_trans h1 a, le_trans b h2⟩

theorem In0.mulc {s m : K} (hl : 0 ≤ l) (h1 : 1 ≤ s) (h2 : s ≤ m) (hx : In0 l h x) :
    In0 l (m * h) (s * x) := by
  rcases hx with h0 | ⟨a, b⟩
  · exact Or.inl (by rw [h0, mul_zero])
  · have hx0 : 0 ≤ x := le_trans hl a
    exact Or.inr ⟨le_trans a (le_mul_of_one_le_left hx0 h1),
      mul_le_mul h2 b hx0 (le_trans zero_le_one (le_trans h1 h2))⟩

theorem In0.add (hl : 0 ≤ l) (hh : 0 ≤ h) (hh' : 0 ≤ h') (hx : In0 l h x) (hy : In0 l h' y) :
    In0 l (h + h') (x + y) := by
  rcases hx with h0 | ⟨a, b⟩
  · rw [h0, zero_add]; exact hy.weaken le_rfl (le_add_of_nonneg_left hh)
  · rcases hy with h0' | ⟨a', b'⟩
    · rw [h0', add_zero]; exact Or.inr ⟨a, le_add_of_le_of_nonneg b hh'⟩
    · exact Or.inr ⟨le_add_of_le_of_nonneg a (le_trans hl a'), add_le_add b b'⟩

theorem In0.round {δ : K} (hu : u < 1) (hl : 0 ≤ l) (hx : In0 l h x) (hδ : |δ| ≤ u) :
    In0 (l * (1 - u)) (h / (1 - u)) (x * (1 + δ)) := by
  have hw : 0 < 1 - u := sub_pos.2 hu
  rcases hx with hz | ⟨a, b⟩
  · exact Or.inl (by rw [hz, zero_mul])
  · have hx0 : 0 ≤ x := le_trans hl a
    refine Or.inr ⟨mul_le_mul a (one_sub_le_round hδ) hw.le hx0, ?_⟩
    rw [le_div_iff₀ hw, mul_assoc]
    exact le_trans (mul_le_of_le_one_right hx0 (round_factor_le hu.le hδ)) b

theorem In0.scale {c : K} (hc : 0 < c) (hx : In0 l h x) : In0 (c * l) (c * h) (c * x) := by
  rcases hx with h0 | ⟨a, b⟩
  · exact Or.inl (by rw [h0, mul_zero])
  · exact Or.inr ⟨mul_le_mul_of_nonneg_left a hc.le, mul_le_mul_of_nonneg_left b hc.le⟩

theorem In0.divc {s m : K} (hl : 0 ≤ l) (h1 : 1 ≤ s) (h2 : s ≤ m) (hx : In0 l h x) :
    In0 (l / m) h (x / s) := by
  have hs : 0 < s := lt_of_lt_of_le one_pos h1
  have hm : 0 < m := lt_of_lt_of_le hs h2
  rcases hx with h0 | ⟨a, b⟩
  · exact Or.inl (by rw [h0, zero_div])
  · have hx0 : 0 ≤ x := le_trans hl a
    refine Or.inr ⟨?_, ?_⟩
    · rw [div_le_div_iff₀ hm hs]
      exact mul_le_mul a h2 hs.le hx0
    · rw [div_le_iff₀ hs]
      calc x ≤ h := b
        _ = h * 1 := (mul_one h).symm
        _ ≤ h * s := mul_le_mul_of_nonneg_left h1 (le_trans hx0 b)

/-- A value within `k` factors of a quantity in `{0} ∪ [L, H]` lies in that set widened by `k` factors. -/
theorem near_in0 {L H X z : K} {k : Nat} (hu : u < 1) (hn : Near u k X z) (r : In0 L H X) :
    In0 (L * (1 - u) ^ k) (H / (1 - u) ^ k) z := by
  have hp := pow_w_pos hu k
  rcases r with hz | ⟨r1, r2⟩
  · subst hz; exact Or.inl (hn.eq_zero hu)
  · refine Or.inr ⟨le_trans (mul_le_mul_of_nonneg_right r1 hp.le) hn.1, ?_⟩
    rw [le_div_iff₀ hp]
    exact le_trans hn.2 r2

/-- … hence in the normal range when `[L, H]` widened by `k` factors is. -/
theorem near_inRange {lo hi L H X : K} {k : Nat} (hu : u < 1) (hL : 0 ≤ L) (r : In0 L H X)
    (hlo : lo ≤ L * (1 - u) ^ k) (hhi : H ≤ hi * (1 - u) ^ k) (z : K) (hn : Near u k X z) :
    InRange lo hi z :=
  (near_in0 hu hn r).inRange (mul_nonneg hL (pow_w_pos hu k).le) hlo
    ((div_le_iff₀ (pow_w_pos hu k)).2 hhi)

end in0

/-- `x` is a finite computed value within `k` rounding factors of the exact quantity `X ≥ 0`. -/
structure Ap {α : Type} [Num α] (val : α → K) (fin : α → Prop) (u : K) (k : Nat) (X : K) (x : α) :
    Prop where
  f : fin x
  nn : 0 ≤ X
  near : Near u k X (val x)

section ap
variable {α : Type} [Num α] {val : α → K} {fin : α → Prop} {u : K} {k j : Nat} {X : K} {x : α}

theorem Ap.val_nonneg (hu : u < 1) (h : Ap val fin u k X x) : 0 ≤ val x := h.near.nonneg hu h.nn

theorem Ap.mono (h0 : 0 ≤ u) (hu : u < 1) (h : Ap val fin u k X x) (hkj : k ≤ j) :
    Ap val fin u j X x := ⟨h.f, h.nn, h.near.mono h0 hu h.nn hkj⟩

/-- The conclusion of a law of the model, read as one more factor. -/
theorem Ap.of_round {v : K} (hu : u < 1) (hX : 0 ≤ X) (hn : Near u k X v)
    (h : fin x ∧ ∃ δ : K, |δ| ≤ u ∧ val x = v * (1 + δ)) : Ap val fin u (k + 1) X x := by
  obtain ⟨f, δ, hδ, e⟩ := h
  exact ⟨f, hX, by rw [e]; exact hn.round hu hX hδ⟩

end ap

namespace Model
variable {α : Type} [Num α] {val : α → K} {fin : α → Prop} {u lo hi : K} {N : Nat}

omit [IsStrictOrderedRing K] in
theorem lt_false (RM : Model val fin u lo hi N) {a b : α} (fa : fin a) (fb : fin b) :
    Num.lt a b = false ↔ val b ≤ val a := by
  rw [← not_lt, ← RM.lt a b fa fb]
  cases Num.lt a b <;> simp

omit [IsStrictOrderedRing K] in
theorem averageLeast_val (RM : Model val fin u lo hi N) {a b : α} (fa : fin a) (fb : fin b) :
    fin (Gen.averageLeast a b) ∧ val (Gen.averageLeast a b) = min (val a) (val b) := by
  unfold Gen.averageLeast
  cases h : Num.lt a b
  · have := (RM.lt_false fa fb).mp h
    simp only [Bool.false_eq_true, if_false]
    exact ⟨fb, (min_eq_right this).symm⟩
  · have := (RM.lt a b fa fb).mp h
    simp only [if_true]
    exact ⟨fa, (min_eq_left this.le).symm⟩

/-! One rounded operation: each of `ap_mul`, `ap_add`, `ap_div` takes the range condition in the form
"every value within the factors accumulated so far of the exact result is `InRange`" (`near_inRange`
discharges it from an interval for the exact result). -/

omit [IsStrictOrderedRing K] in
theorem ap_exact {x : α} (fx : fin x) (h : 0 ≤ val x) : Ap val fin u 0 (val x) x :=
  ⟨fx, h, Near.refl u _⟩

theorem ap_ofNat (RM : Model val fin u lo hi N) {k : Nat} (hk : k ≤ N) :
    Ap val fin u 0 (k : K) (Num.ofNat k : α) := by
  obtain ⟨f, v⟩ := RM.ofNat k hk
  exact ⟨f, Nat.cast_nonneg k, by rw [v]; exact Near.refl u _⟩

theorem ap_half (RM : Model val fin u lo hi N) : Ap val fin u 0 (1 / 2) (Num.half : α) := by
  obtain ⟨f, v⟩ := RM.half
  exact ⟨f, one_half_pos.le, by rw [v]; exact Near.refl u _⟩

theorem ap_mul (RM : Model val fin u lo hi N) {x y : α} {X Y : K} {k j : Nat}
    (hx : Ap val fin u k X x) (hy : Ap val fin u j Y y)
    (hr : ∀ z, Near u (k + j) (X * Y) z → InRange lo hi z) :
    Ap val fin u (k + j + 1) (X * Y) (Num.mul x y) :=
  have hn := Near.mul' RM.u_lt_one hx.nn hy.nn hx.near hy.near
  Ap.of_round RM.u_lt_one (mul_nonneg hx.nn hy.nn) hn (RM.mul x y hx.f hy.f (hr _ hn))

theorem ap_add (RM : Model val fin u lo hi N) {x y : α} {X Y : K} {k : Nat}
    (hx : Ap val fin u k X x) (hy : Ap val fin u k Y y)
    (hr : ∀ z, Near u k (X + Y) z → InRange lo hi z) :
    Ap val fin u (k + 1) (X + Y) (Num.add x y) :=
  have hn := hx.near.add hy.near
  Ap.of_round RM.u_lt_one (add_nonneg hx.nn hy.nn) hn (RM.add x y hx.f hy.f (hr _ hn))

theorem ap_div (RM : Model val fin u lo hi N) {x y : α} {X Y : K} {k j : Nat}
    (hx : Ap val fin u k X x) (hy : Ap val fin u j Y y) (hY : 0 < Y)
    (hr : ∀ z, Near u (k + j) (X / Y) z → InRange lo hi z) :
    Ap val fin u (k + j + 1) (X / Y) (Num.div x y) :=
  have hn := hx.near.div RM.u_lt_one hx.nn hY hy.near
  Ap.of_round RM.u_lt_one (div_nonneg hx.nn hY.le) hn
    (RM.div x y hx.f hy.f (ne_of_gt (hy.near.pos RM.u_lt_one hY)) (hr _ hn))

/-- **The rounded weighted sum** `wa·a + wb·b` of two finite values in `{0} ∪ [l, h]` with computed
weights `Wa ∈ [1, ma]`, `Wb ∈ [1, mb]` (`k` factors each): `k + 2` factors, exact value in
`{0} ∪ [l, ma·h + mb·h]`.  It is the numerator of `averageMean` (hence of `average` and of the minuend
of `centroid`), `k = 0`, and the minuend of Ward's numerator, `k = 1`. -/
theorem ap_wsum (RM : Model val fin u lo hi N) {wa wb a b : α} {Wa Wb l h ma mb : K} {k : Nat}
    (hwa : Ap val fin u k Wa wa) (hwb : Ap val fin u k Wb wb) (fa : fin a) (fb : fin b)
    (hl : 0 < l) (hh : 0 ≤ h) (ra : In0 l h (val a)) (rb : In0 l h (val b))
    (a1 : 1 ≤ Wa) (am : Wa ≤ ma) (b1 : 1 ≤ Wb) (bm : Wb ≤ mb)
    (hlo : lo ≤ l * (1 - u) ^ (k + 1)) (hhi : ma * h + mb * h ≤ hi * (1 - u) ^ (k + 1)) :
    Ap val fin u (k + 2) (Wa * val a + Wb * val b) (Num.add (Num.mul wa a) (Num.mul wb b)) ∧
      In0 l (ma * h + mb * h) (Wa * val a + Wb * val b) := by
  have h0 := RM.u_nonneg
  have hu := RM.u_lt_one
  have ha0 : 0 ≤ ma * h := mul_nonneg (le_trans zero_le_one (le_trans a1 am)) hh
  have hb0 : 0 ≤ mb * h := mul_nonneg (le_trans zero_le_one (le_trans b1 bm)) hh
  have hi0 : 0 ≤ hi := le_trans (Nat.cast_nonneg N) RM.nat_le_hi
  -- the two products have one factor less, hence a wider window
  have w := pow_w_anti h0 hu (Nat.le_succ k)
  have lo' : lo ≤ l * (1 - u) ^ (k + 0) := le_trans hlo (mul_le_mul_of_nonneg_left w hl.le)
  have hi' : ma * h + mb * h ≤ hi * (1 - u) ^ (k + 0) :=
    le_trans hhi (mul_le_mul_of_nonneg_left w hi0)
  have r1 := ra.mulc hl.le a1 am
  have r2 := rb.mulc hl.le b1 bm
  have p1 := RM.ap_mul hwa (ap_exact fa (ra.nonneg hl.le))
    (near_inRange hu hl.le r1 lo' (le_trans (le_add_of_nonneg_right hb0) hi'))
  have p2 := RM.ap_mul hwb (ap_exact fb (rb.nonneg hl.le))
    (near_inRange hu hl.le r2 lo' (le_trans (le_add_of_nonneg_left ha0) hi'))
  have r12 := r1.add hl.le ha0 hb0 r2
  exact ⟨RM.ap_add p1 p2 (near_inRange hu hl.le r12 hlo hhi), r12⟩

/-- The computed size-weighted mean of two finite values in `{0} ∪ [l, h]` is within four factors of
their exact mean: five rounded operations (two `×`, two `+`, one `/`), at most four on any path. -/
theorem averageMean_val (RM : Model val fin u lo hi N) {a b : α} {sa sb : Nat} {l h : K}
    (fa : fin a) (fb : fin b) (hsa : 0 < sa) (hsb : 0 < sb) (hN : sa + sb ≤ N)
    (hl : 0 < l) (hlh : l ≤ h) (ra : In0 l h (val a)) (rb : In0 l h (val b))
    (hlo : lo * ((sa : K) + (sb : K)) ≤ l * (1 - u) ^ 3)
    (hhi : ((sa : K) + (sb : K)) * h ≤ hi * (1 - u) ^ 3) :
    Ap val fin u 4 (((sa : K) * val a + (sb : K) * val b) / ((sa : K) + (sb : K)))
      (Gen.averageMean a b sa sb) := by
  have h0 := RM.u_nonneg
  have hu := RM.u_lt_one
  have hsaK : (1 : K) ≤ (sa : K) := Nat.one_le_cast.2 hsa
  have hsbK : (1 : K) ≤ (sb : K) := Nat.one_le_cast.2 hsb
  have hS1 : (1 : K) ≤ (sa : K) + (sb : K) := le_add_of_le_of_nonneg hsaK (Nat.cast_nonneg sb)
  have hSp : (0 : K) < (sa : K) + (sb : K) := lt_of_lt_of_le one_pos hS1
  have hNK : ((sa : K) + (sb : K)) ≤ (N : K) := by exact_mod_cast hN
  have hhi0 : 0 ≤ hi := le_trans (Nat.cast_nonneg N) RM.nat_le_hi
  have w : (1 - u) ^ 3 ≤ (1 - u) ^ (0 + 1) := pow_w_anti h0 hu (by decide)
  have Ca : Ap val fin u 0 (sa : K) (Num.ofNat sa : α) := RM.ap_ofNat (by omega)
  have Cb : Ap val fin u 0 (sb : K) (Num.ofNat sb : α) := RM.ap_ofNat (by omega)
  -- `lo ≤ lo·S ≤ l·w³ ≤ l·w` and `sa·h + sb·h = S·h ≤ hi·w³ ≤ hi·w`, with `w = 1 − u`, `S = sa + sb`
  obtain ⟨s, r12⟩ := RM.ap_wsum Ca Cb fa fb hl (le_trans hl.le hlh) ra rb hsaK le_rfl hsbK le_rfl
    (le_trans (le_mul_of_one_le_right RM.lo_pos.le hS1)
      (le_trans hlo (mul_le_mul_of_nonneg_left w hl.le)))
    (le_of_eq_of_le (add_mul _ _ _).symm (le_trans hhi (mul_le_mul_of_nonneg_left w hhi0)))
  rw [← add_mul] at r12
  have t := RM.ap_add Ca Cb (near_inRange hu zero_le_one (Or.inr ⟨hS1, hNK⟩)
    (by rw [pow_zero, mul_one]; exact RM.lo_le_one) (by rw [pow_zero, mul_one]; exact RM.nat_le_hi))
  exact RM.ap_div s t hSp (near_inRange hu (div_nonneg hl.le hSp.le) (r12.divc hl.le hS1 le_rfl)
    (by rw [div_mul_eq_mul_div]; exact (le_div_iff₀ hSp).2 hlo) hhi)

theorem averageMean_near (RM : Model val fin u lo hi N) {a b : α} {sa sb ka kb : Nat}
    {A B l h : K} (fa : fin a) (fb : fin b) (hA : 0 ≤ A) (hB : 0 ≤ B)
    (na : Near u ka A (val a)) (nb : Near u kb B (val b))
    (hsa : 0 < sa) (hsb : 0 < sb) (hN : sa + sb ≤ N)
    (hl : 0 < l) (hlh : l ≤ h) (ra : In0 l h (val a)) (rb : In0 l h (val b))
    (hlo : lo * ((sa : K) + (sb : K)) ≤ l * (1 - u) ^ 3)
    (hhi : ((sa : K) + (sb : K)) * h ≤ hi * (1 - u) ^ 3) :
    fin (Gen.averageMean a b sa sb) ∧
      Near u (max ka kb + 4) (((sa : K) * A + (sb : K) * B) / ((sa : K) + (sb : K)))
        (val (Gen.averageMean a b sa sb)) := by
  have h0 := RM.u_nonneg
  have hu := RM.u_lt_one
  have hSp : (0 : K) < (sa : K) + (sb : K) :=
    add_pos_of_pos_of_nonneg (Nat.cast_pos.2 hsa) (Nat.cast_nonneg sb)
  have m := RM.averageMean_val fa fb hsa hsb hN hl hlh ra rb hlo hhi
  -- the exact mean of the computed arguments against the exact mean of `A`, `B`
  have n12 := ((na.mono h0 hu hA (le_max_left ka kb)).smul (Nat.cast_nonneg sa)).add
    ((nb.mono h0 hu hB (le_max_right ka kb)).smul (Nat.cast_nonneg sb))
  exact ⟨m.f, (n12.div hu (add_nonneg (mul_nonneg (Nat.cast_nonneg sa) hA)
    (mul_nonneg (Nat.cast_nonneg sb) hB)) hSp (Near.refl u _)).trans hu m.near⟩

/-- **One step of the clamped average-linkage update.**  If the (finite, range-safe) arguments are
within `ka`, `kb` rounding factors of `A, B ≥ 0`, then `Gen.average a b sa sb` is finite and within
`max ka kb + 4` factors of the exact weighted mean `(sa·A + sb·B)/(sa + sb)`.  When the clamp fires
the result is `least = min(a, b)`: above the computed mean (whence the lower bound) and below the
exact weighted mean of the computed arguments (whence the upper bound). -/
theorem average_near (RM : Model val fin u lo hi N) {a b : α} {sa sb ka kb : Nat}
    {A B l h : K} (fa : fin a) (fb : fin b) (hA : 0 ≤ A) (hB : 0 ≤ B)
    (na : Near u ka A (val a)) (nb : Near u kb B (val b))
    (hsa : 0 < sa) (hsb : 0 < sb) (hN : sa + sb ≤ N)
    (hl : 0 < l) (hlh : l ≤ h) (ra : In0 l h (val a)) (rb : In0 l h (val b))
    (hlo : lo * ((sa : K) + (sb : K)) ≤ l * (1 - u) ^ 3)
    (hhi : ((sa : K) + (sb : K)) * h ≤ hi * (1 - u) ^ 3) :
    fin (Gen.average a b sa sb) ∧
      Near u (max ka kb + 4) (((sa : K) * A + (sb : K) * B) / ((sa : K) + (sb : K)))
        (val (Gen.average a b sa sb)) := by
  have h0 := RM.u_nonneg
  have hu := RM.u_lt_one
  obtain ⟨fm, nm⟩ := RM.averageMean_near fa fb hA hB na nb hsa hsb hN hl hlh ra rb hlo hhi
  obtain ⟨fl, vl⟩ := RM.averageLeast_val fa fb
  rw [Gen.average_eq_clamp]
  cases hc : Num.lt (Gen.averageMean a b sa sb) (Gen.averageLeast a b)
  · simp only [Bool.false_eq_true, if_false]
    exact ⟨fm, nm⟩
  · have hlt := (RM.lt _ _ fm fl).mp hc
    simp only [if_true]
    have hsaK : (0 : K) ≤ (sa : K) := Nat.cast_nonneg sa
    have hsbK : (0 : K) ≤ (sb : K) := Nat.cast_nonneg sb
    have hSp : (0 : K) < (sa : K) + (sb : K) := add_pos_of_pos_of_nonneg (Nat.cast_pos.2 hsa) hsbK
    have hp := pow_w_pos hu (max ka kb + 4)
    have na' := na.mono h0 hu hA (Nat.le_trans (le_max_left ka kb) (Nat.le_add_right _ 4))
    have nb' := nb.mono h0 hu hB (Nat.le_trans (le_max_right ka kb) (Nat.le_add_right _ 4))
    refine ⟨fl, le_trans nm.1 hlt.le, ?_⟩
    rw [vl, le_div_iff₀ hSp]
    exact mean_ge hsaK hsbK
      (le_trans (mul_le_mul_of_nonneg_right (min_le_left _ _) hp.le) na'.2)
      (le_trans (mul_le_mul_of_nonneg_right (min_le_right _ _) hp.le) nb'.2)

/-- `Gen.weighted a b = half·(a + b)` of two finite values in `{0} ∪ [l, h]`: two operations, two
rounding factors.  It is also the minuend of `Gen.median`. -/
theorem weighted_val (RM : Model val fin u lo hi N) {a b : α} {l h : K} (fa : fin a) (fb : fin b)
    (hl : 0 < l) (hlh : l ≤ h) (ra : In0 l h (val a)) (rb : In0 l h (val b))
    (hlo : lo * 2 ≤ l * (1 - u)) (hhi : 2 * h ≤ hi * (1 - u)) :
    Ap val fin u 2 (1 / 2 * (val a + val b)) (Gen.weighted a b) := by
  have h0 := RM.u_nonneg
  have hu := RM.u_lt_one
  have hh0 : 0 ≤ h := le_trans hl.le hlh
  have lw : l * (1 - u) ≤ l := mul_le_of_le_one_right hl.le (sub_le_self 1 h0)
  have hiw : hi * (1 - u) ≤ hi :=
    mul_le_of_le_one_right (le_trans (Nat.cast_nonneg N) RM.nat_le_hi) (sub_le_self 1 h0)
  have r12 := ra.add hl.le hh0 hh0 rb
  have s := RM.ap_add (ap_exact fa (ra.nonneg hl.le)) (ap_exact fb (rb.nonneg hl.le))
    (near_inRange hu hl.le r12 (by rw [pow_zero, mul_one]; linarith only [hlo, lw, RM.lo_pos])
      (by rw [pow_zero, mul_one]; linarith only [hhi, hiw]))
  exact RM.ap_mul RM.ap_half s (near_inRange hu (mul_nonneg one_half_pos.le hl.le)
    (r12.scale one_half_pos) (by rw [Nat.zero_add, pow_one]; linarith only [hlo])
    (by rw [Nat.zero_add, pow_one]; linarith only [hhi, hh0]))

/-- **One step of the weighted-linkage update**: `weighted_val` after the errors of the arguments. -/
theorem weighted_near (RM : Model val fin u lo hi N) {a b : α} {ka kb : Nat}
    {A B l h : K} (fa : fin a) (fb : fin b) (hA : 0 ≤ A) (hB : 0 ≤ B)
    (na : Near u ka A (val a)) (nb : Near u kb B (val b))
    (hl : 0 < l) (hlh : l ≤ h) (ra : In0 l h (val a)) (rb : In0 l h (val b))
    (hlo : lo * 2 ≤ l * (1 - u)) (hhi : 2 * h ≤ hi * (1 - u)) :
    fin (Gen.weighted a b) ∧
      Near u (max ka kb + 2) ((A + B) / 2) (val (Gen.weighted a b)) := by
  have h0 := RM.u_nonneg
  have hu := RM.u_lt_one
  have p := RM.weighted_val fa fb hl hlh ra rb hlo hhi
  have n12 := ((na.mono h0 hu hA (le_max_left ka kb)).add
    (nb.mono h0 hu hB (le_max_right ka kb))).smul (c := (1 / 2 : K)) one_half_pos.le
  have e : (A + B) / 2 = 1 / 2 * (A + B) := by ring
  rw [e]
  exact ⟨p.f, n12.trans hu p.near⟩

end Model
end Kodama.Round
