/-
`nnchain_with` for an approximate dissimilarity relation (`Lemmas/RoundCore.lean`): its loop keeps `ChainInv`
and `RoundCore`; `roundLoop_nn` states the result as `RoundInv` (`ChainInv` with the fields of `RoundCore`
other than `nn`) beside `NnRun`.  One outer iteration is `chainIter_step`
(`Lemmas/ChainIter.lean`), which asks for the `ge` clause of `ChainReducible` on a domain that contains the
live entries (`ChainGeOn ok m`; `ChainGe` is the unrestricted clause, for the clamped average a theorem from
`OrderLaws`) and for "no update of the current matrix at a reciprocal pair produces a NaN" — true because
the update is an `R`-value (`TabCore.row`) and `R … v → isNaN v = false`.
-/
import Kodama.Lemmas.RoundCore
import Kodama.Lemmas.ChainOn
import Kodama.Lemmas.OnSquares
namespace Kodama
open Spec
variable {α : Type} [Num α]

/-- The `ge` clause of `ChainReducible α m` (`Lemmas/ChainIter.lean`). -/
def ChainGe (α : Type) [Num α] (m : MethodChain) : Prop :=
  ∀ (sizes : Array Nat) (sa sb : Nat) (dab : α) (x : Nat) (va vb v t : α),
    0 < sa → 0 < sb → Num.isNaN dab = false → Num.isNaN va = false → Num.isNaN vb = false →
    Num.isNaN t = false → Num.lt t dab = false → Num.lt va t = false → Num.lt vb t = false →
    chainUpdFn m sizes sa sb dab x va vb = .ok v → Num.lt v t = false

theorem ChainGe.on {m : MethodChain} (h : ChainGe α m) (ok : α → Prop) : ChainGeOn ok m :=
  fun sizes sa sb dab x va vb v t hsa hsb _ _ _ _ => h sizes sa sb dab x va vb v t hsa hsb

theorem ChainReducibleOn.chainGeOn {ok : α → Prop} {m : MethodChain}
    (h : ChainReducibleOn α ok m) : ChainGeOn ok m := h.ge

open Crit MTree Rnn in
/-- Invariant of the outer loop after `k` merges, for a relation `R` that need not be functional: `ChainInv`
and the fields of `RoundCore` other than `nn` (`RoundInv.of_core`). -/
structure RoundInv (R : MTree Nat → MTree Nat → α → Prop) (n k : Nat) (live : List Nat)
    (st : State α) (dend : Dendrogram α) (M : Mat α) (σ : IState) : Prop where
  chain : ChainInv n k live st dend M
  state : σ = IState.replay (IState.init n) dend.steps.toList
  live_eq : σ.live = live
  tab : Tab R σ
  table : ∀ x ∈ live, ∀ y ∈ live, x ≠ y → R (σ.tree x) (σ.tree y) (M.dval x y)
  sizes : ∀ x ∈ live, st.sizes.getD x 0 = (σ.tree x).leaves.card
  self : ∀ x ∈ live, x ∈ (σ.tree x).leaves
  inside : ∀ x ∈ live, ∀ t ∈ dend.steps.toList, t.c1 ∈ (σ.tree x).leaves →
    ∀ y ∈ live, y ≠ x → Num.lt (M.dval x y) t.d = false
  run : RunH R n dend.steps.toList

open Crit MTree Rnn in
theorem RoundInv.of_core {R : MTree Nat → MTree Nat → α → Prop} {n k : Nat} {live : List Nat}
    {st : State α} {dend : Dendrogram α} {M : Mat α} {σ : IState} (c : ChainInv n k live st dend M)
    (core : RoundCore R n live st.sizes dend.steps.toList M σ) : RoundInv R n k live st dend M σ :=
  { core with
    chain := c
    inside := fun x hx t ht hin y hy hyx => core.inside x hx y hy (Ne.symm hyx) t ht (.inl hin) }

open Crit MTree Rnn in
/-- **The loop of `nnchain_with` for an approximate relation**: total; `RoundInv` holds at the end and
every raw step merged reciprocal nearest neighbours up to `R` (`NnRun`). -/
theorem roundLoop_nn (L : OrderLaws α) (chk : Bool) (mc : MethodChain)
    {R : MTree Nat → MTree Nat → α → Prop}
    (hge : LwGeOn (fun v => ∃ s t, R s t v) mc.intoMethod) (C : LWCompat mc.intoMethod R)
    (hRnan : ∀ s t v, R s t v → Num.isNaN v = false)
    (data : Array α) (n : Nat) (h2 : 2 ≤ n) (hs : n < 2147483648)
    (hl : 2 * data.size = n * (n - 1)) (hnan : NoNaNData (squareData mc.intoMethod data))
    (hR : ∀ i j, i < n → j < n → i ≠ j →
      R (leaf i) (leaf j) ((init mc.intoMethod n data).D i j)) :
    ∃ (s1 : ChainSt α) (live : List Nat) (σ : IState),
      iterM (chainIter chk mc) (n - 1)
        ⟨{ (State.fresh n : State α) with chain := #[] }, Dendrogram.new n,
          { data := squareData mc.intoMethod data, n := n, acc := 0 }⟩ = .ok s1 ∧
      RoundInv R n (n - 1) live s1.st s1.dend s1.M σ ∧ NnRun R n s1.dend.steps.toList := by
  obtain ⟨s1, live, σ, hloop, hci, hc⟩ :=
    roundLoop_of_step L mc.intoMethod hge C hRnan n (chainIter chk mc) (·.st.sizes)
      (·.dend.steps.toList) (·.M) (fun k live s => ChainInv n k live s.st s.dend s.M)
      (fun _ _ _ h => h.prim.rep.mem_lt)
      (fun k live s σ hk hp hc => by
        have hsz : ∀ x ∈ live, x < s.st.sizes.size := fun x hx => by
          rw [hp.prim.sizes_sz]; exact hp.prim.rep.mem_lt x hx
        obtain ⟨st', dend', M', a, b, e, hp', F⟩ :=
          chainIter_step L chk mc hge.chainGeOn n k live s.st s.dend s.M hk hp
            (fun a ha b hb hab _ x hx hxa hxb v hv => by
              rw [chainUpdFn_eq mc _ _ _ _ x _ _ (hsz x hx)] at hv
              cases hv
              exact hRnan _ _ _ (hc.row C ha hb hx (Nat.ne_of_lt hab) hxa hxb).2)
            (fun x hx y hy hxy => ⟨_, _, hc.table x hx y hy hxy⟩)
        exact ⟨⟨st', dend', M'⟩, a, b, e, hp', F.toRnn hsz⟩)
      ⟨{ (State.fresh n : State α) with chain := #[] }, Dendrogram.new n,
        { data := squareData mc.intoMethod data, n := n, acc := 0 }⟩
      (chainInv_init _ n h2 hs (by rw [squareData_size]; exact hl) hnan)
      (roundCore_init mc.intoMethod data n hs hl hR)
  exact ⟨s1, live, σ, hloop, RoundInv.of_core hci hc, hc.nn⟩

end Kodama
