/-
The main loops of `primitive_with`, `generic_with` and `nnchain_with` for an APPROXIMATE dissimilarity
relation `R s t v` ("`val v` is within `k` rounding factors of the exact criterion of the merge trees `s`,
`t`" — many `v` qualify) that the method's update propagates (`Crit.LWCompat`), over a number type that only
satisfies the standard model on its finite, range-safe values.  `R` is not functional and no global
reducibility is available, so neither the value-for-value simulations (`Lemmas/PrimGreedySim.lean`,
`GenericGreedySim.lean`) nor the run of `Lemmas/RnnChain.lean` (`ChainTreeInv`) apply.

One invariant serves the three algorithms.  Each of their iterations merges a pair of RECIPROCAL NEAREST
NEIGHBOURS of the computed matrix and rewrites one row by the Lance–Williams formula (`RnnFacts`,
`Lemmas/MergeFacts.lean`; a global minimum, which is what `primitive_with` and `generic_with` pick, is such a
pair).  `RoundCore` is preserved by every such iteration (`roundCore_step`): beside `TabCore` ("the matrix
holds `R`-values of the cluster trees") it records of every raw step (`Rnn.StepH`) that its height is
`R`-related to the two merged trees and AT LEAST AS HIGH AS EVERY EARLIER STEP INSIDE THE TWO MERGED CLUSTERS
(`mono`: parent ≥ child, transitively — what makes the stable sort by height a legal replay,
`Rnn.run_isort`), and that it merged reciprocal nearest neighbours up to `R` (`Rnn.NnRun`).  `mono` is
maintained through the clause `inside`: every recorded step inside a live cluster is at most as high as every
current entry of that cluster's row.  Of reducibility only the `ge` clause is used, for the formula itself
and on the `R`-values only (`LwGeOn`; on a domain that contains them it is what holds for weighted linkage
on floats, `Lemmas/WeightedMono.lean`).

`roundLoop_of_step` is the loop, for any state type: the algorithm contributes its bookkeeping invariant and
its iteration lemma.
-/
import Kodama.Lemmas.RnnChain
import Kodama.Lemmas.RnnSort
namespace Kodama
open Spec
variable {α : Type} [Num α]

theorem Spec.LwGeOn.mono {ok ok' : α → Prop} {m : Method} (h : LwGeOn ok m)
    (hm : ∀ v, ok' v → ok v) : LwGeOn ok' m :=
  fun sa sb sx dab va vb t hsa hsb o1 o2 o3 o4 =>
    h sa sb sx dab va vb t hsa hsb (hm _ o1) (hm _ o2) (hm _ o3) (hm _ o4)

theorem ChainGeOn.lw {ok : α → Prop} {mc : MethodChain} (h : ChainGeOn ok mc) :
    LwGeOn ok mc.intoMethod := by
  intro sa sb sx dab va vb t h1 h2 h3 h4 h5 h6 h7 h8 h9 h10 h11 h12 h13
  refine h #[sx] sa sb dab 0 va vb _ t h1 h2 h3 h4 h5 h6 h7 h8 h9 h10 h11 h12 h13 ?_
  rw [chainUpdFn_eq mc _ _ _ _ 0 _ _ (by simp)]
  simp

open Crit MTree Rnn in
/-- The part of the loop invariant that does not mention the data structures of the algorithm: `TabCore`,
and the raw steps recorded so far satisfy `RunH` (maintained through `self`, `inside`) and `NnRun`. -/
structure RoundCore (R : MTree Nat → MTree Nat → α → Prop) (n : Nat) (live : List Nat)
    (sizes : Array Nat) (steps : List (Step α)) (M : Mat α) (σ : IState) : Prop
    extends TabCore R n live sizes steps M σ where
  self : ∀ x ∈ live, x ∈ (σ.tree x).leaves
  /-- every recorded step inside one of two live clusters is at most as high as their current entry -/
  inside : ∀ x ∈ live, ∀ y ∈ live, x ≠ y → ∀ t ∈ steps,
    (t.c1 ∈ (σ.tree x).leaves ∨ t.c1 ∈ (σ.tree y).leaves) → Num.lt (M.dval x y) t.d = false
  run : RunH R n steps
  nn : NnRun R n steps

open Crit MTree Rnn Finset in
/-- Every iteration that satisfies `RnnFacts` preserves `RoundCore`.  The new row is at least as high as
the merge (`hge` at `t := d(a,b)`, the merged pair being reciprocal nearest neighbours), which is at least
as high as everything inside the two merged clusters (`inside`): that gives `StepH.mono` for the recorded
step and `inside` for the merged cluster; for another live cluster `x`, `inside` against the new entry
`d(x, a ∪ b)` is `hge` at `t :=` the step inside `x`, or transitivity through `d(a,b)`. -/
theorem roundCore_step (L : OrderLaws α) (m : Method) {R : MTree Nat → MTree Nat → α → Prop}
    (hge : LwGeOn (fun v => ∃ s t, R s t v) m) (C : LWCompat m R)
    (hRnan : ∀ s t v, R s t v → Num.isNaN v = false)
    {n : Nat} {live : List Nat} {sizes sizes' : Array Nat} {steps steps' : List (Step α)}
    {M M' : Mat α} {σ : IState} {a b : Nat} (hlt : ∀ x ∈ live, x < n)
    (inv : RoundCore R n live sizes steps M σ)
    (F : RnnFacts m n live sizes sizes' steps steps' M M' a b) :
    RoundCore R n (live.filter (· ≠ a)) sizes' steps' M' (σ.merge a b) := by
  have core' := inv.toTabCore.step C hlt F
  have hlive := inv.live_eq
  subst hlive
  have hnn : NoNaNLive M σ.live := fun x hx y hy hxy => hRnan _ _ _ (inv.table x hx y hy hxy)
  have hokM : ∀ x ∈ σ.live, ∀ y ∈ σ.live, x ≠ y → ∃ s t, R s t (M.dval x y) := fun x hx y hy hxy =>
    ⟨_, _, inv.table x hx y hy hxy⟩
  have hpos : ∀ x ∈ σ.live, 0 < sizes.getD x 0 := fun x hx => by
    rw [inv.sizes x hx]; exact Finset.card_pos.mpr (σ.tree x).leaves_nonempty
  have hclu : Clu σ := ⟨inv.tab.nodup, inv.tab.disj, inv.self⟩
  have hab : a ≠ b := Nat.ne_of_lt F.lt
  have hdabnan : Num.isNaN (M.dval a b) = false := hnn a F.ma b F.mb hab
  have hpa : 0 < sizes.getD a 0 := hpos a F.ma
  have hpb : 0 < sizes.getD b 0 := hpos b F.mb
  have hsteps := F.hsteps
  -- every earlier step inside one of the two merged clusters is at most as high as the merge
  have hbelow := inv.inside a F.ma b F.mb hab
  -- the recorded step is inside `a`, hence inside no other live cluster
  have hold : ∀ t ∈ steps', ∀ x ∈ σ.live, x ≠ a → t.c1 ∈ (σ.tree x).leaves → t ∈ steps := by
    intro t ht x hx hxa hin
    rw [hsteps, List.mem_append, List.mem_singleton] at ht
    rcases ht with ht | ht
    · exact ht
    · rw [ht] at hin; exact absurd hin (hclu.not_mem hx F.ma (Ne.symm hxa))
  have hlw : ∀ x ∈ σ.live, x ≠ a → x ≠ b → ∀ t, (∃ s u, R s u t) → Num.isNaN t = false →
      Num.lt t (M.dval a b) = false → Num.lt (M.dval x a) t = false →
      Num.lt (M.dval x b) t = false → Num.lt (M'.dval x b) t = false := by
    intro x hx hxa hxb t okt nant h1 h2 h3
    rw [F.upd x hx hxa hxb]
    exact hge _ _ _ (M.dval a b) (M.dval x a) (M.dval x b) t hpa hpb
      (hokM a F.ma b F.mb hab) (hokM x hx a F.ma hxa) (hokM x hx b F.mb hxb) okt hdabnan
      (hnn x hx a F.ma hxa) (hnn x hx b F.mb hxb) nant h1 h2 h3
  have hnewge : ∀ x ∈ σ.live, x ≠ a → x ≠ b → Num.lt (M'.dval x b) (M.dval a b) = false := by
    intro x hx hxa hxb
    refine hlw x hx hxa hxb _ (hokM a F.ma b F.mb hab) hdabnan (L.irrefl _) ?_ ?_
    · rw [M.dval_comm]; exact F.nn a (Or.inl rfl) x hx hxa
    · rw [M.dval_comm]; exact F.nn b (Or.inr rfl) x hx hxb
  -- the new row against every step inside the merged cluster or inside the other one
  have hrow : ∀ x ∈ σ.live, x ≠ a → x ≠ b → ∀ t ∈ steps',
      (t.c1 ∈ (node (σ.tree a) (σ.tree b)).leaves ∨ t.c1 ∈ (σ.tree x).leaves) →
      Num.lt (M'.dval x b) t.d = false := by
    intro x hx hxa hxb t ht hin
    have hnew := hnewge x hx hxa hxb
    rcases hin with hin | hin
    · -- inside the merged cluster: at most `d(a,b)`, the new row at least
      rw [MTree.leaves_node, mem_union] at hin
      have htd : Num.lt (M.dval a b) t.d = false := by
        rw [hsteps, List.mem_append, List.mem_singleton] at ht
        rcases ht with ht | ht
        · exact hbelow t ht hin
        · rw [ht]; exact L.irrefl _
      exact L.le_trans t.d (M.dval a b) _ hdabnan htd hnew
    · -- inside `x`: reducibility at `t.d`, or transitivity through `d(a,b)`
      have htold := hold t ht x hx hxa hin
      have hva := inv.inside x hx a F.ma hxa t htold (Or.inl hin)
      have hvb := inv.inside x hx b F.mb hxb t htold (Or.inl hin)
      obtain ⟨j, hj⟩ := List.getElem?_of_mem htold
      have hth' := (inv.run j t hj).height
      cases hth : Num.lt t.d (M.dval a b)
      · exact hlw x hx hxa hxb t.d ⟨_, _, hth'⟩ (hRnan _ _ _ hth') hth hva hvb
      · exact L.le_trans t.d (M.dval a b) _ hdabnan (L.asymm _ _ hth) hnew
  exact
    { core' with
      self := (hclu.merge F.ma F.mb hab).self
      inside := by
        refine filter_ne_pairwise (b := b)
          (P := fun x y => ∀ t ∈ steps', (t.c1 ∈ ((σ.merge a b).tree x).leaves ∨
            t.c1 ∈ ((σ.merge a b).tree y).leaves) → Num.lt (M'.dval x y) t.d = false)
          (fun x y h t ht hin => M'.dval_comm x y ▸ h t ht hin.symm)
          (fun x hx y hy hxy hxa hya hxb hyb t ht hin => ?_) (fun y hy hya hyb t ht hin => ?_)
        · rw [IState.merge_tree_of_ne _ _ _ _ hxb, IState.merge_tree_of_ne _ _ _ _ hyb] at hin
          rw [F.frame x y (hlt x hx) (hlt y hy) hxy (fun h => hyb h.1) (fun h => hxb h.1)]
          exact inv.inside x hx y hy hxy t (hin.elim (hold t ht x hx hxa) (hold t ht y hy hya)) hin
        · rw [IState.merge_tree_self, IState.merge_tree_of_ne _ _ _ _ hyb] at hin
          rw [M'.dval_comm]
          exact hrow y hy hya hyb t ht hin
      run := by
        rw [hsteps]
        refine inv.run.snoc ?_
        rw [← inv.state]
        exact ⟨F.ma, F.mb, hab, inv.table a F.ma b F.mb hab,
          by rw [inv.sizes a F.ma, inv.sizes b F.mb], hbelow⟩
      nn := by
        rw [hsteps]
        refine inv.nn.snoc ?_
        rw [← inv.state]
        intro y hy hya hyb
        exact ⟨⟨M.dval a y, inv.table a F.ma y hy (Ne.symm hya), F.nn a (Or.inl rfl) y hy hya⟩,
          ⟨M.dval b y, inv.table b F.mb y hy (Ne.symm hyb), F.nn b (Or.inr rfl) y hy hyb⟩⟩ }

open Crit MTree Rnn in
theorem roundCore_init (m : Method) {R : MTree Nat → MTree Nat → α → Prop}
    (data : Array α) (n : Nat) (hs : n < 2147483648) (hl : 2 * data.size = n * (n - 1))
    (hR : ∀ i j, i < n → j < n → i ≠ j → R (leaf i) (leaf j) ((init m n data).D i j)) :
    RoundCore R n (List.range n) (Array.replicate n 1) []
      ({ data := squareData m data, n := n, acc := 0 } : Mat α) (IState.init n) :=
  { tabCore_init m data n hs hl hR with
    self := (Clu.init n).self
    inside := by intro x _ y _ _ t ht; simp at ht
    run := RunH.nil R n
    nn := NnRun.nil R n }

open Crit MTree Rnn in
/-- **The main loop of `primitive_with`, `generic_with`, `nnchain_with` for an approximate relation.**
`J k live s` is the bookkeeping invariant of the algorithm (`PrimInv`, `GenInv ∧ LB`, `ChainInv`); its
iteration lemma may use `RoundCore` of the current state (no NaN among the live entries, the update writes
`R`-values) and has to deliver `RnnFacts`. -/
theorem roundLoop_of_step {S : Type} (L : OrderLaws α) (m : Method)
    {R : MTree Nat → MTree Nat → α → Prop} (hge : LwGeOn (fun v => ∃ s t, R s t v) m) (C : LWCompat m R)
    (hRnan : ∀ s t v, R s t v → Num.isNaN v = false)
    (n : Nat) (iter : S → Kodama.R S) (sizes : S → Array Nat) (steps : S → List (Step α))
    (mat : S → Mat α) (J : Nat → List Nat → S → Prop)
    (hJ : ∀ k live s, J k live s → ∀ x ∈ live, x < n)
    (hstep : ∀ k live s σ, k + 1 < n → J k live s →
      RoundCore R n live (sizes s) (steps s) (mat s) σ →
      ∃ s' a b, iter s = .ok s' ∧ J (k + 1) (live.filter (· ≠ a)) s' ∧
        RnnFacts m n live (sizes s) (sizes s') (steps s) (steps s') (mat s) (mat s') a b)
    (s0 : S) (h0 : J 0 (List.range n) s0)
    (c0 : RoundCore R n (List.range n) (sizes s0) (steps s0) (mat s0) (IState.init n)) :
    ∃ s1 live σ, iterM iter (n - 1) s0 = .ok s1 ∧ J (n - 1) live s1 ∧
      RoundCore R n live (sizes s1) (steps s1) (mat s1) σ := by
  obtain ⟨s1, e, live, σ, hj, hc⟩ := iterM_ok
    (fun j s => ∃ live σ, J j live s ∧ RoundCore R n live (sizes s) (steps s) (mat s) σ)
    iter (n - 1) s0
    (by
      intro j s hj ⟨live, σ, hJs, hc⟩
      obtain ⟨s', a, b, e, hJ', F⟩ := hstep j live s σ (by omega) hJs hc
      exact ⟨s', e, _, _, hJ', roundCore_step L m hge C hRnan (hJ j live s hJs) hc F⟩)
    ⟨List.range n, IState.init n, h0, c0⟩
  exact ⟨s1, live, σ, e, hj, hc⟩

structure RoundPrimResult (R : Crit.MTree Nat → Crit.MTree Nat → α → Prop) (n : Nat)
    (dend : Dendrogram α) (M : Mat α) : Prop where
  obs : dend.obs = n
  steps_sz : dend.steps.size = n - 1
  raw : RawTree n (rawOf dend)
  heights : ∀ s ∈ dend.steps.toList, Num.isNaN s.d = false
  mn : M.n = n
  run : Rnn.RunH R n dend.steps.toList

theorem RoundPrimResult.of_inv {R : Crit.MTree Nat → Crit.MTree Nat → α → Prop} {n : Nat}
    {live : List Nat} {st : State α} {dend : Dendrogram α} {M : Mat α} {σ : Rnn.IState}
    (hRnan : ∀ s t v, R s t v → Num.isNaN v = false) (hp : PrimInv n (n - 1) live st dend M)
    (core : RoundCore R n live st.sizes dend.steps.toList M σ) :
    RoundPrimResult R n dend M :=
  { hp.result with
    heights := by
      intro s hs'
      obtain ⟨j, hj⟩ := List.getElem?_of_mem hs'
      exact hRnan _ _ _ (core.run j s hj).height
    run := core.run }

open Crit MTree Rnn in
/-- `RedE` for a relation that need not be functional: the witness is the Lance–Williams value. -/
theorem redE_of_lwGeOn {m : Method} {R : MTree Nat → MTree Nat → α → Prop}
    (hge : LwGeOn (fun v => ∃ s t, R s t v) m) (C : LWCompat m R)
    (hRnan : ∀ s t v, R s t v → Num.isNaN v = false) : RedE R := by
  intro ta tb tx s u vab va vb t dab dax dbx rab ra rb rt h0 h1 h2
  exact ⟨_, C.step _ _ _ _ _ _ dab dax dbx ra rb rab,
    hge _ _ _ vab va vb t ta.leaves_nonempty.card_pos tb.leaves_nonempty.card_pos
      ⟨_, _, rab⟩ ⟨_, _, ra⟩ ⟨_, _, rb⟩ ⟨_, _, rt⟩ (hRnan _ _ _ rab)
      (hRnan _ _ _ ra) (hRnan _ _ _ rb) (hRnan _ _ _ rt) h0 h1 h2⟩

end Kodama
