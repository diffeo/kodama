/-
Invariants of the indexed binary min-heap `Heap` (model of `LinkageHeap`, src/queue.rs):
well-formedness `WF`, the key at a heap position, heap order `Ordered`, and what `fresh`, `swap`,
`priority` and `peek` do to them.  The sift loops are in `HeapInvSift.lean`, the public operations in
`HeapInvOps.lean`.

All lookups are stated through `a[i]?` so that no dependent index proofs appear; bracket-form
corollaries are at the end of `HeapInvOps.lean`.
-/
import Kodama.Model.Heap
import Kodama.Laws
namespace Kodama
namespace Heap
variable {α : Type}

def Live (h : Heap α) (o : Nat) : Prop := ∃ i : Nat, h.heap[i]? = some o

/-- `N = h.prio.size` is the number of observations. -/
structure WF (h : Heap α) : Prop where
  obs_size : h.obs.size = h.prio.size
  removed_size : h.removed.size = h.prio.size
  heap_le : h.heap.size ≤ h.prio.size
  /-- `obs` is the inverse of `heap` on the live part (implies `heap[i] < N` and no duplicates). -/
  heap_obs : ∀ i o : Nat, h.heap[i]? = some o → h.obs[o]? = some i
  removed_iff : ∀ o : Nat, o < h.prio.size → (h.removed[o]? = some false ↔ h.Live o)
  /-- So that `2*i+1` and `2*i+2`, which `children` (src/queue.rs) computes for a heap position
  `i < N`, fit in a `usize` (`WF.child_lt_mod`, for `siftDown_succ`). -/
  small : h.prio.size < 2 ^ 62

theorem live_iff_mem (h : Heap α) (o : Nat) : h.Live o ↔ o ∈ h.heap := by
  unfold Live
  rw [Array.mem_iff_getElem?]

theorem pos_lt {h : Heap α} {i o : Nat} (hi : h.heap[i]? = some o) : i < h.heap.size :=
  (Array.getElem?_eq_some_iff.mp hi).1

theorem exists_heap {h : Heap α} {i : Nat} (hi : i < h.heap.size) : ∃ o, h.heap[i]? = some o :=
  ⟨h.heap[i], by simp [hi]⟩

namespace WF
variable {h : Heap α} (hw : WF h)
include hw

theorem lt_of_heap {i o : Nat} (hi : h.heap[i]? = some o) : o < h.prio.size := by
  have h1 := hw.heap_obs i o hi
  have h2 : o < h.obs.size := by
    have := Array.getElem?_eq_some_iff.mp h1
    exact this.1
  rw [← hw.obs_size]; exact h2

theorem heap_inj {i j o : Nat} (hi : h.heap[i]? = some o) (hj : h.heap[j]? = some o) : i = j := by
  have h1 := hw.heap_obs i o hi
  have h2 := hw.heap_obs j o hj
  rw [h1] at h2; exact Option.some.inj h2

theorem exists_prio {i o : Nat} (hi : h.heap[i]? = some o) : ∃ a, h.prio[o]? = some a := by
  have := hw.lt_of_heap hi
  exact ⟨h.prio[o], by simp [this]⟩

theorem live_lt {o : Nat} (hl : h.Live o) : o < h.prio.size := by
  obtain ⟨i, hi⟩ := hl; exact hw.lt_of_heap hi

end WF

variable [Num α]

/-- The priority stored at heap position `i` (total: junk `maxValue` out of range). -/
def key (h : Heap α) (i : Nat) : α := (h.prio[(h.heap[i]?).getD 0]?).getD Num.maxValue

/-- Heap order: every non-root node is `≥` its parent (`¬ child < parent`). -/
def Ordered (h : Heap α) : Prop :=
  ∀ i, 1 ≤ i → i < h.heap.size → Num.lt (h.key i) (h.key ((i - 1) / 2)) = false

def NoNaN (h : Heap α) : Prop :=
  ∀ o a, h.Live o → h.prio[o]? = some a → Num.isNaN a = false

theorem key_eq {h : Heap α} {i o : Nat} {a : α} (hi : h.heap[i]? = some o)
    (ha : h.prio[o]? = some a) : h.key i = a := by
  simp [key, hi, ha]

namespace WF
variable {h : Heap α} (hw : WF h)
include hw

set_option linter.unusedSectionVars false in
theorem live_obs {o : Nat} (hl : h.Live o) : ∃ i, h.obs[o]? = some i ∧ h.heap[i]? = some o := by
  obtain ⟨i, hi⟩ := hl; exact ⟨i, hw.heap_obs i o hi, hi⟩

theorem key_noNaN (hn : h.NoNaN) {i : Nat} (hi : i < h.heap.size) :
    Num.isNaN (h.key i) = false := by
  obtain ⟨o, ho⟩ := exists_heap hi
  obtain ⟨a, ha⟩ := hw.exists_prio ho
  rw [key_eq ho ha]
  exact hn o a ⟨i, ho⟩ ha

end WF

theorem fresh_WF (n : Nat) (hn : n < 2 ^ 62) : WF (fresh n : Heap α) := by
  refine ⟨by simp [fresh], by simp [fresh], by simp [fresh], ?_, ?_, by simpa [fresh] using hn⟩
  · intro i o hi
    simp only [fresh] at hi ⊢
    rw [Array.getElem?_eq_some_iff] at hi ⊢
    obtain ⟨h1, h2⟩ := hi
    simp at h1 h2
    subst h2
    exact ⟨by simpa using h1, by simp⟩
  · intro o ho
    simp only [fresh, Array.size_replicate] at ho
    constructor
    · intro _
      exact ⟨o, by simp [fresh, ho]⟩
    · intro _
      simp [fresh, ho]

theorem fresh_prio (n : Nat) : (fresh n : Heap α).prio = Array.replicate n Num.maxValue := rfl

theorem fresh_live (n o : Nat) : (fresh n : Heap α).Live o ↔ o < n := by
  unfold Live fresh
  constructor
  · rintro ⟨i, hi⟩
    rw [Array.getElem?_eq_some_iff] at hi
    obtain ⟨h1, h2⟩ := hi
    simp at h1 h2; omega
  · intro ho; exact ⟨o, by simp [ho]⟩

theorem fresh_key (n i : Nat) (hi : i < n) : (fresh n : Heap α).key i = Num.maxValue := by
  simp [key, fresh, hi]

theorem fresh_Ordered (n : Nat) (hirr : Num.lt (Num.maxValue : α) Num.maxValue = false) :
    Ordered (fresh n : Heap α) := by
  intro i h1 h2
  have hn : i < n := by simpa [fresh] using h2
  rw [fresh_key n i hn, fresh_key n ((i - 1) / 2) (by omega)]
  exact hirr

/-- The model's swap of two array cells is core's `Array.swap`. -/
theorem aswap_eq {β : Type} (a : Array β) {i j : Nat} (hi : i < a.size) (hj : j < a.size) :
    aswap a i j = .ok (a.swap i j) := by
  simp [aswap, aget, aset, hi, hj, bind, Except.bind, Array.swap_def]

structure Swapped (h h' : Heap α) (i j : Nat) : Prop where
  prio : h'.prio = h.prio
  removed : h'.removed = h.removed
  size : h'.heap.size = h.heap.size
  wf : WF h'
  key : ∀ k, h'.key k = if k = j then h.key i else if k = i then h.key j else h.key k
  heap : ∀ k, h'.heap[k]? = if k = j then h.heap[i]? else if k = i then h.heap[j]? else h.heap[k]?
  live : ∀ o, h'.Live o ↔ h.Live o

theorem swap_swapped {h : Heap α} (hw : WF h) {i j o1 o2 : Nat}
    (h1 : h.heap[i]? = some o1) (h2 : h.heap[j]? = some o2) :
    ∃ h', h.swap o1 o2 = .ok h' ∧ Swapped h h' i j := by
  obtain ⟨hi, e1⟩ := Array.getElem?_eq_some_iff.mp h1
  obtain ⟨hj, e2⟩ := Array.getElem?_eq_some_iff.mp h2
  have p1 := hw.heap_obs i o1 h1
  have p2 := hw.heap_obs j o2 h2
  obtain ⟨ho1, q1⟩ := Array.getElem?_eq_some_iff.mp p1
  obtain ⟨ho2, q2⟩ := Array.getElem?_eq_some_iff.mp p2
  have hheap : ∀ k, (h.heap.swap i j)[k]? =
      if k = j then h.heap[i]? else if k = i then h.heap[j]? else h.heap[k]? := by
    intro k
    rw [Array.getElem?_swap hi hj, h1, h2, e1, e2]
    simp only [eq_comm]
  have hobs : ∀ o, (h.obs.swap o1 o2)[o]? =
      if o = o2 then some i else if o = o1 then some j else h.obs[o]? := by
    intro o
    rw [Array.getElem?_swap ho1 ho2, q1, q2]
    simp only [eq_comm]
  have hlive : ∀ o, Live { h with heap := h.heap.swap i j, obs := h.obs.swap o1 o2 } o ↔ h.Live o :=
    fun o => by rw [live_iff_mem, live_iff_mem]; exact (Array.swap_perm hi hj).mem_iff
  refine ⟨{ h with heap := h.heap.swap i j, obs := h.obs.swap o1 o2 }, ?_, rfl, rfl,
    Array.size_swap, ?_, ?_, hheap, hlive⟩
  · simp [swap, aget, p1, p2, aswap_eq h.heap hi hj, aswap_eq h.obs ho1 ho2, bind, Except.bind, pure,
      Except.pure]
  · refine ⟨Array.size_swap.trans hw.obs_size, hw.removed_size,
      Nat.le_trans (Nat.le_of_eq Array.size_swap) hw.heap_le, ?_, fun o hlt => ?_, hw.small⟩
    · intro k o hk
      have hk' := (hheap k).symm.trans hk
      refine (hobs o).trans ?_
      by_cases c1 : k = j
      · rw [if_pos c1, h1] at hk'
        cases hk'
        by_cases c2 : o1 = o2
        · rw [if_pos c2, c1, hw.heap_inj h1 (c2 ▸ h2)]
        · rw [if_neg c2, if_pos rfl, c1]
      · rw [if_neg c1] at hk'
        by_cases c2 : k = i
        · rw [if_pos c2, h2] at hk'
          cases hk'
          rw [if_pos rfl, c2]
        · rw [if_neg c2] at hk'
          rw [if_neg fun e : o = o2 => c1 (hw.heap_inj hk' (e ▸ h2)),
            if_neg fun e : o = o1 => c2 (hw.heap_inj hk' (e ▸ h1))]
          exact hw.heap_obs k o hk'
    · exact (hw.removed_iff o hlt).trans (hlive o).symm
  · intro k
    unfold Heap.key
    rw [hheap k]
    split
    · rfl
    · split <;> rfl
theorem swap_WF {h : Heap α} (hw : WF h) {o1 o2 : Nat} (l1 : h.Live o1) (l2 : h.Live o2) :
    ∃ h', h.swap o1 o2 = .ok h' ∧ WF h' ∧ h'.prio = h.prio ∧ h'.removed = h.removed ∧
      (∀ o, h'.Live o ↔ h.Live o) := by
  obtain ⟨i, hi⟩ := l1
  obtain ⟨j, hj⟩ := l2
  obtain ⟨h', hs, sw⟩ := swap_swapped hw hi hj
  exact ⟨h', hs, sw.wf, sw.prio, sw.removed, sw.live⟩

namespace Swapped
variable {h h' : Heap α} {i j : Nat} (sw : Swapped h h' i j)
include sw

theorem key_left : h'.key i = h.key j := by
  rw [sw.key i]
  split
  · next e => rw [e]
  · rw [if_pos rfl]

theorem key_right : h'.key j = h.key i := by
  rw [sw.key j, if_pos rfl]

theorem key_other {k : Nat} (hi : k ≠ i) (hj : k ≠ j) : h'.key k = h.key k := by
  rw [sw.key k, if_neg hj, if_neg hi]

end Swapped

section
omit [Num α]

theorem priority_ok {h : Heap α} (hw : WF h) {o : Nat} (hl : h.Live o) :
    ∃ a, h.prio[o]? = some a ∧ h.priority o = .ok a := by
  have hlt := hw.live_lt hl
  have hr := (hw.removed_iff o hlt).mpr hl
  refine ⟨h.prio[o], by simp [hlt], ?_⟩
  have hp : h.prio[o]? = some h.prio[o] := by simp [hlt]
  simp [priority, aget, hr, hp, guard', bind, Except.bind]

theorem peek_live {h : Heap α} {o : Nat} (hp : h.peek = some o) : h.Live o := ⟨0, hp⟩

theorem peek_none {h : Heap α} : h.peek = none ↔ h.heap.size = 0 := by
  simp [peek]

theorem peek_of_live {h : Heap α} {o : Nat} (hl : h.Live o) : ∃ a, h.peek = some a := by
  obtain ⟨i, hi⟩ := hl
  exact ⟨h.heap[0]'(Nat.zero_lt_of_lt (pos_lt hi)), by simp [peek, Nat.zero_lt_of_lt (pos_lt hi)]⟩

end

theorem root_le_key (L : OrderLaws α) {h : Heap α} (hw : WF h) (ho : Ordered h) (hn : NoNaN h) :
    ∀ i, i < h.heap.size → Num.lt (h.key i) (h.key 0) = false := by
  intro i
  induction i using Nat.strongRecOn with
  | _ i ih =>
    intro hi
    by_cases h0 : i = 0
    · subst h0; exact L.irrefl _
    · have hp : (i - 1) / 2 < i := by omega
      have h1 := ih _ hp (by omega)
      have h2 := ho i (by omega) hi
      exact L.le_trans _ _ _ (hw.key_noNaN hn (by omega)) h1 h2

/-- `peek` returns an observation of minimal priority among the live ones. -/
theorem peek_min (L : OrderLaws α) {h : Heap α} (hw : WF h) (ho : Ordered h) (hn : NoNaN h)
    {o : Nat} (hp : h.peek = some o) :
    ∀ o' a a', h.Live o' → h.prio[o]? = some a → h.prio[o']? = some a' → Num.lt a' a = false := by
  intro o' a a' ⟨i, hi⟩ ha ha'
  have := root_le_key L hw ho hn i (pos_lt hi)
  rwa [key_eq hi ha', key_eq (i := 0) hp ha] at this

end Heap
end Kodama
