/-
The initial nearest-neighbour scan of `genericWith`, inside `heapify`, establishes `QInv` for the
full live set `0..n` and the lower-bound invariant `LB` (`Lemmas/GenericInv.lean`): every priority
written is the running minimum of its row, hence a lower bound of it.  Row `n-1` is never
initialised: it keeps the sentinel priority `max_value` (and `nearest[n-1] = 0`).
-/
import Kodama.Lemmas.GenericInv
import Kodama.Lemmas.Loop
import Kodama.Lemmas.Ok
namespace Kodama
open Spec
variable {α : Type} [Num α]

/-- Body of `for col in (row + 1)..n`. -/
def initScanStep (chk : Bool) (M : Mat α) (row : Nat) (acc : Nat × α) (col : Nat) : R (Nat × α) := do
  let v ← M.get chk row col
  pure (if Num.lt v acc.2 then (col, v) else acc)

theorem genericInitRow_eq (chk : Bool) (M : Mat α) (n : Nat) (dists : Array α)
    (nearest : Array Nat) (row : Nat) :
    genericInitRow chk M n (dists, nearest) row = (do
      let v0 ← M.get chk row (row + 1)
      let (min, minDist) ← ((List.range n).drop (row + 1)).foldlM (initScanStep chk M row)
        (row + 1, v0)
      let dists ← aset dists row minDist
      let nearest ← aset nearest row min
      pure (dists, nearest)) := rfl

theorem mem_drop_range {n k x : Nat} : x ∈ (List.range n).drop k ↔ k ≤ x ∧ x < n := by
  rw [List.mem_iff_getElem?]
  constructor
  · rintro ⟨i, hi⟩
    rw [List.getElem?_drop] at hi
    obtain ⟨h1, h2⟩ := List.getElem?_eq_some_iff.mp hi
    simp at h1 h2
    omega
  · rintro ⟨h1, h2⟩
    refine ⟨x - k, ?_⟩
    rw [List.getElem?_drop]
    have : k + (x - k) = x := by omega
    rw [this]
    simp [h2]

section
variable {G : α → Prop} {n : Nat} {M : Mat α}

/-- One row of the initial scan: its candidate, and its priority, a lower bound of the row
(`MGood.scanRow` from the entry at column `row + 1`). -/
theorem genericInitRow_ok (L : OrderLaws α) (gs : GoodSet G) (chk : Bool) (hM : MGood G n M)
    (row : Nat) (hrow : row + 1 < n) (dists : Array α) (nearest : Array Nat) (hd : dists.size = n)
    (hn : nearest.size = n) :
    ∃ p c, genericInitRow chk M n (dists, nearest) row
        = .ok (dists.set row p (by omega), nearest.set row c (by omega)) ∧
      G p ∧ row < c ∧ c < n ∧
      ∀ col v, row < col → col < n → M.get chk row col = .ok v → Num.lt v p = false := by
  obtain ⟨v0, hv0, -⟩ := hM.get chk row (row + 1) (by omega) hrow
  obtain ⟨⟨c, p⟩, e, -, hc, -, gp, hmin⟩ := hM.scanRow L gs chk (fun _ : Nat × α => True) (·.2)
    (·.1) row ((List.range n).drop (row + 1))
    (fun x hx => ⟨(mem_drop_range.mp hx).1, (mem_drop_range.mp hx).2⟩) (initScanStep chk M row)
    (fun acc x v _ _ hv => ⟨_, by simp only [initScanStep, bind, Except.bind, hv]; rfl, trivial,
      by split <;> rfl⟩)
    (row + 1, v0) trivial (Nat.lt_succ_self row) hrow hv0
  have hc' : row < c ∧ c < n := hc.elim (fun (h : c = row + 1) => h ▸ ⟨Nat.lt_succ_self row, hrow⟩)
    fun h => ⟨(mem_drop_range.mp h).1, (mem_drop_range.mp h).2⟩
  have hrd : row < dists.size := by omega
  have hrn : row < nearest.size := by omega
  refine ⟨p, c, ?_, gp, hc'.1, hc'.2, fun col v h1 h2 hv =>
    hmin col (.inr (mem_drop_range.mpr ⟨h1, h2⟩)) v hv⟩
  rw [genericInitRow_eq]
  simp only [bind, Except.bind, hv0, e, aset, hrd, hrn, dite_true, pure, Except.pure]

/-- State of the `(dists, nearest)` pair after rows `0..j` have been scanned. -/
structure InitInv (G : α → Prop) (chk : Bool) (M : Mat α) (n j : Nat) (s : Array α × Array Nat) :
    Prop where
  dsz : s.1.size = n
  nsz : s.2.size = n
  /-- a scanned row has a good priority, a lower bound of the row -/
  done : ∀ i, i < j → ∃ p, s.1[i]? = some p ∧ G p ∧
    ∀ col v, i < col → col < n → M.get chk i col = .ok v → Num.lt v p = false
  rest : ∀ i, j ≤ i → i < n → s.1[i]? = some Num.maxValue
  near : ∀ i, i < j → ∃ c, s.2[i]? = some c ∧ i < c ∧ c < n

theorem genericInitFold_ok (L : OrderLaws α) (gs : GoodSet G) (chk : Bool) (hM : MGood G n M)
    (h2 : 2 ≤ n) :
    ∃ init, (List.range (n - 1)).foldlM (genericInitRow chk M n)
        (Array.replicate n Num.maxValue, Array.replicate n 0) = .ok init ∧
      InitInv G chk M n (n - 1) init := by
  refine foldlM_range_ok (fun j s => InitInv G chk M n j s) (genericInitRow chk M n) (n - 1) ?_ _
    ⟨by simp, by simp, by intro i hi; omega, by intro i _ hi; simp [hi], by intro i hi; omega⟩
  intro j s hjn inv
  obtain ⟨d, nr⟩ := s
  obtain ⟨p, c, e, gp, hc1, hc2, hmin⟩ := genericInitRow_ok L gs chk hM j (by omega) d nr inv.dsz
    inv.nsz
  have hjd : j < d.size := by have := inv.dsz; simp only [] at this; omega
  have hjn : j < nr.size := by have := inv.nsz; simp only [] at this; omega
  refine ⟨_, e, ?_⟩
  refine ⟨by simpa using inv.dsz, by simpa using inv.nsz, ?_, ?_, ?_⟩
  · intro i hi
    simp only [Array.getElem?_set]
    by_cases e' : j = i
    · subst e'; exact ⟨p, by simp, gp, hmin⟩
    · obtain ⟨p', h1, h2⟩ := inv.done i (by omega)
      exact ⟨p', by simp [e', h1], h2⟩
  · intro i hi hin
    simp only [Array.getElem?_set]
    have e' : ¬ j = i := by omega
    simp only [e', if_false]
    exact inv.rest i (by omega) hin
  · intro i hi
    simp only [Array.getElem?_set]
    by_cases e' : j = i
    · subst e'; exact ⟨c, by simp, hc1, hc2⟩
    · obtain ⟨c', h1, h2⟩ := inv.near i (by omega)
      exact ⟨c', by simp [e', h1], h2⟩

/-- Initialisation: the scan followed by `heapify` gives `QInv` on the full live set; the
priorities are the scanned minima, hence lower bounds of their rows. -/
theorem genericInit_spec (L : OrderLaws α) (gs : GoodSet G) (chk : Bool)
    (hmax : Num.isNaN (Num.maxValue : α) = false) (hM : MGood G n M) (h2 : 2 ≤ n)
    (hs : n < 2147483648) :
    ∃ init q, (List.range (n - 1)).foldlM (genericInitRow chk M n)
        (Array.replicate n Num.maxValue, Array.replicate n 0) = .ok init ∧
      (Heap.fresh n : Heap α).heapifyWith chk (fun _ => pure init.1) = .ok q ∧
      QInv G n (List.range n) q init.2 ∧ q.prio = init.1 ∧ LB chk M (List.range n) q.prio := by
  obtain ⟨init, e, inv⟩ := genericInitFold_ok L gs chk hM h2
  have hfsz : (Heap.fresh n : Heap α).prio.size = n := by simp [Heap.fresh]
  obtain ⟨q, eq, qinv, qprio, _, _, qlive⟩ := Heap.heapifyWith_Inv L chk (Heap.fresh n : Heap α)
    (fun _ => pure init.1) init.1 (by rw [hfsz]; omega) rfl (by rw [hfsz]; exact inv.dsz)
    (by
      intro a ha
      obtain ⟨i, hi, rfl⟩ := Array.mem_iff_getElem.mp ha
      have hin : i < n := by rw [← inv.dsz]; exact hi
      by_cases hlast : i < n - 1
      · obtain ⟨p, h1, gp, -⟩ := inv.done i hlast
        have : init.1[i] = p := by
          have := Array.getElem?_eq_some_iff.mp h1
          exact this.2
        rw [this]; exact gs.notNaN p gp
      · have h1 := inv.rest i (by omega) hin
        have : init.1[i] = Num.maxValue := (Array.getElem?_eq_some_iff.mp h1).2
        rw [this]; exact hmax)
  rw [hfsz] at qlive
  refine ⟨init, q, e, eq, ?_, qprio, fun x _ y hy hxy p v hp hv => by
    have hyn := List.mem_range.mp hy
    obtain ⟨p', hp', -, hmin⟩ := inv.done x (by omega)
    cases (qprio ▸ hp).symm.trans hp'
    exact hmin y v hxy hyn hv⟩
  refine ⟨qinv, by rw [qprio]; exact inv.dsz, fun o => by rw [qlive o, List.mem_range], inv.nsz,
    ?_, ?_, ?_⟩
  · intro x hx y hy hxy
    rw [List.mem_range] at hx hy
    obtain ⟨c, h1, h2, h3⟩ := inv.near x (by omega)
    exact ⟨c, h1, h2, Or.inl (List.mem_range.mpr h3)⟩
  · intro x hx y hy hxy
    rw [List.mem_range] at hx hy
    rw [qprio]
    exact (inv.done x (by omega)).imp fun _ h => ⟨h.1, h.2.1⟩
  · intro x hx hall
    rw [List.mem_range] at hx
    have := hall (n - 1) (List.mem_range.mpr (by omega))
    rw [qprio]
    exact inv.rest x (by omega) hx

end
end Kodama
