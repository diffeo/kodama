/-
Concrete runs that several non-vacuity examples of the property files refer to, evaluated once: the toy
matrix `d01=5 d02=9 d03=7 d12=8 d13=6 d23=1` over `Toy.natNum`, and `d01=5 d02=2 d12=9` over exact `ℚ`
(`ratNumMax M`: `fieldNum ℚ` with both sentinels `M`; `M = 0` is `fieldNum ℚ` itself).  The property files
keep private copies of the data under names of their own; those unfold to the literals used here.
-/
import Kodama.Lemmas.SpecDecide
import Kodama.Lemmas.MstPrimInv
import Kodama.Lemmas.ComposeExample
namespace Kodama.Spec

namespace Toy
attribute [local instance] Toy.natNum

theorem ex6_single_valid : GreedyValid .single 4 (#[5, 9, 7, 8, 6, 1] : Array Nat)
    [⟨2, 3, 1, 2⟩, ⟨0, 1, 5, 2⟩, ⟨4, 5, 6, 4⟩] := by decide

theorem ex6_single_tieFree : TieFreeFrom .single
    (init .single 4 (#[5, 9, 7, 8, 6, 1] : Array Nat))
    [⟨2, 3, 1, 2⟩, ⟨0, 1, 5, 2⟩, ⟨4, 5, 6, 4⟩] := by decide

theorem ex6_complete_valid : GreedyValid .complete 4 (#[5, 9, 7, 8, 6, 1] : Array Nat)
    [⟨2, 3, 1, 2⟩, ⟨0, 1, 5, 2⟩, ⟨4, 5, 9, 4⟩] := by decide

theorem ex6_complete_tieFree : TieFreeFrom .complete
    (init .complete 4 (#[5, 9, 7, 8, 6, 1] : Array Nat))
    [⟨2, 3, 1, 2⟩, ⟨0, 1, 5, 2⟩, ⟨4, 5, 9, 4⟩] := by decide

theorem ex6_infTop : InfTop 4 (#[5, 9, 7, 8, 6, 1] : Array Nat) :=
  ⟨rfl, forall_lt_pairs (by decide)⟩

end Toy

theorem exQ_single_valid0 : @GreedyValid ℚ (ratNumMax 0) .single 3 #[5, 2, 9]
    [⟨0, 2, 2, 2⟩, ⟨1, 3, 5, 3⟩] := by decide

theorem exQ_single_tieFree0 : @TieFreeFrom ℚ (ratNumMax 0) .single
    (@init ℚ (ratNumMax 0) .single 3 #[5, 2, 9]) [⟨0, 2, 2, 2⟩, ⟨1, 3, 5, 3⟩] := by decide

theorem exQ_single_valid1000 : @GreedyValid ℚ (ratNumMax 1000) .single 3 #[5, 2, 9]
    [⟨0, 2, 2, 2⟩, ⟨1, 3, 5, 3⟩] := by decide

theorem exQ_single_tieFree1000 : @TieFreeFrom ℚ (ratNumMax 1000) .single
    (@init ℚ (ratNumMax 1000) .single 3 #[5, 2, 9]) [⟨0, 2, 2, 2⟩, ⟨1, 3, 5, 3⟩] := by decide

/-- No off-diagonal entry of `#[5, 2, 9]` exceeds the sentinel `1000` (`InfSafe`, unfolded). -/
theorem exQ_entry_le_1000 : ∀ u v, u < 3 → v < 3 → u ≠ v →
    entry 3 (#[5, 2, 9] : Array ℚ) (1000 : ℚ) u v ≤ (1000 : ℚ) :=
  forall_lt_pairs (by decide)

end Kodama.Spec
