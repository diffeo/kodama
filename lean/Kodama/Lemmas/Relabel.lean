/- `relabel` as pre-pass plus loop (`relabel_ok_iff`), and what it does to the list of heights: the
loop leaves it unchanged (`relabelFold_heights`), and for a method that requires sorting the
pre-pass makes it non-decreasing (`sortSteps_sorted`, hence `relabel_sorted`); `sqrtSteps` maps it
(`heights_sqrtSteps`) and keeps it so under a monotone square root (`sqrtSteps_sorted`).  The order
`stepLe` on steps without NaN (`stepLe_trans_of_mem`, `Rnn.stepLe_total`,
`pairwise_mergeSort_stepLe`), and the stable sort on them as insertion sort
(`mergeSort_stepLe_eq_isortG`). -/
import Kodama.Model.Relabel
import Kodama.Laws
import Kodama.Lemmas.Except
import Kodama.Lemmas.Reset
import Kodama.Lemmas.Sort
namespace Kodama
variable {α : Type} [Num α]

def heights (steps : Array (Step α)) : List α := steps.toList.map (·.d)

omit [Num α] in
theorem setClusters_d (s : Step α) (r1 r2 : Nat) : (s.setClusters r1 r2).d = s.d := by
  unfold Step.setClusters; split <;> rfl

omit [Num α] in
theorem relabelStep_heights (obs : Nat) (uf uf' : UF) (steps steps' : Array (Step α)) (i : Nat)
    (h : relabelStep obs (uf, steps) i = .ok (uf', steps')) : heights steps' = heights steps := by
  unfold relabelStep at h
  simp only [bind_ok, pure_ok] at h
  obtain ⟨s, hs, r1, _, r2, _, uf1, _, sz1, _, sz2, _, st2, hset, heq⟩ := h
  obtain ⟨hi, hsi⟩ := aget_ok.mp hs
  obtain ⟨_, hst⟩ := aset_ok.mp hset
  have : steps' = st2 := by
    have := congrArg Prod.snd heq; simpa using this.symm
  subst this; subst hst
  unfold heights
  simp only [Array.toList_set]
  apply List.ext_getElem
  · simp
  · intro k h1 h2
    simp only [List.getElem_map, List.getElem_set]
    split
    · next hk =>
      subst hk
      simp [setClusters_d, ← hsi]
    · rfl

omit [Num α] in
theorem relabelFold_heights (obs : Nat) (l : List Nat) :
    ∀ (uf uf' : UF) (steps steps' : Array (Step α)),
      l.foldlM (relabelStep obs) (uf, steps) = .ok (uf', steps') → heights steps' = heights steps := by
  intro uf uf' steps steps' h
  have := foldlM_inv (fun (s : UF × Array (Step α)) => heights s.2 = heights steps)
    (relabelStep obs) l
    (fun s x s' _ hs hstep => by
      obtain ⟨u1, st1⟩ := s
      obtain ⟨u2, st2⟩ := s'
      simp only at hs ⊢
      rw [relabelStep_heights obs u1 u2 st1 st2 x hstep, hs])
    (uf, steps) (uf', steps') rfl h
  exact this

theorem stepLe_trans_of_mem (L : OrderLaws α) (l : List (Step α))
    (hnan : ∀ s ∈ l, Num.isNaN s.d = false) :
    ∀ a ∈ l, ∀ b ∈ l, ∀ c ∈ l, stepLe a b = true → stepLe b c = true → stepLe a c = true := by
  intro a _ b hb c _ h1 h2
  simp only [stepLe, Bool.not_eq_true'] at h1 h2 ⊢
  exact L.le_trans a.d b.d c.d (hnan b hb) h1 h2

theorem Rnn.stepLe_total (L : OrderLaws α) (a b : Step α) : (stepLe a b || stepLe b a) = true := by
  simp only [stepLe, Bool.or_eq_true, Bool.not_eq_true']
  exact L.le_total a.d b.d

theorem mergeSort_stepLe_eq_isortG (L : OrderLaws α) (l : List (Step α))
    (hnan : ∀ s ∈ l, Num.isNaN s.d = false) :
    l.mergeSort stepLe = isortG stepLe l :=
  mergeSort_eq_isortG_of_mem stepLe l (stepLe_trans_of_mem L l hnan)
    (fun a _ b _ => Rnn.stepLe_total L a b)

theorem pairwise_mergeSort_stepLe (L : OrderLaws α) (l : List (Step α))
    (hnan : ∀ s ∈ l, Num.isNaN s.d = false) :
    (l.mergeSort stepLe).Pairwise (fun a b => Num.lt b.d a.d = false) :=
  (pairwise_mergeSort_of_mem (stepLe (α := α)) l (stepLe_trans_of_mem L l hnan)
    (fun a _ b _ => Rnn.stepLe_total L a b)).imp fun hab => by simpa [stepLe] using hab

/-- `a ≤ b` on heights, as a Prop. -/
def HLe (a b : α) : Prop := Num.lt b a = false

theorem sortSteps_sorted (L : OrderLaws α) (steps steps' : Array (Step α))
    (h : sortSteps steps = .ok steps') : (heights steps').Pairwise HLe := by
  unfold sortSteps at h
  split at h
  · cases h
  · next hn =>
    simp only [pure_ok] at h
    subst h
    unfold heights
    simp only [List.pairwise_map]
    by_cases hsz : steps.size ≥ 2
    · have hnan : ∀ s ∈ steps.toList, Num.isNaN s.d = false := by
        intro s hs
        have : ¬ (steps.any (fun s => Num.isNaN s.d) = true) := fun h' => hn ⟨hsz, h'⟩
        simp only [Array.any_eq_true, not_exists, Bool.not_eq_true] at this
        obtain ⟨i, hi, rfl⟩ := List.getElem_of_mem hs
        simpa using this i (by simpa using hi)
      exact pairwise_mergeSort_stepLe L steps.toList hnan
    · -- fewer than two steps: `sortSteps` does not check for NaN, and there is nothing to compare
      have hlen : (steps.toList.mergeSort stepLe).length ≤ 1 := by
        simp only [List.length_mergeSort, Array.length_toList]; omega
      match hm : steps.toList.mergeSort stepLe, hlen with
      | [], _ => simp
      | [a], _ => simp
      | _ :: _ :: _, hl => simp at hl

theorem relabel_ok_iff (m : Method) (uf0 : UF) (d : Dendrogram α) (r : UF × Dendrogram α) :
    relabel m uf0 d = .ok r ↔
      ∃ steps0 st', (if m.requiresSorting then sortSteps d.steps else pure d.steps) = .ok steps0 ∧
        (List.range steps0.size).foldlM (relabelStep d.obs) (UF.fresh d.obs, steps0) = .ok st' ∧
        r = (st'.1, { d with steps := st'.2 }) := by
  unfold relabel
  rw [ufReset_eq_fresh]
  cases m.requiresSorting <;> simp only [Bool.false_eq_true, if_false, if_true, bind_ok, pure_ok]
  all_goals
    constructor
    · rintro ⟨steps0, h0, ⟨uf', steps'⟩, hfold, heq⟩
      exact ⟨steps0, (uf', steps'), h0, hfold, heq.symm⟩
    · rintro ⟨steps0, ⟨uf', steps'⟩, h0, hfold, heq⟩
      exact ⟨steps0, h0, (uf', steps'), hfold, heq.symm⟩

theorem relabel_sorted (L : OrderLaws α) (m : Method) (hm : m.requiresSorting = true)
    (d d' : Dendrogram α) (uf0 uf : UF) (h : relabel m uf0 d = .ok (uf, d')) :
    (heights d'.steps).Pairwise HLe := by
  obtain ⟨sorted, st', hsort, hfold, heq⟩ := (relabel_ok_iff m uf0 d _).mp h
  rw [if_pos hm] at hsort
  cases heq
  rw [relabelFold_heights d.obs _ _ _ _ _ hfold]
  exact sortSteps_sorted L _ _ hsort

theorem heights_sqrtSteps (m : Method) (d : Dendrogram α) :
    heights (sqrtSteps m d).steps =
      (heights d.steps).map (fun x => if m.onSquares then Num.sqrt x else x) := by
  unfold sqrtSteps heights
  split
  · simp only [Array.toList_map, List.map_map]; rfl
  · simp only [List.map_id']

theorem sqrtSteps_sorted (S : MonoSqrt α) (m : Method) (d : Dendrogram α)
    (h : (heights d.steps).Pairwise HLe) : (heights (sqrtSteps m d).steps).Pairwise HLe := by
  rw [heights_sqrtSteps, List.pairwise_map]
  refine h.imp fun {a b} hab => ?_
  split
  · exact S.mono _ _ hab
  · exact hab

end Kodama
