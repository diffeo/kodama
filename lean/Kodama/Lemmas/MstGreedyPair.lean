/-
The greedy property of a stably sorted Prim path, stated on component maps (no labels yet).

`rs` is a Prim path (`PrimRun`), `ps` the same steps stably sorted by weight (`StableSorted`),
`es = edgesOf ps`, `compAt es i` the components after the first `i` sorted edges.  For the `i`-th
sorted step `s0` of weight `h = s0.d`:

* `mst_pair_lb`   every entry between two DIFFERENT components of `compAt es i` is `≥ h`
                  (an entry `< h` would connect its endpoints at a level all of whose path edges are
                  strictly lighter than `h`, hence already processed: interval lemma + sortedness);
* `mst_pair_att`  some entry between the components of the two endpoints of `s0` is `≤ h`
                  (the tree vertex `u` at which the minimum crossing weight is reached is joined to
                  the previously added vertex by EARLIER path edges of weight `≤ h`, which a STABLE
                  sort has put before `s0`: interval lemma + stability).
-/
import Kodama.Lemmas.MstPrimExact
import Kodama.Lemmas.MstGreedySort
namespace Kodama
open Spec
variable {α : Type} [Num α]

structure StableSorted (rs ps : List (Step α)) : Prop where
  perm : ps.Perm rs
  sorted : ps.Pairwise (fun a b => Num.lt b.d a.d = false)
  stable : ∀ {t' t j i : Nat} {s s' : Step α}, t' < t → rs[t']? = some s → rs[t]? = some s' →
    Num.lt s'.d s.d = false → ps[j]? = some s → ps[i]? = some s' → j < i

theorem processed_stableSorted (L : OrderLaws α) (steps : Array (Step α))
    (hnn : ∀ s ∈ steps.toList, Num.isNaN s.d = false) (hnd : steps.toList.Nodup) :
    StableSorted steps.toList (processed .single steps).toList where
  perm := processed_perm .single steps
  sorted := processed_sorted L steps hnn
  stable := by
    intro t' t j i s s' ht hs hs' hle hj hi
    rw [processed_single] at hj hi
    refine mergeSort_stable_index (stepLe (α := α)) steps.toList hnd ?_ ?_ ht hs hs' ?_ hj hi
    · intro a _ b hb c _ h1 h2
      simp only [stepLe, Bool.not_eq_true'] at h1 h2 ⊢
      exact L.le_trans a.d b.d c.d (hnn b hb) h1 h2
    · intro a _ b _
      simp only [stepLe, Bool.or_eq_true, Bool.not_eq_true']
      exact L.le_total a.d b.d
    · simp [stepLe, hle]

section
variable {n : Nat} {data : Array α} {ord : List Nat} {rs : List (Step α)}

/-- The raw steps of a Prim run are pairwise different (their edges are). -/
theorem PrimRun.steps_inj (run : PrimRun n data ord rs) {t t' : Nat} {s : Step α}
    (h : rs[t]? = some s) (h' : rs[t']? = some s) : t = t' := by
  obtain ⟨a, b, ha, hb, hor, -⟩ := run.steps t s h
  obtain ⟨a', b', ha', hb', hor', -⟩ := run.steps t' s h'
  rcases hor with ⟨e1, e2⟩ | ⟨e1, e2⟩ <;> rcases hor' with ⟨e1', e2'⟩ | ⟨e1', e2'⟩
  · exact nodup_getElem?_inj run.nodup ha (by rw [ha', ← e1', e1])
  · have h1 := nodup_getElem?_inj run.nodup ha (by rw [hb', ← e1', e1])
    have h2 := nodup_getElem?_inj run.nodup hb (by rw [ha', ← e2', e2])
    omega
  · have h1 := nodup_getElem?_inj run.nodup ha (by rw [hb', ← e2', e2])
    have h2 := nodup_getElem?_inj run.nodup hb (by rw [ha', ← e1', e1])
    omega
  · exact nodup_getElem?_inj run.nodup ha (by rw [ha', ← e2', e2])

theorem PrimRun.steps_nodup (run : PrimRun n data ord rs) : rs.Nodup := by
  unfold List.Nodup
  rw [List.pairwise_iff_getElem]
  intro i j hi hj hij e
  have := run.steps_inj (t := i) (t' := j) (s := rs[i]) (by simp [hi]) (by simp [hj, e])
  omega

variable {ps : List (Step α)}

variable (L : OrderLaws α) (hnan : NoNaN n data) (run : PrimRun n data ord rs)
  (S : StableSorted rs ps)
include L hnan run S

omit hnan run in
theorem sorted_before_of_lt {i : Nat} {s0 s : Step α} (hs0 : ps[i]? = some s0) (hs : s ∈ rs)
    (hlt : Num.lt s.d s0.d = true) : ∃ j, j < i ∧ ps[j]? = some s := by
  obtain ⟨j, hj⟩ := List.mem_iff_getElem?.mp (S.perm.symm.subset hs)
  refine ⟨j, ?_, hj⟩
  apply Classical.byContradiction
  intro hc
  by_cases hji : j = i
  · subst hji
    rw [hj] at hs0
    cases hs0
    rw [L.irrefl] at hlt
    cases hlt
  · have hil := List.getElem?_eq_some_iff.mp hs0
    have hjl := List.getElem?_eq_some_iff.mp hj
    have := List.pairwise_iff_getElem.mp S.sorted i j hil.1 hjl.1 (by omega)
    rw [hil.2, hjl.2, hlt] at this
    cases this

theorem mst_pair_lb {i : Nat} {s0 : Step α} (hs0 : ps[i]? = some s0) {u v : Nat} (hu : u < n)
    (hv : v < n) (hne : compAt (edgesOf ps) i u ≠ compAt (edgesOf ps) i v) :
    Num.lt (entry n data Num.infinity u v) s0.d = false := by
  cases hlt : Num.lt (entry n data Num.infinity u v) s0.d with
  | false => rfl
  | true =>
    exfalso
    apply hne
    have huv : u ≠ v := fun e => hne (e ▸ rfl)
    have hthr : Thr n data (entry n data Num.infinity u v) u v := ⟨hu, hv, huv, L.irrefl _⟩
    have hconn := (prim_interval L hnan run _ u v hu hv).mp (Relation.ReflTransGen.single hthr)
    refine lightConn_compAt ?_ hconn
    intro s hs hl
    apply sorted_before_of_lt L S hs0 hs
    rcases L.cotrans _ s.d _ (run.nn hs) hlt with h | h
    · rw [hl] at h; cases h
    · exact h

theorem mst_pair_att {i : Nat} {s0 : Step α} (hs0 : ps[i]? = some s0) :
    ∃ u v, u < n ∧ v < n ∧ compAt (edgesOf ps) i u = compAt (edgesOf ps) i s0.c1 ∧
      compAt (edgesOf ps) i v = compAt (edgesOf ps) i s0.c2 ∧
      Num.lt s0.d (entry n data Num.infinity u v) = false := by
  obtain ⟨t, ht⟩ := List.mem_iff_getElem?.mp (S.perm.subset (List.mem_of_getElem? hs0))
  obtain ⟨a, b, ha, hb, hor, mc, hbn, hbT, hTn⟩ := run.step_at ht
  obtain ⟨u, huT, hatt⟩ := mc.att
  obtain ⟨i0, hi0, hu⟩ := mem_take_iff_getElem?.mp huT
  have hun := hTn u huT
  have han : a < n := run.lt_n a (List.mem_of_getElem? ha)
  have hub : u ≠ b := fun e => hbT (e ▸ huT)
  have hr : Reach n data s0.d u b := Relation.ReflTransGen.single ⟨hun, hbn, hub, hatt⟩
  obtain ⟨m, rfl⟩ : ∃ m, t = i0 + m := ⟨t - i0, by omega⟩
  -- the path edges from `u` to `a` are not above `s0.d` and earlier: sorted before `s0`
  have hc : compAt (edgesOf ps) i u = compAt (edgesOf ps) i a :=
    run.chain (R := fun x y => compAt (edgesOf ps) i x = compAt (edgesOf ps) i y)
      ⟨fun _ => rfl, Eq.symm, Eq.trans⟩ m i0 u a hu ha fun t' s h1 h2 hs => by
        have hle := reach_light L hnan run s0.d hu hb hr h1 (Nat.lt_succ_of_lt h2) hs
        obtain ⟨j, hj⟩ := List.mem_iff_getElem?.mp (S.perm.symm.subset (List.mem_of_getElem? hs))
        exact compAt_edge _ (edgesOf_at hj) (S.stable h2 hs ht hle hj hs0)
  rcases hor with ⟨e1, e2⟩ | ⟨e1, e2⟩
  · exact ⟨u, b, hun, hbn, by rw [e1]; exact hc, by rw [e2], hatt⟩
  · exact ⟨b, u, hbn, hun, by rw [e1], by rw [e2]; exact hc, by rw [entry_symm]; exact hatt⟩

end

end Kodama
