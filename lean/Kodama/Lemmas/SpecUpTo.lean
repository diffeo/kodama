/-
Greedy validity UP TO ORDER-EQUIVALENCE of the recorded heights: the predicate `Spec.GreedyValid`
with the clause `st.d = post m (D c1 c2)` weakened to "`st.d` and `post m (D c1 c2)` are
incomparable" (`¬ <` both ways).  This is what is proved of `mst_with` for IEEE floats.  A NaN is
incomparable with everything, so the clause alone does not keep a recorded height from being NaN:
the theorems about such runs (`Lemmas/SpecSingle.lean`) assume that separately.  With
`OrderLaws` and `LtTrichotomy` the two predicates coincide (`greedyValidUpTo_iff`,
`Lemmas/MstGreedyReplay.lean`).
-/
import Kodama.Lemmas.SpecReplay
import Kodama.Laws
namespace Kodama.Spec
variable {α : Type} [Num α]

def AdmissibleUpTo (m : Method) (s : NState α) (st : Step α) : Prop :=
  st.c1 ∈ s.live ∧ st.c2 ∈ s.live ∧ st.c1 < st.c2 ∧
  (∀ x ∈ s.live, ∀ y ∈ s.live, x ≠ y → Num.lt (s.D x y) (s.D st.c1 st.c2) = false) ∧
  (Num.lt st.d (post m (s.D st.c1 st.c2)) = false ∧
    Num.lt (post m (s.D st.c1 st.c2)) st.d = false) ∧
  st.size = s.size st.c1 + s.size st.c2

def GreedyFromUpTo (m : Method) : NState α → List (Step α) → Prop
  | _, [] => True
  | s, st :: rest => AdmissibleUpTo m s st ∧ GreedyFromUpTo m (merge m s st.c1 st.c2) rest

def GreedyValidUpTo (m : Method) (n : Nat) (data : Array α) (steps : List (Step α)) : Prop :=
  steps.length = n - 1 ∧ GreedyFromUpTo m (init m n data) steps

theorem greedyFromUpTo_iff (m : Method) (s : NState α) (steps : List (Step α)) :
    GreedyFromUpTo m s steps ↔
      ∀ (i : Nat) (st : Step α), steps[i]? = some st →
        AdmissibleUpTo m (stateAt m s steps i) st :=
  allFrom_iff (fun _ => trivial) (fun _ _ _ => Iff.rfl) s steps

theorem GreedyFromUpTo.merges {m : Method} {s : NState α} {steps : List (Step α)}
    (hg : GreedyFromUpTo m s steps) : Merges m s steps := fun i st hst =>
  have ha := (greedyFromUpTo_iff m s steps).1 hg i st hst
  ⟨ha.1, ha.2.1, ha.2.2.1⟩

/-- A step that is admissible up to order-equivalence of its height is admissible with the height put
right, and leads to the same state. -/
theorem Reached.step_upTo {m : Method} {n : Nat} {data : Array α} {i : Nat} {s : NState α}
    {st : Step α} (hr : Reached m n data i s) (h : AdmissibleUpTo m s st) :
    Reached m n data (i + 1) (merge m s st.c1 st.c2) :=
  hr.step (st := { st with d := post m (s.D st.c1 st.c2) })
    ⟨h.1, h.2.1, h.2.2.1, h.2.2.2.1, rfl, h.2.2.2.2.2⟩

/-- The states of a run that is greedy up to order-equivalence are states of greedy runs. -/
theorem reach_step_upTo {m : Method} {n : Nat} {data : Array α} {steps : List (Step α)}
    (hg : GreedyFromUpTo m (init m n data) steps) {i : Nat} {st : Step α}
    (hst : steps[i]? = some st) :
    Reached m n data i (stateAt m (init m n data) steps i) ∧
      AdmissibleUpTo m (stateAt m (init m n data) steps i) st :=
  ⟨(hg.merges.induct (I := Reached m n data) .start
      (fun j _ hj _ _ hr => hr.step_upTo ((greedyFromUpTo_iff _ _ _).1 hg j _ hj))
      i (Nat.le_of_lt (getElem?_lt hst))).2,
    (greedyFromUpTo_iff _ _ _).1 hg i st hst⟩

theorem Admissible.upTo (L : OrderLaws α) {m : Method} {s : NState α} {st : Step α}
    (h : Admissible m s st) : AdmissibleUpTo m s st := by
  obtain ⟨h1, h2, h3, h4, h5, h6⟩ := h
  exact ⟨h1, h2, h3, h4, ⟨by rw [h5]; exact L.irrefl _, by rw [h5]; exact L.irrefl _⟩, h6⟩

theorem GreedyFrom.upTo (L : OrderLaws α) {m : Method} {s : NState α} {steps : List (Step α)}
    (h : GreedyFrom m s steps) : GreedyFromUpTo m s steps :=
  (greedyFromUpTo_iff _ _ _).2 fun i st hst => ((greedyFrom_iff _ _ _).1 h i st hst).upTo L

theorem GreedyValid.upTo (L : OrderLaws α) {m : Method} {n : Nat} {data : Array α}
    {steps : List (Step α)} (h : GreedyValid m n data steps) : GreedyValidUpTo m n data steps :=
  ⟨h.1, h.2.upTo L⟩

end Kodama.Spec
