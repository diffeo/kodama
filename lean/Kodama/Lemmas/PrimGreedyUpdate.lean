/-
The matrix after the three-range update `updateRows chk act upd a b M` (`a < b` live), entry by
entry (`updateRows_spec`): for every live `x ∉ {a, b}` the entry of the pair `{x, b}` becomes
`upd x (old entry {x, a}) (old entry {x, b})`, and every entry of a pair that is not of that form is
unchanged.  It is `updateRows_dval_of_ok` read through `Mat.get`; that a write to slot `(r, c)`
changes no other entry (`Mat.get_set`) is injectivity of the generated index expression (`idxN_injective`).
Stated through the symmetric accessor `mget chk M x y = M.get chk (min x y) (max x y)`.
-/
import Kodama.Lemmas.ChainMat
namespace Kodama
open Spec
variable {α : Type} [Num α]

def mget (chk : Bool) (M : Mat α) (x y : Nat) : R α := M.get chk (min x y) (max x y)

omit [Num α] in
theorem mget_comm (chk : Bool) (M : Mat α) (x y : Nat) : mget chk M x y = mget chk M y x := by
  unfold mget; rw [Nat.min_comm, Nat.max_comm]

omit [Num α] in
theorem mget_of_lt (chk : Bool) (M : Mat α) {x y : Nat} (h : x < y) :
    mget chk M x y = M.get chk x y := by
  unfold mget; rw [Nat.min_eq_left (Nat.le_of_lt h), Nat.max_eq_right (Nat.le_of_lt h)]

omit [Num α] in
theorem mget_of_gt (chk : Bool) (M : Mat α) {x y : Nat} (h : y < x) :
    mget chk M x y = M.get chk y x := by
  rw [mget_comm, mget_of_lt chk M h]

omit [Num α] in
theorem Mat.get_set (chk : Bool) (M M' : Mat α) (hv : M.Valid) (r c : Nat) (v : α) (hrc : r < c)
    (hcn : c < M.n) (hset : M.set chk r c v = .ok M') :
    M'.n = M.n ∧ ∀ r' c', r' < c' → c' < M.n →
      M'.get chk r' c' = if r' = r ∧ c' = c then .ok v else M.get chk r' c' := by
  have hs := Mat.set_eq_aset chk M r c v hrc hcn hv.small
  have h1 := idxN_lt M.n r c hrc hcn
  have h2 := hv.size
  have hlt : Gen.idxN M.n r c < M.data.size := by omega
  rw [hs] at hset
  simp only [aset, hlt, dite_true, Except.map] at hset
  injection hset with hM
  subst hM
  refine ⟨rfl, ?_⟩
  intro r' c' hrc' hcn'
  have g' := Mat.get_eq_aget chk ({ M with data := M.data.set (Gen.idxN M.n r c) v hlt } : Mat α) r' c'
    hrc' hcn' hv.small
  have g := Mat.get_eq_aget chk M r' c' hrc' hcn' hv.small
  rw [g', g]
  simp only
  have h1' := idxN_lt M.n r' c' hrc' hcn'
  have hlt' : Gen.idxN M.n r' c' < M.data.size := by omega
  by_cases he : r' = r ∧ c' = c
  · obtain ⟨e1, e2⟩ := he
    subst e1 e2
    simp [aget, hlt]
  · have hne : Gen.idxN M.n r c ≠ Gen.idxN M.n r' c' := by
      intro e
      have := idxN_injective M.n r c r' c' hrc hcn hrc' hcn' e
      exact he ⟨this.1.symm, this.2.symm⟩
    rw [if_neg he]
    simp [aget, hne]

omit [Num α] in
theorem Mat.get_tick (chk : Bool) (M : Mat α) (k r c : Nat) :
    (M.tick k).get chk r c = M.get chk r c := rfl

omit [Num α] in
theorem Mat.update_spec (chk : Bool) (M M' : Mat α) (hv : M.Valid) (upd : Nat → α → α → R α)
    (x ra ca rb cb : Nat) (h3 : rb < cb) (h4 : cb < M.n)
    (h : M.update chk upd x ra ca rb cb = .ok M') :
    ∃ va vb v, M.get chk ra ca = .ok va ∧ M.get chk rb cb = .ok vb ∧ upd x va vb = .ok v ∧
      M'.n = M.n ∧ ∀ r' c', r' < c' → c' < M.n →
        M'.get chk r' c' = if r' = rb ∧ c' = cb then .ok v else M.get chk r' c' := by
  unfold Mat.update at h
  obtain ⟨va, hva, h⟩ := bind_ok.mp h
  obtain ⟨vb, hvb, h⟩ := bind_ok.mp h
  obtain ⟨v, hv', h⟩ := bind_ok.mp h
  obtain ⟨M1, hset, h⟩ := bind_ok.mp h
  have hM' : M1.tick 2 = M' := pure_ok.mp h
  subst hM'
  obtain ⟨e1, e3⟩ := Mat.get_set chk M M1 hv rb cb v h3 h4 hset
  exact ⟨va, vb, v, hva, hvb, hv', e1, fun r' c' a b => by rw [Mat.get_tick]; exact e3 r' c' a b⟩

theorem updateRows_spec (chk : Bool) (n : Nat) (act : Active) (live : List Nat)
    (hrep : act.Rep live n) (upd : Nat → α → α → R α)
    (a b : Nat) (hab : a < b) (ha : a ∈ live) (hb : b ∈ live) (M M' : Mat α) (hv : M.Valid)
    (hn : M.n = n) (h : updateRows chk act upd a b M = .ok M') :
    M'.n = n ∧ M'.data.size = M.data.size ∧
    (∀ x ∈ live, x ≠ a → x ≠ b → ∃ va vb v, mget chk M x a = .ok va ∧ mget chk M x b = .ok vb ∧
        upd x va vb = .ok v ∧ mget chk M' x b = .ok v) ∧
    (∀ r c, r < c → c < n → (∀ x ∈ live, x ≠ a → x ≠ b → (r, c) ≠ (min x b, max x b)) →
        M'.get chk r c = M.get chk r c) := by
  obtain ⟨n', -, d', f'⟩ := updateRows_dval_of_ok chk n act live hrep upd a b hab ha hb M M' hv hn h
  have hlt := hrep.mem_lt
  have s' := C20.updateRows_size h
  have hv' : M'.Valid := hv.of_eq (by rw [n', hn]) s'
  subst hn
  refine ⟨n', s', ?_, ?_⟩
  · intro x hx hxa hxb
    exact ⟨_, _, _, Mat.get_dval' chk M hv x a hxa (hlt x hx) (hlt a ha),
      Mat.get_dval' chk M hv x b hxb (hlt x hx) (hlt b hb), d' x hx hxa hxb,
      Mat.get_dval' chk M' hv' x b hxb (by rw [n']; exact hlt x hx) (by rw [n']; exact hlt b hb)⟩
  · intro r c hrc hcn hne
    rw [Mat.get_dval chk M hv r c hrc hcn, Mat.get_dval chk M' hv' r c hrc (by rw [n']; exact hcn),
      f' r c (by omega) hcn (by omega)]
    · rintro ⟨rfl, hr, hra⟩
      exact hne r hr hra (by omega) (by rw [Nat.min_eq_left (by omega), Nat.max_eq_right (by omega)])
    · rintro ⟨rfl, hc, hca⟩
      exact hne c hc hca (by omega) (by rw [Nat.min_eq_right (by omega), Nat.max_eq_left (by omega)])

end Kodama
