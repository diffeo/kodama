/-
Exact arithmetic is an instance of `HalfAddLaws` (`Lemmas/WeightedMono.lean`): in a linearly ordered
field without NaN whose `Num` operations are the field operations (`FieldLaws K`) the six laws hold
on EVERY value (`ok := fun _ => True`), hence on every sub-domain closed under the midpoint — e.g. the
non-negative values (`halfAddLaws_nonneg`).  So the weighted theorems of `Props/C01Weighted.lean`,
`C12Weighted.lean`, `C14Weighted.lean` specialise to the exact statements that also follow from
`chainReducible_exact` (`Lemmas/ChainExact.lean`), and their hypotheses are satisfiable (ℚ).
-/
import Kodama.Lemmas.WeightedMono
import Kodama.Lemmas.FieldInstances
namespace Kodama
variable {K : Type} [Field K] [LinearOrder K] [IsStrictOrderedRing K] [Num K]

theorem halfAddLaws_of_fieldLaws (F : FieldLaws K) (hnan : ∀ x : K, Num.isNaN x = false) :
    HalfAddLaws K (fun _ => True) where
  add_mono_left := by
    intro a b t _ _ _ h
    rw [F.lt_false] at h ⊢
    rw [F.add, F.add]
    exact add_le_add_left h b
  add_mono_right := by
    intro a b t _ _ _ h
    rw [F.lt_false] at h ⊢
    rw [F.add, F.add]
    exact add_le_add_right h a
  half_mono := by
    intro a b c d _ _ _ _ h
    rw [F.lt_false] at h ⊢
    rw [F.mul, F.mul, F.half]
    exact mul_le_mul_of_nonneg_left h (by norm_num)
  half_double := by
    intro t _
    rw [F.lt_false, F.mul, F.half, F.add, ← two_mul, ← mul_assoc, one_div, inv_mul_cancel₀ two_ne_zero,
      one_mul]
  mid_notNaN := fun _ _ _ _ => hnan _
  mid_ok := fun _ _ _ _ => trivial

theorem halfAddLaws_nonneg (F : FieldLaws K) (hnan : ∀ x : K, Num.isNaN x = false) :
    HalfAddLaws K (fun x => 0 ≤ x) :=
  (halfAddLaws_of_fieldLaws F hnan).restrict (fun _ _ => trivial) (by
    intro a b ha hb
    rw [F.mul, F.half, F.add]
    exact mul_nonneg (by norm_num) (add_nonneg ha hb))

example : @HalfAddLaws ℚ (fieldNum ℚ) (fun _ => True) :=
  @halfAddLaws_of_fieldLaws ℚ _ _ _ (fieldNum ℚ) (fieldNum_laws ℚ) (fun _ => rfl)

example : @ChainReducibleOn ℚ (fieldNum ℚ) (fun x => 0 ≤ x) .weighted :=
  @chainReducibleOn_weighted ℚ (fieldNum ℚ) _
    (@FieldLaws.orderLaws ℚ _ _ (fieldNum ℚ) (fieldNum_laws ℚ))
    (@halfAddLaws_nonneg ℚ _ _ _ (fieldNum ℚ) (fieldNum_laws ℚ) (fun _ => rfl))

end Kodama
