/-
From "pairwise minimum on component maps" to `Spec.GreedyValid .single`.  `os` is a well-formed step
list tied to the sorted path edges `ps` by `OutOf`: beneath its label `n+k` lies the component of the
`k`-th edge of `ps` after `k+1` edges, and its heights are those of `ps`.  If, for every `i`, no entry
between two different components after `i` edges is below `ps[i].d` and some entry between the
components of the endpoints of `ps[i]` is not above it, then `os` is a greedy run of the
single-linkage specification.  The argument gives the recorded height only up to order-equivalence
with the table value (`OutOf.greedyValidUpTo`); the specification demands `st.d = post m (D c1 c2)` as
an EQUALITY, which takes `LtTrichotomy` (`OutOf.greedyValid`, through `greedyValidUpTo_iff`).  The
states of the replay come from the list alone: a well-formed list replays legally (`wf_stateAt`,
`WellFormed.merges`), and along any legal replay the single-linkage table holds the minimum over the
cross pairs (`stateAt_SInv`).

Number laws: `OrderLaws` (+ `LtTrichotomy` for the last step), input hypothesis `NoNaN`.
-/
import Kodama.Lemmas.SpecSingle
import Kodama.Lemmas.SpecLaws
import Kodama.Lemmas.MstPrimExact
import Kodama.Lemmas.SpecWellFormed
namespace Kodama
open Spec
variable {α : Type} [Num α]

namespace Spec

theorem AdmissibleUpTo.exact (T : LtTrichotomy α) {m : Method} {s : NState α} {st : Step α}
    (h : AdmissibleUpTo m s st) : Admissible m s st := by
  obtain ⟨h1, h2, h3, h4, ⟨h5, h5'⟩, h6⟩ := h
  exact ⟨h1, h2, h3, h4, T _ _ h5 h5', h6⟩

/-- In a number type in which incomparable values are equal the weak and the exact predicate
coincide; for IEEE floats the weak one tolerates a recorded `-0.0` where the table holds `+0.0`. -/
theorem greedyValidUpTo_iff (L : OrderLaws α) (T : LtTrichotomy α) (m : Method) (n : Nat)
    (data : Array α) (steps : List (Step α)) :
    GreedyValidUpTo m n data steps ↔ GreedyValid m n data steps :=
  ⟨fun h => ⟨h.1, (greedyFrom_iff _ _ _).2 fun i st hst =>
    ((greedyFromUpTo_iff _ _ _).1 h.2 i st hst).exact T⟩, fun h => h.upTo L⟩

theorem WellFormed.merges (m : Method) {n : Nat} {data : Array α} {os : List (Step α)}
    (W : WellFormed n os) : Merges m (init m n data) os := by
  intro i st hst
  have hw := wf_stateAt m (data := data) W i (Nat.le_of_lt (getElem?_lt hst))
  have hord := W.ordered i st hst
  have hfresh := W.fresh i st hst
  exact ⟨(hw.live _).mpr ⟨by omega, hfresh.1⟩, (hw.live _).mpr ⟨by omega, hfresh.2⟩, hord.1⟩

end Spec

section
variable {n : Nat} {ps os : List (Step α)} (O : OutOf n ps os)
include O

omit [Num α] in
theorem OutOf.under_new_iff {k : Nat} {s0 : Step α} (hs0 : ps[k]? = some s0) (u : Nat) :
    Under n os u (n + k) ↔
      (u < n ∧ compAt (edgesOf ps) (k + 1) u = compAt (edgesOf ps) (k + 1) s0.c1) := by
  have hk : k < os.length := by rw [O.len]; exact (List.getElem?_eq_some_iff.mp hs0).1
  obtain ⟨s0', hs0', -, hmem⟩ := O.out k os[k] (by simp [hk])
  rw [hs0] at hs0'
  cases hs0'
  rw [← mem_leaves_iff O.wf.ordered os.length (n + k) (by omega)]
  exact hmem u

omit [Num α] in
theorem OutOf.under_same_comp {i : Nat} {s : NState α} (hst : StInv n i s) {x : Nat}
    (hx : x ∈ s.live) {u v : Nat} (hu : Under n os u x) (hv : Under n os v x) :
    compAt (edgesOf ps) i u = compAt (edgesOf ps) i v := by
  have hxi : x < n + i := by have := hst.lt x hx; have := hst.next; omega
  by_cases hxn : x < n
  · rw [hu.eq_of_lt hxn, hv.eq_of_lt hxn]
  · obtain ⟨k, rfl⟩ : ∃ k, x = n + k := ⟨x - n, by omega⟩
    have hk : k < ps.length := by
      have := hu.index_lt (by omega)
      rw [← O.len]; omega
    have hs0 : ps[k]? = some ps[k] := by simp [hk]
    have h1 := ((O.under_new_iff hs0 u).mp hu).2
    have h2 := ((O.under_new_iff hs0 v).mp hv).2
    exact compAt_mono _ (h1.trans h2.symm) i (by omega)

theorem OutOf.comp_same_under {data : Array α} {i : Nat} {s : NState α}
    (hs : SInv n data os i s) {u v : Nat} (hu : u < n) (hv : v < n)
    (hc : compAt (edgesOf ps) i u = compAt (edgesOf ps) i v) :
    ∃ x ∈ s.live, Under n os u x ∧ Under n os v x := by
  by_cases huv : u = v
  · subst huv
    obtain ⟨x, hx, hux⟩ := hs.cover u hu
    exact ⟨x, hx, hux, hux⟩
  · obtain ⟨k, e, hk, he, h1, h2⟩ := compAt_first_join (edgesOf ps) huv i hc
    obtain ⟨s0, hs0, rfl⟩ := edgesOf_getElem? he
    have hU1 := (O.under_new_iff hs0 u).mpr ⟨hu, h1⟩
    have hU2 := (O.under_new_iff hs0 v).mpr ⟨hv, h2⟩
    obtain ⟨x, hx, hsub⟩ := hs.sub (n + k) (by omega)
    exact ⟨x, hx, hsub u hU1, hsub v hU2⟩

variable {data : Array α} (L : OrderLaws α) (hnan : NoNaN n data)
  (hnn : ∀ s ∈ ps, Num.isNaN s.d = false)
  (hlb : ∀ (i : Nat) (s0 : Step α), ps[i]? = some s0 → ∀ u v, u < n → v < n →
    compAt (edgesOf ps) i u ≠ compAt (edgesOf ps) i v →
    Num.lt (entry n data Num.infinity u v) s0.d = false)
  (hatt : ∀ (i : Nat) (s0 : Step α), ps[i]? = some s0 → ∃ u v, u < n ∧ v < n ∧
    compAt (edgesOf ps) i u = compAt (edgesOf ps) i s0.c1 ∧
    compAt (edgesOf ps) i v = compAt (edgesOf ps) i s0.c2 ∧
    Num.lt s0.d (entry n data Num.infinity u v) = false)
include L hnan hnn hlb hatt

theorem OutOf.admissibleUpTo {i : Nat} {st : Step α} {s : NState α} (hst : os[i]? = some st)
    (hw : WInv n os i s) (hs : SInv n data os i s) : AdmissibleUpTo .single s st := by
  obtain ⟨s0, hs0, hd, -⟩ := O.out i st hst
  have hord := O.wf.ordered i st hst
  have hfresh := O.wf.fresh i st hst
  have hc1 : st.c1 ∈ s.live := (hw.live _).mpr ⟨by omega, hfresh.1⟩
  have hc2 : st.c2 ∈ s.live := (hw.live _).mpr ⟨by omega, hfresh.2⟩
  have hne12 : st.c1 ≠ st.c2 := by omega
  have he := edgesOf_at hs0
  have hs0n : Num.isNaN s0.d = false := hnn s0 (List.mem_of_getElem? hs0)
  have hA : ∀ x ∈ s.live, ∀ y ∈ s.live, x ≠ y → Num.lt (s.D x y) s0.d = false := by
    intro x hx y hy hxy
    obtain ⟨u, v, hu, hv, e⟩ := hs.att x hx y hy hxy
    rw [e]
    apply hlb i s0 hs0 u v hu.lt_n hv.lt_n
    intro hc
    obtain ⟨z, hz, huz, hvz⟩ := O.comp_same_under hs hu.lt_n hv.lt_n hc
    exact hxy ((hs.disj x hx z hz u hu huz).trans (hs.disj y hy z hz v hv hvz).symm)
  have hB : Num.lt s0.d (s.D st.c1 st.c2) = false := by
    obtain ⟨u, v, hu, hv, hcu, hcv, hle⟩ := hatt i s0 hs0
    have hcne : compAt (edgesOf ps) i u ≠ compAt (edgesOf ps) i v := by
      rw [hcu, hcv]; exact compAt_ne O.raw.eff he
    -- `u` and `v` lie beneath the new label, hence beneath the two merged labels, one each
    have hUu : Under n os u (n + i) :=
      (O.under_new_iff hs0 u).mpr ⟨hu, compAt_mono _ hcu _ (Nat.le_succ i)⟩
    have hUv : Under n os v (n + i) := (O.under_new_iff hs0 v).mpr
      ⟨hv, (compAt_mono _ hcv _ (Nat.le_succ i)).trans (compAt_edge _ he (Nat.lt_succ_self i)).symm⟩
    have key : ∀ u v, Under n os u st.c1 → Under n os v st.c2 →
        Num.lt s0.d (entry n data Num.infinity u v) = false →
        Num.lt s0.d (s.D st.c1 st.c2) = false := fun u v hu1 hv2 hle =>
      have huv : u ≠ v := fun e => hne12 (hs.disj _ hc1 _ hc2 u hu1 (e ▸ hv2))
      L.le_trans _ _ _ (hnan u v hu1.lt_n hv2.lt_n huv) (hs.lb _ hc1 _ hc2 hne12 u v hu1 hv2) hle
    rcases hUu.node hst with a1 | a1 <;> rcases hUv.node hst with a2 | a2
    · exact absurd (O.under_same_comp hw.st hc1 a1 a2) hcne
    · exact key u v a1 a2 hle
    · exact key v u a2 a1 (by rw [entry_symm]; exact hle)
    · exact absurd (O.under_same_comp hw.st hc2 a1 a2) hcne
  refine ⟨hc1, hc2, hord.1, ?_, ⟨?_, ?_⟩, ?_⟩
  · intro x hx y hy hxy
    exact L.le_trans _ _ _ hs0n hB (hA x hx y hy hxy)
  · rw [hd]; exact hB
  · rw [hd]; exact hA _ hc1 _ hc2 hne12
  · rw [O.wf.size i st hst, hw.size _ (by omega), hw.size _ (by omega)]

theorem OutOf.greedyValidUpTo : GreedyValidUpTo .single n data os := by
  refine ⟨O.wf.len, (greedyFromUpTo_iff _ _ _).2 fun i st hst => ?_⟩
  have hi : i ≤ os.length := Nat.le_of_lt (List.getElem?_eq_some_iff.mp hst).1
  exact O.admissibleUpTo L hnan hnn hlb hatt hst (wf_stateAt .single O.wf i hi)
    (stateAt_SInv L hnan (O.wf.merges .single) i hi)

theorem OutOf.greedyValid (T : LtTrichotomy α) : GreedyValid .single n data os :=
  (greedyValidUpTo_iff L T _ _ _ _).1 (O.greedyValidUpTo L hnan hnn hlb hatt)

end

end Kodama
