/-
C03 for `primitive_with`: the simulation `PrimSim` carried through the whole main loop of any
algorithm whose iterations satisfy `MergeFacts` (`simLoop_of_step`; `primSim_loop` is the instance for
`primitiveIter`), `primitiveWith` as loop ; `relabel` ; `sqrtSteps` with that result attached
(`primitiveWith_sim`), and when `relabel` processes the raw steps in the order given
(`processed_of_pairwise`, `processed_of_unsorted`).
-/
import Kodama.Lemmas.PrimGreedySim
import Kodama.Lemmas.PrimRun
namespace Kodama
open Spec
variable {α : Type} [Num α]

structure PrimGreedyResult (m : Method) (n : Nat) (data : Array α) (dend : Dendrogram α)
    (M : Mat α) : Prop where
  res : PrimLoopResult n dend M
  trace : MergeTrace n (rawOf dend)
  valid : GreedyValid m n data (mergeOrder m n dend.steps.toList)
  hts : dend.steps.toList.map (·.d)
    = rawHeights m (init m n data) (mergeOrder m n dend.steps.toList)

/-- At the end of the loop the simulation is the greedy-run certificate: the list of specification
steps kept by the simulation is the raw dendrogram relabelled in merge order. -/
theorem PrimSim.greedyResult {chk : Bool} {m : Method} {n : Nat} {data : Array α}
    {live : List Nat} {st : State α} {dend : Dendrogram α} {M : Mat α} {s : NState α}
    {mo : List (Step α)} (sim : PrimSim chk m n data (n - 1) live st dend M s mo) :
    PrimGreedyResult m n data dend M := by
  have hmo : mo = mergeOrder m n dend.steps.toList := by
    apply List.ext_getElem?
    intro i
    rw [mergeOrder_get]
    cases hi : dend.steps.toList[i]? with
    | none =>
      simp only [Option.map_none]
      apply List.getElem?_eq_none_iff.mpr
      have := List.getElem?_eq_none_iff.mp hi
      rw [sim.mo_len]
      simpa [sim.inv.steps_sz] using this
    | some stp =>
      simp only [Option.map_some]
      exact sim.mo_get i stp hi
  exact
    { res := sim.inv.result
      trace := sim.trace
      valid := by rw [← hmo]; exact ⟨sim.mo_len, sim.greedy⟩
      hts := by rw [← hmo]; exact sim.hts }

/-- **The main loop of a matrix-updating algorithm whose every iteration is a merge in the sense of
`MergeFacts`** (`primitive_with`, `generic_with`).  `J k live s` is the bookkeeping invariant of the
algorithm (`PrimInv`, `GenInv ∧ LB`); its iteration lemma may use the simulation `PrimSim` of the current
state (the live entries are table values of a greedy run) and has to deliver `MergeFacts`.  The loop is
total and its raw dendrogram, relabelled in merge order, is a greedy run of the specification. -/
theorem simLoop_of_step {S : Type} (chk : Bool) (m : Method) (hsym : LwSymm α m) (n : Nat)
    (data : Array α) (iter : S → R S) (st : S → State α) (dend : S → Dendrogram α) (mat : S → Mat α)
    (J : Nat → List Nat → S → Prop)
    (hJ : ∀ k live s, J k live s → PrimInv n k live (st s) (dend s) (mat s))
    (hstep : ∀ k live s σ mo, k + 1 < n → J k live s →
      PrimSim chk m n data k live (st s) (dend s) (mat s) σ mo →
      ∃ s' a b, iter s = .ok s' ∧ J (k + 1) (live.filter (· ≠ a)) s' ∧
        MergeFacts m n live (st s).sizes (st s').sizes (dend s).steps.toList (dend s').steps.toList
          (mat s) (mat s') a b)
    (s0 : S) (h0 : J 0 (List.range n) s0) {σ0 : NState α} {mo0 : List (Step α)}
    (sim0 : PrimSim chk m n data 0 (List.range n) (st s0) (dend s0) (mat s0) σ0 mo0) :
    ∃ s1 live, iterM iter (n - 1) s0 = .ok s1 ∧ J (n - 1) live s1 ∧
      PrimGreedyResult m n data (dend s1) (mat s1) := by
  obtain ⟨s1, e, live, σ, mo, hj, hsim⟩ := iterM_ok_reach
    (fun j s => ∃ live σ mo, J j live s ∧ PrimSim chk m n data j live (st s) (dend s) (mat s) σ mo)
    iter s0 (n - 1)
    (fun j s hj _ ⟨live, σ, mo, hJs, hsim⟩ => by
      obtain ⟨s', a, b, e, hJ', F⟩ := hstep j live s σ mo (by omega) hJs hsim
      obtain ⟨σ', mo', hsim'⟩ := primSim_step_facts chk m hsym n data j live _ _ _ _ _ _ σ mo hsim F
        (hJ _ _ _ hJ')
      exact ⟨s', e, _, σ', mo', hJ', hsim'⟩)
    ⟨List.range n, _, _, h0, sim0⟩
  exact ⟨s1, live, e, hj, hsim.greedyResult⟩

/-- `primitive_with`: `argmin` finds a global minimum because the live entries, being table values of a
greedy run of the specification, are not NaN. -/
theorem primSim_loop (L : OrderLaws α) (chk : Bool) (m : Method) (hsym : LwSymm α m)
    (data : Array α) (n : Nat) (h2 : 2 ≤ n) (hs : n < 2147483648)
    (hl : 2 * data.size = n * (n - 1)) (hnn : NoNaNRun m n data) :
    ∃ st1 dend1 M1,
      iterM (primitiveIter chk m) (n - 1)
        ((State.fresh n : State α), Dendrogram.new n,
          ({ data := squareData m data, n := n, acc := 0 } : Mat α))
        = .ok (st1, dend1, M1) ∧ PrimGreedyResult m n data dend1 M1 := by
  have hinv0 := PrimInv.init (State.fresh n : State α) (squareData m data) n h2 hs
    (by rw [squareData_size]; exact hl) rfl rfl
  obtain ⟨⟨st1, dend1, M1⟩, _, e, -, hres⟩ := simLoop_of_step chk m hsym n data (primitiveIter chk m)
    (·.1) (·.2.1) (·.2.2) (fun k live s => PrimInv n k live s.1 s.2.1 s.2.2) (fun _ _ _ h => h)
    (fun k live s σ mo hk hp sim => by
      obtain ⟨st, dend, M⟩ := s
      obtain ⟨V, hdv⟩ := sim.view
      obtain ⟨st', dend', M', a, b, e, hp', F⟩ := primIter_facts L chk m n k live st dend M hk hp
        (fun x hx y hy hxy => by
          rw [hdv x hx y hy hxy]
          have := hnn mo sim.greedy
          rw [← sim.state] at this
          exact this _ (V.mem hx) _ (V.mem hy) (V.ne hx hy hxy))
      exact ⟨(st', dend', M'), a, b, e, hp', F⟩)
    ((State.fresh n : State α), Dendrogram.new n, { data := squareData m data, n := n, acc := 0 })
    hinv0 (primSim_init chk m data n hs hl rfl hinv0)
  exact ⟨st1, dend1, M1, e, hres⟩

theorem primitiveWith_sim (L : OrderLaws α) (chk : Bool) (m : Method) (hsym : LwSymm α m)
    (st : State α) (d : Dendrogram α) (data : Array α) (n : Nat) (h2 : 2 ≤ n)
    (hs : n < 2147483648) (hl : 2 * data.size = n * (n - 1)) (hnn : NoNaNRun m n data) :
    ∃ (st1 : State α) (dend1 : Dendrogram α) (M1 : Mat α),
      iterM (primitiveIter chk m) (n - 1)
        ((State.fresh n : State α), Dendrogram.new n,
          ({ data := squareData m data, n := n, acc := 0 } : Mat α))
        = .ok (st1, dend1, M1) ∧
      PrimGreedyResult m n data dend1 M1 ∧
      primitiveWith chk m st d data n =
        (relabel m st1.set dend1 >>= fun r =>
          pure ({ st1 with set := r.1 }, sqrtSteps m r.2, M1)) := by
  obtain ⟨st1, dend1, M1, hloop, hres⟩ := primSim_loop L chk m hsym data n h2 hs hl hnn
  exact ⟨st1, dend1, M1, hloop, hres, primitiveWith_of_loop chk m st d data n h2 hs hl hloop⟩

theorem PrimGreedyResult.noNaN {m : Method} {n : Nat} {data : Array α} {dend : Dendrogram α}
    {M : Mat α} (h : PrimGreedyResult m n data dend M) (hnn : NoNaNRun m n data) :
    ∀ s ∈ dend.steps.toList, Num.isNaN s.d = false := by
  intro s hs
  have : s.d ∈ dend.steps.toList.map (·.d) := List.mem_map.mpr ⟨s, hs, rfl⟩
  rw [h.hts] at this
  exact RunGood.rawHeights (G := fun v => Num.isNaN v = false) hnn h.valid.2 _ this

/-- Non-decreasing raw heights make the stable sort of `relabel` the identity. -/
theorem processed_of_pairwise (m : Method) (steps : Array (Step α))
    (h : steps.toList.Pairwise (fun s t => Num.lt t.d s.d = false)) :
    processed m steps = steps := by
  unfold processed
  split
  · rw [List.mergeSort_of_pairwise]
    apply h.imp
    intro s t hst
    simp [stepLe, hst]
  · rfl

theorem processed_of_unsorted (m : Method) (steps : Array (Step α))
    (h : m.requiresSorting = false) : processed m steps = steps := by
  unfold processed; simp [h]

end Kodama
