/-
The last pieces of the nearest-neighbour-chain correctness theorem, which `C03_nnchain_of_criterion`
(`Props/C03Nnchain.lean`) assembles for an arbitrary relation `R` with `LWCompat`/uniqueness:

  loop (`chainLoop_rnn`: a run of reciprocal-nearest-neighbour merges, execution order)
  → stable sort by height: still such a run, and greedy (`Rnn.sorted_run`: `Rnn.run_isort`,
    `Rnn.gmin_of_sorted`)
  → label-based spec in merge-order labels (`Rnn.minOk_of_gmin`, `Rnn.greedyFrom_of_minOk`)
  → the sorted order is the order in which `relabel` processes the raw steps, and its union–find
    labels are the merge-order labels of that order (`relabel_greedyValid`,
    `Lemmas/PrimGreedyRelabel.lean`).

Here: from the run that the loop leaves to the label-based spec — the first two arrows — in one statement
(`sorted_rnn_greedyValid`), and a run from singletons is a `MergeTrace` (`Rnn.mergeTrace_of_rnn`).
-/
import Kodama.Lemmas.RnnSpec
import Kodama.Lemmas.RnnMono
namespace Kodama
open Spec
variable {α : Type} [Num α]

namespace Rnn
open Crit MTree

theorem rnnFrom_get {R : MTree Nat → MTree Nat → α → Prop} (L : List (Step α)) (σ : IState)
    (i : Nat) (s : Step α) (h : RnnFrom R σ L) (hi : L[i]? = some s) :
    StepOk R (IState.replay σ (L.take i)) s :=
  (allFrom_iff (F := fun σ _ L => RnnFrom R σ L) (P := fun σ _ s => StepOk R σ s)
    (fun _ _ => trivial) (fun _ _ _ _ => Iff.rfl) σ [] L).mp h i s hi

omit [Num α] in
theorem replay_live (n : Nat) (L : List (Step α)) :
    ∀ i, i ≤ L.length →
      (IState.replay (IState.init n) (L.take i)).live = liveAt n (edgesOf L) i := by
  intro i
  induction i with
  | zero => intro _; rfl
  | succ i ih =>
    intro hi
    have hi' : i < L.length := by omega
    have he := edgesOf_at (List.getElem?_eq_getElem hi')
    rw [liveAt_succ he, ← ih (by omega), List.take_add_one, List.getElem?_eq_getElem hi',
      IState.replay_append]
    rfl

/-- A run from `n` singletons is a merge trace in the sense of `Lemmas/PrimGreedyLabels.lean`. -/
theorem mergeTrace_of_rnn {R : MTree Nat → MTree Nat → α → Prop} (n : Nat) (L : List (Step α))
    (h : RnnFrom R (IState.init n) L) : MergeTrace n (edgesOf L) := by
  intro i e he
  obtain ⟨s, hs, rfl⟩ := edgesOf_getElem? he
  have ok := rnnFrom_get L _ i _ h hs
  rw [← replay_live n L i (Nat.le_of_lt (getElem?_lt hs))]
  exact ⟨ok.m1, ok.m2, ok.ne⟩

end Rnn

open Crit MTree Rnn in
/-- The stably sorted raw steps of a run of reciprocal-nearest-neighbour merges, relabelled in
(sorted) merge order, are a greedy-valid dendrogram. -/
theorem sorted_rnn_greedyValid (L : OrderLaws α) (hnan : ∀ x : α, Num.isNaN x = false)
    {m : Method} {R : MTree Nat → MTree Nat → α → Prop} (RL : RLaws m R) (hsym : LwSymm α m)
    (n : Nat) (data : Array α)
    (hR : ∀ i j, i ≠ j → R (leaf i) (leaf j) ((init m n data).D i j))
    (raw : List (Step α)) (hlen : raw.length = n - 1) (h1 : 1 ≤ n)
    (hrun : RnnFrom R (IState.init n) raw) :
    RnnFrom R (IState.init n) (raw.mergeSort stepLe) ∧
    GreedyValid m n data (mergeOrder m n (raw.mergeSort stepLe)) := by
  have hsim := sim_init (R := R) m n data hR
  have hRnan : ∀ s t v, R s t v → Num.isNaN v = false := fun _ _ v _ => hnan v
  obtain ⟨hrun0, hnn0⟩ := runFrom_nnFrom_of_rnnFrom RL L hnan raw _ [] hsim.tab (Clu.init n)
    (fun _ _ _ ht => absurd ht List.not_mem_nil) hrun
  obtain ⟨hms, -, hSrun, hSnn, hg⟩ := sorted_run L RL.compat.symm RL.redE hRnan (Clu.init n)
    (by rw [hlen, IState.init, List.length_range]; omega) hrun0 hnn0
  rw [hms]
  refine ⟨rnnFrom_of_runFrom_nnFrom L RL.compat.symm RL.unique _ _ _ hSrun hSnn, ?_, ?_⟩
  · rw [mergeOrder_length, (isortG_perm stepLe raw).length_eq, hlen]
  · exact greedyFrom_of_minOk RL.compat RL.unique hsym n data hR _ (minOk_of_gmin RL.unique hSrun hg)

end Kodama
