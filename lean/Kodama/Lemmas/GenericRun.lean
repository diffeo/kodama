/-
`genericWith` as a whole: under the value hypotheses (`GoodSet G`, `UpdClosed G m`, all inputs in
`G`) every iteration of the main loop is total — the repair loop terminates within the model's
fuel, no index / assertion / `unwrap` / overflow panic is reachable — and the raw merge steps form
a spanning tree.  Hence `genericWith` IS that loop followed by `relabel` and `sqrt`.

One iteration is stated once (`genericIter_spec`): the repair loop and `pop` pick a pair, the update
and the merge advance the invariant `GenInv`, and under the lower-bound invariant the iteration is a merge in
the sense of `MergeFacts`; its reading under `LB` is `genIter_facts` (below), on
which the simulation (`Lemmas/GenericGreedySim.lean`) and the rounding invariant
(`Lemmas/RoundGeneric.lean`) ride.
-/
import Kodama.Lemmas.GenericInvRepair
import Kodama.Lemmas.GenericInvUpdate
import Kodama.Lemmas.GenericInvInit
import Kodama.Lemmas.MergeFacts
import Kodama.Lemmas.PrimGreedyLabels
import Kodama.Lemmas.OnSquares
namespace Kodama
open Spec
variable {α : Type} [Num α]

/-- Invariant of the main loop of `genericWith` after `k` merges: the bookkeeping invariant shared
with `primitive` (`PrimInv`: active list, sizes, spanning forest), the heap / candidate invariant
`QInv`, good matrix entries, positive sizes. -/
structure GenInv (G : α → Prop) (n k : Nat) (live : List Nat) (st : State α) (dend : Dendrogram α)
    (M : Mat α) : Prop where
  prim : PrimInv n k live st dend M
  q : QInv G n live st.queue st.nearest
  mgood : ∀ i (h : i < M.data.size), G M.data[i]
  sizes_pos : ∀ i (h : i < st.sizes.size), 0 < st.sizes[i]
  /-- the recorded heights are good (in particular not NaN) -/
  dgood : ∀ s ∈ dend.steps.toList, G s.d

theorem GenInv.mGood {G : α → Prop} {n k : Nat} {live : List Nat} {st : State α}
    {dend : Dendrogram α} {M : Mat α} (inv : GenInv G n k live st dend M) : MGood G n M :=
  ⟨inv.prim.mvalid, inv.prim.mn, inv.mgood⟩

/-- After `pop` returned `a` (which has the larger live candidate `b`), the queue satisfies the
invariant for the live set without `a`, except that rows `< a` may still have candidate `a`. -/
theorem QInvB.afterPop {G : α → Prop} {n : Nat} {live : List Nat} {q q' : Heap α}
    {nr : Array Nat} (h : QInv G n live q nr) (a b : Nat) (hb : b ∈ live) (hab : a < b)
    (inv' : Heap.Inv q') (hprio : q'.prio = q.prio)
    (hlive : ∀ o', q'.Live o' ↔ q.Live o' ∧ o' ≠ a) :
    QInvB G n (live.filter (· ≠ a))
      (fun y c => c = a ∧ y ∈ live.filter (fun x => decide (x < a))) q' nr := by
  have hmem' : ∀ x, x ∈ live.filter (· ≠ a) ↔ x ∈ live ∧ x ≠ a := fun x => mem_filter_ne
  refine ⟨inv', by rw [hprio]; exact h.psz, ?_, h.nsz, ?_, ?_, ?_⟩
  · intro o; rw [hlive o, h.qlive o, hmem' o]
  · intro x hx y hy hxy
    have hx' := (hmem' x).mp hx
    have hy' := (hmem' y).mp hy
    obtain ⟨c, h1, h2, hc⟩ := h.near_live hx'.1 hy'.1 hxy
    refine ⟨c, h1, h2, ?_⟩
    by_cases hca : c = a
    · right
      refine ⟨hca, ?_⟩
      simp only [List.mem_filter, decide_eq_true_eq]
      exact ⟨hx'.1, by omega⟩
    · left; exact (hmem' c).mpr ⟨hc, hca⟩
  · intro x hx y hy hxy
    rw [hprio]
    exact h.pgood x ((hmem' x).mp hx).1 y ((hmem' y).mp hy).1 hxy
  · intro x hx hall
    rw [hprio]
    apply h.plast x ((hmem' x).mp hx).1
    intro y hy
    by_cases hya : y = a
    · have := hall b ((hmem' b).mpr ⟨hb, by omega⟩)
      omega
    · exact hall y ((hmem' y).mpr ⟨hy, hya⟩)

/-- The pair `(a, b)` that the next iteration of the main loop picks in state `st` with matrix `M`:
`a` is the top of the heap after the repair loop, `b = nearest[a]`. -/
def GenericPick (chk : Bool) (M : Mat α) (st : State α) (a b : Nat) : Prop :=
  ∃ st1, genericRepair chk M (M.n + 2) st = .ok st1 ∧ st1.queue.peek = some a ∧
    st1.nearest[a]? = some b

theorem GenInv.after_merge {G : α → Prop} {n k : Nat} {live : List Nat} {st : State α}
    {dend : Dendrogram α} {M : Mat α} (inv : GenInv G n k live st dend M) (chk : Bool)
    (hk : k + 1 < n) {st3 : State α} {M3 : Mat α} {a b : Nat} (hsz : st3.sizes = st.sizes)
    (hact : st3.active = st.active) (q3 : QInv G n (live.filter (· ≠ a)) st3.queue st3.nearest)
    (hM3 : MGood G n M3) (hab : a < b) (ha : a ∈ live) (hb : b ∈ live) {dist : α}
    (gdist : G dist) :
    ∃ st' dend' s act', st3.merge chk dend a b dist = .ok (st', dend') ∧
      GenInv G n (k + 1) (live.filter (· ≠ a)) st' dend' M3 ∧
      (∃ hbn : b < st3.sizes.size,
        st' = { st3 with sizes := st3.sizes.set b s hbn, active := act' }) ∧
      s = st3.sizes.getD a 0 + st3.sizes.getD b 0 ∧
      dend' = { dend with steps := dend.steps.push (Step.new a b dist s) } := by
  obtain ⟨st4, dend4, s, act4, emerge, prim4, ⟨hbn, hst4⟩, hs, hdend4⟩ :=
    PrimInv.merge_step chk n k live st st3 dend M M3 hk inv.prim hsz hact hM3.valid hM3.mn
      a b hab ha hb dist
  refine ⟨st4, dend4, s, act4, emerge, ⟨prim4, by rw [hst4]; exact q3, hM3.good, ?_, ?_⟩,
    ⟨hbn, hst4⟩, hs, hdend4⟩
  · -- positive sizes: the new size of `b` is a sum with a positive summand
    have hpos : ∀ i (h : i < st3.sizes.size), 0 < st3.sizes[i] := by
      rw [hsz]; exact inv.sizes_pos
    rw [hst4]
    intro i hi
    simp only [Array.getElem_set]
    split
    · have := hpos b hbn
      have : st3.sizes.getD b 0 = st3.sizes[b] := by simp [Array.getD, hbn]
      omega
    · exact hpos i (by simpa using hi)
  · intro s' hs'
    rw [hdend4] at hs'
    simp only [Array.toList_push, List.mem_append, List.mem_singleton] at hs'
    rcases hs' with h | h
    · exact inv.dgood s' h
    · rw [h, Step.new_d]; exact gdist

/-- One iteration of the main loop.  The repair loop and the `pop` pick a live pair `a < b = nearest[a]`
(`GenericPick`); under the lower-bound invariant `LB` (with `BeqLe`) its entry is a minimum over ALL
live pairs.  The update and the merge of that pair are total when the values the update writes are
good (`UpdGoodAt`), and the invariant advances; under `LB` it is kept, and the iteration is a merge in
the sense of `MergeFacts`: the matrix changes as `updateRows` (the update of `primitive`) changes it,
by the Lance–Williams formula of the method.  `BeqLe` and `LB` are needed only for minimality (C03,
the greedy simulation); totality does without them. -/
theorem genericIter_spec {G : α → Prop} (L : OrderLaws α) (gs : GoodSet G) (chk : Bool)
    (m : Method) {n k : Nat} {live : List Nat} {st : State α} {dend : Dendrogram α} {M : Mat α}
    (inv : GenInv G n k live st dend M) (hk : k + 1 < n) :
    ∃ a b, GenericPick chk M st a b ∧ a < b ∧ a ∈ live ∧ b ∈ live ∧
      (BeqLe α → LB chk M live st.queue.prio →
        ∀ x ∈ live, ∀ y ∈ live, x ≠ y → Num.lt (M.dval x y) (M.dval a b) = false) ∧
      (UpdGoodAt G chk m st.sizes M live a b →
        ∃ st' dend' M', genericIter chk m (st, dend, M) = .ok (st', dend', M') ∧
          GenInv G n (k + 1) (live.filter (· ≠ a)) st' dend' M' ∧
          (BeqLe α → LB chk M live st.queue.prio →
            MergeFacts m n live st.sizes st'.sizes dend.steps.toList dend'.steps.toList M M' a b ∧
            ((l1Mode m = .fix → LBClosed G m) →
              LB chk M' (live.filter (· ≠ a)) st'.queue.prio))) := by
  have hM := inv.mGood
  have hrep := inv.prim.rep
  have hv := inv.prim.mvalid
  have hlt : ∀ x ∈ live, x < M.n := by rw [inv.prim.mn]; exact hrep.mem_lt
  have h2 : 2 ≤ live.length := by have := inv.prim.llen; omega
  obtain ⟨st1, e1, q1, hact1, hsz1, ⟨a', hpeek', hex⟩, hlb1⟩ := genericRepair_spec L gs chk hM
    st.active live hrep h2 (M.n + 2) st live rfl inv.q (fun x hx => Or.inr hx)
    (by have := hrep.length_le; rw [inv.prim.mn]; omega)
  obtain ⟨a, b, hpeek, hnb, hab, ha, hb⟩ := q1.pick L gs h2 hrep.nodup
  obtain ⟨dist, hget, gdist⟩ := hM.get chk a b hab (hrep.mem_lt b hb)
  obtain ⟨q2, epop, inv2, hprio2, _, _, hlive2⟩ := Heap.pop_Inv L chk q1.inv hpeek
  have hdist : dist = M.dval a b :=
    (Except.ok.inj ((Mat.get_dval chk M hv a b hab (hlt b hb)).symm.trans hget)).symm
  -- the popped pair is a minimum over all live pairs, and below every priority
  have hmin : BeqLe α → LB chk M live st.queue.prio → LB chk M live q2.prio ∧
      (∀ x ∈ live, ∀ y ∈ live, x ≠ y → Num.lt (M.dval x y) dist = false) ∧
      (∀ x ∈ live, ∀ px, q2.prio[x]? = some px → Num.lt px dist = false) := fun hbeq hlb => by
    rw [hpeek] at hpeek'; cases hpeek'
    obtain ⟨b', dist', hnb', _, _, _, hget', _, hmin, hge⟩ := generic_pop_min L hbeq gs chk hM live
      st1.queue st1.nearest q1 (hlb1 hlb) h2 hrep.nodup hpeek hex
    rw [hnb] at hnb'; cases hnb'
    rw [hget] at hget'; cases hget'
    rw [hprio2]
    exact ⟨hlb1 hlb, dval_min_of_get chk hv hlt hmin, hge⟩
  refine ⟨a, b, ⟨st1, e1, hpeek, hnb⟩, hab, ha, hb,
    fun hbeq hlb => hdist ▸ (hmin hbeq hlb).2.1, fun hgood => ?_⟩
  obtain ⟨st3, M3, sa, sb, dist', eupd, q3, hM3, hsz3, hact3, lb3, hsab, hdd, hrows⟩ :=
    genericUpdate_spec L gs chk m live
      { st1 with queue := q2 } M (by simp only []; rw [hact1]; exact hrep)
      (by simp only []; rw [hsz1]; exact inv.prim.sizes_sz) a b ha hb hab
      (QInvB.afterPop q1 a b hb hab inv2 hprio2 hlive2) hM
      (by simp only []; rw [hsz1]; exact hgood) dist hget
  simp only [] at hsz3 hact3 hsab hrows
  rw [hact1, hsz1] at hrows
  rw [hsz1] at hsab
  have hsz31 : st3.sizes = st.sizes := hsz3.trans hsz1
  obtain ⟨st4, dend4, s, act4, emerge, inv4, ⟨hbn, hst4⟩, hs, hdend4⟩ := inv.after_merge chk hk
    hsz31 (hact3.trans hact1) q3 hM3 hab ha hb gdist
  rw [hsz31] at hs
  subst hs
  refine ⟨st4, dend4, M3, ?_, inv4, fun hbeq hlb => ?_⟩
  · unfold genericIter
    simp only [bind, Except.bind, e1, epop, unwrap, aget, hnb, hget, eupd, emerge, pure,
      Except.pure]
  obtain ⟨lb2, hmin', hge⟩ := hmin hbeq hlb
  have hupd : ∀ x ∈ live, ∀ va vb, updFn m st.sizes sa sb dist' x va vb =
      .ok (lw m va vb dist (st.sizes.getD a 0) (st.sizes.getD b 0) (st.sizes.getD x 0)) :=
    fun x hx va vb => updFn_eq_lw m st.sizes sa sb dist' dist _ _ hsab hdd x va vb
      (by rw [inv.prim.sizes_sz]; exact hrep.mem_lt x hx)
  obtain ⟨-, -, hwr, hfr⟩ := updateRows_dval_of_ok chk n st.active live hrep _ a b hab ha
    hb M M3 hv inv.prim.mn hrows
  refine ⟨{ lt := hab, ma := ha, mb := hb, hsteps := ?_, hsizes := ?_,
            min := hdist ▸ hmin', upd := ?_, frame := hfr }, fun hlbc => ?_⟩
  · rw [hdend4, hdist, Array.toList_push, Step.new_of_lt hab]
  · intro x
    rw [hst4, getD_set, hsz31]
  · intro x hx hxa hxb
    have h := hwr x hx hxa hxb
    rw [hupd x hx] at h
    rw [← Except.ok.inj h, hdist]
  · rw [hst4]
    exact (lb3 ⟨lb2, hlbc, by simp only []; rw [hsz1]; exact inv.sizes_pos, hge⟩).mono
      (fun x hx => (mem_filter_ne.mp hx).1)

theorem genIter_facts {G : α → Prop} (L : OrderLaws α) (hbeq : BeqLe α) (gs : GoodSet G)
    (chk : Bool) (m : Method) (hlbc : l1Mode m = .fix → LBClosed G m)
    (n k : Nat) (live : List Nat) (st : State α) (dend : Dendrogram α) (M : Mat α)
    (hk : k + 1 < n) (ginv : GenInv G n k live st dend M) (lb : LB chk M live st.queue.prio)
    (hgood : ∀ a b, a < b → a ∈ live → b ∈ live →
      (∀ x ∈ live, ∀ y ∈ live, x ≠ y → Num.lt (M.dval x y) (M.dval a b) = false) →
      UpdGoodAt G chk m st.sizes M live a b) :
    ∃ st' dend' M' a b, genericIter chk m (st, dend, M) = .ok (st', dend', M') ∧
      GenInv G n (k + 1) (live.filter (· ≠ a)) st' dend' M' ∧
      LB chk M' (live.filter (· ≠ a)) st'.queue.prio ∧
      MergeFacts m n live st.sizes st'.sizes dend.steps.toList dend'.steps.toList M M' a b := by
  obtain ⟨a, b, _, hab, ha, hb, hmin, h⟩ := genericIter_spec L gs chk m ginv hk
  obtain ⟨st', dend', M', e, ginv', h'⟩ := h (hgood a b hab ha hb (hmin hbeq lb))
  obtain ⟨F, lb'⟩ := h' hbeq lb
  exact ⟨st', dend', M', a, b, e, ginv', lb' hlbc, F⟩

theorem GenInv.updGoodAt_of_updClosed {G : α → Prop} {n k : Nat} {live : List Nat} {st : State α}
    {dend : Dendrogram α} {M : Mat α} (inv : GenInv G n k live st dend M) (chk : Bool) {m : Method}
    (hcl : UpdClosed G m) (a b : Nat) (ha : a ∈ live) (hb : b ∈ live) (hab : a < b) :
    UpdGoodAt G chk m st.sizes M live a b :=
  Kodama.updGoodAt_of_updClosed chk hcl inv.prim.sizes_sz inv.sizes_pos inv.mGood live
    inv.prim.rep.mem_lt a b ha hb hab

/-- The iterations of the main loop are total, and every state they reach satisfies the invariant.
RUN-DEPENDENT form: at every state REACHED by the loop, the values written by the update of the
picked pair are good. -/
theorem genericReach_inv {G : α → Prop} (L : OrderLaws α) (gs : GoodSet G) (chk : Bool) (m : Method)
    (n : Nat) (st : State α) (dend : Dendrogram α) (M : Mat α)
    (inv0 : GenInv G n 0 (List.range n) st dend M)
    (hgood : ∀ k live st' dend' M', k + 1 < n →
      iterM (genericIter chk m) k (st, dend, M) = .ok (st', dend', M') →
      GenInv G n k live st' dend' M' → ∀ a b, a ∈ live → b ∈ live → a < b →
      GenericPick chk M' st' a b → UpdGoodAt G chk m st'.sizes M' live a b)
    (k : Nat) (hk : k ≤ n - 1) :
    ∃ s, iterM (genericIter chk m) k (st, dend, M) = .ok s ∧
      ∃ live, GenInv G n k live s.1 s.2.1 s.2.2 :=
  iterM_ok_reach
    (fun j (s : State α × Dendrogram α × Mat α) => ∃ live, GenInv G n j live s.1 s.2.1 s.2.2)
    (genericIter chk m) (st, dend, M) k
    (by
      intro j s hj hreach ⟨live, hinv⟩
      obtain ⟨st', dend', M'⟩ := s
      obtain ⟨a, b, hp, hab, ha, hb, _, h⟩ := genericIter_spec L gs chk m hinv (by omega)
      obtain ⟨st'', dend'', M'', e, hinv', _⟩ :=
        h (hgood j live st' dend' M' (by omega) hreach hinv a b ha hb hab hp)
      exact ⟨(st'', dend'', M''), e, _, hinv'⟩)
    ⟨List.range n, inv0⟩

theorem genericLoop_ok' {G : α → Prop} (L : OrderLaws α) (gs : GoodSet G) (chk : Bool) (m : Method)
    (n : Nat) (st : State α) (dend : Dendrogram α) (M : Mat α)
    (inv0 : GenInv G n 0 (List.range n) st dend M)
    (hgood : ∀ k live st' dend' M', k + 1 < n →
      iterM (genericIter chk m) k (st, dend, M) = .ok (st', dend', M') →
      GenInv G n k live st' dend' M' → ∀ a b, a ∈ live → b ∈ live → a < b →
      GenericPick chk M' st' a b → UpdGoodAt G chk m st'.sizes M' live a b) :
    ∃ st1 dend1 M1, iterM (genericIter chk m) (n - 1) (st, dend, M) = .ok (st1, dend1, M1) ∧
      PrimLoopResult n dend1 M1 ∧ (∀ s ∈ dend1.steps.toList, G s.d) := by
  obtain ⟨⟨st1, dend1, M1⟩, e, live, hinv⟩ :=
    genericReach_inv L gs chk m n st dend M inv0 hgood (n - 1) (Nat.le_refl _)
  exact ⟨st1, dend1, M1, e, hinv.prim.result, hinv.dgood⟩

set_option linter.unusedVariables false in
theorem genericLoop_ok {G : α → Prop} (L : OrderLaws α) (gs : GoodSet G) (chk : Bool) (m : Method)
    (hcl : UpdClosed G m) (n : Nat) (h2 : 2 ≤ n) (st : State α) (dend : Dendrogram α) (M : Mat α)
    (inv0 : GenInv G n 0 (List.range n) st dend M) :
    ∃ st1 dend1 M1, iterM (genericIter chk m) (n - 1) (st, dend, M) = .ok (st1, dend1, M1) ∧
      PrimLoopResult n dend1 M1 ∧ (∀ s ∈ dend1.steps.toList, G s.d) :=
  genericLoop_ok' L gs chk m n st dend M inv0
    (fun _ _ _ _ _ _ _ inv a b ha hb hab _ => inv.updGoodAt_of_updClosed chk hcl a b ha hb hab)

/-- The state in which `genericWith` enters its main loop on a valid `n`-point matrix: fresh
bookkeeping, the heap built from the initial nearest-neighbour scan, the (squared) input matrix. -/
def genericStart (chk : Bool) (m : Method) (data : Array α) (n : Nat) :
    R (State α × Dendrogram α × Mat α) := do
  let M : Mat α := { data := squareData m data, n := n, acc := 0 }
  let init ← (List.range (n - 1)).foldlM (genericInitRow chk M n)
      (Array.replicate n Num.maxValue, Array.replicate n 0)
  let queue ← (Heap.fresh n : Heap α).heapifyWith chk (fun _ => pure init.1)
  pure ({ (State.fresh n : State α) with queue := queue, nearest := init.2 }, Dendrogram.new n, M)

/-- Run-dependent value hypothesis, stated on the model's own run without mentioning the invariant
`GenInv`.  The (squared) inputs are good, and in every
state REACHED by the main loop of `genericWith` (defined by iterating the loop body `genericIter`
from the start state `genericStart`), the values that the update of the pair picked there
(`GenericPick`: top of the heap after the repair loop and its candidate) WRITES into the matrix are
good (`UpdGoodAt`).  Implied by the closure hypothesis (`genericRunGood_of_updClosed`). -/
def GenericRunGood (G : α → Prop) (chk : Bool) (m : Method) (n : Nat) (data : Array α) : Prop :=
  (∀ i (h : i < (squareData m data).size), G (squareData m data)[i]) ∧
  ∀ s0, genericStart chk m data n = .ok s0 →
    ∀ k st dend M live, k + 1 < n → iterM (genericIter chk m) k s0 = .ok (st, dend, M) →
      st.active.Rep live n → ∀ a b, GenericPick chk M st a b →
      UpdGoodAt G chk m st.sizes M live a b

theorem genericStart_ok {G : α → Prop} (L : OrderLaws α) (gs : GoodSet G) (chk : Bool)
    (m : Method) (hmax : Num.isNaN (Num.maxValue : α) = false) (data : Array α) (n : Nat)
    (h2 : 2 ≤ n) (hs : n < 2147483648) (hl : 2 * data.size = n * (n - 1))
    (hin : ∀ i (h : i < (squareData m data).size), G (squareData m data)[i]) :
    ∃ q nr, genericStart chk m data n = .ok
        ({ (State.fresh n : State α) with queue := q, nearest := nr }, Dendrogram.new n,
          ({ data := squareData m data, n := n, acc := 0 } : Mat α)) ∧
      GenInv G n 0 (List.range n)
        ({ (State.fresh n : State α) with queue := q, nearest := nr }) (Dendrogram.new n)
        ({ data := squareData m data, n := n, acc := 0 } : Mat α) ∧
      LB chk ({ data := squareData m data, n := n, acc := 0 } : Mat α) (List.range n) q.prio := by
  have hl' : 2 * (squareData m data).size = n * (n - 1) := by rw [squareData_size]; exact hl
  have hM0 : MGood G n ({ data := squareData m data, n := n, acc := 0 } : Mat α) :=
    ⟨⟨h2, hs, hl'⟩, rfl, hin⟩
  obtain ⟨ini, q, einit, eheap, q0, _, lb0⟩ := genericInit_spec L gs chk hmax hM0 h2 hs
  refine ⟨q, ini.2, ?_, ⟨PrimInv.init _ _ n h2 hs hl' rfl rfl, q0, hin, ?_, ?_⟩, lb0⟩
  · unfold genericStart
    simp only [bind, Except.bind, einit, eheap]
    rfl
  · intro i hi
    simp [State.fresh]
  · simp [Dendrogram.new]

theorem genericWith_of_start (chk : Bool) (m : Method) (st : State α) (d : Dendrogram α)
    (data : Array α) (n : Nat) (h2 : 2 ≤ n) (hs : n < 2147483648)
    (hl : 2 * data.size = n * (n - 1)) {s0 s1 : State α × Dendrogram α × Mat α}
    (h0 : genericStart chk m data n = .ok s0)
    (hloop : iterM (genericIter chk m) (n - 1) s0 = .ok s1) :
    genericWith chk m st d data n =
      (relabel m s1.1.set s1.2.1 >>= fun r =>
        pure ({ s1.1 with set := r.1 }, sqrtSteps m r.2, s1.2.2)) := by
  unfold genericStart at h0
  obtain ⟨ini, einit, h0⟩ := bind_ok.mp h0
  obtain ⟨q, eheap, h0⟩ := bind_ok.mp h0
  cases pure_ok.mp h0
  have hstart : ((Gen.heapReset (State.fresh n : State α).queue
        (State.fresh n : State α).queue.prio.size).prio, (State.fresh n : State α).nearest)
      = (Array.replicate n Num.maxValue, Array.replicate n 0) := by
    simp [heapReset_eq_fresh, State.fresh, Heap.fresh]
  have hheap : (State.fresh n : State α).queue.heapifyWith chk (fun _ => pure ini.1) = .ok q :=
    eheap
  rw [genericWith_frame,
    withFrame_of_valid _ _ _ _ _ _ h2 hs (by rw [squareData_size]; exact hl)]
  unfold genericBody
  rw [hstart, einit, ok_bind, hheap, ok_bind, hloop]
  rfl

/-- `genericWith` on a valid matrix with good (squared, where the method works on squares)
entries is the (total) loop followed by `relabel` and `sqrt`, and the raw steps of the loop form a
spanning tree.  General RUN-DEPENDENT form: the hypothesis `hgood` speaks about the states reached
by the loop from the start state (which satisfy the invariant `GenInv`). -/
theorem genericWith_eq' {G : α → Prop} (L : OrderLaws α) (gs : GoodSet G) (chk : Bool) (m : Method)
    (hmax : Num.isNaN (Num.maxValue : α) = false)
    (st : State α) (d : Dendrogram α) (data : Array α) (n : Nat) (h2 : 2 ≤ n)
    (hs : n < 2147483648) (hl : 2 * data.size = n * (n - 1))
    (hin : ∀ i (h : i < (squareData m data).size), G (squareData m data)[i])
    (hgood : ∀ s0, genericStart chk m data n = .ok s0 → ∀ k live st' dend' M', k + 1 < n →
      iterM (genericIter chk m) k s0 = .ok (st', dend', M') →
      GenInv G n k live st' dend' M' → ∀ a b, a ∈ live → b ∈ live → a < b →
      GenericPick chk M' st' a b → UpdGoodAt G chk m st'.sizes M' live a b) :
    LoopTail m (fun _ dend M => PrimLoopResult n dend M ∧ ∀ s ∈ dend.steps.toList, G s.d)
      (genericWith chk m st d data n) := by
  obtain ⟨q, nr, hstart0, inv0, _⟩ := genericStart_ok L gs chk m hmax data n h2 hs hl hin
  obtain ⟨st1, dend1, M1, hloop, hres, hdg⟩ := genericLoop_ok' L gs chk m n _ _ _ inv0
    (hgood _ hstart0)
  exact ⟨st1, dend1, M1, ⟨hres, hdg⟩,
    genericWith_of_start (s1 := (st1, dend1, M1)) chk m st d data n h2 hs hl hstart0 hloop⟩

theorem genericWith_eq {G : α → Prop} (L : OrderLaws α) (gs : GoodSet G) (chk : Bool) (m : Method)
    (hcl : UpdClosed G m) (hmax : Num.isNaN (Num.maxValue : α) = false)
    (st : State α) (d : Dendrogram α) (data : Array α) (n : Nat) (h2 : 2 ≤ n)
    (hs : n < 2147483648) (hl : 2 * data.size = n * (n - 1))
    (hin : ∀ i (h : i < (squareData m data).size), G (squareData m data)[i]) :
    LoopTail m (fun _ dend M => PrimLoopResult n dend M ∧ ∀ s ∈ dend.steps.toList, G s.d)
      (genericWith chk m st d data n) :=
  genericWith_eq' L gs chk m hmax st d data n h2 hs hl hin
    (fun _ _ _ _ _ _ _ _ _ inv a b ha hb hab _ => inv.updGoodAt_of_updClosed chk hcl a b ha hb hab)

theorem genericWith_eq_run {G : α → Prop} (L : OrderLaws α) (gs : GoodSet G) (chk : Bool)
    (m : Method) (hmax : Num.isNaN (Num.maxValue : α) = false)
    (st : State α) (d : Dendrogram α) (data : Array α) (n : Nat) (h2 : 2 ≤ n)
    (hs : n < 2147483648) (hl : 2 * data.size = n * (n - 1))
    (hrun : GenericRunGood G chk m n data) :
    LoopTail m (fun _ dend M => PrimLoopResult n dend M ∧ ∀ s ∈ dend.steps.toList, G s.d)
      (genericWith chk m st d data n) :=
  genericWith_eq' L gs chk m hmax st d data n h2 hs hl hrun.1
    (fun s0 hs0 k live st' dend' M' hk hreach inv a b _ _ _ hpick =>
      hrun.2 s0 hs0 k st' dend' M' live hk hreach inv.prim.rep a b hpick)

/-- The closure hypothesis implies the run-dependent one (so every closure-based theorem is a
corollary of its run-dependent version). -/
theorem genericRunGood_of_updClosed {G : α → Prop} (L : OrderLaws α) (gs : GoodSet G) (chk : Bool)
    (m : Method) (hcl : UpdClosed G m) (hmax : Num.isNaN (Num.maxValue : α) = false)
    (data : Array α) (n : Nat) (h2 : 2 ≤ n) (hs : n < 2147483648)
    (hl : 2 * data.size = n * (n - 1))
    (hin : ∀ i (h : i < (squareData m data).size), G (squareData m data)[i]) :
    GenericRunGood G chk m n data := by
  refine ⟨hin, ?_⟩
  intro s0 hs0
  obtain ⟨q, nr, hstart0, inv0, _⟩ := genericStart_ok L gs chk m hmax data n h2 hs hl hin
  rw [hstart0] at hs0
  cases hs0
  intro k st' dend' M' live hk hsk hrep a b hpick
  obtain ⟨s, e, live', inv⟩ := genericReach_inv L gs chk m n _ _ _ inv0
    (fun _ _ _ _ _ _ _ inv a b ha hb hab _ => inv.updGoodAt_of_updClosed chk hcl a b ha hb hab)
    k (by omega)
  rw [hsk] at e
  cases e
  have hll : live' = live := by
    have e1 := inv.prim.rep.iter
    have e2 := hrep.iter
    simp only [] at e1
    rw [e1] at e2
    injection e2
  subst hll
  obtain ⟨st1, e1, hpeek, hnb⟩ := hpick
  obtain ⟨a', b', ⟨st1', e1', hpeek', hnb'⟩, hab, ha, hb, _⟩ := genericIter_spec L gs chk m inv hk
  rw [e1] at e1'; cases e1'
  rw [hpeek] at hpeek'; cases hpeek'
  rw [hnb] at hnb'; cases hnb'
  exact inv.updGoodAt_of_updClosed chk hcl a b ha hb hab

end Kodama
