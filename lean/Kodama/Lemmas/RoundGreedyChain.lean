/-
The whole calls for an approximate dissimilarity relation `R` (`Lemmas/RoundCore.lean`): what `relabel` returns
on the raw steps that a loop with `RoundCore` leaves behind is well-formed and greedy up to `R`
(`relabel_greedy_chain_sw`, `greedySw_of_core`: the run-level part is `greedyCore_isort`, the labels
`greedy_sw_core`, `Lemmas/RoundGreedy.lean`); `nnchainWith_greedy` is `nnchain_with`
(`primitive_with`: `Lemmas/RoundPrimitive.lean`, `generic_with`: `Lemmas/RoundGeneric.lean`).
-/
import Kodama.Lemmas.RoundGreedy
import Kodama.Lemmas.RoundChain
import Kodama.Lemmas.PrimGreedyRelabel
namespace Kodama
open Spec
variable {α : Type} [Num α]

open Crit MTree Rnn Finset in
/-- **The returned steps are greedy up to `R`.**  Let `d` hold the raw steps of a run (`RunH R n`) that form a
spanning tree, heights not NaN, each merging reciprocal nearest neighbours up to `R` (`NnRun`), and let
`relabel` (for a method that sorts) return `d'`.  Then `d'` is well-formed and greedy up to `R`: the
processed order is the insertion sort of the raw steps (`greedyCore_isort`), and `relabel` hands out its
merge-order labels (`relabel_mergeorder_proc`, `greedy_sw_core`). -/
theorem relabel_greedy_chain_sw (L : OrderLaws α) (m : Method) (hms : m.requiresSorting = true)
    {R : MTree Nat → MTree Nat → α → Prop}
    (hge : LwGeOn (fun v => ∃ s t, R s t v) m) (C : LWCompat m R)
    (hRnan : ∀ s t v, R s t v → Num.isNaN v = false)
    (uf0 uf : UF) (d d' : Dendrogram α) (n : Nat)
    (h2 : 2 ≤ n) (hobs : d.obs = n) (hraw : RawTree n (rawOf d))
    (hnan : ∀ s ∈ d.steps.toList, Num.isNaN s.d = false)
    (hrun : RunH R n d.steps.toList) (hnn : NnRun R n d.steps.toList)
    (h : relabel m uf0 d = .ok (uf, d')) :
    WellFormed n d'.steps.toList ∧ GreedySw R n d'.steps.toList := by
  have hraw0 : RawTree n (edgesOf d.steps.toList) := hraw
  have hwf : WellFormed n d'.steps.toList := (relabel_wellFormed m uf0 uf d d' n h2 hobs hraw h).2
  refine ⟨hwf, ?_⟩
  have hproc : (processed m d.steps).toList = isortG stepLe d.steps.toList := by
    unfold processed; rw [if_pos hms]
    exact mergeSort_stepLe_eq_isortG L _ hnan
  obtain ⟨hSrun, hgS⟩ := greedyCore_isort L C.symm (redE_of_lwGeOn hge C hRnan) hRnan (by omega)
    hraw0.steps_length hrun hnn
  generalize hS : isortG stepLe d.steps.toList = S at hproc hSrun hgS
  have hlen : S.length = n - 1 := by
    rw [← hproc]; exact (rawTree_processed m hraw0).steps_length
  have hlab := relabel_mergeorder_proc m uf0 uf d d' n (by omega) hobs hraw0
    (by rw [hproc]; exact mergeTrace_of_runFrom n S hSrun) h
  simp only [hproc] at hlab
  exact greedy_sw_core n S d'.steps.toList hwf hSrun hgS.gmin hlen hlab

/-- `relabel` sorts the steps of every method that does not work on squares. -/
theorem requiresSorting_of_not_onSquares {m : Method} (h : m.onSquares = false) :
    m.requiresSorting = true := by
  cases m <;> first | rfl | cases h

open Crit MTree Rnn in
/-- Sort and relabel for the three entry points: on what a loop with `RoundCore` leaves behind
(`RoundPrimResult.of_inv`: raw steps that form a spanning tree and a run `RunH`, heights not NaN; `NnRun`),
`relabel` is total and returns a well-formed dendrogram that is greedy up to `R`. -/
theorem greedySw_of_core (L : OrderLaws α) (m : Method) (hsq : m.onSquares = false)
    {R : MTree Nat → MTree Nat → α → Prop} (hge : LwGeOn (fun v => ∃ s t, R s t v) m) (C : LWCompat m R)
    (hRnan : ∀ s t v, R s t v → Num.isNaN v = false)
    (uf0 : UF) {d : Dendrogram α} {M : Mat α} {n : Nat} (h2 : 2 ≤ n)
    (res : RoundPrimResult R n d M) (hnn : NnRun R n d.steps.toList) :
    ∃ uf d', relabel m uf0 d = .ok (uf, d') ∧
      WellFormed n d'.steps.toList ∧ GreedySw R n d'.steps.toList := by
  obtain ⟨⟨uf, d'⟩, hr⟩ := relabel_total m uf0 d n h2 res.obs res.raw (Or.inr (Or.inr res.heights))
  exact ⟨uf, d', hr, relabel_greedy_chain_sw L m (requiresSorting_of_not_onSquares hsq) hge C hRnan
    uf0 uf d d' n h2 res.obs res.raw res.heights res.run hnn hr⟩

open Crit MTree Rnn in
/-- **`nnchain_with` for an approximate relation** (a method that does not square; input without NaN):
on a valid matrix the call returns — the loop `roundLoop_nn`, then `relabel` — a well-formed dendrogram
that is, in the RETURNED (stably sorted) order, greedy up to `R`. -/
theorem nnchainWith_greedy (L : OrderLaws α) (chk : Bool) (mc : MethodChain)
    (hsq : mc.intoMethod.onSquares = false) {R : MTree Nat → MTree Nat → α → Prop}
    (hge : LwGeOn (fun v => ∃ s t, R s t v) mc.intoMethod) (C : LWCompat mc.intoMethod R)
    (hRnan : ∀ s t v, R s t v → Num.isNaN v = false)
    (st : State α) (d : Dendrogram α) (data : Array α) (n : Nat) (h2 : 2 ≤ n)
    (hs : n < 2147483648) (hl : 2 * data.size = n * (n - 1))
    (hnan : NoNaNData data)
    (hR : ∀ i j, i < n → j < n → i ≠ j →
      R (leaf i) (leaf j) ((init mc.intoMethod n data).D i j)) :
    ∃ st' d' M', nnchainWith chk mc st d data n = .ok (st', d', M') ∧
      WellFormed n d'.steps.toList ∧ GreedySw R n d'.steps.toList := by
  have hdata : squareData mc.intoMethod data = data := by rw [squareData, hsq]; rfl
  obtain ⟨s1, live, σ, hloop, hinv, hnn⟩ := roundLoop_nn L chk mc hge C hRnan data n h2 hs hl
    (by rw [hdata]; exact hnan) hR
  have r := hinv.chain.result h2
  obtain ⟨uf, d', hr, hres⟩ := greedySw_of_core L mc.intoMethod hsq hge C hRnan s1.st.set h2
    ⟨r.obs, r.steps_sz, r.raw, r.heights, r.mn, hinv.run⟩ hnn
  refine ⟨{ s1.st with set := uf }, d', s1.M, ?_, hres⟩
  rw [nnchainWith_of_loop chk mc st d data n h2 hs hl hloop, hr]
  simp only [bind, Except.bind, pure, Except.pure, sqrtSteps, hsq, Bool.false_eq_true, if_false]

end Kodama
