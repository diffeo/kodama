/-
Replay machinery for the label-based specification `Kodama/Spec/Naive.lean`:
the state reached after `i` steps (`stateAt`), `GreedyFrom`/`TieFreeFrom` as statements about all
indices, elementary facts about `merge`, `init`, `entry` (and `Gen.single`, `Gen.complete`: each returns
one of its arguments, `Gen.single_cases`, `Gen.complete_cases`), the equations of `Spec.leaves` and
`Spec.sz`, induction over the labels of an ordered step list (`label_induct`), and what
every legal replay keeps (`Good`: `next = n + i`, live labels `< next`, distinct, `n - i` of them;
sizes positive; that they are the cardinalities of disjoint clusters is `Reached.clusters`,
`Lemmas/CriteriaSpec.lean`), with the two induction principles along a run: by position for
any legal replay (`Merges.induct`), and over the states of greedy runs (`Reached`).
No number laws are used anywhere in this file.
-/
import Kodama.Spec.Naive
import Kodama.Spec.WellFormed
import Kodama.Lemmas.SortedList
namespace Kodama.Spec
variable {α : Type}

theorem getElem?_lt {β : Type} {l : List β} {k : Nat} {x : β} (h : l[k]? = some x) :
    k < l.length :=
  (List.getElem?_eq_some_iff.1 h).1

theorem leaves_of_lt {n l : Nat} (h : l < n) (steps : List (Step α)) (fuel : Nat) :
    leaves n steps fuel l = [l] := by
  cases fuel <;> rw [leaves, if_pos h]

theorem leaves_zero {n l : Nat} (h : ¬ l < n) (steps : List (Step α)) :
    leaves n steps 0 l = [] := by
  rw [leaves, if_neg h]

theorem leaves_succ {n l : Nat} {steps : List (Step α)} {s : Step α} (h : ¬ l < n)
    (hs : steps[l - n]? = some s) (fuel : Nat) :
    leaves n steps (fuel + 1) l = leaves n steps fuel s.c1 ++ leaves n steps fuel s.c2 := by
  rw [leaves, if_neg h, hs]

theorem leaves_add_succ {n k : Nat} {steps : List (Step α)} {s : Step α} (hs : steps[k]? = some s)
    (fuel : Nat) :
    leaves n steps (fuel + 1) (n + k) = leaves n steps fuel s.c1 ++ leaves n steps fuel s.c2 :=
  leaves_succ (Nat.not_lt.2 (Nat.le_add_right n k)) (by rw [Nat.add_sub_cancel_left]; exact hs) fuel

theorem leaves_of_get_none {n l : Nat} {steps : List (Step α)} (h : ¬ l < n)
    (hs : steps[l - n]? = none) (fuel : Nat) : leaves n steps fuel l = [] := by
  cases fuel <;> rw [leaves, if_neg h]
  rw [hs]

theorem leaves_lt (n : Nat) (steps : List (Step α)) (fuel l : Nat) :
    ∀ u ∈ leaves n steps fuel l, u < n := by
  intro u hu
  fun_induction leaves n steps fuel l with
  | case1 l hl => exact List.mem_singleton.mp hu ▸ hl
  | case2 l hl => cases hu
  | case3 fuel l hl => exact List.mem_singleton.mp hu ▸ hl
  | case4 fuel l hl s hs ih1 ih2 => exact (List.mem_append.1 hu).elim ih1 ih2
  | case5 fuel l hl hs => cases hu

/-- Induction over the labels of a dendrogram (those below `n + i`): the observations, then the
label `n + j` of step `j` from the two labels it merges, which are smaller. -/
theorem label_induct {n i : Nat} {steps : List (Step α)}
    (hord : ∀ (j : Nat) (st : Step α), steps[j]? = some st → st.c1 < n + j ∧ st.c2 < n + j)
    (hi : i ≤ steps.length) {P : Nat → Prop} (obs : ∀ l, l < n → P l)
    (node : ∀ j st, j < i → steps[j]? = some st → P st.c1 → P st.c2 → P (n + j)) :
    ∀ l, l < n + i → P l := by
  intro l
  induction l using Nat.strongRecOn with
  | ind l ih =>
    intro hl
    by_cases c : l < n
    · exact obs l c
    · obtain ⟨j, rfl⟩ : ∃ j, l = n + j := ⟨l - n, by omega⟩
      have hs := List.getElem?_eq_getElem (show j < steps.length by omega)
      have o := hord j _ hs
      exact node j _ (by omega) hs (ih _ (by omega) (by omega)) (ih _ (by omega) (by omega))

theorem sz_obs {n l : Nat} (h : l < n) (steps : List (Step α)) : sz n steps l = 1 := if_pos h

theorem sz_node {n j : Nat} {steps : List (Step α)} {st : Step α} (h : steps[j]? = some st) :
    sz n steps (n + j) = st.size := by
  rw [sz, if_neg (Nat.not_lt.2 (Nat.le_add_right n j)), Nat.add_sub_cancel_left, h]

variable [Num α]

theorem _root_.Kodama.Gen.single_cases (a b : α) : Gen.single a b = a ∨ Gen.single a b = b := by
  unfold Gen.single; split <;> simp

theorem _root_.Kodama.Gen.single_idem (v w : α) :
    Gen.single v (Gen.single v w) = Gen.single v w := by
  unfold Gen.single
  cases h : Num.lt v w
  · simp only [Bool.false_eq_true, if_false, h]
  · simp only [if_true, ite_self]

theorem _root_.Kodama.Gen.single_of_not_lt (v w : α) (h : Num.lt (Gen.single v w) w = false) :
    Gen.single v w = w := by
  unfold Gen.single at h ⊢
  cases hvw : Num.lt v w
  · simp only [Bool.false_eq_true, if_false]
  · simp only [hvw, if_true] at h; cases h

theorem _root_.Kodama.Gen.complete_cases (a b : α) :
    Gen.complete a b = a ∨ Gen.complete a b = b := by
  unfold Gen.complete; split <;> simp

section Admissible
variable {m : Method} {s : NState α} {st : Step α} (h : Admissible m s st)
include h

theorem Admissible.mem1 : st.c1 ∈ s.live := h.1
theorem Admissible.mem2 : st.c2 ∈ s.live := h.2.1
theorem Admissible.lt : st.c1 < st.c2 := h.2.2.1
theorem Admissible.min : ∀ x ∈ s.live, ∀ y ∈ s.live, x ≠ y →
    Num.lt (s.D x y) (s.D st.c1 st.c2) = false := h.2.2.2.1
theorem Admissible.height : st.d = post m (s.D st.c1 st.c2) := h.2.2.2.2.1
theorem Admissible.size : st.size = s.size st.c1 + s.size st.c2 := h.2.2.2.2.2

end Admissible

/-- State after merging the pairs named by `steps`, in order, from `s` (no admissibility check). -/
def replay (m : Method) : NState α → List (Step α) → NState α
  | s, [] => s
  | s, st :: rest => replay m (merge m s st.c1 st.c2) rest

theorem replay_append (m : Method) (s : NState α) (l1 l2 : List (Step α)) :
    replay m s (l1 ++ l2) = replay m (replay m s l1) l2 := by
  induction l1 generalizing s with
  | nil => rfl
  | cons st r ih => simp [replay, ih]

/-- State before step `i` of `steps` (replayed from `s`). -/
def stateAt (m : Method) (s : NState α) (steps : List (Step α)) (i : Nat) : NState α :=
  replay m s (steps.take i)

@[simp] theorem stateAt_zero (m : Method) (s : NState α) (steps : List (Step α)) :
    stateAt m s steps 0 = s := by simp [stateAt, replay]

theorem stateAt_cons_succ (m : Method) (s : NState α) (st : Step α) (r : List (Step α)) (j : Nat) :
    stateAt m s (st :: r) (j + 1) = stateAt m (merge m s st.c1 st.c2) r j := by
  simp [stateAt, replay]

theorem stateAt_succ (m : Method) (s : NState α) (steps : List (Step α)) (i : Nat) (st : Step α)
    (h : steps[i]? = some st) :
    stateAt m s steps (i + 1) = merge m (stateAt m s steps i) st.c1 st.c2 := by
  unfold stateAt
  rw [List.take_add_one, h]
  simp [replay_append, replay]

/-- A predicate on runs defined by recursion along `merge` (one condition `P` per step) holds iff
`P` holds at every index of the replay. -/
theorem allFrom_iff {m : Method} {F : NState α → List (Step α) → Prop}
    {P : NState α → Step α → Prop} (hnil : ∀ s, F s [])
    (hcons : ∀ s st r, F s (st :: r) ↔ P s st ∧ F (merge m s st.c1 st.c2) r)
    (s : NState α) (steps : List (Step α)) :
    F s steps ↔ ∀ (i : Nat) (st : Step α), steps[i]? = some st → P (stateAt m s steps i) st := by
  induction steps generalizing s with
  | nil => simp [hnil]
  | cons st r ih =>
    rw [hcons, ih]
    constructor
    · rintro ⟨h0, hr⟩ (_ | j) st' hi
      · cases hi
        exact h0
      · rw [stateAt_cons_succ]
        exact hr j st' hi
    · intro h
      exact ⟨h 0 st rfl, fun j st' hj => stateAt_cons_succ m s st r j ▸ h (j + 1) st' hj⟩

theorem greedyFrom_iff (m : Method) (s : NState α) (steps : List (Step α)) :
    GreedyFrom m s steps ↔
      ∀ (i : Nat) (st : Step α), steps[i]? = some st → Admissible m (stateAt m s steps i) st :=
  allFrom_iff (fun _ => trivial) (fun _ _ _ => Iff.rfl) s steps

def StrictMin (s : NState α) (st : Step α) : Prop :=
  ∀ x ∈ s.live, ∀ y ∈ s.live, x < y → (x, y) ≠ (st.c1, st.c2) →
    Num.lt (s.D st.c1 st.c2) (s.D x y) = true

theorem tieFreeFrom_iff (m : Method) (s : NState α) (steps : List (Step α)) :
    TieFreeFrom m s steps ↔
      ∀ (i : Nat) (st : Step α), steps[i]? = some st → StrictMin (stateAt m s steps i) st :=
  allFrom_iff (fun _ => trivial) (fun _ _ _ => Iff.rfl) s steps

@[simp] theorem mem_init_live (m : Method) (n : Nat) (data : Array α) (x : Nat) :
    x ∈ (init m n data).live ↔ x < n := List.mem_range

@[simp] theorem init_next (m : Method) (n : Nat) (data : Array α) : (init m n data).next = n := rfl

@[simp] theorem init_size (m : Method) (n : Nat) (data : Array α) (x : Nat) :
    (init m n data).size x = 1 := rfl

theorem init_D (m : Method) (n : Nat) (data : Array α) (x y : Nat) :
    (init m n data).D x y =
      if m.onSquares then Num.mul (entry n data Num.infinity x y) (entry n data Num.infinity x y)
      else entry n data Num.infinity x y := rfl

theorem mem_merge_live (m : Method) (s : NState α) (a b x : Nat) :
    x ∈ (merge m s a b).live ↔ (x ∈ s.live ∧ x ≠ a ∧ x ≠ b) ∨ x = s.next := by
  simp [merge]

theorem merge_live_lt (m : Method) {s : NState α} (a b : Nat) (h : ∀ l ∈ s.live, l < s.next) :
    ∀ l ∈ (merge m s a b).live, l < (merge m s a b).next := by
  intro l hl
  rcases (mem_merge_live m s a b l).1 hl with ⟨hl, -, -⟩ | rfl
  · exact Nat.lt_succ_of_lt (h l hl)
  · exact Nat.lt_succ_self _

/-- The fresh label is appended to the surviving ones, all of which are smaller. -/
theorem merge_live_nodup (m : Method) {s : NState α} (a b : Nat) (h : ∀ l ∈ s.live, l < s.next)
    (hn : s.live.Nodup) : (merge m s a b).live.Nodup := by
  show (s.live.filter _ ++ [s.next]).Nodup
  rw [List.nodup_append]
  refine ⟨hn.filter _, List.pairwise_singleton _ _, ?_⟩
  intro x hx y hy
  rw [List.mem_singleton] at hy
  rw [hy]
  exact Nat.ne_of_lt (h x (List.mem_filter.mp hx).1)

@[simp] theorem merge_next (m : Method) (s : NState α) (a b : Nat) :
    (merge m s a b).next = s.next + 1 := rfl

theorem merge_size (m : Method) (s : NState α) (a b x : Nat) :
    (merge m s a b).size x = if x = s.next then s.size a + s.size b else s.size x := rfl

theorem merge_D (m : Method) (s : NState α) (a b x y : Nat) :
    (merge m s a b).D x y =
      if x = s.next then lw m (s.D a y) (s.D b y) (s.D a b) (s.size a) (s.size b) (s.size y)
      else if y = s.next then lw m (s.D a x) (s.D b x) (s.D a b) (s.size a) (s.size b) (s.size x)
      else s.D x y := rfl

theorem merge_D_new (m : Method) (s : NState α) (a b y : Nat) :
    (merge m s a b).D s.next y =
      lw m (s.D a y) (s.D b y) (s.D a b) (s.size a) (s.size b) (s.size y) := by
  rw [merge_D, if_pos rfl]

theorem merge_D_new' (m : Method) (s : NState α) (a b x : Nat) (hx : x ≠ s.next) :
    (merge m s a b).D x s.next =
      lw m (s.D a x) (s.D b x) (s.D a b) (s.size a) (s.size b) (s.size x) := by
  rw [merge_D, if_neg hx, if_pos rfl]

theorem merge_D_old (m : Method) (s : NState α) (a b x y : Nat) (hx : x ≠ s.next)
    (hy : y ≠ s.next) : (merge m s a b).D x y = s.D x y := by
  rw [merge_D, if_neg hx, if_neg hy]

/-- A symmetric property of every two live labels and their table entry survives a merge once it
holds between the fresh label and every other live one: the other entries are unchanged. -/
theorem merge_pairwise {m : Method} {s : NState α} {a b : Nat} {P : Nat → Nat → α → Prop}
    (hsymm : ∀ x y v, P x y v → P y x v) (hlt : ∀ l ∈ s.live, l < s.next)
    (hP : ∀ x ∈ s.live, ∀ y ∈ s.live, x ≠ y → P x y (s.D x y))
    (hnew : ∀ y ∈ s.live, y ≠ a → y ≠ b →
      P s.next y (lw m (s.D a y) (s.D b y) (s.D a b) (s.size a) (s.size b) (s.size y))) :
    ∀ x ∈ (merge m s a b).live, ∀ y ∈ (merge m s a b).live, x ≠ y →
      P x y ((merge m s a b).D x y) := by
  have hne : ∀ x ∈ s.live, x ≠ s.next := fun x hx => Nat.ne_of_lt (hlt x hx)
  refine fun x hx y hy => pairwise_of_merge (O := fun x => x ∈ s.live ∧ x ≠ a ∧ x ≠ b) (c := s.next)
    (P := fun x y => P x y ((merge m s a b).D x y))
    (fun x hx hc => ((mem_merge_live m s a b x).1 hx).resolve_right hc)
    (fun x y hx hy hxy _ _ => by
      rw [merge_D_old m s a b x y (hne x hx.1) (hne y hy.1)]; exact hP x hx.1 y hy.1 hxy)
    (fun y hy hc => ?_) x y hx hy
  rw [merge_D_new, merge_D_new' m s a b y hc]
  exact ⟨hnew y hy.1 hy.2.1 hy.2.2, hsymm _ _ _ (hnew y hy.1 hy.2.1 hy.2.2)⟩

omit [Num α] in
/-- `entry` is symmetric by construction (the pair is normalised before the lookup). -/
theorem entry_symm (n : Nat) (data : Array α) (dflt : α) (i j : Nat) :
    entry n data dflt i j = entry n data dflt j i := by
  unfold entry
  by_cases h1 : i < j
  · have h2 : ¬ j < i := by omega
    simp [h1, h2]
  · by_cases h2 : j < i
    · simp [h1, h2]
    · have : i = j := by omega
      subst this; rfl

def DSymm (s : NState α) : Prop := ∀ x y, s.D x y = s.D y x

theorem init_DSymm (m : Method) (n : Nat) (data : Array α) : DSymm (init m n data) := by
  intro x y
  simp only [init]
  rw [entry_symm]

theorem merge_DSymm (m : Method) (s : NState α) (a b : Nat) (h : DSymm s) :
    DSymm (merge m s a b) := by
  intro x y
  rw [merge_D, merge_D]
  by_cases hx : x = s.next
  · by_cases hy : y = s.next
    · rw [hx, hy]
    · simp [hx, hy]
  · by_cases hy : y = s.next
    · simp [hx, hy]
    · simp [hx, hy, h x y]

structure StInv (n i : Nat) (s : NState α) : Prop where
  next : s.next = n + i
  lt : ∀ l ∈ s.live, l < s.next
  nodup : s.live.Nodup
  len : s.live.length + i = n

theorem init_StInv (m : Method) (n : Nat) (data : Array α) : StInv n 0 (init m n data) where
  next := rfl
  lt _ hl := (mem_init_live m n data _).1 hl
  nodup := List.nodup_range
  len := List.length_range

theorem filter_ne_length (l : List Nat) (a : Nat) (hn : l.Nodup) (ha : a ∈ l) :
    (l.filter (fun x => decide (x ≠ a))).length + 1 = l.length := by
  rw [filter_ne_eq_erase hn, List.length_erase_of_mem ha]
  have := List.length_pos_of_mem ha
  omega

theorem filter_two_eq (l : List Nat) (a b : Nat) :
    l.filter (fun x => decide (x ≠ a ∧ x ≠ b))
      = (l.filter (fun x => decide (x ≠ a))).filter (fun x => decide (x ≠ b)) := by
  rw [List.filter_filter]
  congr 1
  funext x
  simp [Bool.and_comm]

theorem filter_two_length (l : List Nat) (a b : Nat) (hn : l.Nodup) (ha : a ∈ l) (hb : b ∈ l)
    (hab : a ≠ b) : (l.filter (fun x => decide (x ≠ a ∧ x ≠ b))).length + 2 = l.length := by
  rw [filter_two_eq]
  have h1 := filter_ne_length l a hn ha
  have hb' : b ∈ l.filter (fun x => decide (x ≠ a)) := by
    simp [hb]; exact fun h => hab h.symm
  have h2 := filter_ne_length _ b (hn.filter _) hb'
  omega

theorem StInv.merge {m : Method} {n i : Nat} {s : NState α} {a b : Nat} (hi : StInv n i s)
    (h1 : a ∈ s.live) (h2 : b ∈ s.live) (h3 : a ≠ b) : StInv n (i + 1) (merge m s a b) where
  next := by rw [merge_next, hi.next, Nat.add_assoc]
  lt := merge_live_lt m a b hi.lt
  nodup := merge_live_nodup m a b hi.lt hi.nodup
  len := by
    show ((s.live.filter _) ++ [s.next]).length + (i + 1) = n
    have := filter_two_length s.live a b hi.nodup h1 h2 h3
    have := hi.len
    simp only [List.length_append, List.length_singleton]
    omega

def LiveSizePos (s : NState α) : Prop := ∀ x ∈ s.live, 0 < s.size x

theorem init_LiveSizePos (m : Method) (n : Nat) (data : Array α) : LiveSizePos (init m n data) :=
  fun _ _ => Nat.one_pos

theorem merge_LiveSizePos {m : Method} {s : NState α} {a b : Nat} (ha : a ∈ s.live)
    (hp : LiveSizePos s) : LiveSizePos (merge m s a b) := by
  intro x hx
  rw [merge_size]
  rcases (mem_merge_live m s a b x).1 hx with ⟨hx1, _, _⟩ | hx1
  · split
    · have := hp a ha; omega
    · exact hp x hx1
  · rw [if_pos hx1]
    have := hp a ha; omega

/-- The bookkeeping half of admissibility: the step merges two live labels, smaller first. -/
def Legal (s : NState α) (st : Step α) : Prop :=
  st.c1 ∈ s.live ∧ st.c2 ∈ s.live ∧ st.c1 < st.c2

theorem Admissible.legal {m : Method} {s : NState α} {st : Step α} (h : Admissible m s st) :
    Legal s st := ⟨h.mem1, h.mem2, h.lt⟩

/-- What every state reached by `i` legal merges keeps, whatever the numbers do. -/
structure Good (n i : Nat) (s : NState α) : Prop where
  st : StInv n i s
  pos : LiveSizePos s

theorem init_Good (m : Method) (n : Nat) (data : Array α) : Good n 0 (init m n data) :=
  ⟨init_StInv m n data, init_LiveSizePos m n data⟩

theorem Good.merge {m : Method} {n i : Nat} {s : NState α} {st : Step α} (h : Good n i s)
    (hl : Legal s st) : Good n (i + 1) (merge m s st.c1 st.c2) :=
  ⟨h.st.merge hl.1 hl.2.1 (Nat.ne_of_lt hl.2.2), merge_LiveSizePos hl.1 h.pos⟩

/-! ### Induction along a replay, by position

For invariants that mention the step list itself (`UsedBefore steps i`, `Under n steps`).  Needs
only that the steps are legal, so it serves greedy runs, runs up to order-equivalence and
well-formed lists alike. -/

def Merges (m : Method) (s : NState α) (steps : List (Step α)) : Prop :=
  ∀ (i : Nat) (st : Step α), steps[i]? = some st → Legal (stateAt m s steps i) st

theorem GreedyFrom.merges {m : Method} {s : NState α} {steps : List (Step α)}
    (hg : GreedyFrom m s steps) : Merges m s steps := fun i st hst =>
  ((greedyFrom_iff m s steps).1 hg i st hst).legal

theorem Merges.induct {m : Method} {n : Nat} {data : Array α} {steps : List (Step α)}
    (hm : Merges m (init m n data) steps) {I : Nat → NState α → Prop} (h0 : I 0 (init m n data))
    (hstep : ∀ i st, steps[i]? = some st → Good n i (stateAt m (init m n data) steps i) →
      Legal (stateAt m (init m n data) steps i) st → I i (stateAt m (init m n data) steps i) →
      I (i + 1) (merge m (stateAt m (init m n data) steps i) st.c1 st.c2)) :
    ∀ i, i ≤ steps.length →
      Good n i (stateAt m (init m n data) steps i) ∧ I i (stateAt m (init m n data) steps i) := by
  intro i
  induction i with
  | zero => exact fun _ => by simpa using ⟨init_Good m n data, h0⟩
  | succ j ih =>
    intro hj
    have hst : steps[j]? = some steps[j] := List.getElem?_eq_getElem (by omega)
    obtain ⟨hg, hI⟩ := ih (by omega)
    rw [stateAt_succ m _ steps j _ hst]
    exact ⟨hg.merge (hm j _ hst), hstep j _ hst hg (hm j _ hst) hI⟩

theorem Merges.good {m : Method} {n : Nat} {data : Array α} {steps : List (Step α)}
    (hm : Merges m (init m n data) steps) (i : Nat) (hi : i ≤ steps.length) :
    Good n i (stateAt m (init m n data) steps i) :=
  (hm.induct (I := fun _ _ => True) trivial (fun _ _ _ _ _ _ => trivial) i hi).1

theorem Merges.ordered {m : Method} {n : Nat} {data : Array α} {steps : List (Step α)}
    (hm : Merges m (init m n data) steps) (i : Nat) (st : Step α) (hst : steps[i]? = some st) :
    st.c1 < st.c2 ∧ st.c2 < n + i := by
  have inv := (hm.good i (Nat.le_of_lt (getElem?_lt hst))).st
  obtain ⟨-, h2, h3⟩ := hm i st hst
  exact ⟨h3, inv.next ▸ inv.lt _ h2⟩

/-! ### The states of greedy runs, without a step list

`Reached m n data i s`: `s` is the state after `i` admissible merges from `init m n data`.  Its
recursor is the induction principle for table invariants of greedy runs. -/

theorem greedyFrom_append (m : Method) (s : NState α) (l : List (Step α)) (st : Step α) :
    GreedyFrom m s (l ++ [st]) ↔ GreedyFrom m s l ∧ Admissible m (replay m s l) st := by
  induction l generalizing s with
  | nil => simp [GreedyFrom, replay]
  | cons x r ih =>
    simp only [List.cons_append, GreedyFrom, replay, ih, and_assoc]

inductive Reached (m : Method) (n : Nat) (data : Array α) : Nat → NState α → Prop
  | start : Reached m n data 0 (init m n data)
  | step {i : Nat} {s : NState α} {st : Step α} :
      Reached m n data i s → Admissible m s st → Reached m n data (i + 1) (merge m s st.c1 st.c2)

section Reached
variable {m : Method} {n : Nat} {data : Array α}

theorem Reached.good {i : Nat} {s : NState α} (h : Reached m n data i s) : Good n i s := by
  induction h with
  | start => exact init_Good m n data
  | step _ ha ih => exact ih.merge ha.legal

theorem reach_stateAt {steps : List (Step α)} (hg : GreedyFrom m (init m n data) steps) {i : Nat}
    (hi : i ≤ steps.length) : Reached m n data i (stateAt m (init m n data) steps i) :=
  (hg.merges.induct (I := Reached m n data) .start
    (fun i st hst _ _ ih => ih.step ((greedyFrom_iff _ _ _).1 hg i st hst)) i hi).2

theorem reach_replay {l : List (Step α)} (hg : GreedyFrom m (init m n data) l) :
    Reached m n data l.length (replay m (init m n data) l) := by
  simpa [stateAt] using reach_stateAt hg (Nat.le_refl _)

theorem Reached.exists_run {i : Nat} {s : NState α} (h : Reached m n data i s) :
    ∃ l, GreedyFrom m (init m n data) l ∧ Spec.replay m (init m n data) l = s := by
  induction h with
  | start => exact ⟨[], trivial, rfl⟩
  | step _ ha ih =>
    obtain ⟨l, hg, rfl⟩ := ih
    exact ⟨l ++ [_], (greedyFrom_append m _ l _).2 ⟨hg, ha⟩, by simp [replay_append, Spec.replay]⟩

theorem reach_step {steps : List (Step α)} (hg : GreedyFrom m (init m n data) steps) {i : Nat}
    {st : Step α} (hst : steps[i]? = some st) :
    Reached m n data i (stateAt m (init m n data) steps i) ∧
      Admissible m (stateAt m (init m n data) steps i) st :=
  ⟨reach_stateAt hg (Nat.le_of_lt (getElem?_lt hst)), (greedyFrom_iff _ _ _).1 hg i st hst⟩

end Reached

end Kodama.Spec
