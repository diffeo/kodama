/-
Lemmas for C19 (the `Dendrogram` container, `Model/DendrogramOps.lean`): the normal form of a step
(`Step.new_eq`), `cluster_size` as `Spec.sz` (`clusterSizeOf_eq`), what each op of `DOp` does to
length and observation count, and the invariant `len ≤ observations - 1`.  On well-formed step
lists `Spec.sz` is the number of `Spec.leaves` (`sz_eq_length_leaves`), and the leaf lists of the
clusters not yet merged are duplicate-free and pairwise disjoint (`leaves_forest`).
-/
import Kodama.Model.DendrogramOps
import Kodama.Lemmas.Reset
import Kodama.Lemmas.LabelAgree
namespace Kodama
variable {α : Type}

namespace DOp
/-- Ops other than `new` / `reset` (they cannot change `observations`). -/
def keepsObs : DOp α → Bool
  | .new _ => false
  | .reset _ => false
  | _ => true

def isPush : DOp α → Bool
  | .push _ => true
  | _ => false
end DOp

/-- `Step::new` puts the smaller label first. -/
theorem Step.new_eq (a b : Nat) (x : α) (size : Nat) :
    Step.new a b x size = ⟨min a b, max a b, x, size⟩ := by
  unfold Step.new
  split
  · next h => rw [Nat.min_eq_right (Nat.le_of_lt h), Nat.max_eq_left (Nat.le_of_lt h)]
  · next h => rw [Nat.min_eq_left (Nat.le_of_not_lt h), Nat.max_eq_right (Nat.le_of_not_lt h)]

/-- `set_clusters` is `Step::new` on the other two fields. -/
theorem Step.setClusters_eq (s : Step α) (a b : Nat) :
    s.setClusters a b = ⟨min a b, max a b, s.d, s.size⟩ :=
  Step.new_eq a b s.d s.size

namespace Dendrogram

/-- `cluster_size` of a label in range is `Spec.sz`. -/
theorem clusterSizeOf_eq (obs : Nat) (steps : Array (Step α)) (l : Nat) (h : l < obs + steps.size) :
    clusterSizeOf obs steps l = .ok (Spec.sz obs steps.toList l) := by
  unfold clusterSizeOf Spec.sz
  by_cases hl : l < obs
  · simp [hl, pure, Except.pure]
  · have hi : l - obs < steps.size := by omega
    simp [hl, aget, hi, bind, Except.bind, pure, Except.pure]

/-- The container invariant: never more than `observations - 1` steps (truncated subtraction). -/
def Inv (d : Dendrogram α) : Prop := d.len ≤ d.obs - 1

theorem push_ok (d : Dendrogram α) (s : Step α) (h : d.len < d.obs - 1) :
    d.push s = .ok ⟨d.steps.push s, d.obs⟩ := by
  unfold len at h
  simp [push, guard', h, bind, Except.bind, pure, Except.pure]

theorem push_full (d : Dendrogram α) (s : Step α) (h : d.obs - 1 ≤ d.len) :
    d.push s = .error .assertFail := by
  unfold len at h
  have : ¬ d.steps.size < d.obs - 1 := by omega
  simp [push, guard', this, bind, Except.bind]

theorem setClustersAt_ok (d : Dendrogram α) (i a b : Nat) (h : i < d.steps.size) :
    d.setClustersAt i a b = .ok ⟨d.steps.set i (d.steps[i].setClusters a b) h, d.obs⟩ := by
  simp [setClustersAt, aget, aset, h, bind, Except.bind, pure, Except.pure]

theorem setClustersAt_oob (d : Dendrogram α) (i a b : Nat) (h : d.steps.size ≤ i) :
    d.setClustersAt i a b = .error .indexOOB := by
  have : d.steps[i]? = none := by simp; omega
  simp [setClustersAt, aget, this, bind, Except.bind]

variable [Num α]

omit [Num α] in
theorem inv_new (n : Nat) : (Dendrogram.new n : Dendrogram α).Inv := by
  simp [Inv, Dendrogram.new, len]

/-- `new` and `reset` under `catch_unwind` start afresh. -/
theorem step_resets (d : Dendrogram α) {op : DOp α} (h : op.keepsObs = false) :
    ∃ n, d.step op = Dendrogram.new n := by
  cases op with
  | new n => exact ⟨n, by simp [step, apply, pure, Except.pure]⟩
  | reset n => exact ⟨n, by simp [step, apply, pure, Except.pure, dendrogramReset_eq]⟩
  | _ => cases h

/-- Every other op under `catch_unwind` keeps `observations`, and only a push that has room
changes the length. -/
theorem step_keeps (d : Dendrogram α) {op : DOp α} (h : op.keepsObs = true) :
    (d.step op).obs = d.obs ∧
    (d.step op).len = if op.isPush = true ∧ d.len < d.obs - 1 then d.len + 1 else d.len := by
  cases op with
  | new n => cases h
  | reset n => cases h
  | push s =>
    by_cases h : d.len < d.obs - 1
    · have h' : d.steps.size < d.obs - 1 := h
      simp [step, apply, push_ok d s h, h', len, DOp.isPush]
    · simp [step, apply, push_full d s (by omega), h]
  | setClusters i a b =>
    by_cases h : i < d.steps.size
    · simp [step, apply, setClustersAt_ok d i a b h, len, DOp.isPush]
    · simp [step, apply, setClustersAt_oob d i a b (by omega), DOp.isPush]
  | readOnly => simp [step, apply, pure, Except.pure, DOp.isPush]

theorem step_inv (d : Dendrogram α) (op : DOp α) (h : d.Inv) : (d.step op).Inv := by
  cases hk : op.keepsObs
  · obtain ⟨n, e⟩ := step_resets d hk
    rw [e]; exact inv_new n
  · obtain ⟨h1, h2⟩ := step_keeps d hk
    unfold Inv at h ⊢
    rw [h1, h2]; split <;> omega

theorem foldl_step_inv (ops : List (DOp α)) (d : Dendrogram α) (h : d.Inv) :
    (ops.foldl step d).Inv := by
  induction ops generalizing d with
  | nil => exact h
  | cons op ops ih => exact ih _ (step_inv d op h)

/-- Without `new` / `reset` in between, `observations` is fixed and the length is the number of
pushes so far, capped at `observations - 1`. -/
theorem foldl_step_count (ops : List (DOp α)) (d : Dendrogram α) (h : d.Inv)
    (hk : ∀ op ∈ ops, op.keepsObs = true) :
    (ops.foldl step d).obs = d.obs ∧
    (ops.foldl step d).len = min (d.len + ops.countP DOp.isPush) (d.obs - 1) := by
  induction ops generalizing d with
  | nil => exact ⟨rfl, (Nat.min_eq_left h).symm⟩
  | cons op ops ih =>
    obtain ⟨s1, s2⟩ := step_keeps d (hk op List.mem_cons_self)
    have ⟨h1, h2⟩ := ih (d.step op) (step_inv d op h) fun o ho => hk o (List.mem_cons_of_mem _ ho)
    unfold Inv at h
    rw [List.foldl_cons, h1, h2, s1, s2, List.countP_cons]
    refine ⟨rfl, ?_⟩
    cases op.isPush
    · simp only [Bool.false_eq_true, false_and, if_false]; omega
    · simp only [true_and, if_true]; split <;> omega

end Dendrogram

namespace Spec

theorem sz_eq_length_leaves (n : Nat) (steps : List (Step α)) (W : WellFormed n steps)
    (fuel l : Nat) : l < n + steps.length → (l < n ∨ l - n < fuel) →
      sz n steps l = (leaves n steps fuel l).length := by
  fun_induction leaves n steps fuel l with
  | case1 l hl => exact fun _ _ => by rw [sz, if_pos hl]; rfl
  | case2 l hl => exact fun _ h => by omega
  | case3 fuel l hl => exact fun _ _ => by rw [sz, if_pos hl]; rfl
  | case4 fuel l hl s hs ih1 ih2 =>
    intro hlt _
    have ⟨ho1, ho2⟩ := W.ordered _ _ hs
    rw [List.length_append, ← ih1 (by omega) (by omega), ← ih2 (by omega) (by omega),
      ← W.size _ _ hs, sz, if_neg hl, hs]
  | case5 fuel l hl hs => exact fun hlt _ => by rw [List.getElem?_eq_none_iff] at hs; omega

/-- Once the fuel exceeds the step index of the label, `leaves` no longer depends on it. -/
theorem leaves_fuel (n : Nat) (steps : List (Step α)) (W : WellFormed n steps) (fuel fuel' l : Nat)
    (h : l < n + fuel) (h' : l < n + fuel') : leaves n steps fuel l = leaves n steps fuel' l :=
  leaves_lab (i := l - n + 1) (fun _ _ => rfl) (fun j s _ hs => W.ordered j s hs) fuel fuel' l
    (by omega) h h'

theorem leaves_node (n : Nat) (steps : List (Step α)) (W : WellFormed n steps) (j : Nat) (s : Step α)
    (hs : steps[j]? = some s) :
    leaves n steps steps.length (n + j) =
      leaves n steps steps.length s.c1 ++ leaves n steps steps.length s.c2 := by
  have hj := getElem?_lt hs
  have ⟨h1, h2⟩ := W.ordered _ _ hs
  obtain ⟨L, hL⟩ : ∃ L, steps.length = L + 1 := ⟨steps.length - 1, by omega⟩
  rw [hL, leaves_add_succ hs, leaves_fuel n steps W L (L + 1) s.c1 (by omega) (by omega),
    leaves_fuel n steps W L (L + 1) s.c2 (by omega) (by omega)]

theorem usedBefore_mono {steps : List (Step α)} {i l : Nat} (h : UsedBefore steps i l) :
    UsedBefore steps (i + 1) l := by
  obtain ⟨j, s, hj, hs, hc⟩ := h
  exact ⟨j, s, by omega, hs, hc⟩

/-- Forest invariant: after `i` steps the clusters not yet merged have duplicate-free and pairwise
disjoint leaf lists. -/
theorem leaves_forest (n : Nat) (steps : List (Step α)) (W : WellFormed n steps) :
    ∀ i, i ≤ steps.length →
      (∀ a, a < n + i ∧ ¬ UsedBefore steps i a → (leaves n steps steps.length a).Nodup) ∧
      ∀ a b, a < n + i ∧ ¬ UsedBefore steps i a → b < n + i ∧ ¬ UsedBefore steps i b → a ≠ b →
        ∀ x, x ∈ leaves n steps steps.length a → x ∉ leaves n steps steps.length b := by
  intro i
  induction i with
  | zero =>
    intro _
    refine ⟨fun a ha => ?_, fun a b ha hb hab x hx => ?_⟩
    · rw [leaves_of_lt (show a < n by omega)]
      exact List.pairwise_singleton _ a
    · rw [leaves_of_lt (show a < n by omega), List.mem_singleton] at hx
      rw [leaves_of_lt (show b < n by omega), List.mem_singleton]
      omega
  | succ i ih =>
    intro hi
    have hs : steps[i]? = some steps[i] := List.getElem?_eq_getElem (by omega)
    generalize steps[i] = s at hs
    have ⟨o1, o2⟩ := W.ordered _ _ hs
    have ⟨f1, f2⟩ := W.fresh _ _ hs
    obtain ⟨ihn, ihd⟩ := ih (by omega)
    have hnode := leaves_node n steps W i s hs
    -- a label alive after step `i` is the new one, or was alive before and is not one of its children
    have alive : ∀ a, a < n + (i + 1) ∧ ¬ UsedBefore steps (i + 1) a → a ≠ n + i →
        (a < n + i ∧ ¬ UsedBefore steps i a) ∧ a ≠ s.c1 ∧ a ≠ s.c2 := fun a ⟨ha, h⟩ hne =>
      ⟨⟨by omega, fun hu => h (usedBefore_mono hu)⟩, fun e => h ⟨i, s, by omega, hs, Or.inl e.symm⟩,
        fun e => h ⟨i, s, by omega, hs, Or.inr e.symm⟩⟩
    have hc1 : s.c1 < n + i ∧ ¬ UsedBefore steps i s.c1 := ⟨by omega, f1⟩
    have hc2 : s.c2 < n + i ∧ ¬ UsedBefore steps i s.c2 := ⟨by omega, f2⟩
    refine ⟨fun a ha => ?_, pairwise_of_merge (c := n + i)
      (P := fun a b => ∀ x, x ∈ leaves n steps steps.length a → x ∉ leaves n steps steps.length b)
      alive (fun a b ha hb hab _ _ => ihd a b ha.1 hb.1 hab) fun y ⟨hy, h1, h2⟩ _ => ?_⟩
    · by_cases hai : a = n + i
      · rw [hai, hnode, List.nodup_append]
        exact ⟨ihn _ hc1, ihn _ hc2, fun x hx y hy e => ihd _ _ hc1 hc2 (by omega) x hx (e ▸ hy)⟩
      · exact ihn a (alive a ha hai).1
    · rw [hnode]
      refine ⟨fun x hx => ?_, fun x hx hm => ?_⟩
      · exact (List.mem_append.mp hx).elim (ihd _ y hc1 hy (Ne.symm h1) x)
          (ihd _ y hc2 hy (Ne.symm h2) x)
      · exact (List.mem_append.mp hm).elim (ihd y _ hy hc1 h1 x hx) (ihd y _ hy hc2 h2 x hx)

/-- The leaf list of every label of a well-formed dendrogram has no duplicates, so its length is
the number of distinct observations beneath the label. -/
theorem leaves_nodup (n : Nat) (steps : List (Step α)) (W : WellFormed n steps) (l : Nat)
    (hl : l < n + steps.length) : (leaves n steps steps.length l).Nodup := by
  by_cases hn : l < n
  · refine (leaves_forest n steps W 0 (by omega)).1 l ⟨by omega, ?_⟩
    rintro ⟨j, _, hj, _⟩; omega
  · have e : l = n + (l - n) := by omega
    refine (leaves_forest n steps W (l - n + 1) (by omega)).1 l ⟨by omega, ?_⟩
    rintro ⟨j, s, hj, hs, hc⟩
    have ⟨o1, o2⟩ := W.ordered _ _ hs
    omega

end Spec
end Kodama
