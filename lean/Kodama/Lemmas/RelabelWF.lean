/-
`relabel` on a raw spanning tree (`Spec.RawTree`), the core of C01.  The loop invariant `RInv` couples
the union–find (`UFInv`), the steps written so far (`DInv`) and the labels handed out (`rootAt`, a
function of the processed edges alone).  From it: the output is `Spec.WellFormed`
(`relabel_wellFormed`); the only panic possible is the NaN panic of the sort (`relabel_total`);
output step `i` keeps the height of the `i`-th processed raw step and joins the labels `rootAt` of
its endpoints (`relabel_roots`).  What lies beneath a label is then a fact about step lists, not
about the loop: in a well-formed list with these labels the leaves beneath `rootAt … x` are the
observations that share the label (`leaves_rootAt`), and `rootAt` separates observations as the
component map `compAt` does (`rootAt_eq_iff`), so beneath the label `n+i` lie exactly the
observations of the component of edge `i` after processing edges `0..i` (`relabel_leaves`).
-/
import Kodama.Model.Relabel
import Kodama.Spec.WellFormed
import Kodama.Lemmas.Loop
import Kodama.Lemmas.Relabel
import Kodama.Lemmas.Forest
import Kodama.Lemmas.UnionFindRefine
import Kodama.Lemmas.LabelAgree
import Kodama.Lemmas.Container
namespace Kodama
open Spec
variable {α : Type}

def edgesOf (L : List (Step α)) : List (Nat × Nat) := L.map (fun s => (s.c1, s.c2))

theorem Spec.RawTree.steps_length {n : Nat} {L : List (Step α)} (h : RawTree n (edgesOf L)) :
    L.length = n - 1 := (List.length_map _).symm.trans h.len

theorem edgesOf_at {L : List (Step α)} {k : Nat} {s : Step α} (hs : L[k]? = some s) :
    (edgesOf L)[k]? = some (s.c1, s.c2) := by rw [edgesOf, List.getElem?_map, hs]; rfl

theorem edgesOf_getElem? {L : List (Step α)} {j : Nat} {e : Nat × Nat}
    (he : (edgesOf L)[j]? = some e) : ∃ s, L[j]? = some s ∧ e = (s.c1, s.c2) := by
  simp only [edgesOf, List.getElem?_map, Option.map_eq_some_iff] at he
  obtain ⟨s, hs, rfl⟩ := he
  exact ⟨s, hs, rfl⟩

/-- Component map after the first `i` edges of `es`. -/
def compAt (es : List (Nat × Nat)) : Nat → (Nat → Nat)
  | 0 => id
  | i + 1 =>
    match es[i]? with
    | some e => joinComp (compAt es i) e.1 e.2
    | none => compAt es i

theorem compAt_succ {es : List (Nat × Nat)} {i : Nat} {e : Nat × Nat} (h : es[i]? = some e) :
    compAt es (i + 1) = joinComp (compAt es i) e.1 e.2 := by
  simp only [compAt, h]

theorem allEff_compAt {es : List (Nat × Nat)} (h : AllEff id es) :
    ∀ i, i ≤ es.length → AllEff (compAt es i) (es.drop i) := by
  intro i
  induction i with
  | zero => intro _; simpa [compAt] using h
  | succ i ih =>
    intro hi
    have hi' : i < es.length := by omega
    have := ih (by omega)
    rw [List.drop_eq_getElem_cons hi'] at this
    have he : es[i]? = some es[i] := by simp [hi']
    rw [compAt_succ he]
    exact this.2

theorem compAt_ne {es : List (Nat × Nat)} (h : AllEff id es) {i : Nat} {e : Nat × Nat}
    (he : es[i]? = some e) : compAt es i e.1 ≠ compAt es i e.2 := by
  obtain ⟨hi, rfl⟩ := List.getElem?_eq_some_iff.mp he
  have := allEff_compAt h i (by omega)
  rw [List.drop_eq_getElem_cons hi] at this
  exact this.1

/-- The label under which the union–find of `relabel` keeps observation `x` after the first `i`
edges of `es`: `x` itself at first; edge `i` puts everything that carries the label of either
endpoint under the fresh label `n + i` (`UF.union`, src/union.rs). -/
def rootAt (n : Nat) (es : List (Nat × Nat)) : Nat → Nat → Nat
  | 0 => fun x => x
  | i + 1 =>
    match es[i]? with
    | some e => fun x =>
        if rootAt n es i x = rootAt n es i e.1 ∨ rootAt n es i x = rootAt n es i e.2 then n + i
        else rootAt n es i x
    | none => rootAt n es i

theorem rootAt_succ {n : Nat} {es : List (Nat × Nat)} {i : Nat} {e : Nat × Nat}
    (h : es[i]? = some e) (x : Nat) :
    rootAt n es (i + 1) x =
      if rootAt n es i x = rootAt n es i e.1 ∨ rootAt n es i x = rootAt n es i e.2 then n + i
      else rootAt n es i x := by
  simp only [rootAt, h]

theorem rootAt_lt (n : Nat) (es : List (Nat × Nat)) : ∀ i x, x < n → rootAt n es i x < n + i := by
  intro i
  induction i with
  | zero => exact fun x hx => hx
  | succ i ih =>
    intro x hx
    have := ih x hx
    cases he : es[i]? with
    | none => simp only [rootAt, he]; omega
    | some e => rw [rootAt_succ he]; split <;> omega

/-- On the observations `rootAt` and `compAt` have the same kernel: a union under a fresh label is
`joinComp` up to the names of the components. -/
theorem rootAt_eq_iff {n : Nat} {es : List (Nat × Nat)} (hr : ∀ e ∈ es, e.1 < n ∧ e.2 < n) :
    ∀ i x y, x < n → y < n →
      (rootAt n es i x = rootAt n es i y ↔ compAt es i x = compAt es i y) := by
  intro i
  induction i with
  | zero => exact fun x y _ _ => Iff.rfl
  | succ i ih =>
    intro x y hx hy
    cases he : es[i]? with
    | none => simp only [rootAt, compAt, he]; exact ih x y hx hy
    | some e =>
      obtain ⟨h1, h2⟩ := hr e (List.mem_of_getElem? he)
      rw [rootAt_succ he, rootAt_succ he, compAt_succ he, joinComp_eq_iff', ← ih x y hx hy,
        ← ih x e.1 hx h1, ← ih x e.2 hx h2, ← ih y e.1 hy h1, ← ih y e.2 hy h2]
      exact linkRoot_eq_iff (Nat.ne_of_lt (rootAt_lt n es i x hx))
        (Nat.ne_of_lt (rootAt_lt n es i y hy))

theorem setClusters_cases (s : Step α) {r1 r2 : Nat} (h : r1 ≠ r2) :
    ((s.setClusters r1 r2).c1 = r1 ∧ (s.setClusters r1 r2).c2 = r2 ∧ r1 < r2) ∨
    ((s.setClusters r1 r2).c1 = r2 ∧ (s.setClusters r1 r2).c2 = r1 ∧ r2 < r1) := by
  unfold Step.setClusters
  split
  · next h' => exact Or.inr ⟨rfl, rfl, h'⟩
  · next h' => exact Or.inl ⟨rfl, rfl, by omega⟩

/-- The step written by iteration `i` of the relabel loop. -/
def mkStep (n : Nat) (L : List (Step α)) (s : Step α) (r1 r2 : Nat) : Step α :=
  { s.setClusters r1 r2 with size := sz n L r1 + sz n L r2 }

theorem mkStep_d (n : Nat) (L : List (Step α)) (s : Step α) (r1 r2 : Nat) :
    (mkStep n L s r1 r2).d = s.d := setClusters_d s r1 r2

theorem mkStep_cases (n : Nat) (L : List (Step α)) (s : Step α) {r1 r2 : Nat} (h : r1 ≠ r2) :
    ((mkStep n L s r1 r2).c1 = r1 ∧ (mkStep n L s r1 r2).c2 = r2 ∧ r1 < r2) ∨
    ((mkStep n L s r1 r2).c1 = r2 ∧ (mkStep n L s r1 r2).c2 = r1 ∧ r2 < r1) :=
  setClusters_cases s h

theorem mkStep_size (n : Nat) (L : List (Step α)) (s : Step α) (r1 r2 : Nat) :
    (mkStep n L s r1 r2).size = sz n L r1 + sz n L r2 := rfl

/-- `sz` of a label below `n + i` only looks at the sizes of the steps before `i`. -/
theorem sz_of_sizes {n i : Nat} {L L' : List (Step α)}
    (h : ∀ j, j < i → (L[j]?).map (·.size) = (L'[j]?).map (·.size))
    {l : Nat} (hl : l < n + i) : sz n L l = sz n L' l := by
  unfold sz
  by_cases c : l < n
  · simp [c]
  · simp only [c, if_false]
    have := h (l - n) (by omega)
    cases h1 : L[l - n]? <;> cases h2 : L'[l - n]? <;> rw [h1, h2] at this <;>
      simp only [Option.map_some, Option.map_none, Option.some.injEq, reduceCtorEq] at this ⊢
    exact this

theorem sz_congr {n i : Nat} {L L' : List (Step α)} (hagree : ∀ j, j < i → L[j]? = L'[j]?)
    {l : Nat} (hl : l < n + i) : sz n L l = sz n L' l :=
  sz_of_sizes (fun j hj => by rw [hagree j hj]) hl

theorem usedBefore_congr {i : Nat} {L L' : List (Step α)} (hagree : ∀ j, j < i → L[j]? = L'[j]?)
    {k : Nat} (hk : k ≤ i) (l : Nat) : UsedBefore L k l ↔ UsedBefore L' k l :=
  usedBefore_lab (fun j hj => by rw [hagree j hj]) hk l

/-- Well-formedness looks at the labels and sizes of the steps only. -/
theorem Spec.WellFormed.map {n : Nat} {L : List (Step α)} (h : WellFormed n L) (f : Step α → Step α)
    (hf : ∀ s, (f s).c1 = s.c1 ∧ (f s).c2 = s.c2 ∧ (f s).size = s.size) :
    WellFormed n (L.map f) := by
  have hget : ∀ i t, (L.map f)[i]? = some t → ∃ s, L[i]? = some s ∧ f s = t := fun i t ht => by
    rwa [List.getElem?_map, Option.map_eq_some_iff] at ht
  have hused : ∀ i l, UsedBefore (L.map f) i l → UsedBefore L i l := by
    rintro i l ⟨j, t, hj, ht, hl⟩
    obtain ⟨s, hs, rfl⟩ := hget j t ht
    exact ⟨j, s, hj, hs, by rw [← (hf s).1, ← (hf s).2.1]; exact hl⟩
  have hsz : ∀ l, l < n + L.length → sz n (L.map f) l = sz n L l := fun l =>
    sz_of_sizes fun j _ => by rw [List.getElem?_map]; cases L[j]? <;> simp [(hf _).2.2]
  refine ⟨by rw [List.length_map]; exact h.len, fun i t ht => ?_, fun i t ht => ?_, fun i t ht => ?_⟩
  all_goals
    obtain ⟨s, hs, rfl⟩ := hget i t ht
    rw [(hf s).1, (hf s).2.1]
  · exact h.ordered i s hs
  · exact ⟨fun hu => (h.fresh i s hs).1 (hused i _ hu), fun hu => (h.fresh i s hs).2 (hused i _ hu)⟩
  · have ho := h.ordered i s hs
    have hi := getElem?_lt hs
    rw [(hf s).2.2, hsz _ (by omega), hsz _ (by omega)]
    exact h.size i s hs

theorem relabelStep_eq {n i : Nat} {c : Nat → Nat} {uf : UF} {steps : Array (Step α)} {s : Step α}
    (hu : UFInv n i c uf) (hi : n + i < 2 * n - 1)
    (hs : steps.toList[i]? = some s) {r1 r2 : Nat}
    (h1 : RootOf uf.parents s.c1 r1) (h2 : RootOf uf.parents s.c2 r2) (hne : r1 ≠ r2)
    (hs1 : s.c1 < n) (hs2 : s.c2 < n) :
    relabelStep n (uf, steps) i =
      .ok (⟨linkP uf.parents r1 r2 (n + i), n + i + 1⟩,
           steps.setIfInBounds i (mkStep n steps.toList s r1 r2)) := by
  rw [Array.getElem?_toList] at hs
  obtain ⟨hsz, e⟩ := Array.getElem?_eq_some_iff.mp hs
  have hget : aget steps i = .ok s := aget_ok.mpr ⟨hsz, e⟩
  have hf1 := hu.find_ok.mpr h1
  have hf2 := hu.find_ok.mpr h2
  have hun := hu.union_roots hi h1.isRoot h2.isRoot hne
  have l1 : r1 < n + i := hu.root_lt (by omega) h1
  have l2 : r2 < n + i := hu.root_lt (by omega) h2
  have hc1 := Dendrogram.clusterSizeOf_eq n steps r1 (by omega)
  have hc2 := Dendrogram.clusterSizeOf_eq n steps r2 (by omega)
  have hset := aset_eq hsz (mkStep n steps.toList s r1 r2)
  unfold mkStep at hset
  simp only [relabelStep, hget, hf1, hf2, hun, hc1, hc2, hset, bind, Except.bind, pure, Except.pure]
  rfl

/-- After `i` iterations: steps `≥ i` are still raw, steps `< i` are final and well formed, and no
label consumed so far is a root of the union–find `p`. -/
structure DInv (n i : Nat) (p : Array Nat) (L0 L : List (Step α)) : Prop where
  len : L.length = L0.length
  rest : ∀ j : Nat, i ≤ j → L[j]? = L0[j]?
  ordered : ∀ (j : Nat) (s : Step α), j < i → L[j]? = some s → s.c1 < s.c2 ∧ s.c2 < n + j
  used : ∀ (j : Nat) (s : Step α), j < i → L[j]? = some s → p[s.c1]? ≠ some s.c1 ∧ p[s.c2]? ≠ some s.c2
  fresh : ∀ (j : Nat) (s : Step α), j < i → L[j]? = some s → ¬ UsedBefore L j s.c1 ∧ ¬ UsedBefore L j s.c2
  size : ∀ (j : Nat) (s : Step α), j < i → L[j]? = some s → s.size = sz n L s.c1 + sz n L s.c2
  hts : ∀ (j : Nat) (s s0 : Step α), L[j]? = some s → L0[j]? = some s0 → s.d = s0.d

theorem DInv.init (n : Nat) (p : Array Nat) (L0 : List (Step α)) : DInv n 0 p L0 L0 where
  len := rfl
  rest := fun _ _ => rfl
  ordered := fun j s hj => by omega
  used := fun j s hj => by omega
  fresh := fun j s hj => by omega
  size := fun j s hj => by omega
  hts := fun j s s0 h h0 => by rw [h] at h0; cases h0; rfl

theorem DInv.step {n i : Nat} {p : Array Nat} {L0 L : List (Step α)} (h : DInv n i p L0 L)
    {s : Step α} (hs : L[i]? = some s) {r1 r2 : Nat}
    (i1 : p[r1]? = some r1) (i2 : p[r2]? = some r2) (hne : r1 ≠ r2)
    (l1 : r1 < n + i) (l2 : r2 < n + i) :
    DInv n (i + 1) (linkP p r1 r2 (n + i)) L0 (L.set i (mkStep n L s r1 r2)) := by
  have s1 := (Array.getElem?_eq_some_iff.mp i1).1
  have s2 := (Array.getElem?_eq_some_iff.mp i2).1
  have hiL : i < L.length := (List.getElem?_eq_some_iff.mp hs).1
  have hagree : ∀ j, j < i → L[j]? = (L.set i (mkStep n L s r1 r2))[j]? :=
    fun j hj => (List.getElem?_set_ne (Nat.ne_of_gt hj)).symm
  -- every step below `i + 1` is either an old one or the new one
  have hsplit : ∀ j t, j < i + 1 → (L.set i (mkStep n L s r1 r2))[j]? = some t →
      (j < i ∧ L[j]? = some t) ∨ (j = i ∧ t = mkStep n L s r1 r2) := fun j t hj ht =>
    (getElem?_set_cases hiL ht).imp_left fun h => ⟨by omega, h.2⟩
  have hcs := mkStep_cases n L s hne
  -- a consumed label is not a root
  have hused : ∀ l, UsedBefore L i l → p[l]? ≠ some l := by
    rintro l ⟨j, t, hj, ht, hl⟩
    have := h.used j t hj ht
    rcases hl with hl | hl <;> subst hl
    · exact this.1
    · exact this.2
  -- after the link the non-roots are the old non-roots and the two linked roots
  have hnr : ∀ l, (p[l]? ≠ some l ∨ l = r1 ∨ l = r2) → (linkP p r1 r2 (n + i))[l]? ≠ some l := by
    intro l hl
    rw [getElem?_linkP s1 s2]
    split
    · next c =>
      intro e
      have := Option.some.inj e
      rcases c with rfl | rfl <;> omega
    · next c => exact hl.resolve_right c
  refine ⟨?_, ?_, ?_, ?_, ?_, ?_, ?_⟩
  · rw [List.length_set]; exact h.len
  · intro j hj
    rw [List.getElem?_set, if_neg (Nat.ne_of_lt hj)]
    exact h.rest j (Nat.le_of_succ_le hj)
  · intro j t hj ht
    rcases hsplit j t hj ht with ⟨hj', ht'⟩ | ⟨rfl, rfl⟩
    · exact h.ordered j t hj' ht'
    · rcases hcs with ⟨e1, e2, hlt⟩ | ⟨e1, e2, hlt⟩ <;> rw [e1, e2]
      · exact ⟨hlt, l2⟩
      · exact ⟨hlt, l1⟩
  · intro j t hj ht
    rcases hsplit j t hj ht with ⟨hj', ht'⟩ | ⟨rfl, rfl⟩
    · exact ⟨hnr _ (Or.inl (h.used j t hj' ht').1), hnr _ (Or.inl (h.used j t hj' ht').2)⟩
    · rcases hcs with ⟨c1, c2, _⟩ | ⟨c1, c2, _⟩ <;> rw [c1, c2]
      · exact ⟨hnr _ (Or.inr (Or.inl rfl)), hnr _ (Or.inr (Or.inr rfl))⟩
      · exact ⟨hnr _ (Or.inr (Or.inr rfl)), hnr _ (Or.inr (Or.inl rfl))⟩
  · intro j t hj ht
    rcases hsplit j t hj ht with ⟨hj', ht'⟩ | ⟨rfl, rfl⟩
    · rw [← usedBefore_congr hagree (Nat.le_of_lt hj'), ← usedBefore_congr hagree (Nat.le_of_lt hj')]
      exact h.fresh j t hj' ht'
    · rw [← usedBefore_congr hagree (Nat.le_refl _), ← usedBefore_congr hagree (Nat.le_refl _)]
      have u1 : ¬ UsedBefore L j r1 := fun hu => hused r1 hu i1
      have u2 : ¬ UsedBefore L j r2 := fun hu => hused r2 hu i2
      rcases hcs with ⟨c1, c2, _⟩ | ⟨c1, c2, _⟩ <;> rw [c1, c2]
      · exact ⟨u1, u2⟩
      · exact ⟨u2, u1⟩
  · intro j t hj ht
    rcases hsplit j t hj ht with ⟨hj', ht'⟩ | ⟨rfl, rfl⟩
    · have ho := h.ordered j t hj' ht'
      have o2 : t.c2 < n + i := Nat.lt_trans ho.2 (Nat.add_lt_add_left hj' n)
      rw [← sz_congr hagree (Nat.lt_trans ho.1 o2), ← sz_congr hagree o2]
      exact h.size j t hj' ht'
    · rw [mkStep_size]
      rcases hcs with ⟨c1, c2, _⟩ | ⟨c1, c2, _⟩ <;> rw [c1, c2]
      · rw [← sz_congr hagree l1, ← sz_congr hagree l2]
      · rw [← sz_congr hagree l1, ← sz_congr hagree l2, Nat.add_comm]
  · intro j t s0 ht hs0
    rcases getElem?_set_cases hiL ht with ⟨-, ht⟩ | ⟨rfl, rfl⟩
    · exact h.hts j t s0 ht hs0
    · rw [mkStep_d]
      exact h.hts j s s0 hs hs0

theorem DInv.wellFormed {n : Nat} {p : Array Nat} {L0 L : List (Step α)}
    (h : DInv n (n - 1) p L0 L) (hlen : L0.length = n - 1) : WellFormed n L := by
  have hlt : ∀ i s, L[i]? = some s → i < n - 1 := by
    intro i s hs
    have := (List.getElem?_eq_some_iff.mp hs).1
    rw [h.len, hlen] at this; exact this
  exact ⟨by rw [h.len, hlen], fun i s hs => h.ordered i s (hlt i s hs) hs,
    fun i s hs => h.fresh i s (hlt i s hs) hs, fun i s hs => h.size i s (hlt i s hs) hs⟩

/-- In a well-formed step list whose step `j` joins the labels `rootAt` of the endpoints of edge `j`,
beneath the label of an observation lie exactly the observations that share it: the leaves of a
step are those of its two children (`leaves_node`). -/
theorem leaves_rootAt {n : Nat} {es : List (Nat × Nat)} {L : List (Step α)} (W : WellFormed n L)
    (hlen : es.length = L.length) (hr : ∀ e ∈ es, e.1 < n ∧ e.2 < n)
    (hlab : ∀ (j : Nat) (s : Step α) (e : Nat × Nat), L[j]? = some s → es[j]? = some e →
      s.c1 = min (rootAt n es j e.1) (rootAt n es j e.2) ∧
      s.c2 = max (rootAt n es j e.1) (rootAt n es j e.2)) :
    ∀ i, i ≤ L.length → ∀ x, x < n → ∀ y,
      y ∈ leaves n L L.length (rootAt n es i x) ↔ (y < n ∧ rootAt n es i y = rootAt n es i x) := by
  intro i
  induction i with
  | zero =>
    intro _ x hx y
    rw [show rootAt n es 0 x = x from rfl, leaves_of_lt hx, List.mem_singleton]
    exact ⟨fun e => ⟨e ▸ hx, e⟩, fun h => h.2⟩
  | succ i ih =>
    intro hi x hx y
    have ih := ih (Nat.le_of_succ_le hi)
    obtain ⟨s, hs⟩ : ∃ s, L[i]? = some s := ⟨_, List.getElem?_eq_getElem hi⟩
    obtain ⟨e, he⟩ : ∃ e, es[i]? = some e := ⟨_, List.getElem?_eq_getElem (hlen ▸ hi)⟩
    obtain ⟨ha, hb⟩ := hr e (List.mem_of_getElem? he)
    obtain ⟨c1, c2⟩ := hlab i s e hs he
    have m1 := ih e.1 ha
    have m2 := ih e.2 hb
    generalize hr1 : rootAt n es i e.1 = r1 at c1 c2 m1
    generalize hr2 : rootAt n es i e.2 = r2 at c1 c2 m2
    -- beneath the new label: what was beneath the labels of the two endpoints
    have hnew : y ∈ leaves n L L.length (n + i) ↔
        (y < n ∧ (rootAt n es i y = r1 ∨ rootAt n es i y = r2)) := by
      rw [leaves_node n L W i s hs, c1, c2, List.mem_append]
      rcases Nat.le_total r1 r2 with h | h
      · rw [Nat.min_eq_left h, Nat.max_eq_right h, m1, m2, ← and_or_left]
      · rw [Nat.min_eq_right h, Nat.max_eq_left h, m1, m2, ← and_or_left]
        exact and_congr_right fun _ => Or.comm
    have hxy : y < n → (rootAt n es (i + 1) y = rootAt n es (i + 1) x ↔
        rootAt n es i y = rootAt n es i x ∨
          ((rootAt n es i y = r1 ∨ rootAt n es i y = r2) ∧
            (rootAt n es i x = r1 ∨ rootAt n es i x = r2))) := fun hy => by
      rw [rootAt_succ he, rootAt_succ he, hr1, hr2]
      exact linkRoot_eq_iff (Nat.ne_of_lt (rootAt_lt n es i y hy))
        (Nat.ne_of_lt (rootAt_lt n es i x hx))
    by_cases c : rootAt n es i x = r1 ∨ rootAt n es i x = r2
    · rw [show rootAt n es (i + 1) x = n + i by rw [rootAt_succ he, hr1, hr2, if_pos c]] at hxy ⊢
      refine hnew.trans (and_congr_right fun hy => ?_)
      rw [hxy hy]
      exact ⟨fun h => Or.inr ⟨h, c⟩, fun h => h.elim (fun e => e ▸ c) (fun h => h.1)⟩
    · rw [show rootAt n es (i + 1) x = rootAt n es i x by rw [rootAt_succ he, hr1, hr2, if_neg c]]
        at hxy ⊢
      refine (ih x hx y).trans (and_congr_right fun hy => ?_)
      rw [hxy hy]
      exact ⟨Or.inl, fun h => h.elim id (fun h => absurd h.2 c)⟩

/-- Full invariant of the relabel loop after `i` iterations over the processed raw steps `L0`:
`UFInv`, `DInv`, the root of every observation is its `rootAt`, and every step written so far
carries the roots the two endpoints of its edge had when it was written. -/
structure RInv (n i : Nat) (L0 : List (Step α)) (st : UF × Array (Step α)) : Prop where
  uf : UFInv n i (compAt (edgesOf L0) i) st.1
  d : DInv n i st.1.parents L0 st.2.toList
  roots : ∀ x, x < n → RootOf st.1.parents x (rootAt n (edgesOf L0) i x)
  labels : ∀ (j : Nat) (s : Step α) (e : Nat × Nat), j < i → st.2.toList[j]? = some s →
    (edgesOf L0)[j]? = some e →
    s.c1 = min (rootAt n (edgesOf L0) j e.1) (rootAt n (edgesOf L0) j e.2) ∧
    s.c2 = max (rootAt n (edgesOf L0) j e.1) (rootAt n (edgesOf L0) j e.2)

theorem RInv.init (n : Nat) (hn : 1 ≤ n) (steps0 : Array (Step α)) :
    RInv n 0 steps0.toList (UF.fresh n, steps0) :=
  ⟨UFInv.fresh n hn, DInv.init _ _ _,
    fun x hx => (rootOf_fresh_iff n hn).mpr ⟨rfl, by omega⟩, fun j _ _ hj => by omega⟩

/-- The raw step that iteration `i` reads: it still stands at position `i` of the working array, and
its edge joins two labels below `n`. -/
theorem DInv.step_at {n i : Nat} {p : Array Nat} {L0 : List (Step α)} {steps : Array (Step α)}
    (hraw : RawTree n (edgesOf L0)) (hd : DInv n i p L0 steps.toList) (hi : i < n - 1) :
    ∃ s, steps.toList[i]? = some s ∧ i < steps.toList.length ∧
      (edgesOf L0)[i]? = some (s.c1, s.c2) ∧ (s.c1 < n ∧ s.c2 < n) := by
  have hlen : L0.length = n - 1 := hraw.steps_length
  have hiL0 : i < L0.length := by omega
  have hs0 : L0[i]? = some L0[i] := by simp [hiL0]
  generalize L0[i] = s at hs0
  have hs : steps.toList[i]? = some s := by rw [hd.rest i (Nat.le_refl _)]; exact hs0
  have hiL : i < steps.toList.length := by rw [hd.len]; exact hiL0
  have he := edgesOf_at hs0
  have hrange := hraw.inRange (s.c1, s.c2) (List.mem_of_getElem? he)
  simp only at hrange
  exact ⟨s, hs, hiL, he, hrange⟩

theorem relabelStep_inv {n i : Nat} {L0 : List (Step α)} {st : UF × Array (Step α)}
    (hraw : RawTree n (edgesOf L0)) (h : RInv n i L0 st) (hi : i < n - 1) :
    ∃ st', relabelStep n st i = .ok st' ∧ RInv n (i + 1) L0 st' := by
  obtain ⟨uf, steps⟩ := st
  obtain ⟨hu, hd, hr, hlab⟩ := h
  simp only at hu hd hr hlab
  obtain ⟨s, hs, hiL, he, hrange⟩ := hd.step_at hraw hi
  have hab := compAt_ne hraw.eff he
  simp only at hab
  have hk : n + i < 2 * n - 1 := by omega
  have h1 := hr s.c1 hrange.1
  have h2 := hr s.c2 hrange.2
  generalize hr1 : rootAt n (edgesOf L0) i s.c1 = r1 at h1
  generalize hr2 : rootAt n (edgesOf L0) i s.c2 = r2 at h2
  have hne : r1 ≠ r2 := fun e => hab ((hu.comp _ _ r1 r2 hrange.1 hrange.2 h1 h2).mp e)
  have l1 : r1 < n + i := hu.root_lt (Nat.lt_add_right i hrange.1) h1
  have l2 : r2 < n + i := hu.root_lt (Nat.lt_add_right i hrange.2) h2
  have hu' := hu.link hk hrange.1 hrange.2 h1 h2
  rw [← compAt_succ he] at hu'
  have hr' : ∀ x, x < n →
      RootOf (linkP uf.parents r1 r2 (n + i)) x (rootAt n (edgesOf L0) (i + 1) x) := by
    intro x hx
    rw [rootAt_succ he, hr1, hr2]
    exact (hr x hx).link h1.isRoot h2.isRoot (hu.untouched _ (Nat.le_refl _) hk) (Nat.ne_of_gt l1)
      (Nat.ne_of_gt l2)
  refine ⟨_, relabelStep_eq hu hk hs h1 h2 hne hrange.1 hrange.2, hu', ?_, hr', ?_⟩
  · simp only [Array.toList_setIfInBounds]
    exact hd.step hs h1.isRoot h2.isRoot hne l1 l2
  · intro j t e hj ht hj0
    simp only [Array.toList_setIfInBounds] at ht
    rcases getElem?_set_cases hiL ht with ⟨hji, ht⟩ | ⟨rfl, rfl⟩
    · exact hlab j t e (by omega) ht hj0
    · rw [he] at hj0
      cases hj0
      rw [hr1, hr2, mkStep, Step.setClusters_eq]
      exact ⟨rfl, rfl⟩

theorem relabelLoop_spec (n : Nat) (hn : 1 ≤ n) (steps0 : Array (Step α))
    (hraw : RawTree n (edgesOf steps0.toList)) :
    ∃ st', (List.range steps0.size).foldlM (relabelStep n) (UF.fresh n, steps0) = .ok st' ∧
      RInv n (n - 1) steps0.toList st' := by
  have hlen : steps0.size = n - 1 := hraw.steps_length
  rw [hlen]
  exact foldlM_range_ok (fun i st => RInv n i steps0.toList st) _ _
    (fun i st hi h => relabelStep_inv hraw h hi) _ (RInv.init n hn steps0)

variable [Num α]

/-- The raw steps in the order the relabel loop processes them: stably sorted by height when the
method requires sorting, as given otherwise. -/
def processed (m : Method) (steps : Array (Step α)) : Array (Step α) :=
  if m.requiresSorting then (steps.toList.mergeSort stepLe).toArray else steps

theorem processed_perm (m : Method) (steps : Array (Step α)) :
    (processed m steps).toList.Perm steps.toList := by
  unfold processed
  split
  · exact List.mergeSort_perm _ _
  · exact List.Perm.refl _

theorem size_processed (m : Method) (steps : Array (Step α)) :
    (processed m steps).size = steps.size := by
  have := (processed_perm m steps).length_eq
  simpa using this

theorem rawTree_processed {n : Nat} (m : Method) {steps : Array (Step α)}
    (h : RawTree n (edgesOf steps.toList)) : RawTree n (edgesOf (processed m steps).toList) :=
  h.perm ((processed_perm m steps).symm.map _)

theorem presort_ok {m : Method} {steps steps0 : Array (Step α)}
    (h : (if m.requiresSorting then sortSteps steps else pure steps) = .ok steps0) :
    steps0 = processed m steps := by
  unfold processed
  split at h
  · next hm =>
    unfold sortSteps at h
    split at h
    · cases h
    · rw [if_pos hm]; exact (pure_ok.mp h).symm
  · next hm => rw [if_neg hm]; exact (pure_ok.mp h).symm

/-- The pre-pass succeeds unless the sort meets a NaN. -/
theorem presort_total {m : Method} {steps : Array (Step α)}
    (h : m.requiresSorting = false ∨ steps.size < 2 ∨ ∀ s ∈ steps.toList, Num.isNaN s.d = false) :
    (if m.requiresSorting then sortSteps steps else pure steps) = .ok (processed m steps) := by
  unfold processed
  by_cases hm : m.requiresSorting = true
  · rw [if_pos hm, if_pos hm]
    unfold sortSteps
    rw [if_neg]
    · rfl
    · rintro ⟨h2, hany⟩
      rcases h with h | h | h
      · rw [hm] at h; cases h
      · omega
      · rw [Array.any_eq_true] at hany
        obtain ⟨i, hi, hnan⟩ := hany
        have := h steps[i] (by simp)
        rw [this] at hnan; cases hnan
  · rw [if_neg hm, if_neg hm]; rfl

theorem relabel_inv (m : Method) (uf0 uf : UF) (d d' : Dendrogram α) (n : Nat) (hn : 1 ≤ n)
    (hobs : d.obs = n) (hraw : RawTree n (edgesOf d.steps.toList))
    (h : relabel m uf0 d = .ok (uf, d')) :
    d'.obs = n ∧ RInv n (n - 1) (processed m d.steps).toList (uf, d'.steps) := by
  obtain ⟨steps0, st', h0, hfold, heq⟩ := (relabel_ok_iff m uf0 d _).mp h
  have := presort_ok h0
  subst this
  rw [hobs] at hfold
  obtain ⟨st'', hfold', hinv⟩ := relabelLoop_spec n hn _ (rawTree_processed m hraw)
  rw [hfold] at hfold'
  cases hfold'
  cases heq
  exact ⟨hobs, hinv⟩

/-- Core of C01: relabelling a raw spanning tree gives a well-formed stepwise dendrogram. -/
theorem relabel_wellFormed (m : Method) (uf0 uf : UF) (d d' : Dendrogram α) (n : Nat) (hn : 2 ≤ n)
    (hobs : d.obs = n)
    (hraw : Spec.RawTree n (d.steps.toList.map (fun s => (s.c1, s.c2))))
    (h : relabel m uf0 d = .ok (uf, d')) :
    d'.obs = n ∧ Spec.WellFormed n d'.steps.toList := by
  obtain ⟨ho, hinv⟩ := relabel_inv m uf0 uf d d' n (by omega) hobs hraw h
  exact ⟨ho, hinv.d.wellFormed (rawTree_processed m hraw).steps_length⟩

/-- The labelling part of `relabel` is total on raw spanning trees: the only possible panic is the
NaN panic of the sort. -/
theorem relabel_total (m : Method) (uf0 : UF) (d : Dendrogram α) (n : Nat) (hn : 2 ≤ n)
    (hobs : d.obs = n)
    (hraw : Spec.RawTree n (d.steps.toList.map (fun s => (s.c1, s.c2))))
    (hsort : m.requiresSorting = false ∨ d.steps.size < 2 ∨
      ∀ s ∈ d.steps.toList, Num.isNaN s.d = false) :
    ∃ r, relabel m uf0 d = .ok r := by
  obtain ⟨st', hfold, _⟩ := relabelLoop_spec n (by omega) _ (rawTree_processed m hraw)
  refine ⟨(st'.1, { d with steps := st'.2 }), (relabel_ok_iff m uf0 d _).mpr ?_⟩
  exact ⟨_, st', presort_total hsort, by rw [hobs]; exact hfold, rfl⟩

/-- Let `ps` be the raw steps in processed order and `es` their
edges.  Output step `i` keeps the height of `ps[i]`, and the observations beneath the label `n + i`
it creates are — without repetition — exactly the component of the endpoints of `es[i]` after
processing the edges `es[0..i]`. -/
theorem relabel_leaves (m : Method) (uf0 uf : UF) (d d' : Dendrogram α) (n : Nat) (hn : 2 ≤ n)
    (hobs : d.obs = n)
    (hraw : Spec.RawTree n (d.steps.toList.map (fun s => (s.c1, s.c2))))
    (h : relabel m uf0 d = .ok (uf, d')) :
    d'.steps.size = (processed m d.steps).size ∧
    ∀ (i : Nat) (s0 : Step α), (processed m d.steps).toList[i]? = some s0 →
      ∃ s', d'.steps.toList[i]? = some s' ∧ s'.d = s0.d ∧
        (Spec.leaves n d'.steps.toList d'.steps.size (n + i)).Nodup ∧
        ∀ y, y ∈ Spec.leaves n d'.steps.toList d'.steps.size (n + i) ↔
          (y < n ∧ compAt (edgesOf (processed m d.steps).toList) (i + 1) y
                  = compAt (edgesOf (processed m d.steps).toList) (i + 1) s0.c1) := by
  obtain ⟨_, hinv⟩ := relabel_inv m uf0 uf d d' n (by omega) hobs hraw h
  have hraw' := rawTree_processed m hraw
  have W := hinv.d.wellFormed hraw'.steps_length
  refine ⟨by have := hinv.d.len; simpa using this, fun i s0 hs0 => ?_⟩
  have hi : i < d'.steps.toList.length := hinv.d.len ▸ getElem?_lt hs0
  have he := edgesOf_at hs0
  have hc1 := (hraw'.inRange _ (List.mem_of_getElem? he)).1
  -- `n + i` is the label of the endpoints of edge `i` once it is processed
  have ra : rootAt n (edgesOf (processed m d.steps).toList) (i + 1) s0.c1 = n + i := by
    rw [rootAt_succ he, if_pos (Or.inl rfl)]
  have hroot := leaves_rootAt W (hraw'.len.trans W.len.symm) hraw'.inRange
    (fun j s e hs => hinv.labels j s e (W.len ▸ getElem?_lt hs) hs) (i + 1) hi s0.c1 hc1
  rw [← Array.length_toList, ← ra]
  exact ⟨d'.steps.toList[i], by simp, hinv.d.hts i _ s0 (by simp) hs0,
    ra ▸ leaves_nodup n _ W (n + i) (Nat.add_lt_add_left hi n),
    fun y => (hroot y).trans (and_congr_right fun hy => rootAt_eq_iff hraw'.inRange _ y _ hy hc1)⟩

/-- The labels `relabel` writes, for any raw spanning tree (no index discipline): those that
`rootAt` computes from the processed edges. -/
theorem relabel_roots (m : Method) (uf0 uf : UF) (d d' : Dendrogram α) (n : Nat) (hn : 1 ≤ n)
    (hobs : d.obs = n) (hraw : RawTree n (edgesOf d.steps.toList))
    (h : relabel m uf0 d = .ok (uf, d')) :
    ∀ (i : Nat) (s0 : Step α), (processed m d.steps).toList[i]? = some s0 →
      ∃ s', d'.steps.toList[i]? = some s' ∧
        s'.c1 = min (rootAt n (edgesOf (processed m d.steps).toList) i s0.c1)
                    (rootAt n (edgesOf (processed m d.steps).toList) i s0.c2) ∧
        s'.c2 = max (rootAt n (edgesOf (processed m d.steps).toList) i s0.c1)
                    (rootAt n (edgesOf (processed m d.steps).toList) i s0.c2) ∧
        s'.d = s0.d := by
  obtain ⟨_, hinv⟩ := relabel_inv m uf0 uf d d' n hn hobs hraw h
  intro i s0 hs0
  have hi := (List.getElem?_eq_some_iff.mp hs0).1
  have hlen : (processed m d.steps).toList.length = n - 1 := (rawTree_processed m hraw).steps_length
  have hi' : i < d'.steps.toList.length := by rw [hinv.d.len]; exact hi
  have hs' := List.getElem?_eq_getElem hi'
  obtain ⟨c1, c2⟩ := hinv.labels i _ _ (hlen ▸ hi) hs' (edgesOf_at hs0)
  exact ⟨_, hs', c1, c2, hinv.d.hts i _ s0 hs' hs0⟩

theorem relabel_leaves_perm (m : Method) (uf0 uf : UF) (d d' : Dendrogram α) (n : Nat) (hn : 2 ≤ n)
    (hobs : d.obs = n)
    (hraw : Spec.RawTree n (d.steps.toList.map (fun s => (s.c1, s.c2))))
    (h : relabel m uf0 d = .ok (uf, d'))
    (i : Nat) (s0 : Step α) (hs0 : (processed m d.steps).toList[i]? = some s0) :
    (Spec.leaves n d'.steps.toList d'.steps.size (n + i)).Perm
      ((List.range n).filter (fun y =>
        compAt (edgesOf (processed m d.steps).toList) (i + 1) y
          = compAt (edgesOf (processed m d.steps).toList) (i + 1) s0.c1)) := by
  obtain ⟨_, hall⟩ := relabel_leaves m uf0 uf d d' n hn hobs hraw h
  obtain ⟨_, _, _, nd, hm⟩ := hall i s0 hs0
  rw [List.perm_ext_iff_of_nodup nd (List.nodup_range.filter _)]
  intro y
  rw [hm y]
  simp

/-! ### Non-vacuity: a concrete raw tree on four observations -/

section Example

@[reducible] def toyNum : Num Nat where
  lt a b := decide (a < b)
  beq a b := decide (a = b)
  add a b := a + b
  sub a b := a - b
  mul a b := a * b
  div a b := a / b
  ofNat n := n
  half := 0
  quarter := 0
  sqrt a := a
  abs a := a
  maxValue := 1000
  infinity := 1000
  isNaN _ := false

/-- Raw steps `2–3` (height 5), `0–1` (height 1), `1–2` (height 7), not in height order. -/
def toyRaw : Dendrogram Nat := ⟨#[⟨2, 3, 5, 0⟩, ⟨0, 1, 1, 0⟩, ⟨1, 2, 7, 0⟩], 4⟩

theorem toyRaw_rawTree : RawTree 4 (toyRaw.steps.toList.map (fun s => (s.c1, s.c2))) := by
  refine ⟨rfl, by decide, ?_⟩
  simp [toyRaw, AllEff, joinComp]

theorem toy_sorted : @sortSteps Nat toyNum toyRaw.steps =
    .ok #[⟨0, 1, 1, 0⟩, ⟨2, 3, 5, 0⟩, ⟨1, 2, 7, 0⟩] := by
  simp [sortSteps, toyRaw, Num.isNaN, Num.lt, List.mergeSort, List.MergeSort.Internal.splitInTwo,
    stepLe, pure, Except.pure]

/-- With sorting (single linkage), from an arbitrary prior union–find: SciPy labels 4, 5, 6. -/
theorem toy_relabel_single : @relabel Nat toyNum .single ⟨#[9, 9], 3⟩ toyRaw =
    .ok (⟨#[4, 4, 5, 5, 6, 6, 6], 7⟩, ⟨#[⟨0, 1, 1, 2⟩, ⟨2, 3, 5, 2⟩, ⟨4, 5, 7, 4⟩], 4⟩) := by
  unfold relabel
  simp only [Method.requiresSorting, if_true, toy_sorted]
  rfl

/-- Without sorting (centroid): steps are labelled in the given order. -/
example : (@relabel Nat toyNum .centroid ⟨#[9, 9], 3⟩ toyRaw).toOption =
    some (⟨#[5, 5, 4, 4, 6, 6, 6], 7⟩, ⟨#[⟨2, 3, 5, 2⟩, ⟨0, 1, 1, 2⟩, ⟨4, 5, 7, 4⟩], 4⟩) := by
  decide

/-- The hypotheses of `relabel_wellFormed` are satisfiable, and its conclusion on the example. -/
example : WellFormed 4
    ([⟨0, 1, 1, 2⟩, ⟨2, 3, 5, 2⟩, ⟨4, 5, 7, 4⟩] : List (Step Nat)) :=
  (@relabel_wellFormed Nat toyNum .single _ _ toyRaw _ 4 (by decide) rfl toyRaw_rawTree
    toy_relabel_single).2

end Example

end Kodama
