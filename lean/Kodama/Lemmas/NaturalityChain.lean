/-
Naturality of `nnchain_with` (`nnchainWith_nat`): the maps on the states of the scan, of the inner loop and of
the outer loop (`mapNN`, `mapGrow`, `mapChainSt`), one lemma per function of chain.rs; `updFn_nat'` is
`updFn_nat` for a method that does not read the merged distance (any value may stand for it on the image side).
-/
import Kodama.Lemmas.NaturalityMst
namespace Kodama
variable {α β : Type} [Num α] [Num β]

def mapNN (h : α → β) (s : NN α) : NN β := ⟨s.idx, h s.min, mapMat h s.M⟩

theorem nnStep_nat {h : α → β} (H : OrdHom h) (chk : Bool) (fixed : Nat) (ff : Bool)
    (s : NN α) (x : Nat) :
    nnStep chk fixed ff (mapNN h s) x = mapNN h <$> nnStep chk fixed ff s x := by
  unfold nnStep
  simp only [mapNN]
  -- whichever cell is read, what follows is the same term: one goal, `?rest`
  refine ite_nat _ (bind_nat h _ (Mat.get_nat ..) ?rest) (bind_nat h _ (Mat.get_nat ..) ?rest)
  intro v
  simp only [H.lt]
  split <;> rfl

def mapGrow (h : α → β) (r : Nat × Nat × α × Array Nat × Mat α) : Nat × Nat × β × Array Nat × Mat β :=
  (r.1, r.2.1, h r.2.2.1, r.2.2.2.1, mapMat h r.2.2.2.2)

theorem chainGrow_nat {h : α → β} (H : OrdHom h) (chk : Bool) (act : Active) (fuel : Nat)
    (chain : Array Nat) (a b : Nat) (min : α) (M : Mat α) :
    chainGrow chk act fuel chain a b (h min) (mapMat h M)
      = mapGrow h <$> chainGrow chk act fuel chain a b min M := by
  induction fuel generalizing chain a b min M with
  | zero => rfl
  | succ fuel ih =>
    unfold chainGrow
    refine bind_same _ (fun r1 => ?_)
    refine bind_nat (mapNN h) _
      (foldlM_nat (mapNN h) _ _ (nnStep_nat H chk b false) r1 ⟨a, min, M⟩) (fun s => ?_)
    refine bind_same _ (fun r2 => ?_)
    refine bind_nat (mapNN h) _
      (foldlM_nat (mapNN h) _ _ (nnStep_nat H chk b true) _ s) (fun s => ?_)
    refine bind_same _ (fun a => ?_)
    refine bind_same _ (fun p => ?_)
    simp only [mapNN]
    exact ite_nat _ rfl (ih ..)


theorem updFn_nat' {m : Method} {h : α → β} (U : UpdHom m h) (hm : usesDist m = false)
    (sizes : Array Nat) (sa sb : Nat) (dist : α) (dist' : β) (x : Nat) (va vb : α) :
    updFn m sizes sa sb dist' x (h va) (h vb) = h <$> updFn m sizes sa sb dist x va vb := by
  rw [updFn_dist_irrel m hm sizes sa sb dist' (h dist)]; exact updFn_nat U ..

theorem chainUpdate_nat {h : α → β} {m : MethodChain} (U : UpdHom m.intoMethod h) (hd hp : α → β)
    (chk : Bool) (st : State α) (a b : Nat) (M : Mat α) :
    chainUpdate chk m (mapState hd hp st) a b (mapMat h M)
      = mapMat h <$> chainUpdate chk m st a b M := by
  unfold chainUpdate
  cases m <;> simp only [mapState_active, mapState_sizes]
  · exact updateRows_nat h chk _ _ _ (updFn_nat' (m := .single) U rfl _ _ _ _ _) ..
  · exact updateRows_nat h chk _ _ _ (updFn_nat' (m := .complete) U rfl _ _ _ _ _) ..
  · refine bind_same _ (fun sa => ?_)
    refine bind_same _ (fun sb => ?_)
    exact updateRows_nat h chk _ _ _ (updFn_nat' (m := .average) U rfl _ _ _ _ _) ..
  · exact updateRows_nat h chk _ _ _ (updFn_nat' (m := .weighted) U rfl _ _ _ _ _) ..
  · refine bind_nat h _ (Mat.get_nat ..) (fun dist => ?_)
    refine bind_same _ (fun sa => ?_)
    refine bind_same _ (fun sb => ?_)
    exact updateRows_nat h chk _ _ _ (updFn_nat (m := .ward) U st.sizes sa sb dist) a b (M.tick 1)

def mapX (h : α → β) (x : Array Nat × Nat × Nat × α × Mat α) : Array Nat × Nat × Nat × β × Mat β :=
  (x.1, x.2.1, x.2.2.1, h x.2.2.2.1, mapMat h x.2.2.2.2)

def mapChainSt (hd hp h : α → β) (s : ChainSt α) : ChainSt β :=
  ⟨mapState hd hp s.st, mapDend h s.dend, mapMat h s.M⟩

theorem chainIter_nat {h : α → β} (H : OrdHom h) {m : MethodChain} (U : UpdHom m.intoMethod h)
    (hd hp : α → β) (chk : Bool) (s : ChainSt α) :
    chainIter chk m (mapChainSt hd hp h s) = mapChainSt hd hp h <$> chainIter chk m s := by
  unfold chainIter
  simp only [mapChainSt, mapState_chain, mapState_active]
  refine ite_nat _ ?g1 (bind_same _ fun b => bind_same _ fun a => ite_nat _ ?g2 ?g3)
  case' g1 =>
    refine bind_same _ (fun live => ?_)
    refine bind_same _ (fun a => ?_)
    refine bind_same _ (fun b => ?_)
    refine bind_nat h _ (Mat.get_nat ..) (fun min => ?_)
    refine bind_same _ (fun r => ?_)
    refine bind_nat (mapNN h) _
      (foldlM_nat (mapNN h) _ _ (nnStep_nat H chk a true) _ ⟨b, min, s.M.tick 1⟩) (fun sc => ?_)
    refine bind_nat (mapX h) _ (rfl : pure (mapX h (#[a], a, sc.idx, sc.min, sc.M)) = _) ?_
  case' g2 | g3 =>
    refine bind_nat h _ (Mat.get_nat ..) (fun min => ?_)
    refine bind_nat (mapX h) _
      (rfl : pure (mapX h (s.st.chain.pop.pop.pop, a, b, min, s.M.tick 1)) = _) ?_
  all_goals
    intro x
    simp only [mapX, mapMat_data, Array.size_map]
    refine bind_nat (mapGrow h) _ (chainGrow_nat H ..) (fun g => ?_)
    simp only [mapGrow]
    refine bind_nat (mapMat h) _
      (chainUpdate_nat U hd hp chk { s.st with chain := g.2.2.2.1 } _ _ _) (fun M => ?_)
    exact bind_nat (fun r : State α × Dendrogram α => (mapState hd hp r.1, mapDend h r.2)) _
      (State.merge_nat hd hp h chk { s.st with chain := g.2.2.2.1 } s.dend _ _ g.2.2.1)
      (fun r => rfl)


theorem nnchainWith_nat {h h₂ : α → β} {m : MethodChain} (H : OrdHom h₂)
    (U : UpdHom m.intoMethod h₂) (S : SqHom m.intoMethod h h₂) {hd hp : α → β}
    (hinf : hd Num.infinity = Num.infinity) (hmax : hp Num.maxValue = Num.maxValue) (chk : Bool)
    (st : State α) (d : Dendrogram α) (data : Array α) (n : Nat) :
    nnchainWith chk m (mapState hd hp st) (mapDend h d) (data.map h) n
      = mapRes hd hp h h₂ <$> nnchainWith chk m st d data n := by
  rw [nnchainWith_frame, nnchainWith_frame, squareData_nat m.intoMethod S.sq S.same]
  refine withFrame_nat hinf hmax (fun st d M => ?_) chk st d _ n
  unfold nnchainBody
  refine bind_nat (mapChainSt hd hp h₂) _
    (iterM_nat _ _ _ (chainIter_nat H U hd hp chk) _ ⟨{ st with chain := #[] }, d, M⟩)
    (fun s => ?_)
  refine bind_nat (fun r : UF × Dendrogram α => (r.1, mapDend h₂ r.2)) _
    (relabel_nat H _ _ _) (fun r => ?_)
  simp only [map_pure, mapRes, mapChainSt, sqrtSteps_nat m.intoMethod S.sqrt S.same]
  rfl

end Kodama
