/-
Specification-side material for C03 (label-based spec `Spec/Naive.lean` only; no algorithm model):
`TableGood G s`, every entry of the table of `s` at two distinct live labels lies in `G` (`TableNoNaN`
and `LowerBound` are instances), with its merge step `merge_TableGood_of_upd`; `rawHeights`, the table
values at which a replay merges (heights before `post`); `RunGood G`, "every table value of every greedy
run lies in `G`", which is "the table of every `Reached` state lies in `G`" (`runGood_iff`) and gives
the heights (`RunGood.heights`, `.rawHeights`); and the two
hypotheses of C03 about the number type, `NoNaNRun` (no greedy run from the initial state ever holds
a NaN at a live pair) and `Reducible` (the Lance–Williams update never falls below the merged
height), with the methods for which they are theorems; and `LwGeOn ok m`, threshold reducibility of
the formula `lw m` on a domain `ok`, with its per-method facts `lwGeOn_single`, `lwGeOn_complete`,
`lwGeOn_average`, `lwGeOn_ward`.
-/
import Kodama.Lemmas.SpecReplay
import Kodama.Lemmas.WardClamp
import Kodama.Laws
namespace Kodama
open Spec
variable {α : Type} [Num α]

def TableGood (G : α → Prop) (s : NState α) : Prop :=
  ∀ x ∈ s.live, ∀ y ∈ s.live, x ≠ y → G (s.D x y)

/-- A merge keeps the table in `G` if the table was in `G` and every updated entry is: the other
entries are unchanged. -/
theorem merge_TableGood_of_upd {G : α → Prop} {m : Method} {s : NState α}
    {a b : Nat} (hlt : ∀ l ∈ s.live, l < s.next) (ht : TableGood G s)
    (upd : ∀ x ∈ s.live, x ≠ a → x ≠ b →
      G (lw m (s.D a x) (s.D b x) (s.D a b) (s.size a) (s.size b) (s.size x))) :
    TableGood G (merge m s a b) :=
  merge_pairwise (P := fun _ _ v => G v) (fun _ _ _ h => h) hlt ht upd

end Kodama

namespace Kodama.Spec
variable {α : Type} [Num α]

def rawHeights (m : Method) : NState α → List (Step α) → List α
  | _, [] => []
  | s, st :: rest => s.D st.c1 st.c2 :: rawHeights m (merge m s st.c1 st.c2) rest

theorem rawHeights_append (m : Method) (s : NState α) (l : List (Step α)) (st : Step α) :
    rawHeights m s (l ++ [st]) = rawHeights m s l ++ [(replay m s l).D st.c1 st.c2] := by
  induction l generalizing s with
  | nil => simp [rawHeights, replay]
  | cons x r ih => simp only [List.cons_append, rawHeights, replay, ih]

theorem rawHeights_length (m : Method) (s : NState α) (l : List (Step α)) :
    (rawHeights m s l).length = l.length := by
  induction l generalizing s with
  | nil => rfl
  | cons x r ih => simp [rawHeights, ih]

/-- With `l = []`: the input entries (squared, for the methods on squares) are good. -/
def RunGood (G : α → Prop) (m : Method) (n : Nat) (data : Array α) : Prop :=
  ∀ l : List (Step α), GreedyFrom m (init m n data) l →
    ∀ x ∈ (replay m (init m n data) l).live, ∀ y ∈ (replay m (init m n data) l).live, x ≠ y →
      G ((replay m (init m n data) l).D x y)

theorem runGood_iff {G : α → Prop} {m : Method} {n : Nat} {data : Array α} :
    RunGood G m n data ↔ ∀ i s, Reached m n data i s → TableGood G s := by
  constructor
  · intro h i s hr
    obtain ⟨l, hg, rfl⟩ := hr.exists_run
    exact h l hg
  · exact fun h l hg => h _ _ (reach_replay hg)

theorem RunGood.mono {G G' : α → Prop} {m : Method} {n : Nat} {data : Array α}
    (h : RunGood G m n data) (hG : ∀ v, G v → G' v) : RunGood G' m n data :=
  fun l hl x hx y hy hxy => hG _ (h l hl x hx y hy hxy)

theorem RunGood.heights {G : α → Prop} {m : Method} {n : Nat} {data : Array α}
    (h : RunGood G m n data) {steps : List (Step α)} (hg : GreedyFrom m (init m n data) steps) :
    ∀ st ∈ steps, ∃ v, G v ∧ st.d = post m v := by
  intro st hst
  obtain ⟨i, hi⟩ := List.getElem?_of_mem hst
  obtain ⟨hr, ha⟩ := reach_step hg hi
  exact ⟨_, runGood_iff.1 h _ _ hr _ ha.mem1 _ ha.mem2 (Nat.ne_of_lt ha.lt), ha.height⟩

/-- No state reached by a greedy run from the initial state holds a NaN
at a pair of distinct live labels (in particular the — squared, for the methods on squares — input
entries are not NaN: take the empty run). -/
def NoNaNRun (m : Method) (n : Nat) (data : Array α) : Prop :=
  ∀ l : List (Step α), GreedyFrom m (init m n data) l →
    ∀ x ∈ (replay m (init m n data) l).live, ∀ y ∈ (replay m (init m n data) l).live, x ≠ y →
      Num.isNaN ((replay m (init m n data) l).D x y) = false

def InitNoNaN (m : Method) (n : Nat) (data : Array α) : Prop :=
  ∀ x y, x < n → y < n → x ≠ y → Num.isNaN ((init m n data).D x y) = false

/-- The update formula of `m` maps non-NaN arguments to a non-NaN value (true of the selecting
methods single/complete for every number type; for the arithmetic methods it is a hypothesis about
the number type: no overflow to `∞ - ∞`, no `0/0`). -/
def LwNoNaN (α : Type) [Num α] (m : Method) : Prop :=
  ∀ (dax dbx dab : α) (sa sb sx : Nat), Num.isNaN dax = false → Num.isNaN dbx = false →
    Num.isNaN dab = false → Num.isNaN (lw m dax dbx dab sa sb sx) = false

theorem lwNoNaN_single : LwNoNaN α .single := by
  intro dax dbx dab sa sb sx h1 h2 _
  simp only [lw, Gen.single]; split <;> assumption

theorem lwNoNaN_complete : LwNoNaN α .complete := by
  intro dax dbx dab sa sb sx h1 h2 _
  simp only [lw, Gen.complete]; split <;> assumption

abbrev TableNoNaN (s : NState α) : Prop := TableGood (fun v => Num.isNaN v = false) s

theorem merge_TableNoNaN {m : Method} (h : LwNoNaN α m) {s : NState α} {a b : Nat}
    (ha : a ∈ s.live) (hb : b ∈ s.live) (hab : a ≠ b) (hlt : ∀ l ∈ s.live, l < s.next)
    (ht : TableNoNaN s) : TableNoNaN (merge m s a b) :=
  merge_TableGood_of_upd hlt ht fun x hx hxa hxb =>
    h _ _ _ _ _ _ (ht a ha x hx (Ne.symm hxa)) (ht b hb x hx (Ne.symm hxb)) (ht a ha b hb hab)

theorem NoNaNRun.table {m : Method} {n : Nat} {data : Array α} (h : NoNaNRun m n data) {i : Nat}
    {s : NState α} (hr : Reached m n data i s) : TableNoNaN s :=
  (runGood_iff (G := fun v => Num.isNaN v = false)).1 h i s hr

theorem noNaNRun_of_lwNoNaN {m : Method} {n : Nat} {data : Array α} (h : LwNoNaN α m)
    (h0 : InitNoNaN m n data) : NoNaNRun m n data := by
  refine (runGood_iff (G := fun v => Num.isNaN v = false)).2 fun i s hr => ?_
  induction hr with
  | start =>
    exact fun x hx y hy => h0 x y ((mem_init_live m n data x).1 hx) ((mem_init_live m n data y).1 hy)
  | step hr ha ih =>
    exact merge_TableNoNaN h ha.mem1 ha.mem2 (Nat.ne_of_lt ha.lt) hr.good.st.lt ih

/-- For non-NaN arguments: whenever the merged pair is at least as close as each of its members is to
`X` (`dab ≤ dax`, `dab ≤ dbx`), the updated dissimilarity is not below the merged height:
`dab ≤ lw m dax dbx dab …`.  True in exact arithmetic for single, complete, average, weighted, Ward
on positive sizes (`FieldLaws.reduciblePos`, `Lemmas/FieldInstances.lean`); for single, complete,
average and Ward in every ordered number type (`reducible_average`, `reducible_ward`: the crate
clamps both); for weighted, IEEE floats violate it only at the edge of the range (overflow of
`dab + dab`), not through rounding (`Lemmas/WeightedMono.lean`); false for centroid/median even in
exact arithmetic.  Implied by the textbook form `ReducibleMin` (`reducible_of_min`). -/
def Reducible (α : Type) [Num α] (m : Method) : Prop :=
  ∀ (dax dbx dab : α) (sa sb sx : Nat), Num.isNaN dax = false → Num.isNaN dbx = false →
    Num.isNaN dab = false → Num.lt dax dab = false → Num.lt dbx dab = false →
    Num.lt (lw m dax dbx dab sa sb sx) dab = false

/-- The textbook form: for non-NaN arguments with `dab ≤ dax`, `dab ≤ dbx`, the update is at least
the smaller of `dax`, `dbx`. -/
def ReducibleMin (α : Type) [Num α] (m : Method) : Prop :=
  ∀ (dax dbx dab : α) (sa sb sx : Nat), Num.isNaN dax = false → Num.isNaN dbx = false →
    Num.isNaN dab = false → Num.lt dax dab = false → Num.lt dbx dab = false →
    Num.lt (lw m dax dbx dab sa sb sx) dax = false ∨ Num.lt (lw m dax dbx dab sa sb sx) dbx = false

theorem reducible_of_min (L : OrderLaws α) {m : Method} (h : ReducibleMin α m) : Reducible α m := by
  intro dax dbx dab sa sb sx n1 n2 n3 h1 h2
  rcases h dax dbx dab sa sb sx n1 n2 n3 h1 h2 with h' | h'
  · exact L.le_trans dab dax _ n1 h1 h'
  · exact L.le_trans dab dbx _ n2 h2 h'

theorem reducible_single : Reducible α .single := by
  intro dax dbx dab sa sb sx _ _ _ h1 h2
  simp only [lw, Gen.single]; split <;> assumption

theorem reducible_complete : Reducible α .complete := by
  intro dax dbx dab sa sb sx _ _ _ h1 h2
  simp only [lw, Gen.complete]; split <;> assumption

/-- `method::average` clamps the mean from below by the smaller of its two arguments, so it is
reducible in EVERY ordered number type, for all sizes, whatever `+ × /` compute
(`Gen.average_not_lt`, `Lemmas/AverageClamp.lean`).  Without the clamp the rounded mean of IEEE
floats can lie one ulp below both arguments. -/
theorem reducible_average (L : OrderLaws α) : Reducible α .average := by
  intro dax dbx dab sa sb sx n1 n2 _ h1 h2
  simp only [lw]
  exact Gen.average_not_lt L sa sb n1 n2 h1 h2

/-- `method::ward` clamps its value from below by the smaller of its two arguments when
`¬ min dax dbx < dab`; `dab ≤ dax`, `dab ≤ dbx` is exactly that guard, so the textbook form holds in
EVERY ordered number type, for all sizes, whatever `+ − × /` compute (`Gen.ward_not_lt_least`,
`Lemmas/WardClamp.lean`). -/
theorem reducibleMin_ward (L : OrderLaws α) : ReducibleMin α .ward := by
  intro dax dbx dab sa sb sx _ _ _ h1 h2
  simp only [lw]
  have hg : Num.lt (Gen.wardLeast dax dbx) dab = false := by
    rcases Gen.wardLeast_cases dax dbx with e | e <;> rw [e] <;> assumption
  have := Gen.ward_not_lt_least L (a := dax) (b := dbx) sa sb sx hg
  rcases Gen.wardLeast_cases dax dbx with e | e <;> rw [e] at this
  · exact Or.inl this
  · exact Or.inr this

/-- `Gen.ward_not_lt` with the bound `t := dab`.  Without the clamp in `method::ward` the rounded
quotient of IEEE floats can be below both arguments although `dab ≤ min dax dbx`, and in exact
arithmetic the formula fails at sizes `0 0 0` (`0/0 = 0`). -/
theorem reducible_ward (L : OrderLaws α) : Reducible α .ward := by
  intro dax dbx dab sa sb sx n1 n2 n3 h1 h2
  simp only [lw]
  exact Gen.ward_not_lt L sa sb sx n1 n2 n3 (L.irrefl dab) h1 h2

/-- Threshold reducibility of the Lance–Williams formula `lw m` on a domain `ok`: whenever
`d(a,b) ≤ t ≤ d(a,x), d(b,x)` (values in `ok`, not NaN, positive sizes) the new distance is `≥ t`.
The other spellings of reducibility are read off this one: `ReduciblePos` (`t := d(a,b)`,
`LwGeOn.reduciblePos`), `ChainGeOn` and the `ge` clause of `ChainReducible` (on the update function
of `nnchain_with`, `LwGeOn.chainGeOn`), `LBClosed` (on that of `generic_with`, `LwGeOn.lbClosed`). -/
def LwGeOn (ok : α → Prop) (m : Method) : Prop :=
  ∀ (sa sb sx : Nat) (dab va vb t : α),
    0 < sa → 0 < sb → ok dab → ok va → ok vb → ok t →
    Num.isNaN dab = false → Num.isNaN va = false → Num.isNaN vb = false →
    Num.isNaN t = false → Num.lt t dab = false → Num.lt va t = false → Num.lt vb t = false →
    Num.lt (lw m va vb dab sa sb sx) t = false

/-- Single and complete linkage return one of their two arguments. -/
theorem lwGeOn_single (ok : α → Prop) : LwGeOn ok .single := by
  intro sa sb sx dab va vb t _ _ _ _ _ _ _ _ _ _ _ h1 h2
  simp only [lw, Gen.single]; split <;> assumption

theorem lwGeOn_complete (ok : α → Prop) : LwGeOn ok .complete := by
  intro sa sb sx dab va vb t _ _ _ _ _ _ _ _ _ _ _ h1 h2
  simp only [lw, Gen.complete]; split <;> assumption

/-- The clamped average and the guarded, clamped Ward: `Gen.average_not_lt`, `Gen.ward_not_lt`. -/
theorem lwGeOn_average (L : OrderLaws α) (ok : α → Prop) : LwGeOn ok .average := by
  intro sa sb sx dab va vb t _ _ _ _ _ _ _ na nb _ _ h1 h2
  exact Gen.average_not_lt L sa sb na nb h1 h2

theorem lwGeOn_ward (L : OrderLaws α) (ok : α → Prop) : LwGeOn ok .ward := by
  intro sa sb sx dab va vb t _ _ _ _ _ _ _ na nb nt h0 h1 h2
  exact Gen.ward_not_lt L sa sb sx na nb nt h0 h1 h2

abbrev LowerBound (s : NState α) (h : α) : Prop := TableGood (fun v => Num.lt v h = false) s

theorem rawHeights_get (m : Method) (s : NState α) (l : List (Step α)) (i : Nat) (st : Step α)
    (h : l[i]? = some st) :
    (rawHeights m s l)[i]? = some ((stateAt m s l i).D st.c1 st.c2) := by
  induction l generalizing s i with
  | nil => simp at h
  | cons x r ih =>
    cases i with
    | zero =>
      simp only [List.getElem?_cons_zero, Option.some.injEq] at h
      subst h
      simp [rawHeights]
    | succ j =>
      simp only [List.getElem?_cons_succ] at h
      simp only [rawHeights, List.getElem?_cons_succ, stateAt_cons_succ]
      exact ih _ j h

theorem RunGood.rawHeights {G : α → Prop} {m : Method} {n : Nat} {data : Array α}
    (h : RunGood G m n data) {steps : List (Step α)} (hg : GreedyFrom m (init m n data) steps) :
    ∀ v ∈ rawHeights m (init m n data) steps, G v := by
  intro v hv
  obtain ⟨i, hi⟩ := List.getElem?_of_mem hv
  have hlt : i < steps.length := by have := getElem?_lt hi; rwa [rawHeights_length] at this
  obtain ⟨hr, ha⟩ := reach_step hg (List.getElem?_eq_getElem hlt)
  rw [rawHeights_get m _ steps i _ (List.getElem?_eq_getElem hlt), Option.some.injEq] at hi
  exact hi ▸ runGood_iff.1 h _ _ hr _ ha.mem1 _ ha.mem2 (Nat.ne_of_lt ha.lt)

end Kodama.Spec
