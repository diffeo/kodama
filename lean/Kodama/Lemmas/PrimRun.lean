/- `primitiveWith` on a valid matrix is its main loop, which is total and leaves a spanning tree
(`PrimLoopResult`), followed by `relabel` and `sqrtSteps`. -/
import Kodama.Lemmas.PrimInv
import Kodama.Lemmas.Tail
import Kodama.Lemmas.OnSquares
namespace Kodama
open Spec
variable {α : Type} [Num α]

theorem primitiveWith_of_loop (chk : Bool) (m : Method) (st : State α) (d : Dendrogram α)
    (data : Array α) (n : Nat) (h2 : 2 ≤ n) (hs : n < 2147483648)
    (hl : 2 * data.size = n * (n - 1)) {st1 : State α} {dend1 : Dendrogram α} {M1 : Mat α}
    (hloop : iterM (primitiveIter chk m) (n - 1)
      ((State.fresh n : State α), Dendrogram.new n,
        ({ data := squareData m data, n := n, acc := 0 } : Mat α)) = .ok (st1, dend1, M1)) :
    primitiveWith chk m st d data n =
      (relabel m st1.set dend1 >>= fun r =>
        pure ({ st1 with set := r.1 }, sqrtSteps m r.2, M1)) := by
  rw [primitiveWith_frame,
    withFrame_of_valid _ _ _ _ _ _ h2 hs (by rw [squareData_size]; exact hl)]
  unfold primitiveBody
  rw [hloop]
  rfl

theorem primitiveWith_eq (chk : Bool) (m : Method) (st : State α) (d : Dendrogram α)
    (data : Array α) (n : Nat) (h2 : 2 ≤ n) (hs : n < 2147483648)
    (hl : 2 * data.size = n * (n - 1)) :
    LoopTail m (fun _ dend M => PrimLoopResult n dend M) (primitiveWith chk m st d data n) := by
  have hl' : 2 * (squareData m data).size = n * (n - 1) := by rw [squareData_size]; exact hl
  obtain ⟨st1, dend1, M1, hloop, hres⟩ := primLoop_ok chk m (squareData m data) n h2 hs hl'
  exact ⟨st1, dend1, M1, hres, primitiveWith_of_loop chk m st d data n h2 hs hl hloop⟩

end Kodama
