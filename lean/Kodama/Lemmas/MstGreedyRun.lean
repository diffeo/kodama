/- `mstWith` on a NaN-free matrix: it returns, what it returns is the relabelling of a stably sorted
Prim path, and that is a greedy run of the single-linkage specification up to order-equivalence of
the heights, none of which is NaN. -/
import Kodama.Lemmas.MstRun
import Kodama.Lemmas.MstGreedyPair
import Kodama.Lemmas.MstGreedyReplay
namespace Kodama
open Spec
variable {α : Type} [Num α]

/-- A successful `mstWith` is the `relabel` of a Prim path. -/
theorem mstWith_decompose (L : OrderLaws α) (chk : Bool) (st st' : State α)
    (d d' : Dendrogram α) (data : Array α) (n : Nat) (M' : Mat α) (h2 : 2 ≤ n)
    (hs : n < 2147483648) (hl : 2 * data.size = n * (n - 1)) (hnan : NoNaN n data)
    (hinf : InfTop n data) (hrun : mstWith chk st d data n = .ok (st', d', M')) :
    ∃ st1 dend1 M1 ord uf, MstLoopResult n data st1 dend1 M1 ∧
      PrimRun n data ord dend1.steps.toList ∧ relabel .single st1.set dend1 = .ok (uf, d') := by
  obtain ⟨st1, dend1, M1, ord, hres, hprim, heq⟩ :=
    mstWith_prim L chk st d data n h2 hs hl hnan hinf
  rw [heq] at hrun
  obtain ⟨⟨uf, rel⟩, hrel, hr⟩ := bind_ok.mp hrun
  simp only [pure_ok, Prod.mk.injEq] at hr
  rw [hr.2.1] at hrel
  exact ⟨st1, dend1, M1, ord, uf, hres, hprim, hrel⟩

/-- A successful `mstWith` returns the relabelling (`OutOf`) of a Prim path `rs` processed in the
stably sorted order `ps`. -/
theorem mstWith_outOf (L : OrderLaws α) (chk : Bool) (st st' : State α) (d d' : Dendrogram α)
    (data : Array α) (n : Nat) (M' : Mat α) (h2 : 2 ≤ n) (hs : n < 2147483648)
    (hl : 2 * data.size = n * (n - 1)) (hnan : NoNaN n data) (hinf : InfTop n data)
    (hrun : mstWith chk st d data n = .ok (st', d', M')) :
    ∃ (ord : List Nat) (rs ps : List (Step α)),
      PrimRun n data ord rs ∧ StableSorted rs ps ∧ OutOf n ps d'.steps.toList := by
  obtain ⟨st1, dend1, M1, ord, uf, hres, hprim, hrel⟩ :=
    mstWith_decompose L chk st st' d d' data n M' h2 hs hl hnan hinf hrun
  exact ⟨ord, _, _, hprim,
    processed_stableSorted L dend1.steps (fun s hs' => hprim.nn hs') hprim.steps_nodup,
    relabel_outOf .single st1.set uf dend1 d' n h2 hres.obs hres.raw hrel⟩

omit [Num α] in
theorem OutOf.mem_d {n : Nat} {ps os : List (Step α)} (O : OutOf n ps os) {P : α → Prop}
    (h : ∀ s ∈ ps, P s.d) : ∀ s ∈ os, P s.d := by
  intro s hs
  obtain ⟨k, hk⟩ := List.mem_iff_getElem?.mp hs
  obtain ⟨s0, hs0, hd, -⟩ := O.out k s hk
  rw [hd]; exact h s0 (List.mem_of_getElem? hs0)

/-- The output of `mstWith` is a greedy run of the single-linkage specification up to
order-equivalence of the recorded heights, and no height is NaN. -/
theorem mstWith_greedyValidUpTo (L : OrderLaws α) (chk : Bool) (st st' : State α)
    (d d' : Dendrogram α) (data : Array α) (n : Nat) (M' : Mat α) (h2 : 2 ≤ n)
    (hs : n < 2147483648) (hl : 2 * data.size = n * (n - 1)) (hnan : NoNaN n data)
    (hinf : InfTop n data) (hrun : mstWith chk st d data n = .ok (st', d', M')) :
    GreedyValidUpTo .single n data d'.steps.toList ∧
      ∀ s ∈ d'.steps.toList, Num.isNaN s.d = false := by
  obtain ⟨ord, rs, ps, run, S, O⟩ :=
    mstWith_outOf L chk st st' d d' data n M' h2 hs hl hnan hinf hrun
  have hnn : ∀ s ∈ ps, Num.isNaN s.d = false := fun s hs' => run.nn (S.perm.subset hs')
  exact ⟨O.greedyValidUpTo L hnan hnn
    (fun i s0 h u v hu hv hne => mst_pair_lb L hnan run S h hu hv hne)
    (fun i s0 h => mst_pair_att L hnan run S h), O.mem_d (P := fun x => Num.isNaN x = false) hnn⟩

end Kodama
