/- `mstWith` as a whole: the main loop is total, counts exactly, and leaves a spanning tree — a Prim
path when the comparisons obey `OrderLaws`; `mstWith` is that loop followed by `relabel`. -/
import Kodama.Lemmas.MstPrimInv
namespace Kodama
open Spec
variable {α : Type} [Num α]

/-- The loop of `mst_with` on a valid matrix: total (for ANY comparison results), exact count,
spanning tree; and, when `<` obeys `OrderLaws` and the input satisfies `NoNaN` and `InfTop`, the raw
steps are a Prim path.  The second part is carried through the same induction as a conditional. -/
theorem mstLoop (chk : Bool) (data : Array α) (n : Nat) (h2 : 2 ≤ n) (hs : n < 2147483648)
    (hl : 2 * data.size = n * (n - 1)) :
    ∃ act0, (State.fresh n : State α).active.remove chk 0 = .ok act0 ∧
    ∃ st1 dend1 M1 c1,
      iterM (mstIter chk) (n - 1)
        ({ (State.fresh n : State α) with active := act0 }, Dendrogram.new n,
          { data := data, n := n, acc := 0 }, 0) = .ok (st1, dend1, M1, c1) ∧
      MstLoopResult n data st1 dend1 M1 ∧
      (OrderLaws α → NoNaN n data → InfTop n data →
        ∃ ord, PrimRun n data ord dend1.steps.toList) := by
  obtain ⟨act0, hrem, hinv0⟩ := MstInv.init chk data n h2 hs hl
  refine ⟨act0, hrem, ?_⟩
  have key := iterM_ok
    (fun j (s : State α × Dendrogram α × Mat α × Nat) =>
      s.2.2.1.data = data ∧ ∃ live, MstInv n j live s.1 s.2.1 s.2.2.1 s.2.2.2 ∧
      (OrderLaws α → NoNaN n data → InfTop n data →
        ∃ ord, ValInv n data j live s.1 s.2.1 s.2.2.2 ord))
    (mstIter chk) (n - 1) (_, Dendrogram.new n, _, 0)
    (by
      intro j s hj ⟨hd, live, hinv, hval⟩
      obtain ⟨st, dend, M, cl⟩ := s
      obtain ⟨st', dend', M', cl', live', e, hinv', hd', hval'⟩ :=
        mstIter_val chk n j data live st dend M cl (by omega) hinv hd
      exact ⟨(st', dend', M', cl'), e, hd', live', hinv', fun L hnan hinf =>
        let ⟨ord, h⟩ := hval L hnan hinf; hval' L hnan ord h⟩)
    ⟨rfl, _, hinv0, fun _ _ hinf => ⟨[0], ValInv.init hinf (by omega) act0⟩⟩
  obtain ⟨⟨st1, dend1, M1, c1⟩, e, hd, live, hinv, hval⟩ := key
  exact ⟨st1, dend1, M1, c1, e, hinv.result hd, fun L hnan hinf =>
    let ⟨ord, h⟩ := hval L hnan hinf; ⟨ord, h.result hinv⟩⟩

theorem mstWith_eq (chk : Bool) (st : State α) (d : Dendrogram α) (data : Array α) (n : Nat)
    (h2 : 2 ≤ n) (hs : n < 2147483648) (hl : 2 * data.size = n * (n - 1)) :
    LoopTail .single (MstLoopResult n data) (mstWith chk st d data n) := by
  obtain ⟨act0, hrem, st1, dend1, M1, c1, hloop, hres, -⟩ := mstLoop chk data n h2 hs hl
  exact ⟨st1, dend1, M1, hres, mstWith_of_loop chk st d data n h2 hs hl hrem hloop⟩

theorem mstWith_prim (L : OrderLaws α) (chk : Bool) (st : State α) (d : Dendrogram α)
    (data : Array α) (n : Nat) (h2 : 2 ≤ n) (hs : n < 2147483648)
    (hl : 2 * data.size = n * (n - 1)) (hnan : NoNaN n data) (hinf : InfTop n data) :
    ∃ st1 dend1 M1 ord, MstLoopResult n data st1 dend1 M1 ∧
      PrimRun n data ord dend1.steps.toList ∧
      mstWith chk st d data n =
        (relabel .single st1.set dend1 >>= fun r => pure ({ st1 with set := r.1 }, r.2, M1)) := by
  obtain ⟨act0, hrem, st1, dend1, M1, c1, hloop, hres, hrun⟩ := mstLoop chk data n h2 hs hl
  obtain ⟨ord, hprim⟩ := hrun L hnan hinf
  exact ⟨st1, dend1, M1, ord, hres, hprim, mstWith_of_loop chk st d data n h2 hs hl hrem hloop⟩

end Kodama
