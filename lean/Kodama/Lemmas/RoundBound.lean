/-
From `k` rounding factors to a relative tolerance.  `Round.Near u k A x` bounds `x` by `A` up to the
factor `(1−u)^k`; the numeric corollaries of the rounding theorems (relative error `γ`, the margins of
C06) all need `1 ≤ (1+γ)·(1−u)^k`.  By Bernoulli, `(1−u)^k ≥ 1 − k·u`, so it is enough that
`k·u ≤ c` and `1 ≤ (1+γ)(1−c)`: `one_le_mul_pow_w`.  For the two IEEE formats of the crate
(`f64`: `u ≤ 2⁻⁵³`, `n ≤ 10⁶`; `f32`: `u ≤ 2⁻²⁴`, `n ≤ 2000`) and exponents `k ≤ 8n`, `k ≤ 16n` the
tolerances are `10⁻⁹`, `2·10⁻⁹` and `10⁻³`, `2·10⁻³`.
-/
import Kodama.Lemmas.RoundModel
import Mathlib.Tactic.NormNum
import Mathlib.Algebra.Order.Ring.Pow
namespace Kodama
open Round

variable {K : Type} [Field K] [LinearOrder K] [IsStrictOrderedRing K]

/-- Bernoulli: `1 − k·u ≤ (1−u)^k`. -/
theorem one_sub_mul_le_pow_w {u : K} (hu : u < 1) (k : Nat) : 1 - (k : K) * u ≤ (1 - u) ^ k := by
  have h := one_add_mul_le_pow (neg_le_neg (hu.le.trans one_le_two)) k
  rwa [mul_neg, ← sub_eq_add_neg, ← sub_eq_add_neg] at h

/-- `k ≤ m` rounding factors with `m·u ≤ c` lose at most `c`. -/
theorem one_sub_le_pow_w {u c : K} {k m : Nat} (h0 : 0 ≤ u) (hu : u < 1) (hk : k ≤ m)
    (hc : (m : K) * u ≤ c) : 1 - c ≤ (1 - u) ^ k :=
  (sub_le_sub_left ((mul_le_mul_of_nonneg_right (Nat.cast_le.mpr hk) h0).trans hc) 1).trans
    (one_sub_mul_le_pow_w hu k)

theorem one_le_mul_pow_w {u c γ : K} {k m : Nat} (h0 : 0 ≤ u) (hu : u < 1) (hk : k ≤ m)
    (hc : (m : K) * u ≤ c) (hγ0 : 0 ≤ γ) (hγ : 1 ≤ (1 + γ) * (1 - c)) :
    1 ≤ (1 + γ) * (1 - u) ^ k :=
  hγ.trans (mul_le_mul_of_nonneg_left (one_sub_le_pow_w h0 hu hk hc) (add_nonneg zero_le_one hγ0))

theorem one_le_mul_pow_w_of_le {u U γ : K} {k c n M : Nat} (h0 : 0 ≤ u) (hu : u ≤ U) (hU : U < 1)
    (hk : k ≤ c * n) (hn : n ≤ M) (hγ0 : 0 ≤ γ) (hγ : 1 ≤ (1 + γ) * (1 - ((c * M : Nat) : K) * U)) :
    1 ≤ (1 + γ) * (1 - u) ^ k :=
  one_le_mul_pow_w h0 (hu.trans_lt hU) (hk.trans (Nat.mul_le_mul_left c hn))
    (mul_le_mul_of_nonneg_left hu (Nat.cast_nonneg _)) hγ0 hγ

/-- A relative gap `γ` survives `k` rounding factors (strict form). -/
theorem lt_mul_pow_of_gap {u γ a b : K} {k : Nat} (hu : u < 1) (hw : 1 ≤ (1 + γ) * (1 - u) ^ k)
    (ha : 0 ≤ a) (hlt : a * (1 + γ) < b) : a < b * (1 - u) ^ k :=
  calc a = a * 1 := (mul_one _).symm
    _ ≤ a * ((1 + γ) * (1 - u) ^ k) := mul_le_mul_of_nonneg_left hw ha
    _ = a * (1 + γ) * (1 - u) ^ k := (mul_assoc _ _ _).symm
    _ < b * (1 - u) ^ k := mul_lt_mul_of_pos_right hlt (pow_w_pos hu k)

theorem le_mul_of_mul_pow_le {u γ a b : K} {k : Nat} (hw : 1 ≤ (1 + γ) * (1 - u) ^ k)
    (hγ0 : 0 ≤ γ) (ha : 0 ≤ a) (hle : a * (1 - u) ^ k ≤ b) : a ≤ (1 + γ) * b :=
  calc a = a * 1 := (mul_one _).symm
    _ ≤ a * ((1 + γ) * (1 - u) ^ k) := mul_le_mul_of_nonneg_left hw ha
    _ = (1 + γ) * (a * (1 - u) ^ k) := mul_left_comm _ _ _
    _ ≤ (1 + γ) * b := mul_le_mul_of_nonneg_left hle (add_nonneg zero_le_one hγ0)

theorem near_rel_le {u c γ A x : K} {k : Nat} (h0 : 0 ≤ u) (hu : u < 1) (hA : 0 ≤ A)
    (h : Near u k A x) (hc : (k : K) * u ≤ c) (hγ0 : 0 ≤ γ) (hγ : 1 ≤ (1 + γ) * (1 - c)) :
    |x - A| ≤ γ * A :=
  near_abs_sub_le h0 hu hA h (one_le_mul_pow_w h0 hu le_rfl hc hγ0 hγ)

/-! `f64` (`u ≤ 2⁻⁵³`, `n ≤ 10⁶`) and `f32` (`u ≤ 2⁻²⁴`, `n ≤ 2000`). -/

theorem f64_one_le_mul_pow_w {u : K} {k n : Nat} (h0 : 0 ≤ u) (hu : u ≤ 1 / 2 ^ 53)
    (hn : n ≤ 1000000) (hk : k ≤ 8 * n) : 1 ≤ (1 + 1 / 1000000000 : K) * (1 - u) ^ k :=
  one_le_mul_pow_w_of_le h0 hu (by norm_num) hk hn (by norm_num) (by norm_num)

theorem f32_one_le_mul_pow_w {u : K} {k n : Nat} (h0 : 0 ≤ u) (hu : u ≤ 1 / 2 ^ 24)
    (hn : n ≤ 2000) (hk : k ≤ 8 * n) : 1 ≤ (1 + 1 / 1000 : K) * (1 - u) ^ k :=
  one_le_mul_pow_w_of_le h0 hu (by norm_num) hk hn (by norm_num) (by norm_num)

theorem f64_one_le_mul_pow_w16 {u : K} {k n : Nat} (h0 : 0 ≤ u) (hu : u ≤ 1 / 2 ^ 53)
    (hn : n ≤ 1000000) (hk : k ≤ 16 * n) : 1 ≤ (1 + 2 / 1000000000 : K) * (1 - u) ^ k :=
  one_le_mul_pow_w_of_le h0 hu (by norm_num) hk hn (by norm_num) (by norm_num)

theorem f32_one_le_mul_pow_w16 {u : K} {k n : Nat} (h0 : 0 ≤ u) (hu : u ≤ 1 / 2 ^ 24)
    (hn : n ≤ 2000) (hk : k ≤ 16 * n) : 1 ≤ (1 + 2 / 1000 : K) * (1 - u) ^ k :=
  one_le_mul_pow_w_of_le h0 hu (by norm_num) hk hn (by norm_num) (by norm_num)

end Kodama
