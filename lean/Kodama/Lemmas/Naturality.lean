/-
Naturality of the model under a homomorphism `h : α → β` of the number interface (the one theorem
behind C09 and C10).  This file holds the notions of homomorphism (`OrdHom`, `NumHom`, `UpdHom`),
the maps on the model's structures (`mapStep`, `mapDend`, `mapMat`, `mapHeap`, `mapState`), the
combinators (`bind_nat`, `foldlM_nat`, `iterM_nat`: the rules of `Lemmas/Simulation.lean` for
relations that are graphs of maps) and the lemmas for the functions shared by all algorithms.

Every functional `_nat` lemma has the shape
    `f (map h x) = φ <$> f x`
where `φ <$> ·` on `R = Except Panic` is `Except.map`: it maps the value and keeps the panic class;
hence panics correspond as well.  One lemma per model function; loops by `foldlM_nat` / `iterM_nat`
or induction on the fuel.  Functions that never touch a value (`Active.*`, `UF.*`) need no lemma:
`mapState` leaves those fields unchanged, so they are the same term on both sides.
-/
import Kodama.Lemmas.Simulation
import Kodama.Lemmas.GenericBody
namespace Kodama

section Hom
variable {α β : Type} [Num α] [Num β]

/-- `h` preserves every *decision* the code can take on values. -/
structure OrdHom (h : α → β) : Prop where
  lt : ∀ a b, Num.lt (h a) (h b) = Num.lt a b
  beq : ∀ a b, Num.beq (h a) (h b) = Num.beq a b
  isNaN : ∀ a, Num.isNaN (h a) = Num.isNaN a

/-- `OrdHom` that also fixes the two sentinels (`T::max_value()` is the initial minimum and the
initial heap priority in `generic`; `T::infinity()` is the initial `min_dists` entry in `mst`). -/
structure NumHom (h : α → β) : Prop extends OrdHom h where
  maxValue : h Num.maxValue = Num.maxValue
  infinity : h Num.infinity = Num.infinity

/-- `h` commutes with the generated update formula of method `m` (sizes are `Nat`s and are the
same on both sides). -/
def UpdHom (m : Method) (h : α → β) : Prop :=
  match m with
  | .single => ∀ a b, h (Gen.single a b) = Gen.single (h a) (h b)
  | .complete => ∀ a b, h (Gen.complete a b) = Gen.complete (h a) (h b)
  | .average => ∀ a b sa sb, h (Gen.average a b sa sb) = Gen.average (h a) (h b) sa sb
  | .weighted => ∀ a b, h (Gen.weighted a b) = Gen.weighted (h a) (h b)
  | .ward => ∀ a b d sa sb sx, h (Gen.ward a b d sa sb sx) = Gen.ward (h a) (h b) (h d) sa sb sx
  | .centroid => ∀ a b d sa sb, h (Gen.centroid a b d sa sb) = Gen.centroid (h a) (h b) (h d) sa sb
  | .median => ∀ a b d, h (Gen.median a b d) = Gen.median (h a) (h b) (h d)

/-- `Gen.single` only selects, so every order homomorphism commutes with it. -/
theorem OrdHom.single {h : α → β} (H : OrdHom h) (a b : α) :
    h (Gen.single a b) = Gen.single (h a) (h b) := by
  simp only [Gen.single, H.lt]; split <;> rfl

theorem OrdHom.complete {h : α → β} (H : OrdHom h) (a b : α) :
    h (Gen.complete a b) = Gen.complete (h a) (h b) := by
  simp only [Gen.complete, H.lt]; split <;> rfl

theorem UpdHom.of_single {h : α → β} (H : OrdHom h) : UpdHom .single h := H.single
theorem UpdHom.of_complete {h : α → β} (H : OrdHom h) : UpdHom .complete h := H.complete

variable {γ : Type} [Num γ] {f : α → β} {g : β → γ}

theorem OrdHom.comp (F : OrdHom f) (G : OrdHom g) : OrdHom (g ∘ f) :=
  ⟨fun a b => by simp only [Function.comp, G.lt, F.lt],
   fun a b => by simp only [Function.comp, G.beq, F.beq],
   fun a => by simp only [Function.comp, G.isNaN, F.isNaN]⟩

theorem UpdHom.comp {m : Method} (F : UpdHom m f) (G : UpdHom m g) : UpdHom m (g ∘ f) := by
  cases m <;> simp only [UpdHom, Function.comp] at F G ⊢
  all_goals (intros; rw [F, G])

end Hom

variable {α β : Type}

def mapStep (h : α → β) (s : Step α) : Step β := ⟨s.c1, s.c2, h s.d, s.size⟩

def mapDend (h : α → β) (d : Dendrogram α) : Dendrogram β := ⟨d.steps.map (mapStep h), d.obs⟩

def mapMat (h : α → β) (M : Mat α) : Mat β := ⟨M.data.map h, M.n, M.acc⟩

def mapHeap (h : α → β) (q : Heap α) : Heap β := ⟨q.heap, q.obs, q.prio.map h, q.removed⟩

/-- `hd` on `min_dists`, `hp` on the heap priorities; every other field is `Nat`/`Bool` data and
is *the same* on both sides.  (Two maps because an algorithm that never reads one of the buffers
is natural for every map on it — this is how `primitive`/`nnchain` avoid sentinel hypotheses.) -/
def mapState (hd hp : α → β) (st : State α) : State β :=
  ⟨st.sizes, st.active, st.minDists.map hd, st.set, st.chain, mapHeap hp st.queue, st.nearest⟩

def mapPair (h : α → β) (p : Nat × α) : Nat × β := (p.1, h p.2)

@[simp] theorem mapStep_c1 (h : α → β) (s : Step α) : (mapStep h s).c1 = s.c1 := rfl
@[simp] theorem mapStep_c2 (h : α → β) (s : Step α) : (mapStep h s).c2 = s.c2 := rfl
@[simp] theorem mapStep_d (h : α → β) (s : Step α) : (mapStep h s).d = h s.d := rfl
@[simp] theorem mapStep_size (h : α → β) (s : Step α) : (mapStep h s).size = s.size := rfl
@[simp] theorem mapDend_steps (h : α → β) (d : Dendrogram α) :
    (mapDend h d).steps = d.steps.map (mapStep h) := rfl
@[simp] theorem mapDend_obs (h : α → β) (d : Dendrogram α) : (mapDend h d).obs = d.obs := rfl
@[simp] theorem mapMat_data (h : α → β) (M : Mat α) : (mapMat h M).data = M.data.map h := rfl
@[simp] theorem mapMat_n (h : α → β) (M : Mat α) : (mapMat h M).n = M.n := rfl
@[simp] theorem mapMat_acc (h : α → β) (M : Mat α) : (mapMat h M).acc = M.acc := rfl
@[simp] theorem mapHeap_heap (h : α → β) (q : Heap α) : (mapHeap h q).heap = q.heap := rfl
@[simp] theorem mapHeap_obs (h : α → β) (q : Heap α) : (mapHeap h q).obs = q.obs := rfl
@[simp] theorem mapHeap_prio (h : α → β) (q : Heap α) : (mapHeap h q).prio = q.prio.map h := rfl
@[simp] theorem mapHeap_removed (h : α → β) (q : Heap α) : (mapHeap h q).removed = q.removed := rfl
@[simp] theorem mapState_sizes (hd hp : α → β) (st : State α) :
    (mapState hd hp st).sizes = st.sizes := rfl
@[simp] theorem mapState_active (hd hp : α → β) (st : State α) :
    (mapState hd hp st).active = st.active := rfl
@[simp] theorem mapState_minDists (hd hp : α → β) (st : State α) :
    (mapState hd hp st).minDists = st.minDists.map hd := rfl
@[simp] theorem mapState_set (hd hp : α → β) (st : State α) : (mapState hd hp st).set = st.set := rfl
@[simp] theorem mapState_chain (hd hp : α → β) (st : State α) :
    (mapState hd hp st).chain = st.chain := rfl
@[simp] theorem mapState_queue (hd hp : α → β) (st : State α) :
    (mapState hd hp st).queue = mapHeap hp st.queue := rfl
@[simp] theorem mapState_nearest (hd hp : α → β) (st : State α) :
    (mapState hd hp st).nearest = st.nearest := rfl

@[simp] theorem mapMat_tick (h : α → β) (M : Mat α) (k : Nat) :
    (mapMat h M).tick k = mapMat h (M.tick k) := rfl

@[simp] theorem map_ok' {A B : Type} (f : A → B) (a : A) :
    f <$> (Except.ok a : R A) = Except.ok (f a) := rfl
@[simp] theorem map_error' {A B : Type} (f : A → B) (p : Panic) :
    f <$> (Except.error p : R A) = Except.error p := rfl

theorem bind_nat {A A' B B' : Type} (φ : A → A') (ψ : B → B') {e : R A} {e' : R A'}
    {f : A → R B} {f' : A' → R B'} (he : e' = φ <$> e) (hf : ∀ a, f' (φ a) = ψ <$> f a) :
    (e' >>= f') = ψ <$> (e >>= f) :=
  (RelR.bind_eq φ he fun a => RelR.of_eq ψ (hf a)).eq_map

theorem bind_same {A B B' : Type} (ψ : B → B') {e : R A}
    {f : A → R B} {f' : A → R B'} (hf : ∀ a, f' a = ψ <$> f a) :
    (e >>= f') = ψ <$> (e >>= f) :=
  (RelR.bind_same fun a => RelR.of_eq ψ (hf a)).eq_map

theorem ite_nat {B B' : Type} {c : Prop} [Decidable c] (ψ : B → B') {x y : R B} {x' y' : R B'}
    (hx : x' = ψ <$> x) (hy : y' = ψ <$> y) :
    (if c then x' else y') = ψ <$> (if c then x else y) :=
  (RelR.ite (RelR.of_eq ψ hx) (RelR.of_eq ψ hy)).eq_map

theorem foldlM_nat {σ σ' X : Type} (φ : σ → σ') (f : σ → X → R σ) (f' : σ' → X → R σ')
    (hf : ∀ s x, f' (φ s) x = φ <$> f s x) (l : List X) (s : σ) :
    l.foldlM f' (φ s) = φ <$> l.foldlM f s :=
  (foldlM_rel (fun s s' => s' = φ s) f f' (fun s _ x e => e ▸ RelR.of_eq φ (hf s x)) l s _
    rfl).eq_map

theorem iterM_nat {σ σ' : Type} (φ : σ → σ') (f : σ → R σ) (f' : σ' → R σ')
    (hf : ∀ s, f' (φ s) = φ <$> f s) (k : Nat) (s : σ) :
    iterM f' k (φ s) = φ <$> iterM f k s :=
  (iterM_rel (fun s s' => s' = φ s) f f' (fun s _ e => e ▸ RelR.of_eq φ (hf s)) k s _ rfl).eq_map

theorem aget_nat (h : α → β) (a : Array α) (i : Nat) : aget (a.map h) i = h <$> aget a i := by
  unfold aget
  rw [Array.getElem?_map]
  cases a[i]? <;> rfl

theorem aset_nat (h : α → β) (a : Array α) (i : Nat) (v : α) :
    aset (a.map h) i (h v) = Array.map h <$> aset a i v := by
  unfold aset
  by_cases hi : i < a.size
  · have hi' : i < (a.map h).size := by simpa using hi
    simp only [hi, hi', dite_true, map_ok', Array.map_set]
  · have hi' : ¬ i < (a.map h).size := by simpa using hi
    simp only [hi, hi', dite_false, map_error']

theorem Mat.idx_nat (h : α → β) (chk : Bool) (M : Mat α) (r c : Nat) :
    (mapMat h M).idx chk r c = M.idx chk r c := rfl

theorem Mat.get_nat (h : α → β) (chk : Bool) (M : Mat α) (r c : Nat) :
    (mapMat h M).get chk r c = h <$> M.get chk r c := by
  unfold Mat.get
  exact bind_same h (fun i => aget_nat h _ _)

theorem Mat.set_nat (h : α → β) (chk : Bool) (M : Mat α) (r c : Nat) (v : α) :
    (mapMat h M).set chk r c (h v) = mapMat h <$> M.set chk r c v := by
  unfold Mat.set
  refine bind_same _ (fun i => ?_)
  exact bind_nat (Array.map h) _ (aset_nat h _ _ _) (fun d => rfl)

theorem Mat.new_nat (h : α → β) (chk : Bool) (data : Array α) (n : Nat) :
    Mat.new chk (data.map h) n = mapMat h <$> Mat.new chk data n := by
  unfold Mat.new
  rw [Array.size_map]
  exact bind_same _ (fun n => rfl)

theorem Mat.update_nat (h : α → β) (chk : Bool) (M : Mat α) (upd : Nat → α → α → R α)
    (upd' : Nat → β → β → R β) (hu : ∀ x a b, upd' x (h a) (h b) = h <$> upd x a b)
    (x ra ca rb cb : Nat) :
    (mapMat h M).update chk upd' x ra ca rb cb = mapMat h <$> M.update chk upd x ra ca rb cb := by
  unfold Mat.update
  refine bind_nat h _ (Mat.get_nat ..) (fun va => ?_)
  refine bind_nat h _ (Mat.get_nat ..) (fun vb => ?_)
  refine bind_nat h _ (hu ..) (fun v => ?_)
  refine bind_nat (mapMat h) _ (Mat.set_nat ..) (fun M => rfl)

theorem updateRows_nat (h : α → β) (chk : Bool) (act : Active) (upd : Nat → α → α → R α)
    (upd' : Nat → β → β → R β) (hu : ∀ x a b, upd' x (h a) (h b) = h <$> upd x a b)
    (a b : Nat) (M : Mat α) :
    updateRows chk act upd' a b (mapMat h M) = mapMat h <$> updateRows chk act upd a b M := by
  unfold updateRows
  refine bind_same _ (fun r1 => ?_)
  refine bind_nat (mapMat h) _
    (foldlM_nat _ _ _ (fun M x => Mat.update_nat h chk M upd upd' hu ..) _ _) (fun M => ?_)
  refine bind_same _ (fun r2 => ?_)
  refine bind_nat (mapMat h) _
    (foldlM_nat _ _ _ (fun M x => Mat.update_nat h chk M upd upd' hu ..) _ _) (fun M => ?_)
  refine bind_same _ (fun r3 => ?_)
  exact foldlM_nat _ _ _ (fun M x => Mat.update_nat h chk M upd upd' hu ..) _ _

theorem Step.new_nat (h : α → β) (c1 c2 : Nat) (d : α) (s : Nat) :
    Step.new c1 c2 (h d) s = mapStep h (Step.new c1 c2 d s) := by
  unfold Step.new; split <;> rfl

theorem Dendrogram.push_nat (h : α → β) (d : Dendrogram α) (s : Step α) :
    (mapDend h d).push (mapStep h s) = mapDend h <$> d.push s := by
  unfold Dendrogram.push
  simp only [mapDend_steps, mapDend_obs, Array.size_map]
  refine bind_same _ (fun _ => ?_)
  simp only [map_pure, mapDend, Array.map_push]

theorem State.merge_nat (hd hp h : α → β) (chk : Bool) (st : State α) (dend : Dendrogram α)
    (c1 c2 : Nat) (d : α) :
    (mapState hd hp st).merge chk (mapDend h dend) c1 c2 (h d)
      = (fun r => (mapState hd hp r.1, mapDend h r.2)) <$> st.merge chk dend c1 c2 d := by
  unfold State.merge
  simp only [mapState_sizes, mapState_active]
  refine bind_same _ (fun s1 => ?_)
  refine bind_same _ (fun s2 => ?_)
  refine bind_same _ (fun sum => ?_)
  refine bind_same _ (fun sizes => ?_)
  refine bind_same _ (fun active => ?_)
  rw [Step.new_nat]
  refine bind_nat (mapDend h) _ (Dendrogram.push_nat ..) (fun dend => rfl)

theorem clusterSizeOf_nat (h : α → β) (obs : Nat) (steps : Array (Step α)) (label : Nat) :
    Dendrogram.clusterSizeOf obs (steps.map (mapStep h)) label
      = Dendrogram.clusterSizeOf obs steps label := by
  unfold Dendrogram.clusterSizeOf
  split
  · rfl
  · rw [aget_nat, bind_map_left]; rfl

theorem relabelStep_nat (h : α → β) (obs : Nat) (uf : UF) (steps : Array (Step α)) (i : Nat) :
    relabelStep obs (uf, steps.map (mapStep h)) i
      = (fun p => (p.1, p.2.map (mapStep h))) <$> relabelStep obs (uf, steps) i := by
  unfold relabelStep
  simp only [clusterSizeOf_nat]
  refine bind_nat (mapStep h) _ (aget_nat ..) (fun s => ?_)
  simp only [mapStep_c1, mapStep_c2]
  refine bind_same _ (fun r1 => ?_)
  refine bind_same _ (fun r2 => ?_)
  refine bind_same _ (fun uf => ?_)
  refine bind_same _ (fun s1 => ?_)
  refine bind_same _ (fun s2 => ?_)
  refine bind_nat (Array.map (mapStep h)) _ ?_ (fun st => rfl)
  rw [← aset_nat]
  congr 1
  unfold Step.setClusters; split <;> rfl

variable [Num α] [Num β]

theorem updFn_nat {m : Method} {h : α → β} (U : UpdHom m h) (sizes : Array Nat) (sa sb : Nat)
    (dist : α) (x : Nat) (va vb : α) :
    updFn m sizes sa sb (h dist) x (h va) (h vb) = h <$> updFn m sizes sa sb dist x va vb := by
  cases m <;> simp only [updFn, UpdHom] at U ⊢
  all_goals first
    | (simp only [map_pure, U])
    | (refine bind_same _ (fun sx => ?_); simp only [map_pure, U])

theorem updFn_dist_irrel (m : Method) (hm : usesDist m = false) (sizes : Array Nat) (sa sb : Nat)
    (d d' : α) : updFn m sizes sa sb d = updFn m sizes sa sb d' := by
  cases m <;> first | rfl | cases hm

theorem stepLe_nat {h : α → β} (H : OrdHom h) (s t : Step α) :
    stepLe (mapStep h s) (mapStep h t) = stepLe s t := by
  simp only [stepLe, mapStep_d, H.lt]

theorem sortSteps_nat {h : α → β} (H : OrdHom h) (steps : Array (Step α)) :
    sortSteps (steps.map (mapStep h)) = Array.map (mapStep h) <$> sortSteps steps := by
  have e1 : ((fun s : Step β => Num.isNaN s.d) ∘ mapStep h) = fun s : Step α => Num.isNaN s.d := by
    funext s; simp only [Function.comp, mapStep_d, H.isNaN]
  have e2 : ((steps.map (mapStep h)).toList.mergeSort stepLe).toArray
      = Array.map (mapStep h) (steps.toList.mergeSort stepLe).toArray := by
    rw [Array.toList_map, ← List.map_mergeSort (r := stepLe)]
    · simp
    · intro a _ b _; exact (stepLe_nat H a b).symm
  have e3 : (steps.map (mapStep h)).any (fun s => Num.isNaN s.d)
      = steps.any (fun s => Num.isNaN s.d) := by rw [Array.any_map, e1]
  unfold sortSteps
  rw [e3, Array.size_map, e2]
  split <;> rfl

theorem relabel_nat {h : α → β} (H : OrdHom h) (m : Method) (uf0 : UF) (d : Dendrogram α) :
    relabel m uf0 (mapDend h d) = (fun r => (r.1, mapDend h r.2)) <$> relabel m uf0 d := by
  unfold relabel
  simp only [mapDend_obs, mapDend_steps]
  have key : ∀ steps : Array (Step α),
      ((List.range (steps.map (mapStep h)).size).foldlM (relabelStep d.obs)
          (Gen.ufReset uf0 d.obs, steps.map (mapStep h)) >>= fun x =>
        (pure (x.1, ({ steps := x.2, obs := d.obs } : Dendrogram β)) : R _))
      = (fun r => (r.1, mapDend h r.2)) <$>
        ((List.range steps.size).foldlM (relabelStep d.obs) (Gen.ufReset uf0 d.obs, steps)
          >>= fun x => (pure (x.1, ({ steps := x.2, obs := d.obs } : Dendrogram α)) : R _)) := by
    intro steps
    rw [Array.size_map]
    exact bind_nat (fun p : UF × Array (Step α) => (p.1, p.2.map (mapStep h))) _
      (foldlM_nat _ _ _ (fun s x => relabelStep_nat h d.obs s.1 s.2 x) _ (_, steps)) (fun p => rfl)
  split
  · exact bind_nat (Array.map (mapStep h)) _ (sortSteps_nat H _) key
  · exact key d.steps

theorem sqrtSteps_nat {h h₂ : α → β} (m : Method)
    (hsq : m.onSquares = true → ∀ x, Num.sqrt (h₂ x) = h (Num.sqrt x))
    (hns : m.onSquares = false → h₂ = h) (d : Dendrogram α) :
    sqrtSteps m (mapDend h₂ d) = mapDend h (sqrtSteps m d) := by
  unfold sqrtSteps
  split
  · next ho =>
    simp only [mapDend, Array.map_map]
    congr 1
    apply Array.map_congr_left
    intro s _
    simp only [Function.comp, mapStep, hsq ho]
  · next ho =>
    have := hns (by simpa using ho); subst this; rfl

theorem squareData_nat {h h₂ : α → β} (m : Method)
    (hsq : m.onSquares = true → ∀ x, h₂ (Num.mul x x) = Num.mul (h x) (h x))
    (hns : m.onSquares = false → h₂ = h) (data : Array α) :
    squareData m (data.map h) = (squareData m data).map h₂ := by
  unfold squareData
  split
  · next ho =>
    simp only [Array.map_map]
    apply Array.map_congr_left
    intro x _
    simp only [Function.comp, hsq ho]
  · next ho =>
    have := hns (by simpa using ho); subst this; rfl


end Kodama
