/-
The list-level chain invariant of `nnchainWith` (src/chain.rs) and its inner loop.  The chain is read
top-first (`topFirst`).  `ChainL D live L`: the entries of `L` are live and pairwise distinct, and for
every suffix `q :: p :: rest` of `L` every entry `c` of `p :: rest` has ALL its distances to other live
clusters `≥ D p q`.  This is weaker than "each entry's successor is its nearest neighbour and the link
distances decrease strictly"; it is preserved by pushing the strict-improvement argmin, by popping, and
— through `ChainReducible` (`Lemmas/ChainIter.lean`) — by the merge of the top two.  Distinctness is
kept because a strict improvement `D b x < D a b` cannot pick an `x` already in the chain; it gives
`chain.size ≤ #live`, hence the fuel `data.size + 2` of the inner loop suffices (`chainGrow_ok`).
The invariant of the outer loop, the structure `ChainInv`, is in `Lemmas/ChainIter.lean`.
-/
import Kodama.Lemmas.ChainScan
namespace Kodama
open Spec
variable {α : Type} [Num α]

theorem exists_cons_cons {β : Type} {l : List β} (h : 2 ≤ l.length) : ∃ a b t, l = a :: b :: t :=
  match l, h with
  | a :: b :: t, _ => ⟨a, b, t, rfl⟩

/-- The chain read from the top (last pushed) downwards. -/
def topFirst (c : Array Nat) : List Nat := c.toList.reverse

theorem topFirst_push (c : Array Nat) (b : Nat) : topFirst (c.push b) = b :: topFirst c := by
  simp [topFirst]

theorem topFirst_pop (c : Array Nat) : topFirst c.pop = (topFirst c).tail := by
  simp [topFirst, List.tail_reverse]

theorem topFirst_length (c : Array Nat) : (topFirst c).length = c.size := by
  simp [topFirst]

theorem topFirst_getElem? (c : Array Nat) (i : Nat) (hi : i < c.size) :
    (topFirst c)[i]? = c[c.size - 1 - i]? := by
  unfold topFirst
  rw [List.getElem?_reverse (by simpa using hi)]
  simp

theorem back?_topFirst (c : Array Nat) : c.back? = (topFirst c).head? := by
  simp [topFirst, Array.back?_eq_getElem?, List.head?_reverse, List.getLast?_eq_getElem?]

/-- `chain[chain.len() - (i + 1)]` is entry `i` from the top. -/
theorem chainFromEnd_succ (chk : Bool) (c : Array Nat) (i x : Nat)
    (h : (topFirst c)[i]? = some x) : chainFromEnd chk c (i + 1) = .ok x := by
  have hi : i < c.size := by
    rw [← topFirst_length]; exact (List.getElem?_eq_some_iff.mp h).1
  rw [topFirst_getElem? c i hi] at h
  unfold chainFromEnd usub
  have e : c.size - (i + 1) = c.size - 1 - i := by omega
  simp only [Nat.succ_le_of_lt hi, if_true, bind, Except.bind, aget, e, h]

/-- `L` (top first) is a chain for the distance function `D` on the live clusters.  `nn` reads
`D p q ≤ D c x` (`Num.lt u v = false` is `v ≤ u`). -/
structure ChainL (D : Nat → Nat → α) (live : List Nat) (L : List Nat) : Prop where
  mem : ∀ c ∈ L, c ∈ live
  nodup : L.Nodup
  nn : ∀ t q p rest, L = t ++ q :: p :: rest → ∀ c ∈ p :: rest, ∀ x ∈ live, x ≠ c →
    Num.lt (D c x) (D p q) = false

namespace ChainL
variable {D : Nat → Nat → α} {live : List Nat}

theorem tail {q : Nat} {L : List Nat} (h : ChainL D live (q :: L)) : ChainL D live L where
  mem := fun c hc => h.mem c (List.mem_cons_of_mem _ hc)
  nodup := (List.nodup_cons.mp h.nodup).2
  nn := fun t q' p rest e => h.nn (q :: t) q' p rest (by rw [e]; rfl)

theorem head_nn {q p : Nat} {rest : List Nat} (h : ChainL D live (q :: p :: rest)) :
    ∀ c ∈ p :: rest, ∀ x ∈ live, x ≠ c → Num.lt (D c x) (D p q) = false :=
  h.nn [] q p rest rfl

theorem top2 {q p : Nat} {rest : List Nat} (h : ChainL D live (q :: p :: rest)) :
    q ∈ live ∧ p ∈ live ∧ p ≠ q :=
  ⟨h.mem q List.mem_cons_self, h.mem p (List.mem_cons_of_mem _ List.mem_cons_self),
    fun e => (List.nodup_cons.mp h.nodup).1 (e ▸ List.mem_cons_self)⟩

theorem cons {q p : Nat} {rest : List Nat} (h : ChainL D live (p :: rest)) (hq : q ∈ live)
    (hnot : q ∉ p :: rest)
    (hnn : ∀ c ∈ p :: rest, ∀ x ∈ live, x ≠ c → Num.lt (D c x) (D p q) = false) :
    ChainL D live (q :: p :: rest) where
  mem := by
    intro c hc
    rcases List.mem_cons.mp hc with rfl | hc
    · exact hq
    · exact h.mem c hc
  nodup := List.nodup_cons.mpr ⟨hnot, h.nodup⟩
  nn := by
    intro t q' p' rest' e
    rcases List.cons_eq_append_iff.mp e with ⟨rfl, e2⟩ | ⟨t', rfl, e2⟩
    · simp only [List.cons.injEq] at e2
      obtain ⟨rfl, rfl, rfl⟩ := e2
      exact hnn
    · exact h.nn t' q' p' rest' e2

theorem length_le {L : List Nat} (h : ChainL D live L) : L.length ≤ live.length :=
  h.nodup.length_le_of_subset (fun c hc => h.mem c hc)

end ChainL

/-- The inner `loop` of chain.rs: total within the fuel, pushes `p` pairwise distinct live clusters,
ends on a reciprocal pair `a', b'` (the top two entries) with `min' = D a' b'`; it only counts on the
matrix, at most `2 * #live` index computations per push.  On input `a` is the top of `chain` and `b` its
candidate neighbour, not yet pushed; on output `a'` is the top of `chain'` and `b'` the entry below it
(the variables `a`, `b` of chain.rs at loop entry and at `break`). -/
theorem chainGrow_ok (L : OrderLaws α) (chk : Bool) (n : Nat) (act : Active) (live : List Nat)
    (hrep : act.Rep live n) :
    ∀ (fuel : Nat) (chain : Array Nat) (a b : Nat) (min : α) (M : Mat α) (rest : List Nat),
      M.Valid → M.n = n → NoNaNLive M live →
      topFirst chain = a :: rest → ChainL M.dval live (b :: a :: rest) → min = M.dval a b →
      live.length ≤ fuel + chain.size →
      ∃ a' b' min' chain' rest' j p,
        chainGrow chk act fuel chain a b min M = .ok (a', b', min', chain', M.tick j) ∧
        topFirst chain' = a' :: b' :: rest' ∧
        ChainL M.dval live (a' :: b' :: rest') ∧ min' = M.dval a' b' ∧
        (∀ x ∈ live, x ≠ a' → Num.lt (M.dval a' x) min' = false) ∧
        chain'.size = chain.size + p ∧ j ≤ 2 * live.length * p := by
  intro fuel
  induction fuel with
  | zero =>
    intro chain a b min M rest _ _ _ htop hch _ hfuel
    have h1 := hch.length_le
    have h2 := topFirst_length chain
    rw [htop] at h2
    simp only [List.length_cons] at h1 h2
    omega
  | succ fuel ih =>
    intro chain a b min M rest hv hn hnonan htop hch hmin hfuel
    obtain ⟨hb, ha, hab⟩ := hch.top2
    have hbn : b < n := hrep.mem_lt b hb
    have htop1 : topFirst (chain.push b) = b :: a :: rest := by rw [topFirst_push, htop]
    have hminnan : Num.isNaN min = false := by rw [hmin]; exact hnonan a ha b hb hab
    -- the nearest neighbour `i2` of `b`, the predecessor `a` winning ties
    obtain ⟨s1, i2, m2, j, e1, e2, hacc, hle, hm, hcase, hall⟩ :=
      nnScan_ok L chk hrep hb a min M hv hn hnonan hminnan (by rw [hmin, Mat.dval_comm])
    have hD : ∀ j, (M.tick j).dval = M.dval := fun _ => rfl
    have hunf : chainGrow chk act (fuel + 1) chain a b min M
        = (if i2 = a then pure (b, i2, m2, chain.push b, M.tick j)
           else chainGrow chk act fuel (chain.push b) b i2 m2 (M.tick j)) := by
      rw [chainGrow]
      simp only [bind, Except.bind, hrep.range_lt b (Nat.le_of_lt hbn),
        hrep.range_ge b (Nat.le_of_lt hbn), e1, e2,
        chainFromEnd_succ chk _ 0 b (by rw [htop1]; rfl),
        chainFromEnd_succ chk _ 1 a (by rw [htop1]; rfl)]
    rw [hunf]
    by_cases hbreak : i2 = a
    · -- reciprocal nearest neighbours: stop
      rw [if_pos hbreak]
      exact ⟨b, a, m2, chain.push b, rest, j, 1, by rw [hbreak]; rfl, htop1, hch,
        by rw [hm, hbreak], hall, by simp, by omega⟩
    · rw [if_neg hbreak]
      rcases hcase with hi | ⟨hi, hib, hl⟩
      · exact absurd hi hbreak
      · have hheadnn := hch.head_nn
        have hch2 : ChainL M.dval live (i2 :: b :: a :: rest) := by
          apply hch.cons hi
          · intro hmem
            rcases List.mem_cons.mp hmem with h | h
            · exact hib h
            · -- a strict improvement cannot pick a cluster already in the chain
              have hbc : b ≠ i2 := fun e => hib e.symm
              have := hheadnn i2 h b hb hbc
              rw [hm, Mat.dval_comm] at hl
              rw [← hmin, hl] at this
              cases this
          · intro c hc x hx hxc
            rcases List.mem_cons.mp hc with rfl | hc
            · rw [← hm]; exact hall x hx hxc
            · have h1 := hheadnn c hc x hx hxc
              rw [← hmin] at h1
              rw [← hm]
              exact L.le_trans _ _ _ hminnan hle h1
        obtain ⟨a', b', min', chain', rest', j', p, e, htop', hch', hmin', hall', hsz, hjp⟩ :=
          ih (chain.push b) b i2 m2 (M.tick j) (a :: rest) (hv.tick _) hn hnonan
            htop1 hch2 hm (by simp only [Array.size_push]; omega)
        rw [hD] at hch' hmin' hall'
        refine ⟨a', b', min', chain', rest', j + j', p + 1, by rw [e, Mat.tick_tick], htop',
          hch', hmin', hall', by rw [hsz]; simp only [Array.size_push]; omega, ?_⟩
        have : 2 * live.length * (p + 1) = 2 * live.length * p + 2 * live.length := by
          rw [Nat.mul_succ]
        omega

end Kodama
