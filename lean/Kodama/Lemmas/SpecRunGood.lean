/-
`Spec.RunGood G m n data` (`Lemmas/PrimGreedySpec.lean`) is the RUN-DEPENDENT value hypothesis of the
`generic_with` theorems; it mentions neither the algorithm nor its data structures.  For a good set
without NaN it gives `Spec.NoNaNRun` (`RunGood.noNaNRun`).

`runGoodB` is a checker for it: a bounded exhaustive exploration of ALL greedy runs (at each state:
every live pair that is a minimum of the table) with a Boolean good-value test `g`; if it returns
`true`, `RunGood (g · = true)` holds (`runGood_of_check`).  For a tie-free input there is exactly one
run.  Used for the concrete non-vacuity examples (`decide`).
-/
import Kodama.Lemmas.PrimGreedySpec
namespace Kodama.Spec
variable {α : Type} [Num α]

theorem RunGood.noNaNRun {G : α → Prop} {m : Method} {n : Nat} {data : Array α}
    (h : RunGood G m n data) (hG : ∀ v, G v → Num.isNaN v = false) : NoNaNRun m n data :=
  h.mono hG

/-- The live pairs `x < y` whose table value is a minimum over all live pairs: exactly the pairs an
admissible greedy step may merge. -/
def minPairs (s : NState α) : List (Nat × Nat) :=
  (s.live.flatMap fun x => s.live.map fun y => (x, y)).filter fun p =>
    decide (p.1 < p.2) &&
      s.live.all fun x => s.live.all fun y => x == y || !(Num.lt (s.D x y) (s.D p.1 p.2))

def tableGoodB (g : α → Bool) (s : NState α) : Bool :=
  s.live.all fun x => s.live.all fun y => x == y || g (s.D x y)

/-- Explore every greedy run of length `≤ k` from `s`, testing every table on the way; at depth `k`
no further admissible step may exist. -/
def runGoodB (g : α → Bool) (m : Method) : Nat → NState α → Bool
  | 0, s => tableGoodB g s && (minPairs s).isEmpty
  | k + 1, s => tableGoodB g s && (minPairs s).all fun p => runGoodB g m k (merge m s p.1 p.2)

theorem mem_minPairs_of_admissible {m : Method} {s : NState α} {st : Step α}
    (h : Admissible m s st) : (st.c1, st.c2) ∈ minPairs s := by
  obtain ⟨h1, h2, h3, hmin, -, -⟩ := h
  unfold minPairs
  rw [List.mem_filter]
  refine ⟨?_, ?_⟩
  · rw [List.mem_flatMap]
    exact ⟨st.c1, h1, List.mem_map.mpr ⟨st.c2, h2, rfl⟩⟩
  · simp only [Bool.and_eq_true, decide_eq_true_eq, List.all_eq_true, Bool.or_eq_true, beq_iff_eq,
      Bool.not_eq_true']
    refine ⟨h3, ?_⟩
    intro x hx y hy
    by_cases e : x = y
    · exact Or.inl e
    · exact Or.inr (hmin x hx y hy e)

omit [Num α] in
theorem tableGoodB_spec {g : α → Bool} {s : NState α} (h : tableGoodB g s = true) :
    ∀ x ∈ s.live, ∀ y ∈ s.live, x ≠ y → g (s.D x y) = true := by
  intro x hx y hy hxy
  unfold tableGoodB at h
  simp only [List.all_eq_true, Bool.or_eq_true, beq_iff_eq] at h
  rcases h x hx y hy with e | e
  · exact absurd e hxy
  · exact e

theorem runGoodB_sound (g : α → Bool) (m : Method) :
    ∀ (k : Nat) (s : NState α), runGoodB g m k s = true →
      ∀ l : List (Step α), GreedyFrom m s l →
        ∀ x ∈ (replay m s l).live, ∀ y ∈ (replay m s l).live, x ≠ y →
          g ((replay m s l).D x y) = true := by
  intro k
  induction k with
  | zero =>
    intro s h l hl
    simp only [runGoodB, Bool.and_eq_true, List.isEmpty_iff] at h
    cases l with
    | nil => exact tableGoodB_spec h.1
    | cons st r =>
      have := mem_minPairs_of_admissible hl.1
      rw [h.2] at this
      cases this
  | succ k ih =>
    intro s h l hl
    simp only [runGoodB, Bool.and_eq_true, List.all_eq_true] at h
    cases l with
    | nil => exact tableGoodB_spec h.1
    | cons st r =>
      have hm := mem_minPairs_of_admissible hl.1
      exact ih _ (h.2 _ hm) r hl.2

theorem runGood_of_check (g : α → Bool) (m : Method) (n : Nat) (data : Array α) (k : Nat)
    (h : runGoodB g m k (init m n data) = true) : RunGood (fun v => g v = true) m n data :=
  fun l hl => runGoodB_sound g m k _ h l hl

end Kodama.Spec
