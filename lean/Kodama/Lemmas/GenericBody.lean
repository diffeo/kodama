/-
The update of `generic_with` (`genericUpdate`, src/generic.rs) in the form the proofs use: the two
inline `match`es named (`usesSizes`, `usesDist`, `optM`: `genericUpdate_eq`), and the three range
bodies as ONE body `rangeBody`.  It rewrites the entry `(r, c)` from the entries `(ra, ca)` and
`(r, c)` and then treats row `r`: `lowers` is `if v < p { set_priority(r, v); nearest[r] = c }`,
`fixes` is the fall-back `if nearest[r] == a { nearest[r] = c }`.  Range 1 is `(x,a), (x,b)` with
`lowers` for centroid / median and `fixes`; range 2 is `(a,x), (x,b)`, range 3 `(a,x), (b,x)`, both
with `lowers` iff the method tracks priorities.  The body reads `p` through `rd`: `priority(x)` in
ranges 1 and 2, the carried minimum in range 3.
-/
import Kodama.Model.Generic
namespace Kodama
variable {α : Type} [Num α]

/-- The methods whose update reads `size_a`, `size_b` (`let (size_a, size_b) = ..`). -/
def usesSizes : Method → Bool
  | .average | .ward | .centroid => true
  | _ => false

/-- The methods whose update reads the merged distance (`let dist = dis[[a, b]]`). -/
def usesDist : Method → Bool
  | .ward | .centroid | .median => true
  | _ => false

/-- `if c then e else pure d`, kept opaque while the surrounding do-block is unfolded. -/
def optM {β : Type} (c : Bool) (e : R β) (d : β) : R β := if c then e else pure d

theorem optM_ok {β : Type} (c : Bool) (e : R β) (d v : β) (h : e = .ok v) :
    optM c e d = .ok (if c then v else d) := by
  cases c <;> simp [optM, h, pure, Except.pure]

/-- `genericUpdate` with the two inline `match`es named. -/
theorem genericUpdate_eq (chk : Bool) (m : Method) (st : State α) (a b : Nat) (M : Mat α) :
    genericUpdate chk m st a b M = (do
      let sa ← optM (usesSizes m) (aget st.sizes a) 0
      let sb ← optM (usesSizes m) (aget st.sizes b) 0
      let dist ← optM (usesDist m) (M.get chk a b) Num.infinity
      let upd := updFn m st.sizes sa sb dist
      let track := tracksPriorities m
      let r1 ← st.active.range none (some a)
      let (st, M) ← r1.foldlM (genericL1 chk (l1Mode m) upd a b) (st, M)
      let r2 ← st.active.range (some a) (some b)
      let (st, M) ← (r2.drop 1).foldlM (genericL2 chk track upd a b) (st, M)
      let min ← optM track (st.queue.priority b) Num.infinity
      let r3 ← st.active.range (some b) none
      let (st, M, _) ← (r3.drop 1).foldlM (genericL3 chk track upd a b) (st, M, min)
      pure (st, M)) := by
  cases m <;> rfl

/-- The `if nearest[x] == a { nearest[x] = ab }` fix-up of range 1. -/
def fixNearest (st : State α) (M : Mat α) (x a b : Nat) : R (State α × Mat α) := do
  let nx ← aget st.nearest x
  if nx = a then do
    let nearest ← aset st.nearest x b
    pure ({ st with nearest := nearest }, M)
  else pure (st, M)

structure RMode where
  lowers : Bool
  fixes : Bool

def RMode.ofL1 (mode : L1Mode) : RMode := ⟨mode = .lower, true⟩

def RMode.ofTrack (track : Bool) : RMode := ⟨track, false⟩

theorem RMode.ofL1_lowers {mode : L1Mode} : (RMode.ofL1 mode).lowers = false ↔ mode = .fix := by
  cases mode <;> simp [RMode.ofL1]

/-- The `if v < p { set_priority(r, v); nearest[r] = c } else els` block of the range bodies. -/
def lowerOr (chk : Bool) (st : State α) (M : Mat α) (r c : Nat) (v p : α)
    (els : R (State α × Mat α)) : R (State α × Mat α) :=
  if Num.lt v p then do
    let queue ← st.queue.setPriority chk r v
    let nearest ← aset st.nearest r c
    pure ({ st with queue := queue, nearest := nearest }, M)
  else els

def rangeBody (chk : Bool) (md : RMode) (rd : State α → R α) (upd : Nat → α → α → R α)
    (a ra ca r c : Nat) (s : State α × Mat α) (x : Nat) : R (State α × Mat α) := do
  let M ← s.2.update chk upd x ra ca r c
  let els : R (State α × Mat α) := if md.fixes then fixNearest s.1 M r a c else pure (s.1, M)
  if md.lowers then do
    let v ← M.get chk r c
    let p ← rd s.1
    lowerOr chk s.1 M r c v p els
  else els

theorem genericL1_body (chk : Bool) (mode : L1Mode) (upd : Nat → α → α → R α) (a b : Nat)
    (s : State α × Mat α) (x : Nat) :
    genericL1 chk mode upd a b s x =
      rangeBody chk (.ofL1 mode) (·.queue.priority x) upd a x a x b s x := by
  cases mode <;> rfl

theorem genericL2_body (chk : Bool) (track : Bool) (upd : Nat → α → α → R α) (a b : Nat)
    (s : State α × Mat α) (x : Nat) :
    genericL2 chk track upd a b s x =
      rangeBody chk (.ofTrack track) (·.queue.priority x) upd a a x x b s x := by
  cases track <;> rfl

/-- Range 3 is the body on row `b`, followed by the new carried minimum. -/
theorem genericL3_body (chk : Bool) (track : Bool) (upd : Nat → α → α → R α) (a b : Nat)
    (st : State α) (M : Mat α) (mn : α) (x : Nat) :
    genericL3 chk track upd a b (st, M, mn) x =
      rangeBody chk (.ofTrack track) (fun _ => pure mn) upd a a x b x (st, M) x >>= fun s' =>
        if track then s'.2.get chk b x >>= fun v =>
          pure (s'.1, s'.2, if Num.lt v mn then v else mn)
        else pure (s'.1, s'.2, mn) := by
  unfold genericL3 rangeBody
  cases track with
  | false =>
    simp only [RMode.ofTrack, Bool.not_false, if_true, Bool.false_eq_true, if_false, bind_assoc,
      pure_bind]
  | true =>
    simp only [RMode.ofTrack, Bool.not_true, Bool.false_eq_true, if_false, if_true, bind_assoc,
      pure_bind]
    refine bind_congr fun M1 => ?_
    -- the right side reads `M1[b, x]` a second time, after the calls that can fail
    cases hv : M1.get chk b x with
    | error e => rfl
    | ok v =>
      simp only [lowerOr, bind, Except.bind, pure, Except.pure]
      by_cases hlt : Num.lt v mn = true
      · simp only [hlt, if_true]
        cases st.queue.setPriority chk b v with
        | error e => rfl
        | ok q =>
          cases aset st.nearest b x with
          | error e => rfl
          | ok nr => simp only [hv, hlt, if_true]
      · simp only [hlt, if_false, hv, Bool.false_eq_true]

end Kodama
