/-
The guarded, clamped Ward update of the crate (`method::ward`):

    numerator := (sx+sa)·a + (sx+sb)·b − sx·c
    denom     := sa + sb + sx
    value     := numerator / denom
    least     := if a < b then a else b
    *b        := if !(least < c) && value < least then least else value

(`c = merged_dist = d(A,B)`, `a = d(A,X)`, `b = d(B,X)`.)  The GUARD `!(least < c)` says "the merged
pair is at least as close as either is to `x`"; this is the situation of every merge the algorithms
perform on reducible data, and exactly there the exact Ward value is `≥ least`.  Outside the guard the
function is the plain quotient.

Order-only facts about the generated formula `Gen.ward` (`Kodama/Generated/Method.lean`), for ANY
number type; no field law, no rounding model, Mathlib-free.

The main one is REDUCIBILITY, `Gen.ward_not_lt` (`OrderLaws`): if `a`, `b`, `t` are not NaN, `¬ t < c`
(`c ≤ t`), `¬ a < t`, `¬ b < t` then `¬ ward a b c sa sb sx < t` — whatever `+ − × /` compute (the
quotient may be rounded, infinite, or NaN).  Without the clamp this is FALSE of IEEE floats (the rounded
quotient can be below both arguments although `c ≤ min a b`).  `Gen.ward_hom` is naturality, for C09.
Symmetry in `(a, sa) ↔ (b, sb)` (`Gen.ward_comm`) needs trichotomy besides `add_comm`: `least` is a
minimum written with one `<`, so (exactly as for `Gen.single`, `Gen.average`) swapping the arguments
needs "incomparable ⇒ equal", which is false for `±0` and NaN.

The exact-arithmetic statement "the clamp is a no-op" is `FieldLaws.ward_eq_formula`
(`Kodama/Lemmas/WardExact.lean`).
-/
import Kodama.Generated.Method
import Kodama.Laws
import Kodama.Lemmas.AverageClamp
namespace Kodama.Gen
variable {α : Type} [Num α]

/-- The (possibly rounded) Lance–Williams quotient
`((sx+sa)·a + (sx+sb)·b − sx·c)/(sa+sb+sx)`: the `value` of the code. -/
def wardValue (a b c : α) (sa sb sx : Nat) : α :=
  Num.div
    (Num.sub
      (Num.add (Num.mul (Num.add (Num.ofNat sx) (Num.ofNat sa)) a)
        (Num.mul (Num.add (Num.ofNat sx) (Num.ofNat sb)) b))
      (Num.mul (Num.ofNat sx) c))
    (Num.add (Num.add (Num.ofNat sa) (Num.ofNat sb)) (Num.ofNat sx))

/-- `if a < b then a else b`: the `least` of the code. -/
def wardLeast (a b : α) : α := if Num.lt a b then a else b

theorem wardLeast_eq_averageLeast (a b : α) : wardLeast a b = averageLeast a b := rfl

theorem ward_eq_clamp (a b c : α) (sa sb sx : Nat) :
    ward a b c sa sb sx =
      if (!(Num.lt (wardLeast a b) c)) && Num.lt (wardValue a b c sa sb sx) (wardLeast a b)
      then wardLeast a b else wardValue a b c sa sb sx := rfl

theorem ward_of_lt_merged {a b c : α} {sa sb sx : Nat}
    (h : Num.lt (wardLeast a b) c = true) :
    ward a b c sa sb sx = wardValue a b c sa sb sx := by
  rw [ward_eq_clamp, h]; rfl

theorem ward_of_not_lt {a b c : α} {sa sb sx : Nat}
    (h : Num.lt (wardValue a b c sa sb sx) (wardLeast a b) = false) :
    ward a b c sa sb sx = wardValue a b c sa sb sx := by
  rw [ward_eq_clamp, h, Bool.and_false]; rfl

theorem ward_of_guard {a b c : α} {sa sb sx : Nat}
    (hg : Num.lt (wardLeast a b) c = false)
    (h : Num.lt (wardValue a b c sa sb sx) (wardLeast a b) = true) :
    ward a b c sa sb sx = wardLeast a b := by
  rw [ward_eq_clamp, hg, h]; rfl

theorem wardLeast_cases (a b : α) : wardLeast a b = a ∨ wardLeast a b = b := by
  unfold wardLeast; split
  · exact Or.inl rfl
  · exact Or.inr rfl

theorem ward_cases' (a b c : α) (sa sb sx : Nat) :
    (ward a b c sa sb sx = wardLeast a b ∧ Num.lt (wardLeast a b) c = false ∧
        Num.lt (wardValue a b c sa sb sx) (wardLeast a b) = true) ∨
      (ward a b c sa sb sx = wardValue a b c sa sb sx ∧
        (Num.lt (wardLeast a b) c = true ∨
          Num.lt (wardValue a b c sa sb sx) (wardLeast a b) = false)) := by
  cases hg : Num.lt (wardLeast a b) c
  · cases h : Num.lt (wardValue a b c sa sb sx) (wardLeast a b)
    · exact Or.inr ⟨ward_of_not_lt h, Or.inr rfl⟩
    · exact Or.inl ⟨ward_of_guard hg h, rfl, rfl⟩
  · exact Or.inr ⟨ward_of_lt_merged hg, Or.inl rfl⟩

theorem ward_cases (a b c : α) (sa sb sx : Nat) :
    ward a b c sa sb sx = a ∨ ward a b c sa sb sx = b ∨
      ward a b c sa sb sx = wardValue a b c sa sb sx := by
  rcases ward_cases' a b c sa sb sx with ⟨e, -, -⟩ | ⟨e, -⟩
  · rcases wardLeast_cases a b with e' | e'
    · exact Or.inl (e.trans e')
    · exact Or.inr (Or.inl (e.trans e'))
  · exact Or.inr (Or.inr e)

/-- **Reducibility of the clamped Ward update, any ordered number type.**  If the merged pair is at
least as close as the bound (`¬ t < c`) and `t` is a common lower bound of the two (non-NaN)
arguments, then `t` is a lower bound of the result.  Only `OrderLaws` is used: `least ∈ {a, b}` so
`¬ least < t`; with `¬ t < c` this gives `¬ least < c`, i.e. the GUARD IS TRUE; when the clamp fires
the result is `least`, otherwise `¬ value < least` and `¬ least < t` chain through the non-NaN middle
element `least`.  Nothing is assumed about `+ − × /` (the quotient may even be NaN). -/
theorem ward_not_lt (L : OrderLaws α) {a b c t : α} (sa sb sx : Nat)
    (na : Num.isNaN a = false) (nb : Num.isNaN b = false) (nt : Num.isNaN t = false)
    (hc : Num.lt t c = false) (ha : Num.lt a t = false) (hb : Num.lt b t = false) :
    Num.lt (ward a b c sa sb sx) t = false := by
  have hl : Num.lt (wardLeast a b) t = false := by
    rcases wardLeast_cases a b with e | e <;> rw [e] <;> assumption
  have nl : Num.isNaN (wardLeast a b) = false := by
    rcases wardLeast_cases a b with e | e <;> rw [e] <;> assumption
  have hg : Num.lt (wardLeast a b) c = false := L.le_trans c t (wardLeast a b) nt hc hl
  cases h : Num.lt (wardValue a b c sa sb sx) (wardLeast a b)
  · rw [ward_of_not_lt h]
    exact L.le_trans t (wardLeast a b) (wardValue a b c sa sb sx) nl hl h
  · rw [ward_of_guard hg h]; exact hl

theorem ward_not_lt_least (L : OrderLaws α) {a b c : α} (sa sb sx : Nat)
    (hg : Num.lt (wardLeast a b) c = false) :
    Num.lt (ward a b c sa sb sx) (wardLeast a b) = false := by
  cases h : Num.lt (wardValue a b c sa sb sx) (wardLeast a b)
  · rw [ward_of_not_lt h]; exact h
  · rw [ward_of_guard hg h]; exact L.irrefl _

theorem ward_isNaN_of_value {a b c : α} {sa sb sx : Nat}
    (na : Num.isNaN a = false) (nb : Num.isNaN b = false)
    (nv : Num.isNaN (wardValue a b c sa sb sx) = false) :
    Num.isNaN (ward a b c sa sb sx) = false := by
  rcases ward_cases a b c sa sb sx with e | e | e <;> rw [e] <;> assumption

theorem wardLeast_comm (L : OrderLaws α)
    (T : ∀ a b : α, Num.lt a b = false → Num.lt b a = false → a = b) (a b : α) :
    wardLeast a b = wardLeast b a := averageLeast_comm L T a b

/-- Symmetry of the clamped Ward update in `(a, sa) ↔ (b, sb)`: `add_comm` for the quotient (outer
sum of the numerator, `sa + sb` of the denominator), `OrderLaws.asymm` + trichotomy for `least`. -/
theorem ward_comm (L : OrderLaws α)
    (T : ∀ a b : α, Num.lt a b = false → Num.lt b a = false → a = b)
    (hadd : ∀ a b : α, Num.add a b = Num.add b a) (a b c : α) (sa sb sx : Nat) :
    ward a b c sa sb sx = ward b a c sb sa sx := by
  have hv : wardValue a b c sa sb sx = wardValue b a c sb sa sx := by
    unfold wardValue
    rw [hadd (Num.mul (Num.add (Num.ofNat sx) (Num.ofNat sa)) a),
      hadd (Num.ofNat sa : α) (Num.ofNat sb)]
  rw [ward_eq_clamp, ward_eq_clamp, hv, wardLeast_comm L T a b]

/-- **Naturality.**  A map that preserves `<` and commutes with the quotient commutes with the
clamped Ward update (guard and clamp only compare and select).  Used for C09 (scaling by a power of
two). -/
theorem ward_hom {β : Type} [Num β] {h : α → β}
    (hlt : ∀ a b : α, Num.lt (h a) (h b) = Num.lt a b) (a b c : α) (sa sb sx : Nat)
    (hval : h (wardValue a b c sa sb sx) = wardValue (h a) (h b) (h c) sa sb sx) :
    h (ward a b c sa sb sx) = ward (h a) (h b) (h c) sa sb sx := by
  have hl : h (wardLeast a b) = wardLeast (h a) (h b) := by
    unfold wardLeast; rw [hlt]; split <;> rfl
  rw [ward_eq_clamp, ward_eq_clamp, ← hval, ← hl, hlt, hlt]
  split <;> rfl

end Kodama.Gen
