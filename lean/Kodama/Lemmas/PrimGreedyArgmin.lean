/-
`argmin` returns a GLOBAL minimum over the live pairs (`argmin_min`): under `OrderLaws α`, if the
entries at live pairs are not NaN, no live pair has a strictly smaller entry than the one returned.
Non-NaN entries are needed because `≤` (`Num.lt · · = false`) is transitive only through a non-NaN
middle term.  First-wins on ties is not needed and not stated.
-/
import Kodama.Lemmas.PrimInv
import Kodama.Laws
namespace Kodama
open Spec
variable {α : Type} [Num α]

/-- `G` is any set of pairs at which the entries are not NaN; the running minimum stays in it. -/
theorem argminRow_min (L : OrderLaws α) (chk : Bool) (M : Mat α) (hv : M.Valid) (row : Nat)
    (G : Nat → Nat → Prop)
    (hG : ∀ x y w, G x y → M.get chk x y = .ok w → Num.isNaN w = false)
    (cols : List Nat) (min : Nat × Nat × α) (hc : ∀ c ∈ cols, row < c ∧ c < M.n ∧ G row c)
    (hg : G min.1 min.2.1) (hget : M.get chk min.1 min.2.1 = .ok min.2.2) :
    ∃ r, argminRow chk M row cols min = .ok r ∧ G r.1 r.2.1 ∧
      M.get chk r.1 r.2.1 = .ok r.2.2 ∧ Num.lt min.2.2 r.2.2 = false ∧
      ∀ c ∈ cols, ∀ w, M.get chk row c = .ok w → Num.lt w r.2.2 = false := by
  have hval : ∀ c ∈ cols, M.get chk row c = .ok (M.dval row c) :=
    fun c hcc => Mat.get_dval chk M hv row c (hc c hcc).1 (hc c hcc).2.1
  obtain ⟨r, e, -, -, h2, h3, h4⟩ := foldlM_scanMin L (fun _ _ => True)
    (fun m : Nat × Nat × α => m.2.2) (fun m => (m.1, m.2.1)) (M.dval row) (fun c => (row, c)) cols
    (fun min col => do
      let v ← M.get chk row col
      pure (if Num.lt v min.2.2 then (row, col, v) else min))
    (fun _ acc c hcc _ => ⟨if Num.lt (M.dval row c) acc.2.2 then (row, c, M.dval row c) else acc,
      by simp only [bind, Except.bind, hval c hcc, pure, Except.pure], trivial, by split <;> rfl⟩)
    (fun c hcc => hG row c _ (hc c hcc).2.2 (hval c hcc)) min trivial (hG _ _ _ hg hget)
  refine ⟨r, e, ?_, ?_, h2, fun c hcc w hw => ?_⟩
  · rcases h4 with ⟨_, ht⟩ | ⟨c, hcc, _, ht, _⟩
    · rw [(Prod.mk.inj ht).1, (Prod.mk.inj ht).2]; exact hg
    · rw [(Prod.mk.inj ht).1, (Prod.mk.inj ht).2]; exact (hc c hcc).2.2
  · rcases h4 with ⟨hk, ht⟩ | ⟨c, hcc, hk, ht, _⟩
    · rw [(Prod.mk.inj ht).1, (Prod.mk.inj ht).2, hk]; exact hget
    · rw [(Prod.mk.inj ht).1, (Prod.mk.inj ht).2, hk]; exact hval c hcc
  · rw [hval c hcc] at hw
    cases hw
    exact h3 c hcc

theorem argminRows_min (L : OrderLaws α) (chk : Bool) (n : Nat) (act : Active) (live : List Nat)
    (hrep : act.Rep live n) (M : Mat α) (hv : M.Valid) (hn : M.n = n)
    (hnn : ∀ x ∈ live, ∀ y ∈ live, x < y → ∀ w, M.get chk x y = .ok w → Num.isNaN w = false)
    (rows : List Nat) (min : Nat × Nat × α) (hrows : ∀ r ∈ rows, r ∈ live)
    (hg : min.1 < min.2.1 ∧ min.1 ∈ live ∧ min.2.1 ∈ live)
    (hget : M.get chk min.1 min.2.1 = .ok min.2.2) :
    ∃ r, rows.foldlM (fun min r => do
          let cs ← act.range (some r) none
          argminRow chk M r (cs.drop 1) min) min = .ok r ∧
      (r.1 < r.2.1 ∧ r.1 ∈ live ∧ r.2.1 ∈ live) ∧
      M.get chk r.1 r.2.1 = .ok r.2.2 ∧ Num.lt min.2.2 r.2.2 = false ∧
      ∀ x ∈ rows, ∀ y ∈ live, x < y → ∀ w, M.get chk x y = .ok w → Num.lt w r.2.2 = false := by
  have hs := hrep.sorted
  have hlt := hrep.mem_lt
  let G : Nat → Nat → Prop := fun x y => x < y ∧ x ∈ live ∧ y ∈ live
  have hG : ∀ x y w, G x y → M.get chk x y = .ok w → Num.isNaN w = false :=
    fun x y w g hw => hnn x g.2.1 y g.2.2 g.1 w hw
  refine foldlM_ok_pre (fun pre (m : Nat × Nat × α) => G m.1 m.2.1 ∧
    M.get chk m.1 m.2.1 = .ok m.2.2 ∧ Num.lt min.2.2 m.2.2 = false ∧
    ∀ x ∈ pre, ∀ y ∈ live, x < y → ∀ w, M.get chk x y = .ok w → Num.lt w m.2.2 = false) _ rows ?_
    min ⟨hg, hget, L.irrefl _, nofun⟩
  intro pre r0 rest m e ⟨g, get, le, hall⟩
  have hr0 : r0 ∈ live := hrows r0 (e ▸ List.mem_append_cons_self)
  have hd := sorted_filter_ge_drop live hs r0 hr0
  obtain ⟨m1, e1, g1, get1, le1, hall1⟩ := argminRow_min L chk M hv r0 G hG
    ((live.filter (fun x => decide (r0 ≤ x))).drop 1) m
    (fun c hc => ⟨(hd.2 c hc).1, by rw [hn]; exact hlt c (hd.2 c hc).2, (hd.2 c hc).1, hr0,
      (hd.2 c hc).2⟩) g get
  have hnm : Num.isNaN m.2.2 = false := hG _ _ _ g get
  refine ⟨m1, by rw [hrep.range_ge r0 (Nat.le_of_lt (hlt r0 hr0))]; exact e1, g1, get1,
    L.le_trans _ _ _ hnm le1 le, fun x hx y hy hxy w hw => ?_⟩
  rcases List.mem_append.mp hx with h | h
  · exact L.le_trans _ _ _ hnm le1 (hall x h y hy hxy w hw)
  · rw [List.mem_singleton.mp h] at hxy hw
    exact hall1 y ((mem_filter_ge_drop live hs r0 hr0 y).mpr ⟨hy, hxy⟩) w hw

theorem argmin_min (L : OrderLaws α) (chk : Bool) (n : Nat) (act : Active) (live : List Nat)
    (hrep : act.Rep live n) (hlen : 2 ≤ live.length) (M : Mat α) (hv : M.Valid) (hn : M.n = n)
    (hnn : ∀ x ∈ live, ∀ y ∈ live, x < y → ∀ w, M.get chk x y = .ok w → Num.isNaN w = false) :
    ∃ a b v, argmin chk M act = .ok (some (a, b, v)) ∧ a < b ∧ a ∈ live ∧ b ∈ live ∧
      M.get chk a b = .ok v ∧
      ∀ x ∈ live, ∀ y ∈ live, x < y → ∀ w, M.get chk x y = .ok w → Num.lt w v = false := by
  obtain ⟨row, col, v0, hrc, hrow, hcol, hv0, harg⟩ := argmin_eq chk n act live hrep hlen M hv hn
  obtain ⟨⟨a, b, v⟩, e, hp, hget, _, hall⟩ := argminRows_min L chk n act live hrep M hv hn hnn live
    (row, col, v0) (fun r hr => hr) ⟨hrc, hrow, hcol⟩ hv0
  exact ⟨a, b, v, harg _ e, hp.1, hp.2.1, hp.2.2, hget, hall⟩

end Kodama
