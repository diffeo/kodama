/-
WEIGHTED linkage (`Gen.weighted a b = ½·(a + b)`, `Kodama/Generated/Method.lean`) is reducible ON A
DOMAIN of values — from six laws on that domain (`HalfAddLaws`: four textbook facts about `+` and `½·`,
no NaN, closure of the domain under the midpoint).

Why a law bundle.  Reducibility of the midpoint, `a ≥ t ∧ b ≥ t ⇒ ½·(a + b) ≥ t`, cannot follow from
`OrderLaws` alone: it is a statement about `add` and `mul half`.  For IEEE floats rounding never breaks
it.  With `fl` = round-to-nearest (monotone),

    a ≥ t, b ≥ t  ⇒  fl(a + b) ≥ fl(t + b) ≥ fl(t + t) = 2t   (doubling is exact, also for subnormals)
                  ⇒  fl(½·fl(a + b)) ≥ fl(½·2t) = t            (halving a double is exact).

The ONLY float failures are at the edge of the range: overflow of `t + t` to `−∞` for `t < −max_value/2`
(`a = b = t = −max_value`: `a + b = −∞`, `½·(−∞) = −∞ < t`), and `∞ + (−∞) = NaN` for the no-NaN
clause.  (Underflow is harmless here: `t + t` and `½·(t + t)` are exact for every finite `t`.)  Hence
the laws carry a domain guard `ok` ("finite, of moderate magnitude, non-negative" for dissimilarities),
and the reducibility that follows is `ChainReducibleOn α ok .weighted` (`Lemmas/ChainOn.lean`), not the
unrestricted `ChainReducible α .weighted`.

Every field of the bundle `HalfAddLaws α ok` quantifies over `ok` values only.
Derived here, with `OrderLaws`: `HalfAddLaws.mid_ge` (the midpoint of two values not below `t` is not
below `t`), `chainReducibleOn_weighted`, and — from the laws on the TRIVIAL domain —
`chainReducible_weighted_of_unguarded : ChainReducible α .weighted`.

TRUST.  For exact arithmetic the bundle is a theorem (`halfAddLaws_of_fieldLaws`,
`Lemmas/WeightedExact.lean`, `ok := fun _ => True`).  For IEEE `f32`/`f64` it is NOT proved in Lean
(`Float` is opaque): it is an assumption, SAMPLED by `kodama-laws` (`check_HalfAddLaws_*`,
`Kodama/LawsSample.lean`) on `ok := gMod` (not NaN, `0 ≤ v ≤ 2^(bias/2)`): no counterexample.  The
sampler also runs the laws with NO guard: the monotonicity laws still hold on the whole grid (a NaN on
either side makes `<` false), `half_double` and `mid_ge` fail exactly at `t = −max_value`, `mid_notNaN`
fails at `∞ + (−∞)`.  So `chainReducible_weighted_of_unguarded` does NOT apply to floats (its
hypothesis is false there, by overflow only); floats are covered through the guarded laws and
`chainReducibleOn_weighted`.
-/
import Kodama.Lemmas.ChainOn
namespace Kodama
open Spec
variable {α : Type} [Num α]

/-- What the weighted update needs of `+` and `½·`, on a domain `ok` of values.  (`¬ u < v`, i.e.
"`u ≥ v`", is written `Num.lt u v = false`.) -/
structure HalfAddLaws (α : Type) [Num α] (ok : α → Prop) : Prop where
  /-- `a ≥ t ⇒ a + b ≥ t + b` -/
  add_mono_left : ∀ a b t : α, ok a → ok b → ok t → Num.lt a t = false →
    Num.lt (Num.add a b) (Num.add t b) = false
  /-- `b ≥ t ⇒ a + b ≥ a + t` -/
  add_mono_right : ∀ a b t : α, ok a → ok b → ok t → Num.lt b t = false →
    Num.lt (Num.add a b) (Num.add a t) = false
  /-- `a + b ≥ c + d ⇒ ½·(a + b) ≥ ½·(c + d)` -/
  half_mono : ∀ a b c d : α, ok a → ok b → ok c → ok d →
    Num.lt (Num.add a b) (Num.add c d) = false →
    Num.lt (Num.mul Num.half (Num.add a b)) (Num.mul Num.half (Num.add c d)) = false
  /-- `½·(t + t) ≥ t` (exact doubling and halving; false of floats only when `t + t` overflows to `−∞`) -/
  half_double : ∀ t : α, ok t → Num.lt (Num.mul Num.half (Num.add t t)) t = false
  /-- no NaN is created (for floats: no `∞ + (−∞)`) -/
  mid_notNaN : ∀ a b : α, ok a → ok b → Num.isNaN (Num.mul Num.half (Num.add a b)) = false
  /-- the domain is closed under the midpoint -/
  mid_ok : ∀ a b : α, ok a → ok b → ok (Num.mul Num.half (Num.add a b))

/-- `½(a+b) ≥ ½(t+b) ≥ ½(t+t) ≥ t`; the two middle terms are not NaN, so `≥` chains. -/
theorem HalfAddLaws.mid_ge {ok : α → Prop} (H : HalfAddLaws α ok) (L : OrderLaws α) (a b t : α)
    (ha : ok a) (hb : ok b) (ht : ok t) (h1 : Num.lt a t = false) (h2 : Num.lt b t = false) :
    Num.lt (Num.mul Num.half (Num.add a b)) t = false := by
  have s1 : Num.lt (Num.mul Num.half (Num.add a b)) (Num.mul Num.half (Num.add t b)) = false :=
    H.half_mono a b t b ha hb ht hb (H.add_mono_left a b t ha hb ht h1)
  have s2 : Num.lt (Num.mul Num.half (Num.add t b)) (Num.mul Num.half (Num.add t t)) = false :=
    H.half_mono t b t t ht hb ht ht (H.add_mono_right t b t ht hb ht h2)
  have s3 := H.half_double t ht
  have s23 : Num.lt (Num.mul Num.half (Num.add t b)) t = false :=
    L.le_trans t _ _ (H.mid_notNaN t t ht ht) s3 s2
  exact L.le_trans t _ _ (H.mid_notNaN t b ht hb) s23 s1

theorem chainUpdFn_weighted (sizes : Array Nat) (sa sb : Nat) (dab : α) (x : Nat) (va vb v : α)
    (h : chainUpdFn .weighted sizes sa sb dab x va vb = .ok v) :
    v = Num.mul Num.half (Num.add va vb) := by
  simp only [chainUpdFn, updFn, Gen.weighted, pure, Except.pure, Except.ok.injEq] at h
  exact h.symm

theorem chainReducibleOn_weighted {ok : α → Prop} (L : OrderLaws α) (H : HalfAddLaws α ok) :
    ChainReducibleOn α ok .weighted where
  ge := by
    intro sizes sa sb dab x va vb v t _ _ _ oa ob ot _ _ _ _ _ h1 h2 h
    rw [chainUpdFn_weighted sizes sa sb dab x va vb v h]
    exact H.mid_ge L va vb t oa ob ot h1 h2
  nan := by
    intro sizes sa sb dab x va vb v _ _ _ oa ob _ _ _ _ _ h
    rw [chainUpdFn_weighted sizes sa sb dab x va vb v h]
    exact H.mid_notNaN va vb oa ob
  closed := by
    intro sizes sa sb dab x va vb v _ _ _ oa ob _ _ _ _ _ h
    rw [chainUpdFn_weighted sizes sa sb dab x va vb v h]
    exact H.mid_ok va vb oa ob

/-- So that every theorem with the hypothesis `ChainReducible α .weighted` (`C01_nnchain`, `C03_nnchain_…`,
`C12_…`, `C14_…`) applies to a number type with the unguarded laws; IEEE floats are not one (file header). -/
theorem chainReducible_weighted_of_unguarded (L : OrderLaws α)
    (H : HalfAddLaws α (fun _ => True)) : ChainReducible α .weighted :=
  chainReducible_of_on_univ (chainReducibleOn_weighted L H)

theorem HalfAddLaws.restrict {ok ok' : α → Prop} (H : HalfAddLaws α ok) (hsub : ∀ v, ok' v → ok v)
    (hcl : ∀ a b, ok' a → ok' b → ok' (Num.mul Num.half (Num.add a b))) : HalfAddLaws α ok' where
  add_mono_left := fun a b t ha hb ht => H.add_mono_left a b t (hsub a ha) (hsub b hb) (hsub t ht)
  add_mono_right := fun a b t ha hb ht => H.add_mono_right a b t (hsub a ha) (hsub b hb) (hsub t ht)
  half_mono := fun a b c d ha hb hc hd =>
    H.half_mono a b c d (hsub a ha) (hsub b hb) (hsub c hc) (hsub d hd)
  half_double := fun t ht => H.half_double t (hsub t ht)
  mid_notNaN := fun a b ha hb => H.mid_notNaN a b (hsub a ha) (hsub b hb)
  mid_ok := hcl

end Kodama
