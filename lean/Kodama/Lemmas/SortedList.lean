/- Facts about strictly increasing lists (the abstract view of the active list), about a
duplicate-free list (an entry determines its index; one member filtered out), and the case split
over the pairs of a set that gains one member (`pairwise_of_merge`) and over the entries of a list
that gains one or has one written (`getElem?_snoc_cases`, `getElem?_set_cases`). -/
namespace Kodama

/-- The three cases of a merge, once.  Every member of `S'` is the new label `c` or a survivor
(`O`); a property of pairs that holds of every two survivors, and between `c` and every survivor in
both orders, holds of every two members of `S'`. -/
theorem pairwise_of_merge {O S' : Nat → Prop} {P : Nat → Nat → Prop} {c : Nat}
    (hS' : ∀ x, S' x → x ≠ c → O x)
    (hold : ∀ x y, O x → O y → x ≠ y → x ≠ c → y ≠ c → P x y)
    (hnew : ∀ y, O y → y ≠ c → P c y ∧ P y c) :
    ∀ x y, S' x → S' y → x ≠ y → P x y := by
  intro x y hx hy hxy
  by_cases cx : x = c
  · have cy : y ≠ c := fun e => hxy (cx.trans e.symm)
    exact cx ▸ (hnew y (hS' y hy cy) cy).1
  · by_cases cy : y = c
    · exact cy ▸ (hnew x (hS' x hx cx) cx).2
    · exact hold x y (hS' x hx cx) (hS' y hy cy) hxy cx cy

theorem getElem?_snoc_cases {β : Type} {l : List β} {x t : β} {j : Nat}
    (h : (l ++ [x])[j]? = some t) : (j < l.length ∧ l[j]? = some t) ∨ (j = l.length ∧ t = x) := by
  by_cases c : j < l.length
  · exact Or.inl ⟨c, by rwa [List.getElem?_append_left c] at h⟩
  · have hlen := (List.getElem?_eq_some_iff.mp h).1
    rw [List.length_append, List.length_singleton] at hlen
    have e : j = l.length := by omega
    rw [e, List.getElem?_append_right (Nat.le_refl _), Nat.sub_self, List.getElem?_cons_zero] at h
    exact Or.inr ⟨e, (Option.some.inj h).symm⟩

theorem getElem?_set_cases {β : Type} {L : List β} {i j : Nat} {v t : β} (hi : i < L.length)
    (h : (L.set i v)[j]? = some t) : (j ≠ i ∧ L[j]? = some t) ∨ (j = i ∧ t = v) := by
  by_cases c : j = i
  · rw [c, List.getElem?_set_self hi] at h
    exact Or.inr ⟨c, (Option.some.inj h).symm⟩
  · rw [List.getElem?_set, if_neg (Ne.symm c)] at h
    exact Or.inl ⟨c, h⟩

theorem filter_ge_and_eq_cons (l : List Nat) (hs : l.Pairwise (· < ·)) (r : Nat) (hr : r ∈ l)
    (p : Nat → Bool) (hp : p r = true) :
    l.filter (fun x => decide (r ≤ x) && p x) = r :: l.filter (fun x => decide (r < x) && p x) := by
  induction l with
  | nil => cases hr
  | cons y ys ih =>
    rw [List.pairwise_cons] at hs
    rcases List.mem_cons.mp hr with rfl | hr'
    · have e : ∀ x ∈ ys, (decide (r ≤ x) && p x) = (decide (r < x) && p x) := fun x hx => by
        rw [decide_eq_true (hs.1 x hx), decide_eq_true (Nat.le_of_lt (hs.1 x hx))]
      rw [List.filter_cons, List.filter_cons, decide_eq_true (Nat.le_refl r), hp,
        decide_eq_false (Nat.lt_irrefl r), List.filter_congr e]
      rfl
    · have hyr : y < r := hs.1 r hr'
      rw [List.filter_cons, List.filter_cons, decide_eq_false (Nat.not_le_of_lt hyr),
        decide_eq_false (Nat.lt_asymm hyr)]
      exact ih hs.2 hr'

theorem filter_ge_eq_cons (l : List Nat) (hs : l.Pairwise (· < ·)) (r : Nat) (hr : r ∈ l) :
    l.filter (fun x => decide (r ≤ x)) = r :: l.filter (fun x => decide (r < x)) := by
  simpa using filter_ge_and_eq_cons l hs r hr (fun _ => true) rfl

theorem sorted_filter_ge_drop (l : List Nat) (hs : l.Pairwise (· < ·)) (r : Nat) (hr : r ∈ l) :
    (l.filter (fun x => decide (r ≤ x))).head? = some r ∧
    ∀ x ∈ (l.filter (fun x => decide (r ≤ x))).drop 1, r < x ∧ x ∈ l := by
  rw [filter_ge_eq_cons l hs r hr]
  refine ⟨rfl, fun x hx => ?_⟩
  have := List.mem_filter.mp hx
  exact ⟨of_decide_eq_true this.2, this.1⟩

theorem mem_filter_window (l : List Nat) (lo hi x : Nat)
    (hx : x ∈ l.filter (fun x => decide (lo ≤ x) && decide (x < hi))) : x ∈ l ∧ lo ≤ x ∧ x < hi := by
  simp only [List.mem_filter, Bool.and_eq_true, decide_eq_true_eq] at hx
  exact hx

theorem sorted_window_drop (l : List Nat) (hs : l.Pairwise (· < ·)) (a b : Nat) (ha : a ∈ l) :
    ∀ x ∈ (l.filter (fun x => decide (a ≤ x) && decide (x < b))).drop 1, a < x ∧ x < b ∧ x ∈ l := by
  intro x hx
  by_cases hab : a < b
  · rw [filter_ge_and_eq_cons l hs a ha _ (decide_eq_true hab)] at hx
    have := List.mem_filter.mp hx
    simp only [Bool.and_eq_true, decide_eq_true_eq] at this
    exact ⟨this.2.1, this.2.2, this.1⟩
  · have := mem_filter_window l a b x (List.mem_of_mem_drop hx)
    omega

theorem nodup_getElem?_inj {β : Type} {l : List β} (h : l.Nodup) {i j : Nat} {x : β}
    (hi : l[i]? = some x) (hj : l[j]? = some x) : i = j :=
  (List.getElem?_inj (List.getElem?_eq_some_iff.mp hi).1 h).mp (hi.trans hj.symm)

theorem filter_ne_eq_erase {l : List Nat} (hn : l.Nodup) (a : Nat) :
    l.filter (fun x => decide (x ≠ a)) = l.erase a := by
  rw [hn.erase_eq_filter]
  congr 1
  funext x
  by_cases h : x = a <;> simp [h]

theorem sum_map_filter_ne (f : Nat → Nat) (l : List Nat) (hnd : l.Nodup) (a : Nat) (ha : a ∈ l) :
    ((l.filter (fun x => decide (x ≠ a))).map f).sum + f a = (l.map f).sum := by
  rw [filter_ne_eq_erase hnd, ((List.perm_cons_erase ha).map f).sum_nat, List.map_cons,
    List.sum_cons, Nat.add_comm]

end Kodama
