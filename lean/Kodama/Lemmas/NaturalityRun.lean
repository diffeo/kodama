/-
Naturality of every entry point (`runWith`) under a homomorphism that fixes the sentinels a call
compares with data: `T::max_value()` for `generic` (and `linkage` for centroid/median),
`T::infinity()` for `mst` (and `linkage` for single).  In `runWith_nat` the whole call is mapped:
prior state, state left behind, dendrogram, matrix left behind, panic class; `min_dists` and the
heap priorities by maps of their own where the call does not read them.  `runWith_natural` is the
case of one map on all buffers, with both sentinels fixed.
-/
import Kodama.Lemmas.NaturalityGenericRel
namespace Kodama
variable {α β : Type} [Num α] [Num β]

/-- Everything the naturality theorem needs of the pair `(h, h₂)` for method `m`, apart from the
sentinels. -/
structure Hom (m : Method) (h h₂ : α → β) : Prop where
  ord : OrdHom h₂
  upd : UpdHom m h₂
  sq : SqHom m h h₂

theorem runWith_nat {m : Method} {h h₂ : α → β} (A : Hom m h h₂) {hd hp : α → β}
    (hinf : hd Num.infinity = Num.infinity) (hmax : hp Num.maxValue = Num.maxValue)
    {alg : Alg} (hI : usesInf alg m = true → hd = h₂) (hM : usesMax alg m = true → hp = h₂)
    (chk : Bool) (st : State α) (d : Dendrogram α) (data : Array α) (n : Nat) :
    runWith chk alg m (mapState hd hp st) (mapDend h d) (data.map h) n
      = mapRes hd hp h h₂ <$> runWith chk alg m st d data n := by
  refine runWith_cases₂ (P := fun f f' => f' (mapState hd hp st) (mapDend h d) (data.map h) n
    = mapRes hd hp h h₂ <$> f st d data n) chk alg m ?_ (fun e => ?_) (fun e e1 => ?_)
    (fun mc e => ?_) (fun _ => rfl)
  · exact primitiveWith_nat A.ord A.upd A.sq hinf hmax chk st d data n
  · cases hM e
    exact genericWith_nat A.ord hmax A.upd A.sq hinf chk st d data n
  · cases hI e
    cases A.sq.same (by rw [e1]; rfl)
    exact mstWith_nat A.ord hinf hmax chk st d data n
  · have e' := intoMethodChain_roundtrip m mc e
    exact nnchainWith_nat A.ord (e' ▸ A.upd) (e' ▸ A.sq) hinf hmax chk st d data n

theorem runWith_natural {m : Method} {h h₂ : α → β} (A : Hom m h h₂)
    (hmax : h₂ Num.maxValue = Num.maxValue) (hinf : h₂ Num.infinity = Num.infinity)
    (chk : Bool) (alg : Alg) (st : State α) (d : Dendrogram α) (data : Array α) (n : Nat) :
    runWith chk alg m (mapState h₂ h₂ st) (mapDend h d) (data.map h) n
      = (fun r => (mapState h₂ h₂ r.1, mapDend h r.2.1, mapMat h₂ r.2.2))
          <$> runWith chk alg m st d data n :=
  runWith_nat A hinf hmax (fun _ => rfl) (fun _ => rfl) chk st d data n

/-- The special case for the methods that do not square (`h₂ = h`), from the bundled `NumHom`,
with `Except.map` spelled out. -/
theorem runWith_natural_plain {m : Method} {h : α → β} (H : NumHom h) (U : UpdHom m h)
    (hm : m.onSquares = false) (chk : Bool) (alg : Alg) (st : State α) (d : Dendrogram α)
    (data : Array α) (n : Nat) :
    runWith chk alg m (mapState h h st) (mapDend h d) (data.map h) n
      = (runWith chk alg m st d data n).map
          (fun r => (mapState h h r.1, mapDend h r.2.1, mapMat h r.2.2)) :=
  runWith_natural ⟨H.toOrdHom, U, SqHom.refl m hm h⟩ H.maxValue H.infinity chk alg st d data n

/-- The observable map: heights by `h`, the matrix left behind by `h₂`. -/
def mapOut (h h₂ : α → β) (r : Dendrogram α × Mat α) : Dendrogram β × Mat β :=
  (mapDend h r.1, mapMat h₂ r.2)

end Kodama
