/-
C03 for `primitive_with`: the main loop simulates the label-based greedy specification
`Spec/Naive.lean`, with clusters labelled IN MERGE ORDER (`labAt`).  The invariant `PrimSim` says that
the condensed matrix restricted to live index pairs is the spec table read at those labels, and that
the raw steps recorded so far, relabelled in merge order, are a greedy run from the initial state.
The labelling part of the invariant is a `Spec.View` (`PrimSim.view`, `Lemmas/SpecView.lean`).
`primSim_step_facts` is stated for ANY iteration described by `MergeFacts` (`Lemmas/MergeFacts.lean`);
the loops of `primitive_with` and `generic_with` are instances of the loop theorem over it
(`simLoop_of_step`, `Lemmas/PrimGreedyRun.lean`).
-/
import Kodama.Lemmas.MergeFacts
import Kodama.Lemmas.PrimGreedyLabels
import Kodama.Lemmas.PrimGreedySpec
import Kodama.Lemmas.SpecView
import Kodama.Lemmas.MstPrimEntry
namespace Kodama
open Spec
variable {α : Type} [Num α]

/-- Simulation invariant of the main loop after `k` merges.  `live`, `mo` and `s` are all determined
by `dend`: `live_eq` says that `live` is `List.range n` without the first index of each recorded raw
step (the index that dies in the merge); `mo_len` with `mo_get` say that `mo` is
`mergeOrder m n dend.steps.toList` (raw step `j` with its two indices replaced by their merge-order
labels and its height `Spec.post`-ed), stated entrywise so that it extends by one step; `state` gives
`s`.  `trace` says that every recorded raw step merged two distinct indices live at the time
(`relabel_eq_mergeOrder` needs it).  `hts` says that the heights recorded in `dend`, which are before
`Spec.post`, are the table entries at which the run `mo` merges. -/
structure PrimSim (chk : Bool) (m : Method) (n : Nat) (data : Array α) (k : Nat) (live : List Nat)
    (st : State α) (dend : Dendrogram α) (M : Mat α) (s : NState α) (mo : List (Step α)) :
    Prop where
  inv : PrimInv n k live st dend M
  live_eq : live = liveAt n (rawOf dend) k
  trace : MergeTrace n (rawOf dend)
  mo_len : mo.length = k
  mo_get : ∀ j stp, dend.steps.toList[j]? = some stp →
    mo[j]? = some (moStep m n (rawOf dend) j stp)
  greedy : GreedyFrom m (init m n data) mo
  state : s = replay m (init m n data) mo
  hts : dend.steps.toList.map (·.d) = rawHeights m (init m n data) mo
  stinv : StInv n k s
  sLive : ∀ l, l ∈ s.live ↔ ∃ x ∈ live, labAt n (rawOf dend) k x = l
  D : ∀ x ∈ live, ∀ y ∈ live, x < y →
    M.get chk x y = .ok (s.D (labAt n (rawOf dend) k x) (labAt n (rawOf dend) k y))
  size : ∀ x ∈ live, st.sizes.getD x 0 = s.size (labAt n (rawOf dend) k x)
  dsymm : DSymm s

theorem primSim_init (chk : Bool) (m : Method) (data : Array α) (n : Nat)
    (hs : n < 2147483648) (hl : 2 * data.size = n * (n - 1)) {st : State α}
    (hsz : st.sizes = Array.replicate n 1)
    (hinv : PrimInv n 0 (List.range n) st (Dendrogram.new n)
      ({ data := squareData m data, n := n, acc := 0 } : Mat α)) :
    PrimSim chk m n data 0 (List.range n) st (Dendrogram.new n)
      ({ data := squareData m data, n := n, acc := 0 } : Mat α) (init m n data) [] where
  inv := hinv
  live_eq := rfl
  trace := by
    have : rawOf (Dendrogram.new n : Dendrogram α) = [] := by simp [rawOf, Dendrogram.new]
    rw [this]; exact MergeTrace.nil n
  mo_len := rfl
  mo_get := by intro j stp h; simp [Dendrogram.new] at h
  greedy := trivial
  state := rfl
  hts := by simp [Dendrogram.new, rawHeights]
  stinv := init_StInv m n data
  sLive := by
    intro l
    simp only [labAt, init]
    constructor
    · intro h; exact ⟨l, h, rfl⟩
    · rintro ⟨x, hx, rfl⟩; exact hx
  D := by
    intro x _ y hy hxy
    simp only [labAt]
    exact init_get chk m data n hs hl x y hxy (List.mem_range.mp hy)
  size := by
    intro x hx
    have : x < n := List.mem_range.mp hx
    simp [hsz, Array.getD, this, init]
  dsymm := init_DSymm m n data

/-- The labelling is a `Spec.View`, and through it the matrix is the table (`Mat.dval` form: total,
symmetric, no `x < y`). -/
theorem PrimSim.view {chk : Bool} {m : Method} {n : Nat} {data : Array α} {k : Nat}
    {live : List Nat} {st : State α} {dend : Dendrogram α} {M : Mat α} {s : NState α}
    {mo : List (Step α)} (sim : PrimSim chk m n data k live st dend M s mo) :
    View live (labAt n (rawOf dend) k) s ∧
    (∀ x ∈ live, ∀ y ∈ live, x ≠ y →
      M.dval x y = s.D (labAt n (rawOf dend) k x) (labAt n (rawOf dend) k y)) := by
  have hlive := sim.live_eq
  have hlt : ∀ x ∈ live, x < M.n := fun x hx => by rw [sim.inv.mn]; exact sim.inv.rep.mem_lt x hx
  refine ⟨⟨?_, sim.sLive, ?_, sim.dsymm⟩, ?_⟩
  · intro x hx y hy
    exact labAt_inj n _ k x (hlive ▸ hx) y (hlive ▸ hy)
  · intro x hx
    rw [sim.stinv.next]
    exact labAt_lt n _ k x (sim.inv.rep.mem_lt x hx)
  · intro x hx y hy hxy
    rcases Nat.lt_or_gt_of_ne hxy with c | c
    · have := sim.D x hx y hy c
      rw [Mat.get_dval chk M sim.inv.mvalid x y c (hlt y hy)] at this
      exact Except.ok.inj this
    · have := sim.D y hy x hx c
      rw [Mat.get_dval chk M sim.inv.mvalid y x c (hlt x hx)] at this
      rw [Mat.dval_comm, sim.dsymm]
      exact Except.ok.inj this

/-- Any iteration that satisfies `MergeFacts` (`primitiveIter`: `primIter_facts`; `genericIter`:
`genIter_facts`) preserves the simulation and extends the merge-order run by one admissible greedy
step. -/
theorem primSim_step_facts (chk : Bool) (m : Method) (hsym : LwSymm α m) (n : Nat)
    (data : Array α) (k : Nat) (live : List Nat) (st st' : State α)
    (dend dend' : Dendrogram α) (M M' : Mat α) (s : NState α) (mo : List (Step α))
    (sim : PrimSim chk m n data k live st dend M s mo) {a b : Nat}
    (F : MergeFacts m n live st.sizes st'.sizes dend.steps.toList dend'.steps.toList M M' a b)
    (inv2 : PrimInv n (k + 1) (live.filter (· ≠ a)) st' dend' M') :
    ∃ s' mo', PrimSim chk m n data (k + 1) (live.filter (· ≠ a)) st' dend' M' s' mo' := by
  have inv := sim.inv
  have hlt := inv.rep.mem_lt
  have heslen : (rawOf dend).length = k := by simp [rawOf, inv.steps_sz]
  have hliveq := sim.live_eq
  have htrace := sim.trace
  have hsize := sim.size
  have hds := sim.dsymm
  have hst := sim.stinv
  have hnext : s.next = n + k := hst.next
  have hab := F.lt
  have ha := F.ma
  have hb := F.mb
  have hane : a ≠ b := Nat.ne_of_lt hab
  obtain ⟨V, hdv⟩ := sim.view
  have hlt' : ∀ x ∈ live.filter (· ≠ a), x < M'.n := fun x hx => by
    rw [inv2.mn]; exact inv2.rep.mem_lt x hx
  have hsteps := F.hsteps
  have hmin := F.min
  have hupd := F.upd
  have hsizes := F.hsizes
  have hframe := F.frame
  generalize hsz : st.sizes.getD a 0 + st.sizes.getD b 0 = sz at *
  have hes' : rawOf dend' = rawOf dend ++ [(a, b)] := by
    simp only [rawOf, hsteps, List.map_append, List.map_cons, List.map_nil]
  generalize hes : rawOf dend = es at *
  generalize hlab : labAt n es k = lab at *
  generalize hdist : M.dval a b = dist at *
  have hdist' : s.D (lab a) (lab b) = dist := (hdv a ha b hb hane).symm.trans hdist
  obtain ⟨hdc, hszc, hadm⟩ := V.admissible (m := m) ha hb hane (fun x hx y hy hxy => by
    rw [← hdv x hx y hy hxy, ← hdv a ha b hb hane, hdist]; exact hmin x hx y hy hxy)
  rw [hdist', ← hsize a ha, ← hsize b hb, hsz] at hadm
  rw [← hsize a ha, ← hsize b hb, hsz] at hszc
  rw [hdist'] at hdc
  have V' := V.merge (m := m) ha hb hane
  let stp : Step α := Step.new (lab a) (lab b) (post m dist) sz
  have hc1 : stp.c1 = min (lab a) (lab b) := Step.new_c1 _ _ _ _
  have hc2 : stp.c2 = max (lab a) (lab b) := Step.new_c2 _ _ _ _
  have hgetk : (es ++ [(a, b)])[k]? = some (a, b) := by
    rw [List.getElem?_append_right (by omega), heslen]; simp
  have hlab' : labAt n (es ++ [(a, b)]) (k + 1) = fun x => if x = b then s.next else lab x := by
    funext x
    rw [labAt_succ hgetk, labAt_append n es _ k (by omega), hlab, hnext]
  have hmemf : ∀ x, x ∈ live.filter (fun x => decide (x ≠ a)) ↔ x ∈ live ∧ x ≠ a :=
    fun _ => mem_filter_ne
  refine ⟨merge m s stp.c1 stp.c2, mo ++ [stp], ?_⟩
  refine
    { inv := inv2
      live_eq := ?_
      trace := ?_
      mo_len := by simp [sim.mo_len]
      mo_get := ?_
      greedy := ?_
      state := ?_
      hts := ?_
      stinv := hst.merge hadm.mem1 hadm.mem2 (Nat.ne_of_lt hadm.lt)
      sLive := ?_
      D := ?_
      size := ?_
      dsymm := merge_DSymm m s _ _ hds }
  · rw [hes', liveAt_succ hgetk, liveAt_append n es _ k (by omega), ← hliveq]
  · rw [hes']
    exact htrace.append a b (by rw [heslen, ← hliveq]; exact ha) (by rw [heslen, ← hliveq]; exact hb) hane
  · intro j stp' hj
    rw [hes']
    rw [hsteps] at hj
    rcases getElem?_snoc_cases hj with ⟨hjk, hj⟩ | ⟨hjk, rfl⟩ <;>
      rw [Array.length_toList, inv.steps_sz] at hjk
    · rw [List.getElem?_append_left (by rw [sim.mo_len]; exact hjk), sim.mo_get j stp' hj, hes]
      simp only [moStep, labAt_append n es _ j (by omega)]
    · rw [hjk, ← sim.mo_len, List.getElem?_append_right (Nat.le_refl _), Nat.sub_self,
        List.getElem?_cons_zero, sim.mo_len]
      simp only [moStep, labAt_append n es _ k (by omega), hlab]
      rfl
  · rw [greedyFrom_append]
    exact ⟨sim.greedy, by rw [← sim.state]; exact hadm⟩
  · rw [replay_append, ← sim.state]; rfl
  · rw [hsteps]
    simp only [List.map_append, List.map_cons, List.map_nil]
    rw [rawHeights_append, ← sim.state, sim.hts, hc1, hc2, hdc]
  · rw [hes', hlab', hc1, hc2]; exact V'.live
  · intro x hx y hy hxy
    rw [hes', hlab', hc1, hc2, Mat.get_dval chk M' inv2.mvalid x y hxy (hlt' y hy)]
    congr 1
    refine filter_ne_pairwise (b := b) (P := fun x y => M'.dval x y =
        (merge m s (min (lab a) (lab b)) (max (lab a) (lab b))).D
          (if x = b then s.next else lab x) (if y = b then s.next else lab y))
      (fun x y h => (M'.dval_comm y x).trans (h.trans (V'.dsymm _ _)))
      (fun x hx y hy hne _ _ hxb hyb => ?_) (fun y hy hya hyb => ?_) x hx y hy (Nat.ne_of_lt hxy)
    · rw [V.merge_D hsym hx hy hne, if_neg hxb, if_neg hyb,
        hframe x y (hlt x hx) (hlt y hy) hne (fun e => hyb e.1) (fun e => hxb e.1)]
      exact hdv x hx y hy hne
    · rw [V.merge_D hsym hb hy (Ne.symm hyb), if_pos rfl, Mat.dval_comm, hupd y hy hya hyb,
        hdv y hy a ha hya, hdv y hy b hb hyb, ← hdist', hsize a ha, hsize b hb, hsize y hy,
        hds (lab y), hds (lab y)]
  · intro x hx
    obtain ⟨hx1, hx2⟩ := (hmemf x).mp hx
    rw [hes', hlab', hc1, hc2, V.merge_size hsym hx1, hsizes x]
    by_cases hxb : x = b
    · rw [if_pos hxb, if_pos hxb, ← hsz, hsize a ha, hsize b hb]
    · rw [if_neg hxb, if_neg hxb, ← hsize x hx1]

end Kodama
