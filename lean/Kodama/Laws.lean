/-
The order laws: the facts about `<` and `sqrt` of the number type that theorems use, as hypotheses
(never axioms), stated so that they are true of IEEE floats including NaN.  `a ≤ b` is written
`Num.lt b a = false` throughout.  The field laws are `FieldLaws` (`Lemmas/FieldNum.lean`); what a
map between number types must satisfy at the sentinel `max_value` is `SentinelSafe`
(`Lemmas/NaturalityRel.lean`).
-/
import Kodama.Num
namespace Kodama

/-- `<` is a strict weak order on the non-NaN values (true of IEEE `<`: NaN compares false). -/
structure OrderLaws (α : Type) [Num α] : Prop where
  asymm : ∀ a b : α, Num.lt a b = true → Num.lt b a = false
  cotrans : ∀ a b c : α, Num.isNaN b = false → Num.lt a c = true →
    Num.lt a b = true ∨ Num.lt b c = true

/-- Correctly rounded `sqrt` is monotone (vacuous when a NaN is involved: `<` is then false). -/
structure MonoSqrt (α : Type) [Num α] : Prop where
  mono : ∀ a b : α, Num.lt b a = false → Num.lt (Num.sqrt b) (Num.sqrt a) = false

namespace OrderLaws
variable {α : Type} [Num α] (L : OrderLaws α)
include L

theorem irrefl (a : α) : Num.lt a a = false := by
  cases h : Num.lt a a
  · rfl
  · have := L.asymm a a h; rw [h] at this; cases this

/-- `¬ b < a` ("a ≤ b") is transitive through a non-NaN middle element. -/
theorem le_trans (a b c : α) (hb : Num.isNaN b = false)
    (h1 : Num.lt b a = false) (h2 : Num.lt c b = false) : Num.lt c a = false := by
  cases h : Num.lt c a
  · rfl
  · rcases L.cotrans c b a hb h with h' | h'
    · rw [h2] at h'; cases h'
    · rw [h1] at h'; cases h'

theorem le_total (a b : α) : Num.lt b a = false ∨ Num.lt a b = false := by
  cases h : Num.lt b a
  · exact Or.inl rfl
  · exact Or.inr (L.asymm b a h)

end OrderLaws
end Kodama
